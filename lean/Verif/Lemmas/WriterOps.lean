/-
  Lemmas/WriterOps: the stitching loop of Flush; the writer invariant `WInv` with the lemmas through
  which the operations keep it (`BufOK.*`); acquire (first allocation, growth).
-/
import Verif.Lemmas.WriterInv
namespace Verif
open WLog

/-! ## the stitching loop of Flush -/

theorem stitch_cons (v : WView) (heap : Nat → Bytes) (p l : Nat) (ps : List (Nat × Nat)) (off : Nat)
    (h1 : off ≤ l) (h2 : l ≤ v.len) (hpl : l ≤ (heap p).length) :
    stitch v heap ((p, l) :: ps) off = stitch v (hwrite heap v.obj off (gslice (heap p) off l)) ps l := by
  have hk : min (v.len - off) (l - off) = l - off := by omega
  have hseg : (gslice (heap p) off l).take (l - off) = gslice (heap p) off l :=
    List.take_of_length_le (by rw [length_gslice _ _ _ hpl]; exact Nat.le_refl _)
  have hoff : off + (l - off) = l := by omega
  simp only [stitch, hk, hseg, hoff]
  rw [if_neg (by omega), if_neg (by omega)]

theorem stitch_spec (v : WView) (heap : Nat → Bytes) (ps : List (Nat × Nat)) (off : Nat)
    (hc : Chain off ps v.len) (hcur : v.len ≤ (heap v.obj).length)
    (hl : ∀ p ∈ ps, p.2 ≤ (heap p.1).length) (hne : ∀ p ∈ ps, p.1 ≠ v.obj) :
    ∃ heap' off', stitch v heap ps off = .ok (heap', off') ∧
      (∀ i, i ≠ v.obj → heap' i = heap i) ∧
      (heap' v.obj).length = (heap v.obj).length ∧
      gslice (heap' v.obj) 0 off = gslice (heap v.obj) 0 off ∧
      gslice (heap' v.obj) off v.len = logicalFrom heap v.obj v.len off ps ∧
      logicalFrom heap' v.obj v.len off ps = logicalFrom heap v.obj v.len off ps := by
  induction ps generalizing heap off with
  | nil => exact ⟨heap, off, rfl, fun _ _ => rfl, rfl, rfl, rfl, rfl⟩
  | cons p ps ih =>
    obtain ⟨p, l⟩ := p
    have h1 : off ≤ l := hc.1
    have h2 : l ≤ v.len := hc.2.le
    have hpl : l ≤ (heap p).length := hl (p, l) (List.mem_cons_self ..)
    have hpne : p ≠ v.obj := hne (p, l) (List.mem_cons_self ..)
    have hne' : ∀ q ∈ ps, q.1 ≠ v.obj := fun q hq => hne q (List.mem_cons_of_mem _ hq)
    rw [stitch_cons v heap p l ps off h1 h2 hpl]
    simp only [logicalFrom]
    -- `seg`: the share of the parked buffer p, stored at [off, l) of the current buffer
    have hseglen : (gslice (heap p) off l).length = l - off := length_gslice _ _ _ hpl
    generalize hseg : gslice (heap p) off l = seg at hseglen ⊢
    have hfit : off + seg.length ≤ (heap v.obj).length := by omega
    have hlen1 : ∀ i, (hwrite heap v.obj off seg i).length = (heap i).length :=
      length_hwrite _ _ _ _ hfit
    obtain ⟨heap', off', e, f1, f2, f3, f4, f5⟩ := ih (hwrite heap v.obj off seg) l hc.2
      (by rw [hlen1]; exact hcur) (fun q hq => by rw [hlen1]; exact hl q (List.mem_cons_of_mem _ hq)) hne'
    -- the later rounds store at or above l, so what they read and what was stored below l stays
    have hwb := logicalFrom_write_below heap v.obj v.len l ps off seg (by omega) hc.2 hcur hne'
    refine ⟨heap', off', e, fun i hi => (f1 i hi).trans (hwrite_other _ _ _ _ _ hi), f2.trans (hlen1 _),
      ?_, ?_, ?_⟩
    · rw [gslice_eq_of_prefix _ _ l 0 off f3 h1, hwrite_same]
      exact gslice_overwrite_out _ _ _ _ _ (Or.inr (Nat.le_refl _)) hfit
    · rw [gslice_split _ off l v.len h1 h2 (by rw [f2, hlen1]; exact hcur), f4, hwb,
        gslice_eq_of_prefix _ _ l off l f3 (Nat.le_refl _), hwrite_same]
      congr 1
      have := gslice_overwrite_exact (heap v.obj) off seg hfit
      rwa [hseglen, show off + (l - off) = l by omega] at this
    · rw [f5, hwb, f1 p hpne, hwrite_other _ _ _ _ _ hpne, hseg]

/-! ## the invariant -/

structure BufOK (heap : Nat → Bytes) (next : Nat) (v : WView) (pending : List (Nat × Nat))
    (regions : List WRegion) : Prop where
  len_le_cap : v.len ≤ v.cap
  heap_len : (heap v.obj).length = v.cap
  obj_lt : v.obj < next
  chain : Chain 0 pending v.len
  pend_lt : ∀ p ∈ pending, p.1 < next
  pend_ne : ∀ p ∈ pending, p.1 ≠ v.obj
  pend_len : ∀ p ∈ pending, p.2 ≤ (heap p.1).length
  pend_nodup : (pending.map Prod.fst).Nodup
  pend_cap : pending ≠ [] → 0 < v.cap
  owned : ∀ r ∈ regions, r.n = 0 ∨ Owned v.obj v.len 0 pending r.obj r.off r.n
  rchain : RChain 0 regions v.len

structure WInv (w : Wr) : Prop where
  stats_len : w.stats.length = Facts.statsBucketNum
  stats_idx : w.statsIdx < Facts.statsBucketNum
  nil_buf : w.buf = none → w.pending = [] ∧ (∀ r ∈ w.regions, r.n = 0) ∧ RChain 0 w.regions 0
  buf_ok : ∀ v, w.buf = some v → BufOK w.heap w.next v w.pending w.regions

/-- the invariant of a writer whose buffer is not nil -/
theorem WInv.of_buf {w : Wr} {v : WView} (hb : w.buf = some v) (hs : w.stats.length = Facts.statsBucketNum)
    (hi : w.statsIdx < Facts.statsBucketNum) (ok : BufOK w.heap w.next v w.pending w.regions) : WInv w :=
  ⟨hs, hi, fun h => (by rw [hb] at h; cases h), fun v2 hv2 => (by rw [hb] at hv2; cases hv2; exact ok)⟩

/-- `BufOK` reads the heap only through the lengths of the objects -/
theorem BufOK.of_heap_len {heap heap' : Nat → Bytes} {next : Nat} {v : WView} {ps : List (Nat × Nat)}
    {rs : List WRegion} (ok : BufOK heap next v ps rs) (h : ∀ i, (heap' i).length = (heap i).length) :
    BufOK heap' next v ps rs :=
  ⟨ok.len_le_cap, (h _).trans ok.heap_len, ok.obj_lt, ok.chain, ok.pend_lt, ok.pend_ne,
    fun p hp => (by rw [h]; exact ok.pend_len p hp), ok.pend_nodup, ok.pend_cap, ok.owned, ok.rchain⟩

theorem BufOK.extend {heap : Nat → Bytes} {next : Nat} {v : WView} {ps : List (Nat × Nat)}
    {rs : List WRegion} (ok : BufOK heap next v ps rs) (n : Nat) (hroom : v.len + n ≤ v.cap) :
    BufOK heap next { v with len := v.len + n } ps rs :=
  ⟨hroom, ok.heap_len, ok.obj_lt, ok.chain.mono (Nat.le_add_right _ _), ok.pend_lt, ok.pend_ne, ok.pend_len,
    ok.pend_nodup, ok.pend_cap,
    fun r hr => (ok.owned r hr).imp_right (fun h => h.mono (Nat.le_add_right _ _)),
    ok.rchain.mono (Nat.le_add_right _ _)⟩

theorem length_fresh (a : WAlloc) (id cap : Nat) : (a.fresh id cap).length = cap := by
  simp [WAlloc.fresh]

/-- the allocator hands out at least the capacity asked for (Go: cap(make([]byte, n, c)) ≥ c) -/
def WAlloc.Sound (a : WAlloc) : Prop := ∀ c, c ≤ a.poolCap c

theorem allocCap_ge (a : WAlloc) (ha : a.Sound) (dc : Bool) (c : Nat) :
    c ≤ (if dc then c else a.poolCap c) := by
  split
  · exact Nat.le_refl _
  · exact ha c

/-- what acquire guarantees -/
structure WAcqPost (w w1 : Wr) (n : Nat) : Prop where
  inv : WInv w1
  logical : w1.logical = w.logical
  len : w1.bufLen = w.bufLen
  room : (∃ v, w1.buf = some v ∧ v.len + n ≤ v.cap) ∨ (w1.buf = none ∧ n = 0)
  regions : w1.regions = w.regions
  nextRegion : w1.nextRegion = w.nextRegion
  err : w1.err = w.err
  dc : w1.disableCache = w.disableCache
  sink : w1.sink = w.sink
  target : w1.target = w.target
  same_or_pos : w1 = w ∨ 0 < n
  heap_old : ∀ i, i < w.next → w1.heap i = w.heap i
  next_le : w.next ≤ w1.next

theorem WAcqPost.buf_origin {w w1 : Wr} {n : Nat} (P : WAcqPost w w1 n) (h : w1.buf ≠ none) :
    w.buf ≠ none ∨ 0 < n :=
  P.same_or_pos.imp (fun (e : w1 = w) => e ▸ h) id

theorem firstAlloc_spec (a : WAlloc) (ha : a.Sound) (w : Wr) (hw : WInv w) (n : Nat)
    (hcap : w.bufCap = 0) :
    WInv (w.firstAlloc a n) ∧ (w.firstAlloc a n).logical = w.logical ∧
    (∃ v, (w.firstAlloc a n).buf = some v ∧ v.len = 0 ∧ n ≤ v.cap ∧ 0 < v.cap) ∧ w.bufLen = 0 := by
  -- the old buffer is nil, or empty and never grown: nothing is parked, no region is non-empty
  have hold : w.pending = [] ∧ (∀ r ∈ w.regions, r.n = 0) ∧ RChain 0 w.regions 0 ∧ w.logical = [] ∧
      w.bufLen = 0 := by
    cases hb : w.buf with
    | none =>
      obtain ⟨h1, h2, h3⟩ := hw.nil_buf hb
      exact ⟨h1, h2, h3, Wr.logical_nil hb, by rw [Wr.bufLen, hb]⟩
    | some v =>
      have ok := hw.buf_ok v hb
      have hc0 : v.cap = 0 := by rwa [Wr.bufCap, hb] at hcap
      have hl0 : v.len = 0 := by have := ok.len_le_cap; omega
      have hp : w.pending = [] := by
        cases hpp : w.pending with
        | nil => rfl
        | cons _ _ => have := ok.pend_cap (by rw [hpp]; exact List.cons_ne_nil _ _); omega
      refine ⟨hp, fun r hr => ?_, hl0 ▸ ok.rchain, ?_, by rw [Wr.bufLen, hb]; exact hl0⟩
      · rcases ok.owned r hr with h | h
        · exact h
        · rw [hp] at h; have := h.2.2; omega
      · rw [Wr.logical, hb]
        show logicalFrom w.heap v.obj v.len 0 w.pending = []
        rw [hp, hl0]; exact gslice_empty _ _ _ (Nat.le_refl 0)
  obtain ⟨hp, hr0, hrc, hlog, hlen0⟩ := hold
  -- the requested size: stats or default, at least 1, doubled up to n
  let m1 := if statsMax w.stats < Facts.defaultBufSize then Facts.defaultBufSize else statsMax w.stats
  have hm1 : 1 ≤ m1 := by
    have : 1 ≤ Facts.defaultBufSize := by decide
    show 1 ≤ (if _ then _ else _)
    split <;> omega
  have hd := w_doubleUntil_spec n m1 n hm1 (by omega)
  have hge := allocCap_ge a ha w.disableCache (doubleUntil n m1 n)
  refine ⟨WInv.of_buf rfl hw.stats_len hw.stats_idx ?_, ?_,
    ⟨_, rfl, rfl, Nat.le_trans hd.1 hge, Nat.lt_of_lt_of_le (Nat.le_trans hm1 hd.2) hge⟩, hlen0⟩
  · show BufOK _ _ _ w.pending w.regions
    rw [hp]
    exact ⟨Nat.zero_le _, (congrArg List.length (if_pos rfl)).trans (length_fresh ..), Nat.lt_succ_self _,
      Nat.le_refl 0, fun _ h => (nomatch h), fun _ h => (nomatch h), fun _ h => (nomatch h), List.nodup_nil,
      fun h => absurd rfl h, fun r hr => Or.inl (hr0 r hr), hrc⟩
  · rw [hlog]
    show logicalFrom _ _ 0 0 w.pending = []
    rw [hp]; exact gslice_empty _ _ _ (Nat.le_refl 0)

theorem Owned.fits {heap : Nat → Bytes} {cur len lo : Nat} {ps : List (Nat × Nat)} {o a n : Nat}
    (h : Owned cur len lo ps o a n) (hl : ∀ p ∈ ps, p.2 ≤ (heap p.1).length)
    (hcur : len ≤ (heap cur).length) : a + n ≤ (heap o).length := by
  induction ps generalizing lo with
  | nil => obtain ⟨h1, _, h3⟩ := h; subst h1; omega
  | cons p ps ih =>
    obtain ⟨p, l⟩ := p
    rcases h with ⟨h1, _, h3⟩ | h
    · subst h1; have := hl (o, l) (List.mem_cons_self ..); simp only at this; omega
    · exact ih h (fun q hq => hl q (List.mem_cons_of_mem _ hq))

theorem grow_spec (a : WAlloc) (ha : a.Sound) (w : Wr) (hw : WInv w) (v : WView)
    (hb : w.buf = some v) (hcap : 0 < v.cap) (n : Nat) :
    WInv (w.grow a v n) ∧ (w.grow a v n).logical = w.logical ∧
    (∃ v1, (w.grow a v n).buf = some v1 ∧ v1.len = v.len ∧ v1.len + n ≤ v1.cap) := by
  have ok := hw.buf_ok v hb
  have hlc := ok.len_le_cap
  have hg := growCap_spec n (v.cap * 2) v.len n (by omega) (by omega) (by omega)
  have hge := allocCap_ge a ha w.disableCache (growCap n (v.cap * 2) v.len n)
  -- every parked buffer, the old current one included, is an old object that holds its parked length
  have hold : ∀ p ∈ w.pending ++ [(v.obj, v.len)], p.1 < w.next ∧ p.2 ≤ (w.heap p.1).length := by
    intro p hp
    rcases List.mem_append.mp hp with hp | hp
    · exact ⟨ok.pend_lt p hp, ok.pend_len p hp⟩
    · cases List.mem_singleton.mp hp
      exact ⟨ok.obj_lt, by rw [ok.heap_len]; exact hlc⟩
  have hroom : v.len + n ≤ growCap n (v.cap * 2) v.len n := by omega
  have hpos : 0 < growCap n (v.cap * 2) v.len n := by omega
  refine ⟨WInv.of_buf rfl hw.stats_len hw.stats_idx ?_, ?_, ⟨_, rfl, rfl, Nat.le_trans hroom hge⟩⟩
  · refine ⟨Nat.le_trans (Nat.le_trans (Nat.le_add_right _ _) hroom) hge,
      (congrArg List.length (if_pos rfl)).trans (length_fresh ..), Nat.lt_succ_self _, ok.chain.snoc v.obj,
      fun p hp => Nat.lt_succ_of_lt (hold p hp).1, fun p hp => Nat.ne_of_lt (hold p hp).1, fun p hp => ?_, ?_,
      fun _ => Nat.lt_of_lt_of_le hpos hge, fun r hr => (ok.owned r hr).imp_right (fun h => h.snoc _),
      ok.rchain⟩
    · show p.2 ≤ List.length (if p.1 = w.next then _ else w.heap p.1)
      rw [if_neg (Nat.ne_of_lt (hold p hp).1)]; exact (hold p hp).2
    · show ((w.pending ++ [(v.obj, v.len)]).map Prod.fst).Nodup
      rw [List.map_append, List.nodup_append]
      refine ⟨ok.pend_nodup, by simp, fun x hx y hy => ?_⟩
      obtain ⟨q, hq, rfl⟩ := List.mem_map.mp hx
      cases List.mem_singleton.mp hy
      exact ok.pend_ne q hq
  · simp only [Wr.logical, Wr.grow, Wr.allocBuf, hb]
    exact logicalFrom_grow _ _ _ _ _ _ _ (fun i hi => if_neg hi) (Nat.ne_of_lt ok.obj_lt)
      (fun p hp => Nat.ne_of_lt (ok.pend_lt p hp))

/-- the three ways acquire can go: room is there; first allocation (which always makes room, so no
    growth follows); growth of a buffer that has capacity -/
theorem Wr.acquire_cases (a : WAlloc) (ha : a.Sound) (w : Wr) (hw : WInv w) (n : Nat) :
    (w.bufLen + n ≤ w.bufCap ∧ w.acquire a n = some w) ∨
    (w.bufCap = 0 ∧ 0 < n ∧ w.acquire a n = some (w.firstAlloc a n)) ∨
    (∃ v, w.buf = some v ∧ 0 < v.cap ∧ v.cap - v.len < n ∧ w.acquire a n = some (w.grow a v n)) := by
  unfold Wr.acquire
  by_cases hfast : w.bufLen + n ≤ w.bufCap
  · exact Or.inl ⟨hfast, if_pos hfast⟩
  · rw [if_neg hfast]
    unfold Wr.acquireSlow
    by_cases hcap : w.bufCap = 0
    · obtain ⟨_, _, ⟨v1, hv1, hl1, hn1, hc1⟩, _⟩ := firstAlloc_spec a ha w hw n hcap
      refine Or.inr (Or.inl ⟨hcap, by omega, ?_⟩)
      rw [if_pos hcap]
      simp only [hv1]
      rw [if_neg (by omega)]
    · cases hb : w.buf with
      | none => rw [Wr.bufCap, hb] at hcap; exact absurd rfl hcap
      | some v =>
        have hlc := (hw.buf_ok v hb).len_le_cap
        simp only [Wr.bufLen, Wr.bufCap, hb] at hcap hfast
        refine Or.inr (Or.inr ⟨v, rfl, by omega, by omega, ?_⟩)
        rw [if_neg (by rw [Wr.bufCap, hb]; exact hcap)]
        simp only [hb]
        rw [if_pos (by omega), if_neg hcap]

theorem acquire_spec (a : WAlloc) (ha : a.Sound) (w : Wr) (hw : WInv w) (n : Nat) :
    ∃ w1, w.acquire a n = some w1 ∧ WAcqPost w w1 n := by
  rcases Wr.acquire_cases a ha w hw n with ⟨hfast, h⟩ | ⟨hcap, hn, h⟩ | ⟨v, hb, hcap, hgt, h⟩
  · refine ⟨w, h, hw, rfl, rfl, ?_, rfl, rfl, rfl, rfl, rfl, rfl, Or.inl rfl, fun _ _ => rfl, Nat.le_refl _⟩
    cases hb : w.buf with
    | none => simp only [Wr.bufLen, Wr.bufCap, hb] at hfast; exact Or.inr ⟨rfl, by omega⟩
    | some v => simp only [Wr.bufLen, Wr.bufCap, hb] at hfast; exact Or.inl ⟨v, rfl, hfast⟩
  · obtain ⟨i1, i2, ⟨v1, hv1, hl1, hn1, _⟩, hlen0⟩ := firstAlloc_spec a ha w hw n hcap
    exact ⟨_, h, i1, i2, by rw [Wr.bufLen, hv1, hlen0]; exact hl1, Or.inl ⟨v1, hv1, by omega⟩,
      rfl, rfl, rfl, rfl, rfl, rfl, Or.inr hn, fun i hi => if_neg (Nat.ne_of_lt hi), Nat.le_succ _⟩
  · obtain ⟨i1, i2, v1, hv1, hl1, hr1⟩ := grow_spec a ha w hw v hb hcap n
    exact ⟨_, h, i1, i2, by rw [Wr.bufLen, Wr.bufLen, hv1, hb]; exact hl1, Or.inl ⟨v1, hv1, hr1⟩,
      rfl, rfl, rfl, rfl, rfl, rfl, Or.inr (by omega), fun i hi => if_neg (Nat.ne_of_lt hi), Nat.le_succ _⟩

end Verif
