/-
  Lemmas/WriterList: list facts for the writer proofs (C05):
  `overwrite` (store bytes at an offset), `gslice` (Go's c[lo:hi]), `Match` (real bytes vs. spec bytes).
  `overwrite` and `gslice` are characterised through `l[i]?` (an index is inside or outside the stored
  range), so the content lemmas are `List.ext_getElem?` plus that one case split.
-/
import Verif.Model.Writer
import Verif.Spec.WriterLog
namespace Verif
open WLog

/-! ## overwrite -/

theorem length_overwrite {α} (c : List α) (off : Nat) (bs : List α)
    (h : off + bs.length ≤ c.length) : (overwrite c off bs).length = c.length := by
  simp only [overwrite, List.length_append, List.length_take, List.length_drop]; omega

theorem overwrite_nil {α} (c : List α) (off : Nat) : overwrite c off [] = c := by
  simp only [overwrite, List.append_nil, List.length_nil, Nat.add_zero, List.take_append_drop]

theorem getElem?_overwrite_of_outside {α} (c : List α) (off : Nat) (bs : List α) (h : off ≤ c.length)
    (i : Nat) (hi : i < off ∨ off + bs.length ≤ i) : (overwrite c off bs)[i]? = c[i]? := by
  unfold overwrite
  rw [List.append_assoc, List.getElem?_append, List.length_take, Nat.min_eq_left h]
  rcases hi with hi | hi
  · rw [if_pos hi, List.getElem?_take, if_pos hi]
  · rw [if_neg (by omega), List.getElem?_append, if_neg (by omega), List.getElem?_drop]
    congr 1; omega

theorem getElem?_overwrite_of_inside {α} (c : List α) (off : Nat) (bs : List α) (h : off ≤ c.length)
    (i : Nat) (h1 : off ≤ i) (h2 : i < off + bs.length) : (overwrite c off bs)[i]? = bs[i - off]? := by
  unfold overwrite
  rw [List.append_assoc, List.getElem?_append, List.length_take, Nat.min_eq_left h, if_neg (by omega),
    List.getElem?_append, if_pos (by omega)]

theorem overwrite_append_left {α} (A B : List α) (y : Nat) (bs : List α)
    (h : y + bs.length ≤ A.length) : overwrite (A ++ B) y bs = overwrite A y bs ++ B := by
  unfold overwrite
  rw [List.take_append_of_le_length (by omega), List.drop_append_of_le_length h]
  simp only [List.append_assoc]

theorem overwrite_append_of_le {α} (A B : List α) (p : Nat) (bs : List α) (h : A.length ≤ p) :
    overwrite (A ++ B) p bs = A ++ overwrite B (p - A.length) bs := by
  obtain ⟨y, rfl⟩ := Nat.exists_eq_add_of_le h
  unfold overwrite
  rw [Nat.add_sub_cancel_left, List.take_length_add_append, Nat.add_assoc, List.drop_length_add_append]
  simp only [List.append_assoc]

theorem overwrite_append_right {α} (A B : List α) (y : Nat) (bs : List α) :
    overwrite (A ++ B) (A.length + y) bs = A ++ overwrite B y bs := by
  rw [overwrite_append_of_le A B _ bs (Nat.le_add_right _ _), Nat.add_sub_cancel_left]

/-- the model's `hwrite` stores with `overwrite` -/
theorem hwrite_apply (heap : Nat → Bytes) (o off : Nat) (bs : Bytes) (i : Nat) :
    hwrite heap o off bs i = if i = o then overwrite (heap o) off bs else heap i := rfl

theorem hwrite_same (heap : Nat → Bytes) (o off : Nat) (bs : Bytes) :
    hwrite heap o off bs o = overwrite (heap o) off bs := by rw [hwrite_apply, if_pos rfl]

theorem hwrite_other (heap : Nat → Bytes) (o off : Nat) (bs : Bytes) (i : Nat) (h : i ≠ o) :
    hwrite heap o off bs i = heap i := by rw [hwrite_apply, if_neg h]

theorem hwrite_nil (heap : Nat → Bytes) (o off : Nat) : hwrite heap o off [] = heap := by
  funext i
  rw [hwrite_apply, overwrite_nil]
  split
  · rename_i e; rw [e]
  · rfl

theorem length_hwrite (heap : Nat → Bytes) (o x : Nat) (bs : Bytes) (h : x + bs.length ≤ (heap o).length)
    (i : Nat) : (hwrite heap o x bs i).length = (heap i).length := by
  rw [hwrite_apply]
  split
  · rename_i e; rw [length_overwrite _ _ _ h, e]
  · rfl

/-! ## gslice -/

theorem getElem?_gslice (c : Bytes) (lo hi i : Nat) :
    (gslice c lo hi)[i]? = if lo + i < hi then c[lo + i]? else none := by
  unfold gslice; rw [List.getElem?_drop, List.getElem?_take]

theorem length_gslice (c : Bytes) (lo hi : Nat) (h : hi ≤ c.length) :
    (gslice c lo hi).length = hi - lo := by
  simp only [gslice, List.length_drop, List.length_take]; omega

theorem gslice_empty (c : Bytes) (lo hi : Nat) (h : hi ≤ lo) : gslice c lo hi = [] :=
  List.drop_eq_nil_of_le (by rw [List.length_take]; omega)

theorem gslice_zero_length (c : Bytes) : gslice c 0 c.length = c := by
  unfold gslice; simp

theorem gslice_split (c : Bytes) (lo mid hi : Nat) (h1 : lo ≤ mid) (h2 : mid ≤ hi) (h3 : hi ≤ c.length) :
    gslice c lo hi = gslice c lo mid ++ gslice c mid hi := by
  apply List.ext_getElem?
  intro i
  rw [List.getElem?_append, length_gslice _ _ _ (by omega)]
  simp only [getElem?_gslice]
  by_cases h : i < mid - lo
  · rw [if_pos h, if_pos (by omega), if_pos (by omega)]
  · have e : mid + (i - (mid - lo)) = lo + i := by omega
    rw [if_neg h, e]

theorem gslice_eq_of_prefix (c d : Bytes) (l lo hi : Nat) (h : gslice c 0 l = gslice d 0 l)
    (h2 : hi ≤ l) : gslice c lo hi = gslice d lo hi := by
  have e : ∀ x : Bytes, gslice x lo hi = gslice (gslice x 0 l) lo hi := by
    intro x; unfold gslice; rw [List.drop_zero, List.take_take, Nat.min_eq_left h2]
  rw [e c, e d, h]

/-- the write lies inside the slice -/
theorem gslice_overwrite_in (c : Bytes) (x : Nat) (bs : Bytes) (lo hi : Nat)
    (h1 : lo ≤ x) (h2 : x + bs.length ≤ hi) (h3 : hi ≤ c.length) :
    gslice (overwrite c x bs) lo hi = overwrite (gslice c lo hi) (x - lo) bs := by
  obtain ⟨d, rfl⟩ := Nat.exists_eq_add_of_le h1
  rw [Nat.add_sub_cancel_left]
  have hl : d ≤ (gslice c lo hi).length := by rw [length_gslice _ _ _ h3]; omega
  apply List.ext_getElem?
  intro i
  rw [getElem?_gslice]
  by_cases hin : d ≤ i ∧ i < d + bs.length
  · rw [if_pos (by omega), getElem?_overwrite_of_inside _ _ _ (by omega) _ (by omega) (by omega),
      getElem?_overwrite_of_inside _ _ _ hl _ hin.1 hin.2]
    congr 1; omega
  · rw [getElem?_overwrite_of_outside _ _ _ hl _ (by omega), getElem?_gslice]
    split
    · exact getElem?_overwrite_of_outside _ _ _ (by omega) _ (by omega)
    · rfl

/-- the write lies outside the slice -/
theorem gslice_overwrite_out (c : Bytes) (x : Nat) (bs : Bytes) (lo hi : Nat)
    (h1 : x + bs.length ≤ lo ∨ hi ≤ x) (h3 : x + bs.length ≤ c.length) :
    gslice (overwrite c x bs) lo hi = gslice c lo hi := by
  apply List.ext_getElem?
  intro i
  rw [getElem?_gslice, getElem?_gslice]
  split
  · exact getElem?_overwrite_of_outside _ _ _ (by omega) _ (by omega)
  · rfl

/-- reading back exactly what was stored -/
theorem gslice_overwrite_exact (c : Bytes) (x : Nat) (bs : Bytes) (h : x + bs.length ≤ c.length) :
    gslice (overwrite c x bs) x (x + bs.length) = bs := by
  apply List.ext_getElem?
  intro i
  rw [getElem?_gslice]
  split
  · rw [getElem?_overwrite_of_inside _ _ _ (by omega) _ (by omega) (by omega)]
    congr 1; omega
  · exact (List.getElem?_eq_none (by omega)).symm

/-! ## Match -/

theorem Match.length_eq : ∀ {m : Bytes} {s : SBytes}, Match m s → m.length = s.length
  | [], [], _ => rfl
  | _ :: m, _ :: s, h => congrArg (· + 1) (Match.length_eq (m := m) (s := s) h.2)
  | [], _ :: _, h => h.elim
  | _ :: _, [], h => h.elim

theorem match_nil : Match [] [] := trivial

theorem match_map_some (m : Bytes) : Match m (m.map some) := by
  induction m with
  | nil => exact match_nil
  | cons b m ih => exact ⟨Or.inr rfl, ih⟩

theorem match_replicate_none (m : Bytes) : Match m (List.replicate m.length none) := by
  induction m with
  | nil => exact match_nil
  | cons b m ih => exact ⟨Or.inl rfl, ih⟩

theorem match_append {m1 m2 : Bytes} {s1 s2 : SBytes} (h1 : Match m1 s1) (h2 : Match m2 s2) :
    Match (m1 ++ m2) (s1 ++ s2) := by
  induction m1 generalizing s1 with
  | nil =>
    cases s1 with
    | nil => exact h2
    | cons o s => exact h1.elim
  | cons b m ih =>
    cases s1 with
    | nil => exact h1.elim
    | cons o s => exact ⟨h1.1, ih h1.2⟩

theorem match_take_drop {m : Bytes} {s : SBytes} (h : Match m s) (n : Nat) :
    Match (m.take n) (s.take n) ∧ Match (m.drop n) (s.drop n) := by
  induction m generalizing s n with
  | nil =>
    cases s with
    | nil => rw [List.take_nil, List.take_nil, List.drop_nil, List.drop_nil]; exact ⟨h, h⟩
    | cons o s => exact h.elim
  | cons b m ih =>
    cases s with
    | nil => exact h.elim
    | cons o s =>
      cases n with
      | zero => exact ⟨match_nil, h⟩
      | succ n => exact ⟨⟨h.1, (ih h.2 n).1⟩, (ih h.2 n).2⟩

theorem match_overwrite {m : Bytes} {s : SBytes} (h : Match m s) (p : Nat) (bs : Bytes) :
    Match (overwrite m p bs) (overwrite s p (bs.map some)) := by
  unfold overwrite
  rw [List.length_map]
  exact match_append (match_append (match_take_drop h p).1 (match_map_some bs)) (match_take_drop h _).2

theorem match_iff (m : Bytes) (s : SBytes) :
    Match m s ↔ m.length = s.length ∧ ∀ (i : Nat) (x : UInt8), s[i]? = some (some x) → m[i]? = some x := by
  induction m generalizing s with
  | nil =>
    cases s with
    | nil => exact ⟨fun _ => ⟨rfl, fun i x h => (by cases h)⟩, fun _ => match_nil⟩
    | cons o s => exact ⟨fun h => h.elim, fun h => (by cases h.1)⟩
  | cons b m ih =>
    cases s with
    | nil => exact ⟨fun h => h.elim, fun h => (by cases h.1)⟩
    | cons o s =>
      constructor
      · rintro ⟨ho, ht⟩
        obtain ⟨hl, hx⟩ := (ih s).mp ht
        refine ⟨congrArg (· + 1) hl, fun i x hi => ?_⟩
        cases i with
        | zero =>
          rw [List.getElem?_cons_zero] at hi ⊢
          rcases ho with rfl | rfl
          · cases hi
          · exact congrArg some (Option.some.inj (Option.some.inj hi))
        | succ i => exact hx i x hi
      · rintro ⟨hl, hx⟩
        refine ⟨?_, (ih s).mpr ⟨Nat.succ.inj hl, fun i x hi => hx (i + 1) x hi⟩⟩
        cases o with
        | none => exact Or.inl rfl
        | some y => exact Or.inr (congrArg some (Option.some.inj (hx 0 y rfl)).symm)

theorem matchB_iff (m : Bytes) (s : SBytes) : matchB m s = true ↔ Match m s := by
  induction m generalizing s with
  | nil => cases s <;> simp [matchB, Match]
  | cons b m ih =>
    cases s with
    | nil => simp [matchB, Match]
    | cons o s =>
      simp only [matchB, Match, Bool.and_eq_true, ih, Bool.or_eq_true, beq_iff_eq]

/-- nothing unspecified: the real bytes are exactly the spec bytes -/
theorem match_all_some {m : Bytes} {s : SBytes} (h : Match m s) (t : Bytes) (hs : s = t.map some) :
    m = t := by
  subst hs
  induction m generalizing t with
  | nil =>
    cases t with
    | nil => rfl
    | cons _ _ => exact h.elim
  | cons b m ih =>
    cases t with
    | nil => exact h.elim
    | cons c t =>
      obtain ⟨h1, h2⟩ := h
      rcases h1 with h1 | h1
      · cases h1
      · rw [Option.some.inj h1, ih t h2]

end Verif
