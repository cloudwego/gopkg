/-
  Lemmas/StrMapItems: Len / Item(i) — the enumeration Item(0..Len-1) of a loaded map is a
  permutation of the loaded pairs; Item outside [0, Len) panics; the driver's one-pass enumeration
  `itemsAll` is the same list.
-/
import Verif.Lemmas.StrMapLoad
namespace Verif.SMap
open Verif

variable {V : Type}

/-- `Item(0), …, Item(Len()-1)` -/
def enumItems (m : StrMap V) : List (Out LErr (Bytes × V)) :=
  (List.range (len m)).map (fun (i : Nat) => item m (i : Int))

/-- what Item returns for an item record -/
def itemOut (data : Bytes) (e : Item V) : Out LErr (Bytes × V) :=
  match keyAt data e with
  | none => .panic "slice"
  | some k => .ok (k, e.v)

theorem item_of_lt (m : StrMap V) (i : Nat) (h : i < m.items.length) :
    item m (i : Int) = itemOut m.data m.items[i] := by
  unfold item itemOut
  have : ¬ ((i : Int) < 0) := by omega
  simp only [this, if_false, Int.toNat_natCast, List.getElem?_eq_getElem h]
  cases keyAt m.data m.items[i] <;> rfl

theorem item_out_of_range (m : StrMap V) (i : Int) (h : i < 0 ∨ i ≥ len m) :
    item m i = .panic "index" := by
  unfold item
  by_cases hneg : i < 0
  · simp [hneg]
  · simp only [hneg, if_false]
    have : m.items.length ≤ i.toNat := by unfold len at h; omega
    rw [List.getElem?_eq_none this]

theorem enumItems_eq (m : StrMap V) : enumItems m = m.items.map (itemOut m.data) := by
  unfold enumItems len
  apply List.ext_getElem
  · simp
  · intro i h1 h2
    simp only [List.length_map, List.length_range] at h1
    simp only [List.getElem_map, List.getElem_range]
    exact item_of_lt m i h1

theorem keyAtA_eq (data : Bytes) (e : Item V) : keyAtA data.toArray e = keyAt data e := by
  unfold keyAtA keyAt
  simp only [List.size_toArray]
  split
  · rw [Array.toList_extract, List.extract_eq_take_drop]
    simp
  · rfl

theorem itemsAll_eq (m : StrMap V) : itemsAll m = enumItems m := by
  rw [enumItems_eq]
  unfold itemsAll itemOut
  simp only [keyAtA_eq]
  apply List.map_congr_left
  intro e _
  cases keyAt m.data e <;> rfl

/-- the enumeration of a loaded map: every Item call succeeds and the results are a permutation of
    the loaded pairs -/
theorem Loaded.enum {h : Bytes → Nat} {kvs : List (Bytes × V)} {m : StrMap V} (hL : Loaded h kvs m) :
    ∃ l : List (Bytes × V), l.Perm kvs ∧ enumItems m = l.map .ok := by
  refine ⟨m.items.map (fun e => ((keyAt m.data e).getD [], e.v)), ?_, ?_⟩
  · have := hL.perm.map (fun (t : Option Bytes × Nat × V) => (t.1.getD [], t.2.2))
    simpa [List.map_map, Function.comp_def] using this
  · rw [enumItems_eq, List.map_map]
    apply List.map_congr_left
    intro e he
    obtain ⟨kv, _, h1, _⟩ := hL.item_mem he
    simp [itemOut, h1]

end Verif.SMap
