/-
  Lemmas/MemDecode: the copying decoders (C16).
  * span cache contract (as read from lang/span/span.go): a Make result has cap = len and lies either
    in a fresh Go-heap object or in the unreserved part of a span buffer, above everything handed out
    before; so successive results are pairwise disjoint, across wraps.
  * Binary.ReadBinary / ReadString: the result is disjoint from the input and from every earlier result
    and holds the bytes `buf[4:l]`, span cache on or off.
  * BufferReader.ReadBinary / ReadString: the result is a fresh Go-heap object; no reader operation,
    Release or environment step ever changes it.
  * user mutations: writes into the input, appends to / writes into a result.
-/
import Verif.Lemmas.MemReader
import Verif.Model.MemDecode
namespace Verif.Mem
open Verif Verif.Heap

/-! ## span cache -/

structure SpanInv (sp : Span) (h : Heap) : Prop where
  read_le : sp.read ≤ sp.size
  buf : ∃ x, h.obj? sp.buffer.obj = some x ∧ x.owner = .gc ∧ sp.buffer.off + sp.size ≤ x.data.length

/-- `f` does not reach into the part of span `sp`'s buffer that has not been handed out yet -/
def BelowSp (sp : Span) (f : Slice) : Prop :=
  f.obj = sp.buffer.obj → f.off + f.cap ≤ sp.buffer.off + sp.read

theorem SpanInv.of_extends {sp : Span} {h h' : Heap} (hi : SpanInv sp h) (he : Extends h h') : SpanInv sp h' :=
  ⟨hi.read_le, by obtain ⟨x, hx, r⟩ := hi.buf; exact ⟨x, he _ x hx, r⟩⟩

/-- span.Make: the result has cap = len; it is disjoint from every slice that exists and stays below
    the span's reserve line; afterwards the result itself is below the line -/
theorem span_make_ok (sp : Span) (h : Heap) (n0 : Nat) (contended : Bool) (hi : SpanInv sp h)
    (hn : n0 < 4294967296) :
    let r := sp.make h n0 contended
    r.1.len = n0 ∧ r.1.cap = n0 ∧ SpanInv r.2.1 r.2.2 ∧ Extends h r.2.2 ∧ r.2.2.faults = h.faults ∧
    r.2.2.events = h.events ∧ h.size ≤ r.2.2.size ∧
    (∃ x, r.2.2.obj? r.1.obj = some x ∧ x.owner = .gc ∧ r.1.off + r.1.cap ≤ x.data.length) ∧
    BelowSp r.2.1 r.1 ∧ r.2.1.size = sp.size ∧
    (r.2.1.buffer.obj = sp.buffer.obj ∨ r.2.1.buffer.obj = h.size) ∧
    (r.1.obj = sp.buffer.obj ∨ r.1.obj = h.size) ∧
    (∀ f : Slice, f.obj < h.size → BelowSp sp f → r.1.CapDisjoint f ∧ BelowSp r.2.1 f) := by
  have hmod : n0 % 4294967296 = n0 := Nat.mod_eq_of_lt hn
  obtain ⟨xb, hxb, hgc, hbb⟩ := hi.buf
  have hblt := obj?_lt h _ xb hxb
  unfold Span.make
  simp only [hmod]
  by_cases hfb : n0 ≥ sp.size ∨ contended = true
  · -- fallback: a fresh Go-heap object
    rw [if_pos hfb]
    obtain ⟨x, hx, hxg, hxl⟩ := gcAlloc_new h n0 n0
    refine ⟨rfl, rfl, hi.of_extends (extends_gcAlloc h n0 n0), extends_gcAlloc h n0 n0, rfl, rfl, by simp,
      ⟨x, hx, hxg, by simp [hxl]⟩, ?_, rfl, Or.inl rfl, Or.inr rfl, ?_⟩
    · intro heq; simp at heq; omega
    · intro f hf hb
      exact ⟨by unfold Slice.CapDisjoint; right; right; left; simp; omega, hb⟩
  · rw [if_neg hfb]
    have hlt : n0 < sp.size := by
      rcases Nat.lt_or_ge n0 sp.size with h1 | h1
      · exact h1
      · exact absurd (Or.inl h1) hfb
    by_cases hfast : sp.read + n0 ≤ sp.size
    · -- fast path: the next n bytes of the current buffer
      rw [if_pos hfast]
      refine ⟨rfl, rfl, ⟨hfast, xb, hxb, hgc, hbb⟩, Extends.refl h, rfl, rfl, Nat.le_refl _,
        ⟨xb, hxb, hgc, by simp; omega⟩, ?_, rfl, Or.inl rfl, Or.inl rfl, ?_⟩
      · intro _; show sp.buffer.off + sp.read + n0 ≤ sp.buffer.off + (sp.read + n0); omega
      · intro f hf hb
        refine ⟨?_, fun heq => by have := hb heq; simp; omega⟩
        unfold Slice.CapDisjoint
        by_cases heq : f.obj = sp.buffer.obj
        · have := hb heq
          right; right; right; right; simp; omega
        · right; right; left; simp; exact Ne.symm heq
    · -- slow path: a new span buffer
      rw [if_neg hfast]
      obtain ⟨x, hx, hxg, hxl⟩ := gcAlloc_new h sp.size sp.size
      refine ⟨rfl, rfl, ⟨by simp; omega, x, by simpa using hx, hxg, by simp [hxl]⟩,
        extends_gcAlloc h sp.size sp.size, rfl, rfl, by simp, ⟨x, by simpa using hx, hxg, by simp [hxl]; omega⟩, ?_, rfl,
        Or.inr rfl, Or.inr rfl, ?_⟩
      · intro _; simp
      · intro f hf _
        exact ⟨by unfold Slice.CapDisjoint; right; right; left; simp; omega,
          fun heq => by simp at heq; omega⟩

structure CacheInv (c : SpanCache) (h : Heap) : Prop where
  spans : ∀ (i : Nat) sp, c.spans[i]? = some sp → SpanInv sp h
  distinct : ∀ (i j : Nat) spi spj, i ≠ j → c.spans[i]? = some spi → c.spans[j]? = some spj →
    spi.buffer.obj ≠ spj.buffer.obj
  sizes : ∀ (i : Nat) sp, c.spans[i]? = some sp → sp.size < 4294967296
  len : c.spans.length ≤ 24

theorem CacheInv.of_keeps {c : SpanCache} {h h' : Heap} (hi : CacheInv c h) (hk : Keeps h h') : CacheInv c h' :=
  ⟨fun i sp hs => by
      obtain ⟨x, hx, hg, hb⟩ := (hi.spans i sp hs).buf
      obtain ⟨x', hx', ho, _, hl⟩ := hk _ x hx
      exact ⟨(hi.spans i sp hs).read_le, x', hx', by rw [ho]; exact hg, by omega⟩,
   hi.distinct, hi.sizes, hi.len⟩

/-- `f` exists and does not reach into the unreserved part of any span buffer -/
def Below (c : SpanCache) (h : Heap) (f : Slice) : Prop :=
  f.obj < h.size ∧ ∀ (i : Nat) sp, c.spans[i]? = some sp → BelowSp sp f

theorem Below.of_size {c : SpanCache} {h h' : Heap} {f : Slice} (hb : Below c h f) (hs : h.size ≤ h'.size) :
    Below c h' f := ⟨Nat.lt_of_lt_of_le hb.1 hs, hb.2⟩

theorem Below.of_fresh {c : SpanCache} {h h' : Heap} {f : Slice} (hc : CacheInv c h) (hf : h.size ≤ f.obj)
    (hlt : f.obj < h'.size) : Below c h' f := by
  refine ⟨hlt, fun i sp hs heq => ?_⟩
  obtain ⟨x, hx, _⟩ := (hc.spans i sp hs).buf
  have := obj?_lt h _ x hx
  omega

theorem spanClass_lt (n k : Nat) (h : spanClass n ≤ k) : n < 2 ^ k := by
  unfold spanClass at h
  split at h
  · rename_i h0; rw [h0]; exact Nat.two_pow_pos k
  · rename_i h0
    exact (Nat.log2_lt h0).mp (by omega)

theorem gcAlloc_make_ok (c : SpanCache) (h : Heap) (a b : Nat) (hi : CacheInv c h) :
    CacheInv c (h.gcAlloc a b).2 ∧ Extends h (h.gcAlloc a b).2 ∧
    (∃ x, (h.gcAlloc a b).2.obj? h.size = some x ∧ x.owner = .gc ∧ 0 + b ≤ x.data.length) ∧
    Below c (h.gcAlloc a b).2 ⟨h.size, 0, a, b⟩ ∧
    (∀ f : Slice, Below c h f → Slice.CapDisjoint ⟨h.size, 0, a, b⟩ f ∧ Below c (h.gcAlloc a b).2 f) := by
  obtain ⟨x, hx, hxg, hxl⟩ := gcAlloc_new h a b
  have hext := extends_gcAlloc h a b
  have hsz : (h.gcAlloc a b).2.size = h.size + 1 := gcAlloc_size h a b
  exact ⟨hi.of_keeps (Keeps.of_extends hext), hext, ⟨x, hx, hxg, by omega⟩,
    Below.of_fresh hi (Nat.le_refl _) (hsz ▸ Nat.lt_succ_self _),
    fun f hf => ⟨Or.inr (Or.inr (Or.inl (Nat.ne_of_gt hf.1))), hsz ▸ Nat.lt_succ_of_lt hf.1, hf.2⟩⟩

/-- span_disjoint (the span allocator contract): `spanCache.Make(n)` returns a slice with cap = len = n
    inside a Go-heap object, disjoint (capacity regions) from every existing slice that respects the
    reserve lines — in particular from every earlier result — and the cache stays well-formed with the
    new result below the lines too.  Holds on every path: size classes, fallback for small / large /
    contended requests, and the wrap to a new span buffer. -/
theorem cache_make_ok (c : SpanCache) (h : Heap) (n : Nat) (contended : Bool) (hi : CacheInv c h) :
    let r := c.make h n contended
    r.1.len = n ∧ r.1.cap = n ∧ CacheInv r.2.1 r.2.2 ∧ Extends h r.2.2 ∧ r.2.2.faults = h.faults ∧
    r.2.2.events = h.events ∧
    (∃ x, r.2.2.obj? r.1.obj = some x ∧ x.owner = .gc ∧ r.1.off + r.1.cap ≤ x.data.length) ∧
    Below r.2.1 r.2.2 r.1 ∧
    (∀ f : Slice, Below c h f → r.1.CapDisjoint f ∧ Below r.2.1 r.2.2 f) := by
  unfold SpanCache.make
  simp only []
  by_cases hout : spanClass n < minSpanClass ∨ spanClass n - minSpanClass ≥ c.spans.length
  · -- outside the size classes: dirtmake.Bytes(n, n)
    rw [if_pos hout]
    obtain ⟨q1, q2, q3, q4, q5⟩ := gcAlloc_make_ok c h n n hi
    exact ⟨rfl, rfl, q1, q2, rfl, rfl, q3, q4, q5⟩
  · rw [if_neg hout]
    have hidx : spanClass n - minSpanClass < c.spans.length := by omega
    have hcls : minSpanClass ≤ spanClass n := by omega
    generalize hk : spanClass n - minSpanClass = k at hidx
    have hsome : c.spans[k]? = some c.spans[k] := List.getElem?_eq_getElem hidx
    rw [hsome]
    simp only []
    generalize c.spans[k] = sp at hsome
    have hn32 : n < 4294967296 := by
      have h1 := spanClass_lt n (minSpanClass + k) (by omega)
      have h2 : (2:Nat) ^ (minSpanClass + k) ≤ 2 ^ 32 :=
        Nat.pow_le_pow_right (by decide) (by have := hi.len; unfold minSpanClass; omega)
      omega
    obtain ⟨m1, m2, m3, m4, m5, m6, m7, m8, m9, m10, m11, m12, m13⟩ :=
      span_make_ok sp h n contended (hi.spans k sp hsome) hn32
    generalize sp.make h n contended = r at m1 m2 m3 m4 m5 m6 m7 m8 m9 m10 m11 m12 m13
    have hother : ∀ (j : Nat) spj, j ≠ k → c.spans[j]? = some spj → spj.buffer.obj < h.size ∧
        spj.buffer.obj ≠ sp.buffer.obj := by
      intro j spj hj hs
      obtain ⟨y, hy, _⟩ := (hi.spans j spj hs).buf
      exact ⟨obj?_lt h _ y hy, hi.distinct j k spj sp hj hs hsome⟩
    have hget : ∀ (j : Nat) spj, (c.spans.set k r.2.1)[j]? = some spj →
        (j = k ∧ spj = r.2.1) ∨ (j ≠ k ∧ c.spans[j]? = some spj) := by
      intro j spj hs
      rw [List.getElem?_set] at hs
      by_cases hjk : k = j
      · rw [if_pos hjk, if_pos hidx] at hs
        exact Or.inl ⟨hjk.symm, by cases hs; rfl⟩
      · rw [if_neg hjk] at hs
        exact Or.inr ⟨fun h' => hjk h'.symm, hs⟩
    have hbelowNew : ∀ f : Slice, f.obj < h.size → (∀ (i : Nat) spi, c.spans[i]? = some spi → BelowSp spi f) →
        ∀ (j : Nat) spj, (c.spans.set k r.2.1)[j]? = some spj → BelowSp spj f := by
      intro f hf hb j spj hs
      rcases hget j spj hs with ⟨_, rfl⟩ | ⟨_, hs'⟩
      · exact (m13 f hf (hb k sp hsome)).2
      · exact hb j spj hs'
    refine ⟨m1, m2, ⟨?_, ?_, ?_, by simp [hi.len]⟩, m4, m5, m6, m8, ⟨?_, ?_⟩, fun f hf =>
      ⟨(m13 f hf.1 (hf.2 k sp hsome)).1, Nat.lt_of_lt_of_le hf.1 m7, hbelowNew f hf.1 hf.2⟩⟩
    · intro j spj hs
      rcases hget j spj hs with ⟨_, rfl⟩ | ⟨_, hs'⟩
      · exact m3
      · exact (hi.spans j spj hs').of_extends m4
    · intro i j spi spj hij hsi hsj
      rcases hget i spi hsi with ⟨rfl, rfl⟩ | ⟨hik, hsi'⟩
      · rcases hget j spj hsj with ⟨rfl, _⟩ | ⟨hjk, hsj'⟩
        · exact absurd rfl hij
        · obtain ⟨o1, o2⟩ := hother j spj hjk hsj'
          rcases m11 with e | e <;> (rw [e]; first | exact Ne.symm o2 | omega)
      · rcases hget j spj hsj with ⟨rfl, rfl⟩ | ⟨hjk, hsj'⟩
        · obtain ⟨o1, o2⟩ := hother i spi hik hsi'
          rcases m11 with e | e <;> (rw [e]; first | exact o2 | omega)
        · exact hi.distinct i j spi spj hij hsi' hsj'
    · intro j spj hs
      rcases hget j spj hs with ⟨_, rfl⟩ | ⟨_, hs'⟩
      · rw [m10]; exact hi.sizes k sp hsome
      · exact hi.sizes j spj hs'
    · obtain ⟨x, hx, _⟩ := m8
      exact obj?_lt _ _ x hx
    · intro j spj hs
      rcases hget j spj hs with ⟨_, rfl⟩ | ⟨hjk, hs'⟩
      · exact m9
      · intro heq
        obtain ⟨o1, o2⟩ := hother j spj hjk hs'
        rcases m12 with e | e
        · rw [e] at heq; exact absurd heq.symm o2
        · rw [e] at heq; omega

/-- NewSpanCache: ten spans with ten distinct fresh buffers -/
theorem newAux_ok (size : Nat) : ∀ (k : Nat) (h : Heap),
    (SpanCache.newAux k h size).1.length = k ∧ (SpanCache.newAux k h size).2.size = h.size + k ∧
    Extends h (SpanCache.newAux k h size).2 ∧ (SpanCache.newAux k h size).2.faults = h.faults ∧
    (∀ (i : Nat) sp, (SpanCache.newAux k h size).1[i]? = some sp →
      sp.buffer.obj = h.size + i ∧ sp.buffer.off = 0 ∧ sp.read = 0 ∧ sp.size = size ∧
      ∃ x, (SpanCache.newAux k h size).2.obj? (h.size + i) = some x ∧ x.owner = .gc ∧ x.data.length = size) := by
  intro k
  induction k with
  | zero => intro h; exact ⟨rfl, rfl, Extends.refl h, rfl, fun i sp hs => by simp [SpanCache.newAux] at hs⟩
  | succ k ih =>
    intro h
    unfold SpanCache.newAux
    simp only []
    obtain ⟨a1, a2, a3, a4, a5⟩ := ih (Span.new h size).2
    have hsz : (Span.new h size).2.size = h.size + 1 := by simp [Span.new]
    obtain ⟨x, hx, hxg, hxl⟩ := gcAlloc_new h 0 size
    refine ⟨by simp [a1], by rw [a2, hsz]; omega, (extends_gcAlloc h 0 size).trans a3, a4, ?_⟩
    intro i sp hs
    cases i with
    | zero =>
      simp only [List.getElem?_cons_zero, Option.some.injEq] at hs
      subst hs
      exact ⟨rfl, rfl, rfl, rfl, x, a3 _ x hx, hxg, hxl⟩
    | succ i =>
      simp only [List.getElem?_cons_succ] at hs
      obtain ⟨b1, b2, b3, b4, y, hy, hyg, hyl⟩ := a5 i sp hs
      rw [hsz] at b1 hy
      exact ⟨by omega, b2, b3, b4, y, by rw [show h.size + (i + 1) = h.size + 1 + i by omega]; exact hy, hyg, hyl⟩

theorem cacheInv_new (h : Heap) (size : Nat) (hs : size < 4294967296) :
    CacheInv (SpanCache.new h size).1 (SpanCache.new h size).2 ∧
    ∀ f : Slice, f.obj < h.size → Below (SpanCache.new h size).1 (SpanCache.new h size).2 f := by
  unfold SpanCache.new
  simp only []
  obtain ⟨a1, a2, a3, a4, a5⟩ := newAux_ok size spanCacheSize h
  refine ⟨⟨?_, ?_, ?_, by rw [a1]; decide⟩, ?_⟩
  · intro i sp hsp
    obtain ⟨b1, b2, b3, b4, x, hx, hg, hl⟩ := a5 i sp hsp
    exact ⟨by omega, x, by rw [b1]; exact hx, hg, by omega⟩
  · intro i j spi spj hij hi hj
    rw [(a5 i spi hi).1, (a5 j spj hj).1]; omega
  · intro i sp hsp; rw [(a5 i sp hsp).2.2.2.1]; exact hs
  · intro f hf
    refine ⟨by rw [a2]; omega, fun i sp hsp heq => ?_⟩
    rw [(a5 i sp hsp).1] at heq; omega

/-! ## Binary.ReadBinary / ReadString -/

/-- the input of a decode: a slice inside an existing, not recycled object -/
def InputOK (h : Heap) (buf : Slice) : Prop :=
  buf.len ≤ buf.cap ∧ ∃ x, h.obj? buf.obj = some x ∧ buf.off + buf.cap ≤ x.data.length ∧ x.owner ≠ .freed

/-- every byte outside the slice `s` is what it was -/
def OnlyWrote (h h' : Heap) (s : Slice) : Prop :=
  ∀ o p, o < h.size → ¬(o = s.obj ∧ s.off ≤ p ∧ p < s.off + s.len) → h'.byte? o p = h.byte? o p

theorem view_of_onlyWrote {h h' : Heap} {s f : Slice} (hw : OnlyWrote h h' s) (hf : f.obj < h.size)
    (hlen : f.len ≤ f.cap) (hd : s.CapDisjoint f) (hsl : s.len ≤ s.cap) : h'.view f = h.view f := by
  unfold Heap.view
  apply bytes_congr
  intro q h1 h2
  apply hw f.obj q hf
  intro ⟨e1, e2, e3⟩
  unfold Slice.CapDisjoint at hd
  rcases hd with d | d | d | d | d
  · omega
  · omega
  · exact d e1.symm
  · omega
  · omega

/-- read_fresh + value (Binary.ReadBinary / ReadString, span cache on or off, contended or not):
    on success the result has `len ≤ cap`, lies in a Go-heap object, its capacity region is disjoint from
    the input and from every slice that respects the span reserve lines (every earlier result does);
    it holds the bytes `buf[4:l]`; nothing but the result's own bytes was written; no fault; the cache
    invariant and the reserve lines are kept (so the next decode can use this theorem again). -/
theorem binReadBinary_ok (cfg : DecCfg) (c : SpanCache) (h : Heap) (buf : Slice) (s : Slice) (l : Nat)
    (c' : SpanCache) (h' : Heap) (hc : CacheInv c h) (hin : InputOK h buf) (hb : Below c h buf)
    (hrun : binReadBinary cfg c h buf = (.ok (s, l), c', h')) :
    4 ≤ l ∧ l ≤ buf.len ∧ s.len = l - 4 ∧ s.len ≤ s.cap ∧ (cfg.spanOn = true → s.cap = s.len) ∧
    h'.view s = h.bytes buf.obj (buf.off + 4) (l - 4) ∧
    s.CapDisjoint buf ∧ (∀ f : Slice, Below c h f → s.CapDisjoint f ∧ Below c' h' f) ∧ Below c' h' s ∧
    CacheInv c' h' ∧ OnlyWrote h h' s ∧ h'.faults = h.faults ∧ h.size ≤ h'.size ∧
    ((∃ x, h'.obj? s.obj = some x ∧ x.owner = .gc ∧ s.off + s.cap ≤ x.data.length) ∧ Keeps h h') := by
  obtain ⟨hlc, xi, hxi, hbi, hfi⟩ := hin
  unfold binReadBinary at hrun
  by_cases h4 : buf.len < 4
  · rw [if_pos h4] at hrun; simp at hrun
  · rw [if_neg h4] at hrun
    simp only [] at hrun
    have hrd : (h.read buf.obj buf.off 4).2 = h := read_ok h _ _ 4 fun _ => ⟨xi, hxi, by omega, hfi⟩
    rw [hrd] at hrun
    generalize hsz : toI32 (rd32 (h.read buf.obj buf.off 4).1) = sz at hrun
    by_cases hneg : sz < 0
    · rw [if_pos hneg] at hrun; simp at hrun
    · rw [if_neg hneg] at hrun
      generalize hn : sz.toNat = n at hrun
      by_cases hshort : buf.len < 4 + n
      · rw [if_pos hshort] at hrun; simp at hrun
      · rw [if_neg hshort] at hrun
        have hbs : buf.off + 4 + n ≤ xi.data.length := by omega
        -- either way the destination `d` meets the contract of `spanCache.Make`; one copy fills it
        obtain ⟨h1, m1, m2, m3, m4, m5, ⟨xm, hxm, hxmg, hxmb⟩, m8, m9, hcap, rfl, rfl⟩ :
            ∃ h1 : Heap, s.len = n ∧ n ≤ s.cap ∧ CacheInv c' h1 ∧ Extends h h1 ∧
              h1.faults = h.faults ∧ (∃ x, h1.obj? s.obj = some x ∧ x.owner = .gc ∧ s.off + s.cap ≤ x.data.length) ∧
              Below c' h1 s ∧ (∀ f : Slice, Below c h f → s.CapDisjoint f ∧ Below c' h1 f) ∧
              (cfg.spanOn = true → s.cap = s.len) ∧ l = 4 + n ∧
              h' = h1.copy s.obj s.off buf.obj (buf.off + 4) n := by
          cases hso : cfg.spanOn
          · -- []byte(string(buf[4:l])): a fresh Go allocation
            rw [hso, if_neg Bool.false_ne_true] at hrun
            cases hrun
            obtain ⟨q1, q2, q3, q4, q5⟩ := gcAlloc_make_ok c h n (n + cfg.slack) hc
            exact ⟨_, rfl, Nat.le_add_right _ _, q1, q2, rfl, q3, q4, q5, fun hc' => Bool.noConfusion hc', rfl, rfl⟩
          · -- spanCache.Copy(buf[4:l])
            rw [hso, if_pos rfl] at hrun
            cases hrun
            obtain ⟨m1, m2, m3, m4, m5, _, m7, m8, m9⟩ := cache_make_ok c h n cfg.contended hc
            exact ⟨_, m1, Nat.le_of_eq m2.symm, m3, m4, m5, m7, m8, m9, fun _ => m2.trans m1.symm, rfl, rfl⟩
        have hbd : s.off + n ≤ xm.data.length := by omega
        obtain ⟨hl, e⟩ := copy_eq h1 s.obj s.off buf.obj (buf.off + 4) n xi xm (m4 _ xi hxi) hxm hbs hbd hfi
          (by rw [hxmg]; decide) (by rw [hxmg]; intro hc'; cases hc')
        have hd : h1.bytes buf.obj (buf.off + 4) n = h.bytes buf.obj (buf.off + 4) n :=
          bytes_congr _ _ _ _ _ fun q _ _ => m4.byte? _ q xi hxi
        rw [e]
        generalize h1.bytes buf.obj (buf.off + 4) n = v at hl hd
        have t := setData_touches h1 s.obj s.off v xm hxm (hl.symm ▸ hbd)
        obtain ⟨x2, hx2, ho2, _, hl2⟩ := t.shape.obj? _ xm hxm
        have hsz := t.shape.size
        refine ⟨by omega, by omega, by omega, by omega, hcap, ?_, (m9 buf hb).1,
          fun f hf => ⟨(m9 f hf).1, hsz ▸ (m9 f hf).2.1, (m9 f hf).2.2⟩, ⟨hsz ▸ m8.1, m8.2⟩, m3.of_keeps t.keeps,
          fun o p ho hnot => ?_, m5, hsz ▸ (Keeps.of_extends m4).size,
          ⟨x2, hx2, ho2.trans hxmg, by omega⟩, (Keeps.of_extends m4).trans t.keeps⟩
        · simp only [Heap.view, m1, Nat.add_sub_cancel_left]
          exact hd ▸ hl ▸ bytes_setData_same h1 _ _ v xm hxm (hl.symm ▸ hbd)
        · refine (t.out o p ?_).trans (m4.byte?_lt ho p)
          by_cases heq : o = s.obj
          · subst heq
            rw [hl, ← m1]
            rcases Nat.lt_or_ge p s.off with hlt | hge
            · exact Or.inr (Or.inl hlt)
            · exact Or.inr (Or.inr (Nat.le_of_not_lt fun hlt2 => hnot ⟨rfl, hge, hlt2⟩))
          · exact Or.inl heq

/-- the outcome of Binary.ReadBinary as far as it does not involve the allocator: the error, or `l` -/
def binHead (h : Heap) (buf : Slice) : Except (TErr × Nat) Nat :=
  if buf.len < 4 then .error (errShort, 0) else
  let sz := toI32 (rd32 (h.bytes buf.obj buf.off 4))
  if sz < 0 then .error (errNeg, 0) else
  if buf.len < 4 + sz.toNat then .error (errShort, 4) else .ok (4 + sz.toNat)

theorem binReadBinary_head (cfg : DecCfg) (c : SpanCache) (h : Heap) (buf : Slice) :
    (match (binReadBinary cfg c h buf).1 with
     | .ok (_, l) => Except.ok l
     | .error e => Except.error e) = binHead h buf := by
  unfold binReadBinary binHead
  by_cases h4 : buf.len < 4
  · rw [if_pos h4, if_pos h4]
  rw [if_neg h4, if_neg h4]
  dsimp only [Heap.read]
  by_cases hneg : toI32 (rd32 (h.bytes buf.obj buf.off 4)) < 0
  · rw [if_pos hneg, if_pos hneg]
  rw [if_neg hneg, if_neg hneg]
  by_cases hshort : buf.len < 4 + (toI32 (rd32 (h.bytes buf.obj buf.off 4))).toNat
  · rw [if_pos hshort, if_pos hshort]
  rw [if_neg hshort, if_neg hshort]
  cases cfg.spanOn <;> rfl

/-- a failing Binary.ReadBinary changes nothing (the span cache is not consulted, nothing is allocated) -/
theorem binReadBinary_err (cfg : DecCfg) (c : SpanCache) (h : Heap) (buf : Slice) (e : TErr × Nat)
    (c' : SpanCache) (h' : Heap) (hin : InputOK h buf)
    (hrun : binReadBinary cfg c h buf = (.error e, c', h')) : c' = c ∧ h' = h := by
  obtain ⟨_, xi, hxi, hbi, hfi⟩ := hin
  unfold binReadBinary at hrun
  by_cases h4 : buf.len < 4
  · rw [if_pos h4] at hrun; cases hrun; exact ⟨rfl, rfl⟩
  rw [if_neg h4] at hrun
  dsimp only at hrun
  rw [read_ok h _ _ 4 fun _ => ⟨xi, hxi, by omega, hfi⟩] at hrun
  generalize toI32 (rd32 (h.read buf.obj buf.off 4).1) = sz at hrun
  by_cases hneg : sz < 0
  · rw [if_pos hneg] at hrun; cases hrun; exact ⟨rfl, rfl⟩
  rw [if_neg hneg] at hrun
  by_cases hshort : buf.len < 4 + sz.toNat
  · rw [if_pos hshort] at hrun; cases hrun; exact ⟨rfl, rfl⟩
  rw [if_neg hshort] at hrun
  cases hso : cfg.spanOn <;> rw [hso] at hrun <;> cases hrun

/-! ## reader operations never touch Go-heap objects (other than an explicit ReadBinary destination) -/

theorem release_gckept (r : MRd) (h : Heap) (hi : RInv r h) : GcKept h (r.release h).2 :=
  fun o x hx hg => (release_ok r h hi).2.1 o x hx (by rw [hg]; decide)

theorem env_gckept {h h' : Heap} (he : Env h h') : ∀ o x, h.obj? o = some x → x.owner = .gc →
    ∃ x', h'.obj? o = some x' ∧ x'.owner = .gc ∧ x'.data = x.data := fun o x hx hg => by
  obtain ⟨x', hx', ho, _, _, hd⟩ := he.keep o x hx
  exact ⟨x', hx', by rw [ho]; exact hg, hd (by rw [hg]; decide)⟩

/-- ReadBinary into a destination leaves every OTHER Go-heap object alone -/
theorem readBinary_gckept (r : MRd) (h : Heap) (bs : Slice) (hi : RInv r h) :
    ∀ o x, h.obj? o = some x → x.owner = .gc → o ≠ bs.obj → (r.readBinary h bs).2.2.obj? o = some x := by
  intro o x hx hg hne
  unfold MRd.readBinary
  cases hacq : r.acquire h bs.len with
  | none => exact hx
  | some res =>
    obtain ⟨m0, r1, h1⟩ := res
    obtain ⟨a, _⟩ := acquire_ok r h _ m0 r1 h1 hi hacq
    simp only []
    rw [copy_obj?_ne _ _ _ _ _ _ o hne, assert_obj?]
    exact a.gckept o x hx hg

/-- read_fresh + value (BufferReader.ReadBinary / ReadString): on success the result is the full slice
    (cap = len) of a Go-heap object that did not exist before the call; the reader invariant is kept and
    every older Go-heap object (every earlier result) is left alone. -/
theorem brReadBinary_ok (r : MRd) (h : Heap) (s : Slice) (e : Option TErr) (r' : MRd) (h' : Heap)
    (hi : RInv r h) (hrun : brReadBinary r h = ((some s, e), r', h')) :
    RInv r' h' ∧ h.size ≤ s.obj ∧ s.off = 0 ∧ s.cap = s.len ∧
    (∃ x, h'.obj? s.obj = some x ∧ x.owner = .gc ∧ x.data.length = s.cap) ∧ GcKept h h' := by
  unfold brReadBinary at hrun
  have hn := next_ok r h 4 hi
  have hg : GcKept h (r.next h 4).2.2 := (nps_spec true true r h 4 hi).2.1
  generalize r.next h 4 = res at hrun hn hg
  obtain ⟨res1, r1, h1⟩ := res
  cases res1 with
  | ok b =>
    simp only [] at hrun
    obtain ⟨_, hlen, hread⟩ := hn.2 b rfl
    have hrd : (h1.read b.obj b.off 4).2 = h1 := read_ok h1 _ _ 4 fun _ => by
      obtain ⟨x, hx, hb, hf⟩ := hread (by rw [hlen]; decide)
      exact ⟨x, hx, by rw [hlen] at hb; exact hb, hf⟩
    rw [hrd] at hrun
    generalize toI32 (rd32 (h1.read b.obj b.off 4).1) = sz at hrun
    by_cases hneg : sz < 0
    · rw [if_pos hneg] at hrun; simp at hrun
    · rw [if_neg hneg] at hrun
      generalize sz.toNat = n at hrun
      obtain ⟨x, hx, hxg, hxl⟩ := gcAlloc_new h1 n n
      have hext := extends_gcAlloc h1 n n
      have hi1 : RInv r1 (h1.gcAlloc n n).2 := hn.1.inv.of_keeps (Keeps.of_extends hext) hn.1.inv.nofault
      have hdst : GcDst (h1.gcAlloc n n).2 (h1.gcAlloc n n).1 := ⟨x, hx, hxg, by simp [hxl]⟩
      have hrb := readBinary_ok r1 _ _ hi1 hdst
      have hrg := readBinary_gckept r1 (h1.gcAlloc n n).2 (h1.gcAlloc n n).1 hi1
      generalize r1.readBinary (h1.gcAlloc n n).2 (h1.gcAlloc n n).1 = rb at hrun hrb hrg
      obtain ⟨rb1, r2, h2⟩ := rb
      have hs : s = (h1.gcAlloc n n).1 ∧ r' = r2 ∧ h' = h2 := by
        cases rb1 with
        | none => cases hrun
        | some p => obtain ⟨m, _ | e'⟩ := p <;> (cases hrun; exact ⟨rfl, rfl, rfl⟩)
      obtain ⟨rfl, rfl, rfl⟩ := hs
      obtain ⟨x2, hx2, ho2, _, hl2⟩ := hrb.keeps _ x hx
      refine ⟨hrb.inv, hn.1.keeps.size, rfl, rfl, ⟨x2, hx2, ho2.trans hxg, hl2.trans hxl⟩, fun o y hy hyg => ?_⟩
      have h1y := hg o y hy hyg
      exact hrg o y (hext o y h1y) hyg (Nat.ne_of_lt (obj?_lt h1 o y h1y))
  | fail e' => cases e' <;> cases hrun
  | nofuel => cases hrun

/-! ## what the user does afterwards -/

/-- mutate_input (and reuse): a user write anywhere inside the capacity region of `f` leaves every slice
    whose capacity region is disjoint from `f` unchanged -/
theorem userWrite_disjoint (h : Heap) (f s : Slice) (p : Nat) (d : Bytes)
    (hp : f.off ≤ p ∧ p + d.length ≤ f.off + f.cap)
    (hf : ∀ x, h.obj? f.obj = some x → f.off + f.cap ≤ x.data.length)
    (hd : s.CapDisjoint f) (hsl : s.len ≤ s.cap) : (h.userWrite f.obj p d).view s = h.view s := by
  unfold Heap.view Heap.userWrite
  apply bytes_congr
  intro q h1 h2
  have hq : s.obj ≠ f.obj ∨ q < p ∨ p + d.length ≤ q := by
    unfold Slice.CapDisjoint at hd
    rcases hd with e | e | e | e | e
    · omega
    · right; omega
    · exact Or.inl e
    · right; omega
    · right; omega
  cases hx : h.obj? f.obj with
  | some x => exact (setData_touches h f.obj p d x hx (by have := hf x hx; omega)).out s.obj q hq
  | none =>
    -- a write into an object that does not exist changes nothing
    unfold Heap.byte?
    by_cases heq : s.obj = f.obj
    · rw [heq, setData_obj?, hx]; rfl
    · rw [setData_obj?_ne h f.obj p d s.obj heq]

/-- append_result: `append(s, d...)` writes either inside the capacity region of `s` or into a fresh
    object; a slice whose capacity region is disjoint from that of `s` is unchanged, and the appended
    slice holds the old content followed by `d` -/
theorem goAppend_ok (h : Heap) (s : Slice) (d : Bytes) (slack : Nat)
    (hs : s.len ≤ s.cap ∧ ∃ x, h.obj? s.obj = some x ∧ s.off + s.cap ≤ x.data.length) :
    (goAppend h s d slack).2.view (goAppend h s d slack).1 = h.view s ++ d ∧
    ∀ f : Slice, f.obj < h.size → f.len ≤ f.cap → f.CapDisjoint s →
      (goAppend h s d slack).2.view f = h.view f := by
  obtain ⟨hlen, x, hx, hb⟩ := hs
  unfold goAppend
  by_cases hfit : s.len + d.length ≤ s.cap
  · rw [if_pos hfit]
    have hbd : s.off + s.len + d.length ≤ x.data.length := by omega
    refine ⟨?_, fun f _ hfl hd => userWrite_disjoint h s f (s.off + s.len) d (by omega)
      (fun y hy => by cases hx.symm.trans hy; exact hb) hd hfl⟩
    show (h.setData s.obj (s.off + s.len) d).bytes s.obj s.off (s.len + d.length) = h.bytes s.obj s.off s.len ++ d
    rw [bytes_append, bytes_setData_same h _ _ d x hx hbd]
    congr 1
    exact bytes_congr _ _ _ _ _ fun q _ hq => (setData_touches h _ _ d x hx hbd).out _ q (Or.inr (Or.inl hq))
  · -- a fresh object receives the old content, then `d` behind it
    rw [if_neg hfit]
    obtain ⟨y, hy, hyg, hyl⟩ := gcAlloc_new h (s.len + d.length) (s.len + d.length + slack)
    have hvl : (h.view s).length = s.len := bytes_length h _ _ _ x hx (by omega)
    have hext := extends_gcAlloc h (s.len + d.length) (s.len + d.length + slack)
    dsimp only [gcAlloc_obj, Heap.userWrite]
    generalize h.view s = v at hvl ⊢
    generalize (h.gcAlloc (s.len + d.length) (s.len + d.length + slack)).2 = h1 at hy hext
    have hb1 : 0 + v.length ≤ y.data.length := by omega
    have t1 := setData_touches h1 h.size 0 v y hy hb1
    obtain ⟨y1, hy1, _, _, hyl1⟩ := t1.shape.obj? _ y hy
    have hb2 : s.len + d.length ≤ y1.data.length := by omega
    have t2 := setData_touches _ h.size s.len d y1 hy1 hb2
    refine ⟨?_, fun f hf _ _ => bytes_congr _ _ _ _ _ fun q _ _ => ?_⟩
    · show ((h1.setData h.size 0 v).setData h.size s.len d).bytes h.size 0 (s.len + d.length) = v ++ d
      rw [bytes_append, Nat.zero_add, bytes_setData_same _ _ _ d y1 hy1 hb2]
      congr 1
      refine (bytes_congr _ _ _ _ _ fun q _ hq => t2.out _ q (Or.inr (Or.inl (by omega)))).trans ?_
      rw [← hvl]
      exact bytes_setData_same h1 h.size 0 v y hy hb1
    · exact (t2.out _ q (Or.inl (Nat.ne_of_lt hf))).trans
        ((t1.out _ q (Or.inl (Nat.ne_of_lt hf))).trans (hext.byte?_lt hf q))

end Verif.Mem
