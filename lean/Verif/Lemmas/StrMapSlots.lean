/-
  Lemmas/StrMapSlots: calcHashtableSlots (utils.go) — never zero, below 2^31, no panic below the
  documented limit, bigger than n ("a prime bigger than n").
-/
import Verif.Model.StrMap
namespace Verif.SMap
open Verif

theorem bitLen_lt_iff (n k : Nat) : bitLen n < k + 1 ↔ n < 2 ^ k := by
  unfold bitLen
  split
  · subst n; simp; exact Nat.pos_of_ne_zero (by simp)
  · rename_i h0
    rw [Nat.add_lt_add_iff_right]
    exact Nat.log2_lt h0

theorem bitLen_le_iff (n k : Nat) : k + 1 ≤ bitLen n ↔ 2 ^ k ≤ n := by
  have := bitLen_lt_iff n k
  omega

/-- every entry of the prime table is in [1, 2^31) -/
theorem primes_range : ∀ p ∈ Facts.bits2primes, 0 < p ∧ p < 2147483648 := by decide

/-- entry b is at least 3/4 of 2^b (so it exceeds every n with ⌊4n/3⌋ < 2^b) -/
theorem primes_big : ∀ b, b < Facts.bits2primes.length →
    3 * 2 ^ b ≤ 4 * (Facts.bits2primes[b]?.getD 0) := by decide

theorem calcSlots_cases (n : Nat) :
    (Facts.bits2primes.length ≤ bitLen (scaled n) ∧ calcSlots n = .panic "too many items") ∨
    (∃ p, bitLen (scaled n) < Facts.bits2primes.length ∧
      Facts.bits2primes[bitLen (scaled n)]? = some p ∧ calcSlots n = .ok p.toNat) := by
  unfold calcSlots
  by_cases hb : Facts.bits2primes.length ≤ bitLen (scaled n)
  · left; simp [hb]
  · right
    have hlt : bitLen (scaled n) < Facts.bits2primes.length := by omega
    have hs : Facts.bits2primes[bitLen (scaled n)]? = some (Facts.bits2primes[bitLen (scaled n)]) :=
      List.getElem?_eq_getElem hlt
    refine ⟨_, hlt, hs, ?_⟩
    simp only [ge_iff_le, hb, if_false, hs]

/-- calcHashtableSlots never returns 0 and fits int32 -/
theorem calcSlots_range {n s : Nat} (h : calcSlots n = .ok s) : 0 < s ∧ s < 2147483648 := by
  rcases calcSlots_cases n with ⟨_, hp⟩ | ⟨p, _, hs, hp⟩
  · rw [hp] at h; cases h
  · rw [hp] at h
    have hmem : p ∈ Facts.bits2primes := List.mem_of_getElem? hs
    have := primes_range p hmem
    injection h with h
    omega

/-! ## the load factor — only these two facts about the regenerated constants are used -/

theorem lf_pos : 0 < Facts.loadfactorNum := by decide
/-- loadfactor ≤ 1 ("always < 1" in the source; = 1 would do for everything but `calcSlots_gt_of_table`) -/
theorem lf_le : Facts.loadfactorNum ≤ Facts.loadfactorDen := by decide

theorem le_scaled (n : Nat) : n ≤ scaled n := by
  unfold scaled
  rw [Nat.le_div_iff_mul_le lf_pos]
  exact Nat.mul_le_mul_left n lf_le

/-- the item counts the code accepts: ⌊n / loadfactor⌋ needs fewer than 32 bits -/
def CountOk (n : Nat) : Prop := scaled n < 2147483648

instance (n : Nat) : Decidable (CountOk n) := by unfold CountOk; infer_instance

theorem CountOk.lt {n : Nat} (h : CountOk n) : n < 2147483648 :=
  Nat.lt_of_le_of_lt (le_scaled n) h

/-- no panic iff ⌊n / loadfactor⌋ < 2^31 (for whatever the load factor is) -/
theorem calcSlots_ok_iff (n : Nat) : (∃ s, calcSlots n = .ok s) ↔ CountOk n := by
  have hlen : Facts.bits2primes.length = 31 + 1 := by decide
  unfold CountOk
  rcases calcSlots_cases n with ⟨hb, hp⟩ | ⟨p, hb, _, hp⟩
  · rw [hlen, bitLen_le_iff] at hb
    constructor
    · rintro ⟨s, hs⟩; rw [hp] at hs; cases hs
    · intro hn; omega
  · rw [hlen, bitLen_lt_iff] at hb
    exact ⟨fun _ => hb, fun _ => ⟨_, hp⟩⟩

theorem calcSlots_panic_iff (n : Nat) : calcSlots n = .panic "too many items" ↔ ¬ CountOk n := by
  have h := calcSlots_ok_iff n
  rcases calcSlots_cases n with ⟨_, hp⟩ | ⟨p, _, _, hp⟩
  · constructor
    · intro _ hn
      obtain ⟨s, hs⟩ := h.mpr hn
      rw [hp] at hs; cases hs
    · intro _; exact hp
  · have : CountOk n := h.mp ⟨_, hp⟩
    constructor
    · intro h2; rw [hp] at h2; cases h2
    · intro h2; exact absurd this h2

/-- a sufficient count that does not mention the exact load factor: below 2^30 items whenever the
    load factor is at least 1/2 -/
theorem countOk_of_lt_2pow30 (hhalf : Facts.loadfactorDen ≤ 2 * Facts.loadfactorNum) {n : Nat}
    (hn : n < 1073741824) : CountOk n := by
  unfold CountOk scaled
  rw [Nat.div_lt_iff_lt_mul lf_pos]
  calc n * Facts.loadfactorDen ≤ n * (2 * Facts.loadfactorNum) := Nat.mul_le_mul_left n hhalf
    _ = (2 * n) * Facts.loadfactorNum := by rw [Nat.mul_comm 2 n, Nat.mul_assoc]
    _ < 2147483648 * Facts.loadfactorNum := Nat.mul_lt_mul_of_pos_right (by omega) lf_pos

/-- the exact threshold for the load factor 3/4 of the source: 3·2^29 items -/
theorem countOk_iff_current (h3 : Facts.loadfactorNum = 3) (h4 : Facts.loadfactorDen = 4) (n : Nat) :
    CountOk n ↔ n < 1610612736 := by
  unfold CountOk scaled
  rw [h3, h4]; omega

/-- "a prime bigger than n": holds whenever every table entry b is at least loadfactor·2^b (the
    hypothesis ties the hand-written prime table to the load factor; `primes_big` is its instance for 3/4) -/
theorem calcSlots_gt_of_table
    (htab : ∀ b, b < Facts.bits2primes.length →
      Facts.loadfactorNum * 2 ^ b ≤ Facts.loadfactorDen * (Facts.bits2primes[b]?.getD 0).toNat)
    {n s : Nat} (h : calcSlots n = .ok s) : n < s := by
  rcases calcSlots_cases n with ⟨_, hp⟩ | ⟨p, hb, hs, hp⟩
  · rw [hp] at h; cases h
  · rw [hp] at h; injection h with h
    have hbig := htab _ hb
    rw [hs] at hbig; simp only [Option.getD_some] at hbig
    subst h
    have hlt : scaled n < 2 ^ bitLen (scaled n) :=
      (bitLen_lt_iff (scaled n) (bitLen (scaled n))).mp (Nat.lt_succ_self _)
    -- n·Den < (scaled n + 1)·Num ≤ 2^b·Num ≤ Den·p
    have h1 : n * Facts.loadfactorDen < (scaled n + 1) * Facts.loadfactorNum := by
      unfold scaled
      exact Nat.lt_mul_of_div_lt (Nat.lt_succ_self _) lf_pos
    have h2 : (scaled n + 1) * Facts.loadfactorNum ≤ 2 ^ bitLen (scaled n) * Facts.loadfactorNum :=
      Nat.mul_le_mul_right _ hlt
    have h3 : n * Facts.loadfactorDen < p.toNat * Facts.loadfactorDen := by
      rw [Nat.mul_comm p.toNat]; rw [Nat.mul_comm _ (2 ^ _)] at hbig; omega
    exact Nat.lt_of_mul_lt_mul_right h3

theorem calcSlots_gt_current (h3 : Facts.loadfactorNum = 3) (h4 : Facts.loadfactorDen = 4)
    {n s : Nat} (h : calcSlots n = .ok s) : n < s := by
  apply calcSlots_gt_of_table _ h
  intro b hb
  have hbig := primes_big b hb
  rw [h3, h4]
  have hpos : 0 ≤ Facts.bits2primes[b]?.getD 0 := by
    cases hg : Facts.bits2primes[b]? with
    | none => simp
    | some p => simp; exact Int.le_of_lt (primes_range p (List.mem_of_getElem? hg)).1
  rw [← Int.toNat_of_nonneg hpos] at hbig
  exact_mod_cast hbig

end Verif.SMap
