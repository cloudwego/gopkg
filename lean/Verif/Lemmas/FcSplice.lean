/-
  Lemmas/FcSplice: splicing the direct writes of a segment list back into the linear buffer gives
  the copying encoding; room and length accounting of the direct writes.
-/
import Verif.Lemmas.FcWrite
namespace Verif

theorem take_drop_left {α} (A B : List α) (n : Nat) (h : n ≤ A.length) :
    ((A ++ B).drop n).take (A.length - n) = A.drop n := by
  rw [List.drop_append_of_le_length h, List.take_left' (by simp)]

/-- the core of C15: piece i lands right behind its 4-byte length header -/
theorem spliceAux_segs (thr : Nat) (w : Bool) (sg : List Seg) (P T : Bytes) (start L : Nat)
    (hs : start ≤ P.length) (hL : L = P.length + (linSegs thr w sg).length + T.length) :
    spliceAux (P ++ linSegs thr w sg ++ T) start (directsOf thr w L P.length sg)
      = P.drop start ++ encSegs sg ++ T := by
  induction sg generalizing P start with
  | nil =>
    simp only [linSegs_nil, List.append_nil, directsOf, spliceAux, encSegs, List.flatMap_nil]
    exact List.drop_append_of_le_length hs
  | cons s r ih =>
    rw [linSegs_cons, List.length_append] at hL
    rw [linSegs_cons, encSegs_cons, ← List.append_assoc P]
    have hP : (P ++ s.lin thr w).length = P.length + (s.lin thr w).length := List.length_append
    rcases Seg.lin_cases thr w s with ⟨hl, hd⟩ | ⟨v, hl, he, hd⟩
    · -- stored whole: the segment joins the prefix
      have ih := ih (P ++ s.lin thr w) start (by omega) (by omega)
      rw [hP, hl] at ih
      rw [hd, hl, ih, List.drop_append_of_le_length hs, List.append_assoc (P.drop start)]
    · -- direct: the buffer from `start` up to and including the length prefix, the piece, and the rest
      -- from `L - remainCap`, which is the offset right behind the prefix
      rw [hl, be32_length] at hL
      have hP4 : (P ++ s.lin thr w).length = P.length + 4 := by rw [hP, hl, be32_length]
      have ih := ih (P ++ s.lin thr w) (P ++ s.lin thr w).length (Nat.le_refl _) (by omega)
      have hlen : (P ++ s.lin thr w ++ linSegs thr w r ++ T).length = L := by
        rw [List.length_append, List.length_append, hP4]; omega
      have hend : L - (L - P.length - 4) = (P ++ s.lin thr w).length := by
        rw [Nat.sub_sub, Nat.sub_sub_self (by omega), hP4]
      rw [hd, spliceAux, hlen, hend, ← hP4, ih, List.append_assoc (P ++ s.lin thr w),
        take_drop_left _ _ _ (by omega), List.drop_append_of_le_length hs, List.drop_length, hl, he]
      simp only [List.append_assoc, List.nil_append]

/-- the direct writer always has room for the piece when the buffer holds the whole encoding -/
theorem directsOf_room (thr : Nat) (w : Bool) (L : Nat) (sg : List Seg) (off : Nat)
    (h : off + (encSegs sg).length ≤ L) : ∀ d ∈ directsOf thr w L off sg, d.1.length ≤ d.2 := by
  induction sg generalizing off with
  | nil => intro d hd; cases hd
  | cons s r ih =>
    rw [encSegs_cons, List.length_append] at h
    rcases Seg.lin_cases thr w s with ⟨_, hd⟩ | ⟨v, _, he, hd⟩
    · rw [hd]
      exact ih _ (by omega)
    · rw [he, List.length_append, be32_length] at h
      rw [hd]
      intro d hmem
      rcases List.mem_cons.mp hmem with rfl | hmem
      · show v.length ≤ L - off - 4
        omega
      · exact ih (off + 4) (by omega) d hmem

/-- linear bytes + directly written bytes = the copying length -/
theorem lin_add_directs (thr : Nat) (w : Bool) (L : Nat) (sg : List Seg) (off : Nat) :
    (linSegs thr w sg).length + ((directsOf thr w L off sg).map (·.1.length)).sum = (encSegs sg).length := by
  induction sg generalizing off with
  | nil => rfl
  | cons s r ih =>
    rw [linSegs_cons, encSegs_cons, List.length_append, List.length_append]
    rcases Seg.lin_cases thr w s with ⟨hl, hd⟩ | ⟨v, hl, he, hd⟩
    · rw [hd, hl, Nat.add_assoc, ih]
    · have := ih (off + 4)
      rw [hd, hl, he, List.map_cons, List.sum_cons, List.length_append]
      show _ + (v.length + _) = _
      omega

end Verif
