/-
  Lemmas/ComposeTthEnc: ttheader.Encode (C06's model `TTH.encode` over the abstract writer `TTH.W`) as calls
  on a bufiox.Writer, so that the same calls can be issued to C05's model of the BytesWriter
  (EncodeToBytes = NewBytesWriter(&buf); Encode; Flush).

      infoChunks p        WriteByte / WriteUint16 / WriteString2BLen / padding of Encode after the meta
                          region, in program order (map iteration order = order of the lists in p)
      cmpEncodeW          Malloc(14); stores at 4 and 8; the chunks; size check; store at 12 — on `TTH.W`
      cmp_encode_eq       TIE: `TTH.encode p w = cmpEncodeW p w` for EVERY abstract writer state
      cmp_encode_bytes    what the chunks write is the documented layout behind its first 4 bytes
                          (the chunks' bytes are the items of Lemmas/TthEnc, and `layout_eq_raw` of
                          Lemmas/TthRt; nothing is re-proved about the info section)
      encPre/encPost      the same calls as a history of C05's writer model
      cmp_spec_encode     their evaluation on C05's spec log: 4 unspecified bytes (the caller's length
                          field, never stored by Encode), everything else specified
-/
import Verif.Lemmas.ComposeWriter
import Verif.Lemmas.TthRt
namespace Verif.Compose
open Verif Verif.TTH Verif.WLog Verif.C05
open Verif.Frame (infoSize)

/-- Malloc(len bs) and one store of all of `bs`: WriteByte, WriteUint16, the padding -/
def full (bs : Bytes) : Chunk := .reg bs.length [(0, bs)]

theorem full_Full (bs : Bytes) : (full bs).Full := by simp [full, Chunk.Full, Covers]
@[simp] theorem full_bytes (bs : Bytes) : (full bs).bytes = bs := by simp [full, Chunk.bytes]
@[simp] theorem wb_bytes (bs : Bytes) : (Chunk.wb bs).bytes = bs := rfl

/-- WriteString2BLen(s): WriteUint16(uint16(len(s))), then out.WriteBinary(s) -/
def str2Chunks (s : Bytes) : List Chunk := [full (be16 (s.length % 65536)), .wb s]

def strKVChunks : TTH.StrMap → List Chunk
  | [] => []
  | kv :: rest =>
    if kv.1 = gdprKey then strKVChunks rest
    else str2Chunks kv.1 ++ str2Chunks kv.2 ++ strKVChunks rest

def intKVChunks : TTH.IntMap → List Chunk
  | [] => []
  | kv :: rest => full (be16 kv.1) :: (str2Chunks kv.2 ++ intKVChunks rest)

def aclChunks (strKV : TTH.StrMap) : List Chunk :=
  match strKV.lookup gdprKey with
  | some tok => full [UInt8.ofNat Facts.ttInfoACLToken] :: str2Chunks tok
  | none => []

def strSecChunks (strKV : TTH.StrMap) : List Chunk :=
  if strCount strKV > 0 then
    full [UInt8.ofNat Facts.ttInfoKeyValue] :: full (be16 (u16OfInt (strCount strKV))) :: strKVChunks strKV
  else []

def intSecChunks (intKV : TTH.IntMap) : List Chunk :=
  if (intKV.length : Int) > 0 then
    full [UInt8.ofNat Facts.ttInfoIntKeyValue] :: full (be16 (u16OfInt intKV.length)) :: intKVChunks intKV
  else []

/-- the sections writeKVInfo emits (before the padding) -/
def secChunks (intKV : TTH.IntMap) (strKV : TTH.StrMap) : List Chunk :=
  aclChunks strKV ++ strSecChunks strKV ++ intSecChunks intKV

/-- writeKVInfo(sz, …): sections, then `Malloc(padding)` filled with zeros -/
def kvChunks (sz : Nat) (intKV : TTH.IntMap) (strKV : TTH.StrMap) : List Chunk :=
  secChunks intKV strKV ++
    [full (List.replicate ((4 - (sz + (chunksBytes (secChunks intKV strKV)).length) % 4) % 4) 0)]

/-- everything Encode hands out after the meta region -/
def infoChunks (p : EncParam) : List Chunk :=
  full [UInt8.ofNat p.proto] :: full [UInt8.ofNat 0] :: kvChunks 2 p.intKV p.strKV

/-- `headerInfoSize` as Encode accumulates it: the bytes handed out after the meta region -/
def cmpInfoSize (p : EncParam) : Nat := (chunksBytes (infoChunks p)).length

/-- every chunk of Encode is a completely stored region or a WriteBinary -/
def Simple (c : Chunk) : Prop := (∃ bs, c = full bs) ∨ (∃ bs, c = .wb bs)

theorem Simple.Full {c : Chunk} (h : Simple c) : c.Full := by
  rcases h with ⟨bs, rfl⟩ | ⟨bs, rfl⟩
  · exact full_Full bs
  · trivial

theorem simple_full (bs : Bytes) : Simple (full bs) := Or.inl ⟨bs, rfl⟩
theorem simple_wb (bs : Bytes) : Simple (.wb bs) := Or.inr ⟨bs, rfl⟩

theorem simple_nil : ∀ c ∈ ([] : List Chunk), Simple c := fun _ h => nomatch h

theorem str2Chunks_simple (s : Bytes) : ∀ c ∈ str2Chunks s, Simple c :=
  List.forall_mem_cons.mpr ⟨simple_full _, List.forall_mem_cons.mpr ⟨simple_wb _, simple_nil⟩⟩

theorem strKVChunks_simple : ∀ (kvs : TTH.StrMap), ∀ c ∈ strKVChunks kvs, Simple c
  | [] => simple_nil
  | kv :: rest => by
    unfold strKVChunks
    split
    · exact strKVChunks_simple rest
    · exact List.forall_mem_append.mpr ⟨List.forall_mem_append.mpr ⟨str2Chunks_simple _, str2Chunks_simple _⟩,
        strKVChunks_simple rest⟩

theorem intKVChunks_simple : ∀ (kvs : TTH.IntMap), ∀ c ∈ intKVChunks kvs, Simple c
  | [] => simple_nil
  | _ :: rest => List.forall_mem_cons.mpr ⟨simple_full _,
      List.forall_mem_append.mpr ⟨str2Chunks_simple _, intKVChunks_simple rest⟩⟩

theorem secChunks_simple (intKV : TTH.IntMap) (strKV : TTH.StrMap) : ∀ c ∈ secChunks intKV strKV, Simple c := by
  have ha : ∀ c ∈ aclChunks strKV, Simple c := by
    unfold aclChunks
    split
    · exact List.forall_mem_cons.mpr ⟨simple_full _, str2Chunks_simple _⟩
    · exact simple_nil
  have hs : ∀ c ∈ strSecChunks strKV, Simple c := by
    unfold strSecChunks
    split
    · exact List.forall_mem_cons.mpr ⟨simple_full _, List.forall_mem_cons.mpr ⟨simple_full _, strKVChunks_simple _⟩⟩
    · exact simple_nil
  have hi : ∀ c ∈ intSecChunks intKV, Simple c := by
    unfold intSecChunks
    split
    · exact List.forall_mem_cons.mpr ⟨simple_full _, List.forall_mem_cons.mpr ⟨simple_full _, intKVChunks_simple _⟩⟩
    · exact simple_nil
  exact List.forall_mem_append.mpr ⟨List.forall_mem_append.mpr ⟨ha, hs⟩, hi⟩

theorem infoChunks_simple (p : EncParam) : ∀ c ∈ infoChunks p, Simple c :=
  List.forall_mem_cons.mpr ⟨simple_full _, List.forall_mem_cons.mpr ⟨simple_full _,
    List.forall_mem_append.mpr ⟨secChunks_simple _ _, List.forall_mem_cons.mpr ⟨simple_full _, simple_nil⟩⟩⟩⟩

theorem infoChunks_full (p : EncParam) : ∀ c ∈ infoChunks p, c.Full :=
  fun c hc => (infoChunks_simple p c hc).Full

/-! ## chunks on C06's abstract writer -/

/-- the stores into the region `id` the writer handed out -/
def putAll (w : W) (id : Nat) : List (Nat × Bytes) → Out EErr W
  | [] => .ok w
  | q :: ps => (w.put id q.1 q.2).bind fun w' => putAll w' id ps

/-- one chunk on C06's abstract writer: `W.malloc`, `W.put` …, resp. `W.writeBinary` -/
def runChunkW (w : W) : Chunk → Out EErr W
  | .reg n ps => (w.malloc n).bind fun r => putAll r.2 r.1 ps
  | .wb bs => (w.writeBinary bs).bind fun r => .ok r.2

def runChunksW (w : W) : List Chunk → Out EErr W
  | [] => .ok w
  | c :: cs => (runChunkW w c).bind fun w' => runChunksW w' cs

/-- Encode over the abstract writer, written with chunks -/
def cmpEncodeW (p : EncParam) (w : W) : Out EErr (Nat × W) :=
  (w.malloc Facts.ttMetaSize).bind fun m =>
  (m.2.put m.1 4 (be32 ((Facts.ttMagic + p.flags) % 4294967296))).bind fun w1 =>
  (w1.put m.1 8 (be32 (ofInt 32 p.seq))).bind fun w2 =>
  (runChunksW w2 (infoChunks p)).bind fun w3 =>
  if cmpInfoSize p % 2 ^ Facts.ttEncodeSizeCheckBits > Facts.ttMaxHeaderSize then .err .size
  else (w3.put m.1 12 (be16 ((cmpInfoSize p / 4) % 65536))).bind fun w5 => .ok (m.1, w5)

theorem runChunkW_simple (w : W) (hb : w.broken = false) (c : Chunk) (hc : Simple c) :
    runChunkW w c = .ok (w.app [c.bytes]) := by
  rcases hc with ⟨bs, rfl⟩ | ⟨bs, rfl⟩
  · simp only [runChunkW, full, putAll, malloc_ok w hb, Out.bind_ok]
    rw [put_fill w _ bs (by simp)]
    simp [Chunk.bytes]
  · simp only [runChunkW, writeBinary_ok w hb, Out.bind_ok, Chunk.bytes]

theorem runChunksW_simple : ∀ (cs : List Chunk) (w : W), w.broken = false → (∀ c ∈ cs, Simple c) →
    runChunksW w cs = .ok (w.app (cs.map Chunk.bytes)) := by
  intro cs
  induction cs with
  | nil => intro w _ _; simp [runChunksW]
  | cons c cs ih =>
    intro w hb hs
    rw [List.forall_mem_cons] at hs
    simp only [runChunksW, runChunkW_simple w hb c hs.1, Out.bind_ok, ih (w.app _) hb hs.2, W.app_app,
      List.map_cons, List.cons_append, List.nil_append]

theorem chunksBytes_nil : chunksBytes [] = [] := rfl

theorem str2Chunks_items (s : Bytes) : (str2Chunks s).map Chunk.bytes = str2Items s := by
  simp [str2Chunks, str2Items]

theorem strKVChunks_items : ∀ (kvs : TTH.StrMap), (strKVChunks kvs).map Chunk.bytes = strKVItems kvs
  | [] => rfl
  | kv :: rest => by
    unfold strKVChunks strKVItems
    split
    · exact strKVChunks_items rest
    · simp only [List.map_append, str2Chunks_items, strKVChunks_items rest]

theorem intKVChunks_items : ∀ (kvs : TTH.IntMap), (intKVChunks kvs).map Chunk.bytes = intKVItems kvs
  | [] => rfl
  | kv :: rest => by
    simp only [intKVChunks, intKVItems, List.map_cons, List.map_append, full_bytes, str2Chunks_items,
      intKVChunks_items rest]

theorem secChunks_items (intKV : TTH.IntMap) (strKV : TTH.StrMap) :
    (secChunks intKV strKV).map Chunk.bytes = secItems intKV strKV := by
  have ha : (aclChunks strKV).map Chunk.bytes = aclItems strKV := by
    unfold aclChunks aclItems
    cases strKV.lookup gdprKey with
    | none => rfl
    | some t => simp only [List.map_cons, full_bytes, str2Chunks_items]
  have hs : (strSecChunks strKV).map Chunk.bytes = strSecItems strKV := by
    unfold strSecChunks strSecItems
    split
    · simp only [List.map_cons, full_bytes, strKVChunks_items]
    · rfl
  have hi : (intSecChunks intKV).map Chunk.bytes = intSecItems intKV := by
    unfold intSecChunks intSecItems
    split
    · simp only [List.map_cons, full_bytes, intKVChunks_items]
    · rfl
  simp only [secChunks, secItems, List.map_append, ha, hs, hi]

theorem infoChunks_items (p : EncParam) : (infoChunks p).map Chunk.bytes = infoItems p := by
  simp only [infoChunks, infoItems, kvChunks, kvItems, padding, chunksBytes, List.map_cons, List.map_append,
    List.map_nil, full_bytes, secChunks_items]

theorem cmpInfoSize_eq (p : EncParam) : cmpInfoSize p = (infoItems p).flatten.length := by
  rw [cmpInfoSize, chunksBytes, infoChunks_items]

theorem Out.bind_congr {ε α β : Type} {x : Out ε α} {f g : α → Out ε β} (h : ∀ a, x = .ok a → f a = g a) :
    x.bind f = x.bind g := by
  cases x with
  | ok a => exact h a rfl
  | _ => rfl

theorem malloc_healthy {w : W} {k : Nat} {m : Nat × W} (h : w.malloc k = .ok m) : m.2.broken = false := by
  unfold W.malloc at h
  split at h
  · cases h
  · rename_i hb
    cases h
    simpa using hb

theorem put_healthy {w w' : W} {id off : Nat} {v : Bytes} (h : w.put id off v = .ok w') :
    w'.broken = w.broken := by
  unfold W.put at h
  split at h
  · cases h
  · split at h
    · cases h
    · split at h
      · cases h
      · cases h; rfl

/-- **THE TIE.** C06's Encode IS Malloc(14), the two stores, the chunks, the size check and the last
    store — on every abstract writer state (healthy or broken), whatever fresh memory contains: up to the
    chunks both are the same calls, and once Malloc(14) has succeeded the writer is healthy, so that the
    model's helpers and the chunks hand out the same items -/
theorem cmp_encode_eq (p : EncParam) (w : W) : encode p w = cmpEncodeW p w := by
  unfold encode cmpEncodeW
  refine Out.bind_congr fun m hm => Out.bind_congr fun w1 h1 => Out.bind_congr fun w2 h2 => ?_
  have hb : w2.broken = false := by rw [put_healthy h2, put_healthy h1]; exact malloc_healthy hm
  have hsz : 2 + (kvItems 2 p.intKV p.strKV).flatten.length = (infoItems p).flatten.length := by
    simp only [infoItems, List.flatten_cons, List.length_append, List.length_cons, List.length_nil]; omega
  simp only [writeByte_ok w2 hb, Out.bind_ok, writeByte_ok (w2.app _) hb, writeKVInfo_ok 2 _ _ (w2.app _) hb,
    runChunksW_simple _ w2 hb (infoChunks_simple p), infoChunks_items, cmpInfoSize_eq, hsz, W.app_app]
  rfl

/-! ## what the chunks write is the documented layout -/

def cmpMetaA (p : EncParam) : Bytes := be32 ((Facts.ttMagic + p.flags) % 4294967296)
def cmpMetaB (p : EncParam) : Bytes := be32 (ofInt 32 p.seq)
def cmpMetaC (p : EncParam) : Bytes := be16 ((cmpInfoSize p / 4) % 65536)

/-- the size verdict of the chunk form is the spec's, and the bytes Encode stores — the three meta
    fields and the chunks — are the documented layout behind its 4-byte length field -/
theorem cmp_encode_bytes (p : EncParam) (hd : (fp p).Dom) (h64 : infoSize (fp p) < 2 ^ 64) :
    (cmpInfoSize p % 2 ^ Facts.ttEncodeSizeCheckBits > Facts.ttMaxHeaderSize ↔ infoSize (fp p) > 65536) ∧
    (infoSize (fp p) ≤ 65536 → ∀ lf : Bytes,
      lf ++ (cmpMetaA p ++ cmpMetaB p ++ cmpMetaC p ++ chunksBytes (infoChunks p)) = Frame.layout lf (fp p)) := by
  have hsz : cmpInfoSize p = infoSize (fp p) := by
    rw [cmpInfoSize_eq, infoItems_size, rawSize_eq p hd.strNodup]
  refine ⟨by rw [hsz, ttEncodeSizeCheckBits_eq, Nat.mod_eq_of_lt h64]; exact Iff.rfl, fun hs lf => ?_⟩
  rw [← layout_eq_raw p hd hs lf, cmpMetaA, cmpMetaB, cmpMetaC, hsz, chunksBytes, infoChunks_items,
    infoItems_flatten]

/-! ## Encode as a history of C05's writer -/

/-- Encode up to its size check: Malloc(14), the stores of magic+flags and seq, the chunks.
    `rid` = the id of the next region of the writer (0 on a fresh writer). -/
def encPre (rid : Nat) (p : EncParam) : List WOp :=
  [.malloc 14, .fill rid 4 (cmpMetaA p), .fill rid 8 (cmpMetaB p)] ++ chunksOps (rid + 1) (infoChunks p)

/-- Encode after a passed size check: the store of size/4 into the meta region -/
def encPost (rid : Nat) (p : EncParam) : List WOp := [.fill rid 12 (cmpMetaC p)]

def encObs (rid : Nat) (p : EncParam) : List WObs :=
  [.region rid 14, .done, .done] ++ chunksObs (rid + 1) (infoChunks p) ++ [.done]

theorem encOps_noflush (rid : Nat) (p : EncParam) : ∀ op ∈ encPre rid p ++ encPost rid p, op ≠ .flush := by
  intro op h
  simp only [encPre, encPost, List.mem_append, List.mem_cons, List.not_mem_nil, or_false] at h
  rcases h with ((rfl | rfl | rfl) | h) | rfl
  · simp
  · simp
  · simp
  · exact chunksOps_noflush _ _ op h
  · simp

theorem specRun_seq {l l1 l2 : Log RErr} {xs ys : List WOp} {o1 o2 : List WObs}
    (h1 : specRun l xs = (o1, l1)) (h2 : specRun l1 ys = (o2, l2)) : specRun l (xs ++ ys) = (o1 ++ o2, l2) := by
  rw [specRun_append, h1, h2]

theorem length_cmpApply {α : Type} (f : Bytes → List α) (hf : ∀ b, (f b).length = b.length) (n : Nat) :
    ∀ (ps : List (Nat × Bytes)) (R : List α), R.length = n → (∀ q ∈ ps, q.1 + q.2.length ≤ n) →
      (cmpApply f R ps).length = n := by
  intro ps
  induction ps with
  | nil => intro R hR _; exact hR
  | cons q ps ih =>
    intro R hR hfit
    rw [List.forall_mem_cons] at hfit
    exact ih _ (by rw [length_overwrite _ _ _ (by rw [hf, hR]; exact hfit.1), hR]) hfit.2

/-- Encode on C05's spec log: the observations are the expected ones, and the unflushed bytes grow by
    FOUR UNSPECIFIED bytes (the caller's total-length field: Encode never stores into it) followed by
    the three meta fields and the chunks' bytes, all specified -/
theorem cmp_spec_encode (p : EncParam) (l : Log RErr) (h : LogOK l) :
    ∃ l', specRun l (encPre l.nextId p ++ encPost l.nextId p) = (encObs l.nextId p, l') ∧ LogOK l' ∧
      concat l'.store l'.items = concat l.store l.items ++ (List.replicate 4 none ++
        (cmpMetaA p ++ cmpMetaB p ++ cmpMetaC p ++ chunksBytes (infoChunks p)).map some) := by
  have lA : (cmpMetaA p).length = 4 := be32_length _
  have lB : (cmpMetaB p).length = 4 := be32_length _
  have lC : (cmpMetaC p).length = 2 := be16_length _
  have hfit : ∀ q ∈ [(4, cmpMetaA p), (8, cmpMetaB p)], q.1 + q.2.length ≤ 14 :=
    List.forall_mem_cons.mpr ⟨by simp only [lA]; decide,
      List.forall_mem_cons.mpr ⟨by simp only [lB]; decide, List.forall_mem_nil _⟩⟩
  have hU := cmp_concat_length l h
  -- Malloc(14), the two stores, the chunks, the late store into the meta region
  obtain ⟨l1, s1, ok1, it1, c1, n1, -⟩ := cmp_spec_malloc l h 14
  have s1 : specStep l (.malloc 14) = (.region l.nextId 14, l1) := s1
  have hmem1 : (l.nextId, lenSum l.items, 14) ∈ layout 0 l1.items := by
    rw [it1, layout_snoc_region]; exact List.mem_append_right _ (List.mem_singleton_self _)
  obtain ⟨l2, s2, ok2, it2, c2, n2, -⟩ := cmp_spec_fills l.nextId (lenSum l.items) 14
    [(4, cmpMetaA p), (8, cmpMetaB p)] l1 _ _ ok1 hmem1 c1 hU List.length_replicate hfit
  obtain ⟨l3, s3, ok3, ⟨tail, it3⟩, c3, -⟩ := cmp_spec_chunks (infoChunks p) (infoChunks_full p) l2 ok2
  rw [n2, n1] at s3
  obtain ⟨l4, s4, ok4, -, c4, -⟩ := cmp_spec_fill l3 ok3 l.nextId (lenSum l.items) 14 12 (cmpMetaC p)
    (by rw [it3, it2, layout_append]; exact List.mem_append_left _ hmem1) (by rw [lC]; decide)
  refine ⟨l4, ?_, ok4, ?_⟩
  · have s1' : specRun l [.malloc 14] = ([.region l.nextId 14], l1) := by rw [specRun, s1]; rfl
    have s4' : specRun l3 (encPost l.nextId p) = ([.done], l4) := by rw [encPost, specRun, s4]; rfl
    have spre := specRun_seq s1' (specRun_seq s2 s3)
    exact specRun_seq spre s4'
  · have hM := length_cmpApply (fun b => b.map some) (fun _ => List.length_map _) 14 _ _
      (List.length_replicate (a := (none : SByte))) hfit
    rw [c4, c3, c2, List.append_assoc, ← hU, overwrite_append_right,
      overwrite_append_left _ _ _ _ (by rw [hM, List.length_map, lC]; decide)]
    -- the three stores tile the region from offset 4 on
    show _ ++ (cmpApply (fun b => b.map some) (List.replicate 14 (none : SByte))
      [(4, cmpMetaA p), (8, cmpMetaB p), (12, cmpMetaC p)] ++ _) = _
    rw [cmpApply_covers (fun b => b.map some) (fun _ => List.length_map _) _ 4 14 _ List.length_replicate
      (by simp only [Covers, lA, lB, lC, true_and])]
    simp

/-! ## EncodeToBytes over the BytesWriter model -/

theorem cmp_run_append (a : WAlloc) (w : Wr) (xs ys : List WOp) :
    w.run a (xs ++ ys) = ((w.run a xs).1 ++ ((w.run a xs).2.run a ys).1, ((w.run a xs).2.run a ys).2) := by
  induction xs generalizing w with
  | nil => simp [Wr.run]
  | cons x xs ih => simp only [List.cons_append, Wr.run, ih, List.cons_append]

/-- an observation that makes Encode return an error: the writer's error, or (model only) a panic -/
def obsBad : WObs → Bool
  | .err _ => true
  | .stuck _ => true
  | _ => false

theorem chunksObs_good (rid : Nat) (cs : List Chunk) : (chunksObs rid cs).any obsBad = false := by
  induction cs generalizing rid with
  | nil => rfl
  | cons c cs ih =>
    simp only [chunksObs, List.any_append, ih, Bool.or_false]
    cases c with
    | reg n ps => simp [chunkObs, obsBad]
    | wb bs => simp [chunkObs, obsBad]

/-- EncodeToBytes(ctx, param) with `out := bufiox.NewBytesWriter(&buf)` in start state `s`, over C05's
    writer model: Encode = `encPre`, the size check, `encPost`; a failing Malloc / WriteBinary makes Encode
    (and EncodeToBytes) return an error; after the size error Flush is not called; otherwise Flush and
    return `buf` -/
def cmpEncodeToBytes (a : WAlloc) (s : Start) (p : EncParam) : Out EErr Bytes :=
  if ((s.model.run a (encPre 0 p)).1).any obsBad then .err .writer
  else if cmpInfoSize p % 2 ^ Facts.ttEncodeSizeCheckBits > Facts.ttMaxHeaderSize then .err .size
  else
    match (((s.model.run a (encPre 0 p)).2.run a (encPost 0 p)).2.flush).1 with
    | .ok _ => .ok (((s.model.run a (encPre 0 p)).2.run a (encPost 0 p)).2.flush).2.targetBytes
    | _ => .err .writer

theorem match_append_inv {m : Bytes} {s t : SBytes} (h : Match m (s ++ t)) :
    ∃ m1 m2, m = m1 ++ m2 ∧ Match m1 s ∧ Match m2 t := by
  have := match_take_drop h s.length
  rw [List.take_left, List.drop_left] at this
  exact ⟨_, _, (List.take_append_drop s.length m).symm, this⟩

/-- the run of Encode's calls on a bytes-backed real writer -/
theorem cmp_real_encode (a : WAlloc) (ha : a.Sound) (s : Start) (hs : ∀ f, s ≠ .default f) (p : EncParam) :
    (s.model.run a (encPre 0 p)).1 = [.region 0 14, .done, .done] ++ chunksObs 1 (infoChunks p) ∧
    (s.model.run a (encPre 0 p ++ encPost 0 p)).1 = encObs 0 p ∧
    (after a s (encPre 0 p ++ encPost 0 p)).flush.1 = .ok () ∧
    ∃ lf : Bytes, lf.length = 4 ∧
      (after a s (encPre 0 p ++ encPost 0 p)).flush.2.targetBytes =
        s.init ++ (lf ++ (cmpMetaA p ++ cmpMetaB p ++ cmpMetaC p ++ chunksBytes (infoChunks p))) := by
  obtain ⟨ok0, id0, c0, _, _⟩ := start_spec_ok s
  obtain ⟨l', hsr, -, hc⟩ := cmp_spec_encode p s.spec ok0
  rw [id0] at hsr
  obtain ⟨hobs, _⟩ := refines a ha s (encPre 0 p ++ encPost 0 p)
  rw [hsr] at hobs
  have hl' : specAfter s (encPre 0 p ++ encPost 0 p) = l' := by unfold specAfter; rw [hsr]
  obtain ⟨hok, written, hw, hm⟩ := bytesWriter_target a ha s hs (encPre 0 p ++ encPost 0 p) (encOps_noflush 0 p)
  refine ⟨?_, hobs, hok, ?_⟩
  · have h2 := hobs
    rw [cmp_run_append] at h2
    simp only [encObs] at h2
    have hlen : (((s.model.run a (encPre 0 p)).2.run a (encPost 0 p)).1).length = ([WObs.done]).length := by
      simp [encPost, Wr.run]
    exact (List.append_inj' h2 hlen).1
  · rw [← hw, hl', unflushed_eq, hc, c0] at hm
    obtain ⟨m1, m', e1, h1, hm'⟩ := match_append_inv hm
    obtain ⟨lf, m2, e2, hlf, h2⟩ := match_append_inv hm'
    exact ⟨lf, (Match.length_eq hlf).trans List.length_replicate,
      by rw [e1, e2, match_all_some h1 _ rfl, match_all_some h2 _ rfl]⟩

end Verif.Compose
