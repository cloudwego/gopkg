/- Lemmas/WireTotal: on every reader state with the representation invariant, under every source script,
   the stream readers return normally (value or error): no panic, loop fuel never exhausted
   (C04's `acquire_total`), no `(nil, nil)` from Next. -/
import Verif.Lemmas.WireRefine
import Verif.Lemmas.ReaderOps
namespace Verif.Wire

/-- a stream-reader step that returns normally, with `Q` of its value and state on success -/
def Tot {α} (Q : α → Rd → Prop) (x : TOut (α × Rd)) : Prop :=
  match x with
  | .ok p => Q p.1 p.2
  | .err _ => True
  | _ => False

theorem Tot.bind {α β} {Q : α → Rd → Prop} {Q' : β → Rd → Prop} {x : TOut (α × Rd)} {f : α × Rd → TOut (β × Rd)}
    (hx : Tot Q x) (hf : ∀ p, Q p.1 p.2 → Tot Q' (f p)) : Tot Q' (x.bind f) := by
  cases x with
  | ok p => exact hf p hx
  | err e => trivial
  | panic s => exact hx
  | oob => exact hx

theorem tot_brNext (r : Rd) (n : Nat) (hI : RInv r) :
    Tot (fun bs r' => bs.length = n ∧ RInv r') (brNext (n : Int) r) := by
  cases hb : brNext (n : Int) r with
  | ok p => obtain ⟨_, e2, _, e4⟩ := brNext_sound r n p.1 p.2 hI hb; exact ⟨e2, e4⟩
  | err e => trivial
  | panic s =>
    exfalso
    unfold brNext at hb
    have ht := acquire_total r n
    generalize hn : r.next (n : Int) = res at hb
    obtain ⟨x, r1⟩ := res
    cases x with
    | ok b => simp at hb
    | fail e => cases e <;> simp at hb
    | nofuel =>
      unfold Rd.next at hn
      rw [if_neg (by omega)] at hn
      simp only [Int.toNat_natCast] at hn
      cases ha : r.acquire n with
      | none => rw [ha] at ht; simp at ht
      | some q => rw [ha] at hn; simp only at hn; split at hn <;> simp at hn
  | oob =>
    exfalso
    unfold brNext at hb
    generalize hn : r.next (n : Int) = res at hb
    obtain ⟨x, r1⟩ := res
    cases x with
    | ok b => simp at hb
    | fail e => cases e <;> simp at hb
    | nofuel => simp at hb

theorem tot_brReadFull (r : Rd) (k : Nat) (hI : RInv r) :
    Tot (fun _ r' => RInv r') (brReadFull k r) := by
  cases hb : brReadFull k r with
  | ok p => exact (brReadFull_sound r k p.1 p.2 hI hb).2.2.2
  | err e => trivial
  | panic s =>
    exfalso
    unfold brReadFull at hb
    have ht := acquire_total r k
    generalize hn : r.readBinary k = res at hb
    obtain ⟨x, r1⟩ := res
    cases x with
    | none =>
      unfold Rd.readBinary at hn
      cases ha : r.acquire k with
      | none => rw [ha] at ht; simp at ht
      | some q => rw [ha] at hn; simp at hn
    | some q => simp only at hb; split at hb <;> simp at hb
  | oob =>
    exfalso
    unfold brReadFull at hb
    generalize hn : r.readBinary k = res at hb
    obtain ⟨x, r1⟩ := res
    cases x with
    | none => simp at hb
    | some q => simp only at hb; split at hb <;> simp at hb

theorem tot_pure {α β} {Q : β → Rd → Prop} (y : TOut α) (a : α) (hy : y = .ok a) (g : α → TOut (β × Rd))
    (hg : Tot Q (g a)) : Tot Q (y.bind g) := by rw [hy]; exact hg

theorem idx_ok (b : Bytes) (i : Nat) (h : i < b.length) : ∃ x, idx b i = .ok x := by
  unfold idx; rw [List.getElem?_eq_getElem h]; exact ⟨_, rfl⟩

def R1 {α} : α → Rd → Prop := fun _ r => RInv r

theorem tot_brReadI32 (r : Rd) (hI : RInv r) : Tot R1 (brReadI32 r) := by
  unfold brReadI32
  apply Tot.bind (tot_brNext r 4 hI); intro p hp
  obtain ⟨b, r1⟩ := p
  simp only [u32of, if_pos (show 4 ≤ b.length by have := hp.1; simp at this; omega)]
  exact hp.2

theorem tot_fixed (k : Kind) (n : Nat) (hk : k.width = some n) (r : Rd) (hI : RInv r) : Tot R1 (brRead k r) := by
  rw [brRead_fixed k n hk]
  apply Tot.bind (tot_brNext r n hI); intro p hp
  obtain ⟨v, hv, _⟩ := brTail_ok k n hk p.1 hp.1
  rw [hv]
  exact hp.2

theorem tot_brReadFieldBegin (r : Rd) (hI : RInv r) : Tot R1 (brReadFieldBegin r) := by
  unfold brReadFieldBegin
  apply Tot.bind (tot_brNext r 1 hI); intro p hp
  obtain ⟨x, hx⟩ := idx_ok p.1 0 (by have := hp.1; omega)
  apply tot_pure _ x hx
  split
  · exact hp.2
  · apply Tot.bind (tot_brNext p.2 2 hp.2); intro q hq
    exact tot_pure _ (rd16 q.1) (by simp [u16of, hq.1]) _ hq.2

theorem tot_brReadBinary (r : Rd) (hI : RInv r) : Tot R1 (brReadBinary r) := by
  unfold brReadBinary
  apply Tot.bind (tot_brReadI32 r hI); intro p hp
  split
  · trivial
  · exact tot_brReadFull p.2 _ hp

theorem tot_brReadMessageBegin (r : Rd) (hI : RInv r) : Tot R1 (brReadMessageBegin r) := by
  unfold brReadMessageBegin
  apply Tot.bind (tot_brReadI32 r hI); intro h hh
  dsimp only
  split
  · trivial
  · apply Tot.bind (tot_brReadBinary h.2 hh); intro nm hnm
    apply Tot.bind (tot_brReadI32 nm.2 hnm); intro sq hsq
    exact hsq

theorem tot_mapRM {α} (f : α → Val) (x : TOut (α × Rd)) (h : Tot R1 x) : Tot R1 (mapRM f x) := by
  cases x <;> first | exact h | trivial

/-- on every reader state with the representation invariant, under every source script, every stream
    reader returns normally — a value or an error; never a panic (in particular the `(nil, nil)`
    return of finding F2 and an exhausted loop fuel are impossible) -/
theorem brRead_total (k : Kind) (r : Rd) (hI : RInv r) :
    (∃ v r', brRead k r = .ok (v, r')) ∨ (∃ e, brRead k r = .err e) := by
  have key : Tot R1 (brRead k r) := by
    cases hw : k.width with
    | some n => exact tot_fixed k n hw r hI
    | none =>
      cases k <;> simp only [Kind.width, reduceCtorEq] at hw <;> simp only [brRead] <;> apply tot_mapRM
      · exact tot_brReadBinary r hI
      · exact tot_brReadBinary r hI
      · exact tot_brReadFieldBegin r hI
      · exact tot_brReadMessageBegin r hI
  cases hx : brRead k r with
  | ok p => exact Or.inl ⟨p.1, p.2, rfl⟩
  | err e => exact Or.inr ⟨e, rfl⟩
  | panic s => rw [hx] at key; exact key.elim
  | oob => rw [hx] at key; exact key.elim

end Verif.Wire
