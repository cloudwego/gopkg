/-
  Lemmas/UnknownEnc: Spec/Unknown's `encLen` (canonical booleans) is a restriction of Spec/Grammar's `refLen`:
  every value `encLen` accepts is a well-formed value of the shared grammar with the same extent.
-/
import Verif.Spec.Unknown
import Verif.Lemmas.Grammar
namespace Verif

theorem encLen_succ {d : Nat} {t : UInt8} {b : Bytes} {k : Nat} (h : encLen (d+1) t b = some k) :
    layer (encLen d) t b = some k ∧ (t = TT.BOOL → ∃ x r, b = x :: r ∧ (x = 0 ∨ x = 1)) := by
  unfold encLen at h
  by_cases h2 : t = TT.BOOL
  · subst h2
    rw [if_pos rfl] at h
    cases b with
    | nil => cases h
    | cons x r =>
      by_cases hx : x = 0 ∨ x = 1
      · exact ⟨(if_pos hx).symm.trans h, fun _ => ⟨x, r, rfl, hx⟩⟩
      · exact absurd ((if_neg hx).symm.trans h) nofun
  · rw [if_neg h2] at h
    exact ⟨h, fun e => absurd e h2⟩

/-- every encoded value with canonical booleans is a well-formed value of the grammar, same extent, same depth -/
theorem encLen_refLen : ∀ (d : Nat) (t : UInt8) (b : Bytes) (k : Nat), encLen d t b = some k → refLen d t b = some k
  | 0, _, _, _, h => by simp [encLen] at h
  | d+1, t, b, k, h => layer_mono (fun t => encLen_refLen d t) t b k (encLen_succ h).1

end Verif
