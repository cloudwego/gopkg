/-
  Lemmas/ComposeTth: ttheader.Decode over the REAL buffered reader model `Rd` (Model/Reader).

  Lemmas/TthStream proves Decode against the contract `CmpReader next rem pos P live bnd` (an invariant
  `P`, a request bound, a liveness predicate `live s n`).  Here are its instances for `Rd.next`, all from
  C04 (`C04.next_ok`, `C04.fail_nonnil`, `C04.never_nofuel`, `rdc_inst` = `next_cases` + `acquire_live` +
  `live_canServe`), whose results hold for states satisfying C04's invariant `Inv` and for requests in
  range (`Small`):
      cmp_rd_any     any source (live := False): soundness; the other two add liveness to it
                     (`CmpReader.with_live`)
      cmp_rd_steady  C04's `Rd.Live` (stream handed over, or no error yet and a `Steady` script)
      cmp_rd_live    C01's operational `Wire.Live r n` ("the next n bytes are served however they are
                     asked for"), the weakest hypothesis under which success can be promised.
  `cmp_decodeCur_prefix`, `cmp_decodeCur_ok`: Decode on a byte string looks at exactly the 14 + declared
  bytes it consumes.  `cmp_steady_wire_live`: C04's `Rd.Live` implies `Wire.Live`, for the stream readers
  of C01 and C12.
-/
import Verif.Lemmas.TthStream
import Verif.Lemmas.TthRt
import Verif.Lemmas.SkipBRInst
import Verif.Lemmas.WireRd
import Verif.Props.C04
namespace Verif.Compose
open Verif Verif.TTH Verif.Frame

theorem cmp_take_drop_of_append (R b R' : Bytes) (n : Nat) (h : R = b ++ R') (hl : b.length = n) :
    n ≤ R.length ∧ b = R.take n ∧ R' = R.drop n := by
  subst h; subst hl
  simp

theorem cmp_rd_any : CmpReader Rd.next Rd.remaining Rd.readLen RdOK (fun _ _ => False) bigReq where
  ok r n bs h hn hr := by
    obtain ⟨_, hlen, hsplit, hrl, hinv⟩ :=
      C04.next_ok r n bs (r.next (n : Int)).2 h.1 (h.inDomain n hn) (by rw [← hr])
    obtain ⟨a, b, c⟩ := cmp_take_drop_of_append _ _ _ n hsplit hlen
    refine ⟨a, b, c, hrl, ⟨hinv, ?_⟩, fun _ hf => hf⟩
    have hri : (r.next (n : Int)).2.ri = r.ri + n := hrl
    rw [c, hri, List.length_drop, Nat.add_assoc, Nat.add_sub_of_le a]
    exact h.2
  fail r n e h hn hr := by
    obtain ⟨hne, _, hrl, _⟩ :=
      C04.fail_nonnil r n e (r.next (n : Int)).2 h.1 (h.inDomain n hn) (Or.inl (by rw [← hr]))
    exact ⟨hne, hrl, fun hf => hf⟩
  fuel r n _ _ := (C04.never_nofuel r n 0).1
  mono _ _ _ h := h

theorem cmp_next_live (r : Rd) (k : Nat) (hp : RdP True r) (hk : k ≤ bigReq) (hfit : k ≤ r.remaining.length) :
    ∃ r1, r.next (k : Int) = (.ok (r.remaining.take k), r1) ∧ r1.remaining = r.remaining.drop k ∧ RdP True r1 := by
  rcases (rdc_inst True).next r k hp (Int.natCast_nonneg k) hk with ⟨r1, hx, _, hrem, _, hp1⟩ | ⟨e, r1, _, hlt⟩
  · exact ⟨r1, hx, hrem, hp1⟩
  · exact absurd (hlt trivial) (Nat.not_lt.mpr hfit)

/-- C04's liveness: over a `Rd.Live` source (everything handed over already, or no error seen and a
    `Steady` rest of the script) a request that fits into what is left never fails -/
theorem cmp_rd_steady :
    CmpReader Rd.next Rd.remaining Rd.readLen (fun r => RdOK r ∧ r.Live) (fun r n => n ≤ r.remaining.length)
      bigReq := by
  refine cmp_rd_any.with_live (fun _ h => h.1) (fun r n bs h hn hr hfit hrem hok => ?_) (fun r n e h hn hr hfit => ?_)
    (fun _ _ _ h => Nat.le_trans (Nat.le_add_right _ _) h)
  · obtain ⟨r1, hx, _, hp1⟩ := cmp_next_live r n ⟨h.1, fun _ => h.2⟩ hn hfit
    rw [hx] at hrem hok ⊢
    exact ⟨⟨hok, hp1.2 trivial⟩, fun m hm => by rw [hrem, List.length_drop]; omega⟩
  · obtain ⟨r1, hx, _⟩ := cmp_next_live r n ⟨h.1, fun _ => h.2⟩ hn hfit
    rw [hx] at hr
    cases hr

theorem cmp_wire_remaining (r : Rd) : Wire.remaining r = r.remaining := rfl

/-- C01's operational liveness `Wire.Live r n` (however the next n bytes are asked for, they are served) -/
theorem cmp_rd_live : CmpReader Rd.next Rd.remaining Rd.readLen RdOK Wire.Live bigReq := by
  refine cmp_rd_any.with_live (fun _ h => h) (fun r n bs h hn hr _ _ hok => ?_) (fun r n e h hn hr hl => ?_)
    (fun r n m h => h.mono' n (Nat.le_add_right n m))
  · refine ⟨hok, fun m hm => ?_⟩
    by_cases h0 : n = 0
    · subst h0
      rw [Wire.next_zero_ok r]
      rwa [Nat.zero_add] at hm
    · cases hm with
      | mk _ _ _ _ c' _ =>
        have := c' n bs (r.next (n : Int)).2 (by omega) (by omega) (by rw [← hr])
        rwa [Nat.add_sub_cancel_left] at this
  · cases hl with
    | mk _ _ a' _ _ _ =>
      obtain ⟨bs, r1, hx⟩ := a' n (Nat.le_refl n)
      rw [hx] at hr
      cases hr

/-- Decode looks at no byte beyond the 14 + declared it consumes -/
theorem cmp_decodeCur_prefix (b : Bytes) (h : 14 + declared b ≤ b.length) :
    decodeCur (b.take (14 + declared b)) = decodeCur b := by
  -- every field Decode reads lies inside the prefix
  have hk (k : Nat) (hk : k ≤ 14) : k ≤ 14 + declared b := Nat.le_trans hk (Nat.le_add_right _ _)
  have e4 : rd16 ((b.take (14 + declared b)).drop 4) = rd16 (b.drop 4) := rd16_take_drop _ _ _ (hk 6 (by decide))
  have e6 : rd16 ((b.take (14 + declared b)).drop 6) = rd16 (b.drop 6) := rd16_take_drop _ _ _ (hk 8 (by decide))
  have e8 : rd32 ((b.take (14 + declared b)).drop 8) = rd32 (b.drop 8) := rd32_take_drop _ _ _ (hk 12 (by decide))
  have et : totalLen (b.take (14 + declared b)) = totalLen b := rd32_take _ _ (hk 4 (by decide))
  have hd : declared (b.take (14 + declared b)) = declared b :=
    congrArg (4 * ·) (rd16_take_drop _ _ _ (hk 14 (by decide)))
  have el : (b.take (14 + declared b)).length = 14 + declared b := by rw [List.length_take]; exact Nat.min_eq_left h
  have ei : ((b.take (14 + declared b)).drop 14).take (declared b) = (b.drop 14).take (declared b) := by
    rw [List.drop_take, Nat.add_sub_cancel_left, List.take_take, Nat.min_self]
  simp only [decodeCur_chain, hd, el, ei, e4, e6, e8, et, Nat.lt_irrefl, if_false,
    if_neg (Nat.not_lt.mpr (Nat.le_add_right 14 (declared b))), if_neg (Nat.not_lt.mpr h),
    if_neg (Nat.not_lt.mpr (Nat.le_trans (Nat.le_add_right 14 (declared b)) h))]

/-- a successful Decode consumed 14 + declared bytes, and they were there -/
theorem cmp_decodeCur_ok (b : Bytes) (d : DecParam) (h : (decodeCur b).1 = .ok d) :
    (decodeCur b).2 = 14 + declared b ∧ 14 + declared b ≤ b.length ∧ d.headerLen = ((14 + declared b : Nat) : Int) := by
  have hs := decodeCur_spec b
  cases hv : refValid b with
  | none =>
    rw [hv] at hs; obtain ⟨e, he, _⟩ := hs
    rw [he] at h; cases h
  | some secs =>
    rw [hv] at hs
    simp only at hs
    have hc := (decodeCur_consumed b).1
    rw [hs] at h hc ⊢
    have := Out.ok.inj h
    subst this
    refine ⟨rfl, hc, ?_⟩
    simp only [toParam]; omega

theorem cmp_readBinary_live (r : Rd) (k : Nat) (hp : RdP True r) (hk : k ≤ bigReq) (hfit : k ≤ r.remaining.length) :
    ∃ out r1, r.readBinary k = (some (out, k, none), r1) ∧ r1.remaining = r.remaining.drop k ∧ RdP True r1 := by
  obtain ⟨m, r2, hacq, ha, hrb⟩ := readBinary_cases r k hp.1.1 (hp.1.small k hk)
  obtain ⟨hrem, hri, hl2, hfail, hok⟩ := acq_facts liveLike_live r k m r2 hp hk hacq ha
  have hge : ¬ k > m := fun hgt => absurd ((hfail hgt).2 trivial) (Nat.not_lt.mpr hfit)
  obtain ⟨hkb, hk2⟩ := hok hge
  obtain ⟨h1, _, h3⟩ := acq_advance liveLike_live r r2 k hp ha.inv hrem hri hl2 hkb hk2
  rw [Nat.min_eq_right (Nat.le_of_not_gt hge), if_neg (Nat.lt_irrefl k)] at hrb
  exact ⟨_, _, hrb, h1, h3⟩

/-- C04's liveness implies C01's operational liveness: over a `Rd.Live` source (stream handed over, or
    no error yet and a `Steady` script) every way of asking for the next `n ≤ |remaining|` bytes — in any
    pieces, by Next or by ReadBinary — is served -/
theorem cmp_steady_wire_live : ∀ (n : Nat) (r : Rd), RdOK r → r.Live → n ≤ r.remaining.length → Wire.Live r n := by
  intro n
  induction n using Nat.strongRecOn with
  | _ n ih =>
    intro r h hl hn
    have hp : RdP True r := ⟨h, fun _ => hl⟩
    have hbig : ∀ k, k ≤ n → k ≤ bigReq := fun k hk =>
      Nat.le_trans hk (Nat.le_trans hn (Nat.le_trans (Nat.le_trans (Nat.le_add_left _ _) h.2) (by decide)))
    have hfit : ∀ k, k ≤ n → k ≤ r.remaining.length := fun k hk => Nat.le_trans hk hn
    -- a served request of k > 0 bytes leaves a source of the same kind with k bytes less
    have step : ∀ k r1, 0 < k → k ≤ n → r1.remaining = r.remaining.drop k → RdP True r1 → Wire.Live r1 (n - k) :=
      fun k r1 hk0 hk hrem hp1 =>
        ih (n - k) (Nat.sub_lt (Nat.lt_of_lt_of_le hk0 hk) hk0) r1 hp1.1 (hp1.2 trivial)
          (by rw [hrem, List.length_drop]; exact Nat.sub_le_sub_right hn k)
    refine .mk r n ?_ ?_ ?_ ?_
    · intro k hk
      obtain ⟨r1, hx, _⟩ := cmp_next_live r k hp (hbig k hk) (hfit k hk)
      exact ⟨_, r1, hx⟩
    · intro k hk
      obtain ⟨out, r1, hx, _⟩ := cmp_readBinary_live r k hp (hbig k hk) (hfit k hk)
      exact ⟨out, r1, hx⟩
    · intro k bs r1 hk0 hk hx
      obtain ⟨r', hx', hrem, hp'⟩ := cmp_next_live r k hp (hbig k hk) (hfit k hk)
      rw [hx'] at hx
      cases hx
      exact step k r1 hk0 hk hrem hp'
    · intro k out r1 hk0 hk hx
      obtain ⟨out', r', hx', hrem, hp'⟩ := cmp_readBinary_live r k hp (hbig k hk) (hfit k hk)
      rw [hx'] at hx
      cases hx
      exact step k r1 hk0 hk hrem hp'

end Verif.Compose
