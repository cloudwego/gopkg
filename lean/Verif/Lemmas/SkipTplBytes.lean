/-
  Lemmas/SkipTplBytes: the BytesSkipDecoder back end is an exact cursor for requests of every size; hence
  BytesSkipDecoder.Next agrees exactly with refTpl 64: it returns exactly the value's bytes and keeps
  exactly the rest.
-/
import Verif.Lemmas.SkipTplW
namespace Verif

theorem bytesBackend_cursor (b0 : Bytes) (bound : Nat) :
    WCursor bytesBackend (fun s => s.b.drop s.n) (fun s => s.b = b0 ∧ s.n ≤ b0.length) True bound := by
  refine ⟨?_, ?_⟩
  · intro s k hp _
    obtain ⟨hb, hn⟩ := hp
    have hn' : s.n ≤ s.b.length := by rw [hb]; exact hn
    simp only [bytesBackend, List.length_drop]
    by_cases hk : s.b.length ≥ s.n + k
    · left
      refine ⟨{ s with n := s.n + k }, by rw [if_pos hk], by omega, by rw [List.drop_drop], hb, ?_⟩
      rw [← hb]; exact hk
    · right
      exact ⟨.raw .eof, by rw [if_neg hk], fun _ => by omega⟩
  · intro s _; simp [bytesBackend]

/-- BytesSkipDecoder.Next(t) on a fresh decoder over b -/
theorem bytesDecNext_exact (b : Bytes) (t : UInt8) :
    match refTpl Facts.defaultRecursionDepth t b with
    | some k => bytesDecNext ⟨b, 0⟩ t = .ok (b.take k, ⟨b.drop k, 0⟩)
    | none => ∃ e, bytesDecNext ⟨b, 0⟩ t = .err e := by
  rcases skipTplAtW (bytesBackend_cursor b reqBound) (Nat.le_refl _) Facts.defaultRecursionDepth t ⟨b, 0⟩
      ⟨rfl, Nat.zero_le _⟩ with ⟨e, hx, hnone⟩ | ⟨k, s1, hr, hx, hrem, hb, hn⟩
  · rw [show refTpl Facts.defaultRecursionDepth t b = none from hnone trivial]
    exact ⟨e, by simp [bytesDecNext, hx]⟩
  · have hr' : refTpl Facts.defaultRecursionDepth t b = some k := hr
    rw [hr']
    have hk := (refTpl_good _ t b k hr').2
    have hlen := congrArg List.length hrem
    simp only [List.length_drop, hb] at hlen
    have hn1 : s1.n = k := by omega
    simp only [bytesDecNext, hx, Out.bind_eq, Out.bind_ok]
    simp [hb, hn1, hk]

end Verif
