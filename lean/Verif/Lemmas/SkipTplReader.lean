/-
  Lemmas/SkipTplReader: ReaderSkipDecoder over a plain io.Reader (`readerBackend`, `readFullLoop`,
  `readerDecNext`).

  Source predicate `Delivers script slen` (decidable): whatever room ≥ 1 each `Read` is offered, the
  source hands over all of its `slen` remaining bytes before any error; an error may accompany
  only the VERY LAST byte of the stream (the io.EOF-with-final-data case), zero-byte reads must be
  error-free (there is no empty-read limit in an io.ReadFull loop; a finite script always ends).
  It is implied by C04's `Steady` (`steady_delivers`).

  Over EVERY script the back end is a weak cursor (`SkipN k` returns exactly the next `k` bytes and
  leaves the source exactly `k` bytes further, or fails): soundness and totality with no hypothesis
  on the source at all.  Over a delivering source it is an exact cursor over the unread stream: `SkipN k` returns
  exactly the next `k` bytes and leaves the source exactly `k` bytes further — also when the last
  `Read` returned its data together with an error (the F9 clause `if i >= n { err = nil }`) — and
  fails iff fewer than `k` bytes are left.  Hence ReaderSkipDecoder.Next agrees exactly with refTpl,
  returns exactly the value and reads nothing beyond it.
-/
import Verif.Lemmas.SkipTplW
import Verif.Lemmas.Reader
import Verif.Spec.Cursor
import Verif.Spec.SkipDemand
namespace Verif

def Delivers : List Resp → Nat → Bool
  | _, 0 => true
  | [], _+1 => false
  | r :: rest, slen+1 =>
    if r.k = 0 then r.err.isNone && Delivers rest (slen+1)
    else (r.err.isNone || slen = 0) && Delivers rest slen

theorem delivers_mono : ∀ (s : List Resp) (a b : Nat), Delivers s a = true → b ≤ a → Delivers s b = true := by
  intro s
  induction s with
  | nil =>
    intro a b h hb
    cases a with
    | zero => have : b = 0 := by omega
              subst this; rfl
    | succ a => simp [Delivers] at h
  | cons r rest ih =>
    intro a b h hb
    cases b with
    | zero => rfl
    | succ b =>
      cases a with
      | zero => omega
      | succ a =>
        simp only [Delivers] at h ⊢
        by_cases hk : r.k = 0
        · simp only [hk, if_true, Bool.and_eq_true] at h ⊢
          exact ⟨h.1, ih _ _ h.2 (by omega)⟩
        · simp only [hk, if_false, Bool.and_eq_true, Bool.or_eq_true, decide_eq_true_eq] at h ⊢
          refine ⟨?_, ih _ _ h.2 (by omega)⟩
          rcases h.1 with h1 | h1
          · exact Or.inl h1
          · exact Or.inr (by omega)

/-- C04's steady sources deliver -/
theorem steady_delivers (M : Nat) : ∀ (s : List Resp) (slen z : Nat),
    Steady M s slen z = true → Delivers s slen = true := by
  intro s
  induction s with
  | nil =>
    intro slen z h
    cases slen with
    | zero => rfl
    | succ n => simp [Steady] at h
  | cons r rest ih =>
    intro slen z h
    cases slen with
    | zero => rfl
    | succ n =>
      simp only [Steady] at h
      simp only [Delivers]
      by_cases hk : r.k = 0
      · simp only [hk, if_true, Bool.and_eq_true] at h ⊢
        exact ⟨h.1.1, ih _ _ h.2⟩
      · simp only [hk, if_false, Bool.and_eq_true] at h ⊢
        exact ⟨h.1, ih _ _ h.2⟩

/-- what has been collected so far only matters through how much is still missing -/
theorem readFull_shift : ∀ (fuel : Nat) (s : Src) (n : Nat) (acc : Bytes), acc.length ≤ n →
    readFullLoop fuel s n acc =
      (acc ++ (readFullLoop fuel s (n - acc.length) []).1, (readFullLoop fuel s (n - acc.length) []).2.1,
       (readFullLoop fuel s (n - acc.length) []).2.2) := by
  intro fuel
  induction fuel with
  | zero => intro s n acc _; simp only [readFullLoop, List.append_nil]
  | succ fuel ih =>
    intro s n acc hacc
    simp only [readFullLoop, List.length_nil, Nat.sub_zero, List.nil_append]
    by_cases hdone : acc.length ≥ n
    · rw [if_pos hdone, if_pos (by omega), List.append_nil]
    rw [if_neg hdone, if_neg (by omega)]
    have hlen := Src.read_len s (n - acc.length)
    generalize s.read (n - acc.length) = res at hlen ⊢
    obtain ⟨d, e, s1⟩ := res
    replace hlen : d.length ≤ n - acc.length := hlen
    cases e with
    | some e => rfl
    | none =>
      simp only []
      rw [ih s1 n (acc ++ d) (by rw [List.length_append]; omega),
        ih s1 (n - acc.length) d hlen, List.length_append, Nat.sub_add_eq, List.append_assoc]

theorem fullLen_zero (script : List Resp) (slen : Nat) : fullLen script slen 0 = some (script, slen) := by
  cases script <;> rfl

/-- `fullLen` (lengths only) predicts the io.ReadFull loop of ReaderSkipDecoder.SkipN -/
theorem fullLen_read : ∀ (fuel : Nat) (stream : Bytes) (script : List Resp) (need : Nat)
    (script' : List Resp) (l' : Nat), script.length < fuel →
    fullLen script stream.length need = some (script', l') →
    need ≤ stream.length ∧ l' = stream.length - need ∧
    ∃ e, readFullLoop fuel ⟨stream, script⟩ need [] =
      (stream.take need, e, ⟨stream.drop need, script'⟩) := by
  intro fuel
  induction fuel with
  | zero => intro stream script need script' l' hf _; omega
  | succ fuel ih =>
    intro stream script need script' l' hf hfl
    match need, script with
    | 0, script =>
      rw [fullLen_zero] at hfl
      cases hfl
      exact ⟨Nat.zero_le _, rfl, none, rfl⟩
    | m+1, [] => cases hfl
    | m+1, r :: rest =>
      simp only [fullLen] at hfl
      simp only [readFullLoop, Src.read, List.length_nil, Nat.sub_zero, List.nil_append,
        show ¬ 0 ≥ m + 1 by omega, if_false]
      have hrest : rest.length < fuel := Nat.lt_of_succ_lt_succ hf
      generalize hdd : min (min r.k (m + 1)) stream.length = d at hfl ⊢
      have hd1 : d ≤ m + 1 := by omega
      have hd2 : d ≤ stream.length := by omega
      clear hdd
      have hlen : (stream.take d).length = d := by rw [List.length_take]; exact Nat.min_eq_left hd2
      by_cases hfull : d ≥ m + 1
      · have hdm : d = m + 1 := Nat.le_antisymm hd1 hfull
        subst hdm
        rw [if_pos hfull, Option.some.injEq, Prod.mk.injEq] at hfl
        obtain ⟨h1, h2⟩ := hfl
        subst h1 h2
        refine ⟨hd2, rfl, ?_⟩
        cases r.err with
        | some e => exact ⟨some e, rfl⟩
        | none =>
          obtain ⟨_, _, e, hx⟩ := ih (stream.drop (m + 1)) rest 0 rest _ hrest (fullLen_zero _ _)
          refine ⟨e, ?_⟩
          simp only []
          rw [readFull_shift _ _ _ _ (by rw [hlen]; exact Nat.le_refl _), hlen, Nat.sub_self, hx]
          simp only [List.take_zero, List.append_nil, List.drop_zero]
      · rw [if_neg hfull] at hfl
        cases herr : r.err with
        | some e => rw [herr] at hfl; cases hfl
        | none =>
          rw [herr] at hfl
          simp only [Option.isSome_none, Bool.false_eq_true, if_false, ← List.length_drop] at hfl
          obtain ⟨h1, h2, e, hx⟩ := ih (stream.drop d) rest (m + 1 - d) script' l' hrest hfl
          rw [List.length_drop] at h1 h2
          refine ⟨by omega, by omega, e, ?_⟩
          simp only []
          rw [readFull_shift _ _ _ _ (by rw [hlen]; exact hd1), hlen, hx, List.drop_drop, ← List.take_add,
            Nat.add_sub_cancel' hd1]
theorem delivers_fullLen : ∀ (script : List Resp) (slen need : Nat), Delivers script slen = true → need ≤ slen →
    ∃ script', fullLen script slen need = some (script', slen - need) ∧
      Delivers script' (slen - need) = true := by
  intro script
  induction script with
  | nil =>
    intro slen need hd hn
    match need, slen with
    | 0, slen => exact ⟨[], fullLen_zero _ _, hd⟩
    | _+1, 0 => omega
    | _+1, _+1 => simp [Delivers] at hd
  | cons r rest ih =>
    intro slen need hd hn
    match need, slen with
    | 0, slen => exact ⟨r :: rest, fullLen_zero _ _, hd⟩
    | _+1, 0 => omega
    | need+1, slen+1 =>
      simp only [Delivers] at hd
      simp only [fullLen]
      generalize hdd : min (min r.k (need+1)) (slen+1) = d
      by_cases hfull : d ≥ need + 1
      · rw [if_pos hfull]
        have hk : r.k ≠ 0 := by omega
        simp only [hk, if_false, Bool.and_eq_true] at hd
        exact ⟨rest, rfl, delivers_mono _ _ _ hd.2 (by omega)⟩
      · rw [if_neg hfull]
        by_cases hk : r.k = 0
        · simp only [hk, if_true, Bool.and_eq_true, Option.isNone_iff_eq_none] at hd
          have hd0 : d = 0 := by omega
          simp only [hd.1, Option.isSome_none, Bool.false_eq_true, if_false, hd0, Nat.sub_zero]
          exact ih (slen+1) (need+1) hd.2 hn
        · simp only [hk, if_false, Bool.and_eq_true, Bool.or_eq_true, decide_eq_true_eq,
            Option.isNone_iff_eq_none] at hd
          -- an error may come with the very last byte only, and then the request is complete
          have herr : r.err = none := by
            rcases hd.1 with h | h
            · exact h
            · omega
          simp only [herr, Option.isSome_none, Bool.false_eq_true, if_false]
          obtain ⟨script', h1, h2⟩ := ih (slen + 1 - d) (need + 1 - d)
            (delivers_mono _ _ _ hd.2 (by omega)) (by omega)
          have e : slen + 1 - d - (need + 1 - d) = slen + 1 - (need + 1) := by omega
          rw [e] at h1 h2
          exact ⟨script', h1, h2⟩

theorem readFull_ok (s : Src) (k : Nat) (hd : Delivers s.script s.stream.length = true)
    (hk : k ≤ s.stream.length) :
    ∃ e script', readFullLoop (s.script.length + 2) s k [] = (s.stream.take k, e, ⟨s.stream.drop k, script'⟩) ∧
      Delivers script' (s.stream.length - k) = true := by
  obtain ⟨script', hfl, hdel⟩ := delivers_fullLen s.script s.stream.length k hd hk
  obtain ⟨_, _, e, hx⟩ := fullLen_read (s.script.length + 2) s.stream s.script k script' _ (by omega) hfl
  exact ⟨e, script', hx, hdel⟩

theorem take_of_append_eq {d tl stream : Bytes} (h : d ++ tl = stream) :
    d = stream.take d.length ∧ tl = stream.drop d.length := by
  subst h; simp

/-- the read-full loop over ANY script: if it collected `n` bytes, they are exactly the next
    `n - |acc|` bytes of the stream and the source is exactly that much further; otherwise it reports
    an error -/
theorem readFull_any : ∀ (fuel : Nat) (s : Src) (n : Nat) (acc : Bytes), acc.length ≤ n →
    ((readFullLoop fuel s n acc).1.length ≥ n →
      (readFullLoop fuel s n acc).1 = acc ++ s.stream.take (n - acc.length) ∧
      (readFullLoop fuel s n acc).2.2.stream = s.stream.drop (n - acc.length) ∧
      n - acc.length ≤ s.stream.length) ∧
    ((readFullLoop fuel s n acc).1.length < n → ∃ e, (readFullLoop fuel s n acc).2.1 = some e) := by
  intro fuel
  induction fuel with
  | zero =>
    intro s n acc hacc
    simp only [readFullLoop]
    refine ⟨fun h => ?_, fun _ => ⟨_, rfl⟩⟩
    have : n - acc.length = 0 := by omega
    simp [this]
  | succ fuel ih =>
    intro s n acc hacc
    simp only [readFullLoop]
    by_cases hdone : acc.length ≥ n
    · simp only [hdone, if_true]
      refine ⟨fun _ => ?_, fun h => by omega⟩
      have : n - acc.length = 0 := by omega
      simp [this]
    · simp only [hdone, if_false]
      have hst := Src.read_stream s (n - acc.length)
      have hrl := Src.read_len s (n - acc.length)
      obtain ⟨hd1, hd2⟩ := take_of_append_eq hst
      generalize s.read (n - acc.length) = res at hst hrl hd1 hd2 ⊢
      obtain ⟨d, e, s1⟩ := res
      simp only [] at hst hrl hd1 hd2 ⊢
      have hdl : d.length ≤ s.stream.length := by
        have := congrArg List.length hst; rw [List.length_append] at this; omega
      cases e with
      | some e =>
        simp only []
        refine ⟨fun h => ?_, fun _ => ⟨e, rfl⟩⟩
        rw [List.length_append] at h
        have hlen : d.length = n - acc.length := by omega
        rw [← hlen]
        exact ⟨by rw [← hd1], hd2, hdl⟩
      | none =>
        simp only []
        have hacc' : (acc ++ d).length ≤ n := by rw [List.length_append]; omega
        obtain ⟨h1, h2⟩ := ih s1 n (acc ++ d) hacc'
        refine ⟨fun h => ?_, h2⟩
        obtain ⟨ha, hb, hc⟩ := h1 h
        rw [List.length_append] at ha hb hc
        have hsplit : n - acc.length = d.length + (n - (acc.length + d.length)) := by omega
        refine ⟨?_, ?_, ?_⟩
        · rw [ha, hsplit, ← hst, List.take_length_add_append, List.append_assoc]
        · rw [hb, hsplit, ← hst, List.drop_length_add_append]
        · have := congrArg List.length hst; rw [List.length_append] at this; omega

/-- when fewer bytes are left than asked for: an error, with fewer bytes than asked for -/
theorem readFull_short : ∀ (fuel : Nat) (s : Src) (n : Nat) (acc : Bytes),
    acc.length + s.stream.length < n →
    ∃ e, (readFullLoop fuel s n acc).2.1 = some e ∧ (readFullLoop fuel s n acc).1.length < n := by
  intro fuel s n acc h
  obtain ⟨hge, hlt⟩ := readFull_any fuel s n acc (by omega)
  have hshort : (readFullLoop fuel s n acc).1.length < n := by
    by_cases hc : (readFullLoop fuel s n acc).1.length ≥ n
    · have := (hge hc).2.2; omega
    · omega
  obtain ⟨e, he⟩ := hlt hshort
  exact ⟨e, he, hshort⟩

/-- back-end invariant during one `Next(t)`: `got` is exactly what has been read from the stream
    `S0` so far; over a live source the script still delivers -/
def ReaderP (live : Prop) (S0 : Bytes) (s : ReaderDec) : Prop :=
  (live → Delivers s.src.script s.src.stream.length = true) ∧ s.got ++ s.src.stream = S0

/-- the read-full back end is a weak cursor over the unread stream for EVERY script (exact bytes or
    an error), and an exact one over delivering scripts -/
theorem reader_cursor (live : Prop) (S0 : Bytes) (bound : Nat) :
    WCursor readerBackend (fun s => s.src.stream) (ReaderP live S0) live bound := by
  refine ⟨?_, ?_⟩
  · intro s k hp _
    obtain ⟨hd, hgot⟩ := hp
    obtain ⟨hge, hlt⟩ := readFull_any (s.src.script.length + 2) s.src k [] (Nat.zero_le _)
    simp only [List.length_nil, Nat.sub_zero, List.nil_append] at hge
    by_cases hfull : (readFullLoop (s.src.script.length + 2) s.src k []).1.length ≥ k
    · left
      obtain ⟨h1, h2, h3⟩ := hge hfull
      refine ⟨{ src := (readFullLoop (s.src.script.length + 2) s.src k []).2.2,
                got := s.got ++ s.src.stream.take k }, ?_, h3, h2, ?_, ?_⟩
      · have hlen : (List.take k s.src.stream).length ≥ k := by rw [List.length_take]; omega
        simp only [readerBackend, h1, hlen, if_true]
      · intro l
        obtain ⟨e, script', hx, hdel⟩ := readFull_ok s.src k (hd l) h3
        simp only [hx, List.length_drop]
        exact hdel
      · simp only [h2, List.append_assoc, List.take_append_drop]; exact hgot
    · right
      obtain ⟨e, he⟩ := hlt (by omega)
      refine ⟨.raw e, by simp only [readerBackend, hfull, if_false, he], fun l => ?_⟩
      by_cases hk : k ≤ s.src.stream.length
      · exfalso
        obtain ⟨e', script', hx, _⟩ := readFull_ok s.src k (hd l) hk
        apply hfull
        rw [hx, List.length_take]; omega
      · omega
  · intro s _; simp [readerBackend]

/-- ReaderSkipDecoder.Next(t) over ANY source script: an error, or refTpl 64 accepts a prefix of the
    unread stream, exactly that prefix is returned and the source has been read exactly that far.
    Over a delivering script: an error only if refTpl 64 rejects; the script still delivers. -/
theorem readerDecNext_w (live : Prop) (src : Src) (t : UInt8)
    (hd : live → Delivers src.script src.stream.length = true) :
    (∃ e, readerDecNext src t = .err e ∧ (live → refTpl Facts.defaultRecursionDepth t src.stream = none)) ∨
    (∃ k src', refTpl Facts.defaultRecursionDepth t src.stream = some k ∧
      readerDecNext src t = .ok (src.stream.take k, src') ∧ src'.stream = src.stream.drop k ∧
      (live → Delivers src'.script src'.stream.length = true)) := by
  have hm := skipTplAtW (reader_cursor live src.stream reqBound) (Nat.le_refl _) Facts.defaultRecursionDepth t
    { src := src, got := [] } ⟨hd, rfl⟩
  simp only [] at hm
  rcases hm with ⟨e, hx, hnone⟩ | ⟨k, s1, hr, hx, hrem, hdel, hgot⟩
  · left; exact ⟨e, by simp [readerDecNext, hx], hnone⟩
  · right
    have hk := (refTpl_good _ t _ k hr).2
    refine ⟨k, s1.src, hr, ?_, hrem, hdel⟩
    have hrem' : s1.src.stream = src.stream.drop k := hrem
    have hg : s1.got = src.stream.take k := by
      rw [hrem'] at hgot
      have h2 : s1.got ++ List.drop k src.stream = List.take k src.stream ++ List.drop k src.stream := by
        rw [hgot, List.take_append_drop]
      exact List.append_cancel_right h2
    simp only [readerDecNext, hx, Out.bind_eq, Out.bind_ok, Out.pure_eq, hg]

/-- ReaderSkipDecoder.Next(t) over a delivering source: exactly refTpl 64 on the unread stream; the
    value's bytes are returned and the source has been read exactly that far -/
theorem readerDecNext_exact (src : Src) (t : UInt8)
    (hd : Delivers src.script src.stream.length = true) :
    match refTpl Facts.defaultRecursionDepth t src.stream with
    | some k => ∃ src', readerDecNext src t = .ok (src.stream.take k, src') ∧
        src'.stream = src.stream.drop k ∧ Delivers src'.script src'.stream.length = true
    | none => ∃ e, readerDecNext src t = .err e := by
  rcases readerDecNext_w True src t (fun _ => hd) with ⟨e, hx, hnone⟩ | ⟨k, src', hr, hx, h1, h2⟩
  · rw [hnone trivial]; exact ⟨e, hx⟩
  · rw [hr]; exact ⟨src', hx, h1, h2 trivial⟩

/-- … over ANY source script: sound and total -/
theorem readerDecNext_any (src : Src) (t : UInt8) :
    (∃ e, readerDecNext src t = .err e) ∨
    (∃ k src', refTpl Facts.defaultRecursionDepth t src.stream = some k ∧
      readerDecNext src t = .ok (src.stream.take k, src') ∧ src'.stream = src.stream.drop k) := by
  rcases readerDecNext_w False src t (fun f => f.elim) with ⟨e, hx, _⟩ | ⟨k, src', hr, hx, h1, _⟩
  · exact Or.inl ⟨e, hx⟩
  · exact Or.inr ⟨k, src', hr, hx, h1⟩

end Verif
