/-
  Lemmas/ReaderRefine: the reader model refines the cursor contract (Spec/Cursor), one step at a time.
-/
import Verif.Lemmas.ReaderOps
namespace Verif

theorem Cur.step_S {ε : Type} (c c' : Cur) (op : ROp) (res : RRes ε) (h : c.step op res = .ok c') :
    c'.S = c.S := by
  unfold Cur.step at h
  split at h <;> (repeat' split at h) <;> cases h <;> rfl

theorem Cur.run_S {ε : Type} (l : List (ROp × RRes ε)) (c c' : Cur) (h : c.run l = .ok c') :
    c'.S = c.S := by
  induction l generalizing c with
  | nil => simp [Cur.run] at h; rw [h]
  | cons x l ih =>
    obtain ⟨op, res⟩ := x
    simp only [Cur.run] at h
    split at h
    · rename_i c1 hc1
      rw [ih c1 h, Cur.step_S _ _ _ _ hc1]
    · simp at h

/-- abstraction relation: the model state `r` stands at cursor `c` over the full stream `c.S`:
    `S = pre ++ buf ++ (not yet read from the source)`, `pre` = everything released so far -/
structure Abs (c : Cur) (r : Rd) : Prop where
  inv : Inv r
  split : ∃ pre, c.S = pre ++ r.buf ++ r.src.stream ∧ c.mark = pre.length
  pos : c.pos = c.mark + r.ri

/-- what the contract's cursor has not consumed is exactly what the reader still owes -/
theorem Abs.rest {c : Cur} {r : Rd} (h : Abs c r) : c.rest = r.remaining := by
  obtain ⟨pre, hS, hm⟩ := h.split
  have hri := h.inv.ri_le
  unfold Cur.rest Rd.remaining
  rw [hS, h.pos, hm, List.append_assoc, ← List.drop_drop, List.drop_left,
    List.drop_append_of_le_length hri]

theorem Abs.ri_le {c : Cur} {r : Rd} (h : Abs c r) : r.ri ≤ c.S.length := by
  obtain ⟨pre, hsp, _⟩ := h.split
  have hri := h.inv.ri_le
  rw [hsp]; simp only [List.length_append]; omega

theorem Abs.acquire {c : Cur} {r r1 : Rd} {n m : Nat} (h : Abs c r) (ha : AcqPost r n m r1) :
    Abs c r1 := by
  obtain ⟨pre, hS, hm⟩ := h.split
  obtain ⟨d, hd1, hd2⟩ := ha.data
  refine ⟨ha.inv, ⟨pre, ?_, hm⟩, ?_⟩
  · rw [hS, hd1, hd2]; simp [List.append_assoc]
  · rw [ha.ri]; exact h.pos

theorem Abs.advance {c : Cur} {r : Rd} (h : Abs c r) (k : Nat) (hk : k ≤ r.buf.length - r.ri) :
    Abs { c with pos := c.pos + k } { r with ri := r.ri + k } := by
  refine ⟨inv_advance r k h.inv hk, h.split, ?_⟩
  simp only []; rw [h.pos]; omega

theorem abs_init_default (S : Bytes) (script : List Resp) :
    Abs (Cur.init S) (Rd.newDefault ⟨S, script⟩) :=
  ⟨inv_newDefault _, ⟨[], by simp [Cur.init, Rd.newDefault], rfl⟩, rfl⟩

theorem abs_init_bytes (data : Bytes) (cap : Nat) (h : data.length ≤ cap) (hc : cap ≤ capMax) :
    Abs (Cur.init data) (Rd.newBytes data cap) := by
  refine ⟨inv_newBytes data cap h hc, ⟨[], ?_, rfl⟩, ?_⟩
  · unfold Rd.newBytes; split
    · simp [Cur.init]
    · have : data = [] := by apply List.eq_nil_of_length_eq_zero; omega
      simp [Cur.init, Rd.newDefault, this]
  · unfold Rd.newBytes; split <;> rfl

theorem Abs.take {c : Cur} {r : Rd} (h : Abs c r) (k : Nat) (hk : k ≤ r.buf.length - r.ri) :
    ((r.buf.drop r.ri).take k).length = k ∧ (r.buf.drop r.ri).take k = c.rest.take k :=
  ⟨take_length_of_le r k hk, by rw [h.rest]; exact take_eq_remaining_take r k hk⟩

theorem Abs.release {c : Cur} {r : Rd} (h : Abs c r) : Abs { c with mark := c.pos } r.release := by
  obtain ⟨pre, hS, hm⟩ := h.split
  have hri := h.inv.ri_le
  refine ⟨release_inv r h.inv, ⟨pre ++ r.buf.take r.ri, ?_, ?_⟩, ?_⟩
  · simp only []
    have hrel : r.release.buf ++ r.release.src.stream = r.release.remaining := by
      unfold Rd.remaining Rd.release; split
      · simp
      · split <;> simp
    rw [List.append_assoc, hrel, release_remaining r h.inv, hS]
    unfold Rd.remaining
    rw [List.append_assoc, List.append_assoc, ← List.append_assoc (r.buf.take r.ri),
      List.take_append_drop]
  · simp only [List.length_append, List.length_take]; rw [h.pos, hm]; omega
  · have := release_readLen r; unfold Rd.readLen at this; simp only []; omega

theorem StepView.refines {c : Cur} {r r' : Rd} {op : ROp} {res : RRes RErr}
    (hv : StepView r op res r') (h : Abs c r) : ∃ c', c.step op res = .ok c' ∧ Abs c' r' := by
  cases hv with
  | neg hop hn => exact ⟨c, by rcases hop with rfl | rfl | rfl <;> simp [Cur.step], h⟩
  | short hop hn hacq ha hgt =>
    obtain ⟨e, he⟩ := Option.ne_none_iff_exists'.mp (ha.short hgt).1
    exact ⟨c, by rw [he]; rcases hop with rfl | rfl | rfl <;> simp [Cur.step], h.acquire ha⟩
  | @next n _ _ hn hacq ha hge =>
    have h1 := h.acquire ha
    have hk := ha.enough hge
    obtain ⟨hl, hb⟩ := h1.take _ hk
    refine ⟨{ c with pos := c.pos + n.toNat }, ?_, h1.advance _ hk⟩
    simp only [Cur.step]; rw [hl, hb]; simp; omega
  | @peek n _ _ hn hacq ha hge =>
    have h1 := h.acquire ha
    obtain ⟨hl, hb⟩ := h1.take _ (ha.enough hge)
    refine ⟨c, ?_, h1⟩
    simp only [Cur.step]; rw [hl, hb]; simp; omega
  | @skip n _ r1 hn hacq ha hge =>
    have h1 := h.acquire ha
    have hk := ha.enough hge
    refine ⟨{ c with pos := c.pos + n.toNat }, ?_, h1.advance _ hk⟩
    have hlen : ¬ n.toNat > c.rest.length := by
      rw [h1.rest, remaining_length]; omega
    simp only [Cur.step, hlen, if_false]; simp; omega
  | @readBinary k m r1 hacq ha =>
    have h1 := h.acquire ha
    have hk : min m k ≤ r1.buf.length - r1.ri := by
      rcases ha.outcome with ⟨hm, hle, _⟩ | ⟨hm, _⟩ <;> omega
    obtain ⟨hl, hb⟩ := h1.take _ hk
    refine ⟨{ c with pos := c.pos + min m k }, ?_, h1.advance _ hk⟩
    have hshort : ¬ (min m k < k ∧ (if k > min m k then r1.err else none).isNone = true) := by
      intro ⟨hlt, hnone⟩
      rw [if_pos hlt] at hnone
      exact (ha.short (by omega)).1 (Option.isNone_iff_eq_none.mp hnone)
    simp only [Cur.step, hshort, if_false]; rw [hl, hb]; simp; omega
  | release e => exact ⟨{ c with mark := c.pos }, rfl, h.release⟩
  | readLen =>
    have : r.ri = c.pos - c.mark := by rw [h.pos]; omega
    exact ⟨c, by simp [Cur.step, this], h⟩

/-- ONE STEP: whatever the model reports is accepted by the contract, and the abstraction
    relation is re-established at the contract's new cursor -/
theorem step_refines (c : Cur) (r : Rd) (op : ROp) (h : Abs c r) (hs : r.Small op.size) :
    ∃ c', c.step op (r.step op).1 = .ok c' ∧ Abs c' (r.step op).2 :=
  (step_view r op h.inv hs).refines h

/-- a history is in range when every request is (`n + ri ≤ 2^63` at the moment it is made) -/
def Rd.SmallOps : Rd → List ROp → Prop
  | _, [] => True
  | r, op :: ops => r.Small op.size ∧ (r.step op).2.SmallOps ops

/-- WHOLE HISTORIES: the contract accepts every report of the model -/
theorem trace_refines (c : Cur) (r : Rd) (ops : List ROp) (h : Abs c r) (hs : r.SmallOps ops) :
    ∃ c', c.run (r.trace ops).1 = .ok c' ∧ Abs c' (r.trace ops).2 := by
  induction ops generalizing c r with
  | nil => exact ⟨c, rfl, h⟩
  | cons op ops ih =>
    obtain ⟨c1, hc1, h1⟩ := step_refines c r op h hs.1
    obtain ⟨c2, hc2, h2⟩ := ih c1 _ h1 hs.2
    refine ⟨c2, ?_, h2⟩
    simp only [Rd.trace, Cur.run, hc1]
    exact hc2

end Verif
