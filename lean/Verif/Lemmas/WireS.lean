/- Lemmas/WireS: the stream readers over the cursor contract; their failures. -/
import Verif.Spec.WireCursor
import Verif.Lemmas.WireR
import Verif.Lemmas.Reader
namespace Verif.Wire

theorem advance_spec (r : Rd) (n : Nat) (h : n ≤ r.buf.length - r.ri) :
    (r.buf.drop r.ri).take n = (remaining r).take n ∧
    remaining { r with ri := r.ri + n } = (remaining r).drop n := by
  constructor
  · simp only [remaining]; rw [List.take_append_of_le_length (by simp; omega)]
  · simp only [remaining]; rw [List.drop_append_of_le_length (by simp; omega), List.drop_drop]

theorem readBinary_buffered (r : Rd) (n : Nat) (h : n ≤ r.buf.length - r.ri) :
    r.readBinary n = (some ((r.buf.drop r.ri).take n, n, none), { r with ri := r.ri + n }) := by
  have hn : ¬ n > n := by omega
  simp only [Rd.readBinary, Rd.acquire, if_pos h, if_neg hn]

theorem bufferedCursor : Cursor remaining buffered where
  le r n h := by unfold buffered at h; simp [remaining]; omega
  mono r n m h := by unfold buffered at *; omega
  next r n h :=
    ⟨{ r with ri := r.ri + n }, by rw [next_buffered r n h, (advance_spec r n h).1], (advance_spec r n h).2, rfl,
      fun m hm => by unfold buffered at *; simp; omega⟩
  readBinary r n h :=
    ⟨{ r with ri := r.ri + n }, by rw [readBinary_buffered r n h, (advance_spec r n h).1],
      (advance_spec r n h).2, rfl, fun m hm => by unfold buffered at *; simp; omega⟩

variable {rem : Rd → Bytes} {live : Rd → Nat → Prop}

/-- one `next` on a live state whose remaining stream starts with `a` -/
theorem brNext_ok (C : Cursor rem live) (r : Rd) (a rest : Bytes) (hrem : rem r = a ++ rest)
    (hl : live r a.length) :
    ∃ r', brNext (a.length : Int) r = .ok (a, r') ∧ rem r' = rest ∧ r'.readLen = r.readLen + a.length ∧
          ∀ m, live r (a.length + m) → live r' m := by
  obtain ⟨r', h1, h2, h3, h4⟩ := C.next r a.length hl
  refine ⟨r', ?_, ?_, h3, h4⟩
  · simp [brNext, h1, hrem]
  · simp [h2, hrem]

theorem brReadFull_ok (C : Cursor rem live) (r : Rd) (a rest : Bytes) (hrem : rem r = a ++ rest)
    (hl : live r a.length) :
    ∃ r', brReadFull a.length r = .ok (a, r') ∧ rem r' = rest ∧ r'.readLen = r.readLen + a.length ∧
          ∀ m, live r (a.length + m) → live r' m := by
  obtain ⟨r', h1, h2, h3, h4⟩ := C.readBinary r a.length hl
  refine ⟨r', ?_, ?_, h3, h4⟩
  · simp [brReadFull, h1, hrem]
  · simp [h2, hrem]

theorem brReadI32_ok (C : Cursor rem live) (r : Rd) (n : Nat) (hn : n < 4294967296) (rest : Bytes)
    (hrem : rem r = be32 n ++ rest) (hl : live r 4) :
    ∃ r', brReadI32 r = .ok (toI32 n, r') ∧ rem r' = rest ∧ r'.readLen = r.readLen + 4 ∧
          ∀ m, live r (4 + m) → live r' m := by
  obtain ⟨r', h1, h2, h3, h4⟩ := brNext_ok C r (be32 n) rest hrem (by simpa using hl)
  simp only [be32_length, Int.cast_ofNat_Int] at h1 h3 h4
  refine ⟨r', ?_, h2, h3, h4⟩
  have : rd32 (be32 n) = n := by have := rd32_be32 n hn []; simpa using this
  simp [brReadI32, h1, u32of, this]

@[simp] theorem idx_zero (x : UInt8) (l : Bytes) : idx (x :: l) 0 = .ok x := rfl
@[simp] theorem idx_one (x y : UInt8) (l : Bytes) : idx (x :: y :: l) 1 = .ok y := rfl

/-- the number of bytes the reader of a kind asks for, where that number is fixed -/
def Kind.width : Kind → Option Nat
  | .bool | .i8 => some 1
  | .i16 => some 2
  | .i32 => some 4
  | .i64 | .double => some 8
  | .map => some 6
  | .list | .set => some 5
  | .binary | .str | .field | .msg => none

/-- what `BufferReader.Read<kind>` of a fixed-width kind does with the slice `next` returned -/
def brTail : Kind → Bytes → TOut Val
  | .bool, b => (idx b 0).bind fun x => .ok (.bool (x = 1))
  | .i8, b => (idx b 0).bind fun x => .ok (.i8 (toI8 x.toNat))
  | .i16, b => (u16of b).bind fun v => .ok (.i16 (toI16 v))
  | .i32, b => (u32of b).bind fun v => .ok (.i32 (toI32 v))
  | .i64, b => (u64of b).bind fun v => .ok (.i64 (toI64 v))
  | .double, b => (u64of b).bind fun v => .ok (.double v)
  | .map, b => (idx b 0).bind fun kt => (idx b 1).bind fun vt => (sfrom b 2).bind fun b2 =>
      (u32of b2).bind fun n => .ok (.mapBegin kt vt n)
  | .list, b => (idx b 0).bind fun et => (sfrom b 1).bind fun b1 => (u32of b1).bind fun n => .ok (.listBegin et n)
  | .set, b => (idx b 0).bind fun et => (sfrom b 1).bind fun b1 => (u32of b1).bind fun n => .ok (.setBegin et n)
  | _, _ => .panic "width"

theorem mapRM_bind {α β} (f : β → Val) (x : TOut α) (g : α → TOut (β × Rd)) :
    mapRM f (x.bind g) = x.bind fun a => mapRM f (g a) := by cases x <;> rfl

theorem mapRM_ok {α} (f : α → Val) (a : α) (r : Rd) : mapRM f (.ok (a, r)) = .ok (f a, r) := rfl

theorem brRead_fixed (k : Kind) (n : Nat) (hk : k.width = some n) (r : Rd) :
    brRead k r = (brNext n r).bind fun p => (brTail k p.1).bind fun v => .ok (v, p.2) := by
  cases k <;> cases hk
  all_goals simp only [brRead, brReadBool, brReadByte, brReadI16, brReadI32, brReadI64, brReadDouble,
    brReadMapBegin, brReadListBegin, brReadSetBegin, brTail, mapRM_bind, mapRM_ok, Out.bind_eq, Out.pure_eq,
    Out.bind_assoc, Out.bind_ok, Int.cast_ofNat_Int]

theorem width_le (k : Kind) (n : Nat) (hk : k.width = some n) : n ≤ 8 := by
  cases k <;> cases hk <;> decide

theorem encM_length_width (v : Val) (n : Nat) (hk : v.kind.width = some n) : (encM v).length = n := by
  cases v <;> cases hk <;> rfl

theorem len1 (l : Bytes) (h : l.length = 1) : ∃ a, l = [a] := by
  match l, h with | [a], _ => exact ⟨a, rfl⟩
theorem len2 (l : Bytes) (h : l.length = 2) : ∃ a b, l = [a, b] := by
  match l, h with | [a, b], _ => exact ⟨a, b, rfl⟩
theorem len4 (l : Bytes) (h : l.length = 4) : ∃ a b c d, l = [a, b, c, d] := by
  match l, h with | [a, b, c, d], _ => exact ⟨a, b, c, d, rfl⟩
theorem len5 (l : Bytes) (h : l.length = 5) : ∃ a b c d e, l = [a, b, c, d, e] := by
  match l, h with | [a, b, c, d, e], _ => exact ⟨a, b, c, d, e, rfl⟩
theorem len6 (l : Bytes) (h : l.length = 6) : ∃ a b c d e f, l = [a, b, c, d, e, f] := by
  match l, h with | [a, b, c, d, e, f], _ => exact ⟨a, b, c, d, e, f, rfl⟩
theorem len8 (l : Bytes) (h : l.length = 8) : ∃ a b c d e f g i, l = [a, b, c, d, e, f, g, i] := by
  match l, h with | [a, b, c, d, e, f, g, i], _ => exact ⟨a, b, c, d, e, f, g, i, rfl⟩

theorem not_short (n l : Nat) : ¬ l + n < n := Nat.not_lt.mpr (Nat.le_add_left n l)

theorem brTail_ok (k : Kind) (n : Nat) (hk : k.width = some n) (bs : Bytes) (hl : bs.length = n) :
    ∃ v, brTail k bs = .ok v ∧ ∀ rest, binRead k (bs ++ rest) = .ok (v, n) := by
  cases k <;> cases hk
  case bool =>
    obtain ⟨a, rfl⟩ := len1 bs hl
    exact ⟨_, rfl, fun rest => by by_cases h : a = 1 <;> simp [binRead, binReadBool, mapOk, h]⟩
  case i8 =>
    obtain ⟨a, rfl⟩ := len1 bs hl
    exact ⟨_, rfl, fun rest => by simp [binRead, binReadByte, mapOk]⟩
  case i16 =>
    obtain ⟨a, b, rfl⟩ := len2 bs hl
    refine ⟨_, rfl, fun rest => ?_⟩
    rw [binRead, binReadI16_char, if_neg (show ¬ ([a, b] ++ rest).length < 2 from not_short 2 rest.length)]
    simp only [List.cons_append, List.nil_append, rd16, mapOk]
  case i32 =>
    obtain ⟨a, b, c, d, rfl⟩ := len4 bs hl
    refine ⟨_, rfl, fun rest => ?_⟩
    rw [binRead, binReadI32_char, if_neg (show ¬ ([a, b, c, d] ++ rest).length < 4 from not_short 4 rest.length)]
    simp only [List.cons_append, List.nil_append, rd32, mapOk]
  case i64 =>
    obtain ⟨a, b, c, d, e, f, g, i, rfl⟩ := len8 bs hl
    refine ⟨_, rfl, fun rest => ?_⟩
    rw [binRead, binReadI64_char, if_neg (show ¬ ([a, b, c, d, e, f, g, i] ++ rest).length < 8 from not_short 8 rest.length)]
    simp only [List.cons_append, List.nil_append, rd64, rd32, List.drop_succ_cons, List.drop_zero, mapOk]
  case double =>
    obtain ⟨a, b, c, d, e, f, g, i, rfl⟩ := len8 bs hl
    refine ⟨_, rfl, fun rest => ?_⟩
    rw [binRead, binReadDouble_char, if_neg (show ¬ ([a, b, c, d, e, f, g, i] ++ rest).length < 8 from not_short 8 rest.length)]
    simp only [List.cons_append, List.nil_append, rd64, rd32, List.drop_succ_cons, List.drop_zero, mapOk]
  case map =>
    obtain ⟨a, b, c, d, e, f, rfl⟩ := len6 bs hl
    refine ⟨_, rfl, fun rest => ?_⟩
    rw [binRead, binReadMapBegin_char, if_neg (show ¬ ([a, b, c, d, e, f] ++ rest).length < 6 from not_short 6 rest.length)]
    simp only [List.cons_append, List.nil_append, List.headD, List.drop_succ_cons, List.drop_zero, rd32, mapOk]
  case list =>
    obtain ⟨a, b, c, d, e, rfl⟩ := len5 bs hl
    refine ⟨_, rfl, fun rest => ?_⟩
    rw [binRead, binReadListBegin_char, if_neg (show ¬ ([a, b, c, d, e] ++ rest).length < 5 from not_short 5 rest.length)]
    simp only [List.cons_append, List.nil_append, List.headD, List.drop_succ_cons, List.drop_zero, rd32, mapOk]
  case set =>
    obtain ⟨a, b, c, d, e, rfl⟩ := len5 bs hl
    refine ⟨_, rfl, fun rest => ?_⟩
    rw [binRead, binReadSetBegin_char, binReadListBegin_char, if_neg (show ¬ ([a, b, c, d, e] ++ rest).length < 5 from not_short 5 rest.length)]
    simp only [List.cons_append, List.nil_append, List.headD, List.drop_succ_cons, List.drop_zero, rd32, mapOk]

theorem idx_noerr (b : Bytes) (i : Nat) : ∀ e, idx b i ≠ .err e := by
  intro e; unfold idx; split <;> simp
theorem u16of_noerr (b : Bytes) : ∀ e, u16of b ≠ .err e := by intro e; unfold u16of; split <;> simp
theorem u32of_noerr (b : Bytes) : ∀ e, u32of b ≠ .err e := by intro e; unfold u32of; split <;> simp
theorem u64of_noerr (b : Bytes) : ∀ e, u64of b ≠ .err e := by intro e; unfold u64of; split <;> simp
theorem sfrom_noerr (b : Bytes) (i : Nat) : ∀ e, sfrom b i ≠ .err e := by intro e; unfold sfrom; split <;> simp

theorem bind_noerr {α β} {x : TOut α} {f : α → TOut β} (hx : ∀ e, x ≠ .err e) (hf : ∀ a e, f a ≠ .err e) :
    ∀ e, x.bind f ≠ .err e := by
  intro e
  cases x with
  | ok a => exact hf a e
  | err e' => exact absurd rfl (hx e')
  | panic s => simp
  | oob => simp

theorem ok_noerr {α} (a : α) : ∀ e, (.ok a : TOut α) ≠ .err e := by intro e; simp

theorem brTail_noerr (k : Kind) (b : Bytes) : ∀ e, brTail k b ≠ .err e := by
  cases k <;> simp only [brTail]
  case bool => exact bind_noerr (idx_noerr _ _) fun _ => ok_noerr _
  case i8 => exact bind_noerr (idx_noerr _ _) fun _ => ok_noerr _
  case i16 => exact bind_noerr (u16of_noerr _) fun _ => ok_noerr _
  case i32 => exact bind_noerr (u32of_noerr _) fun _ => ok_noerr _
  case i64 => exact bind_noerr (u64of_noerr _) fun _ => ok_noerr _
  case double => exact bind_noerr (u64of_noerr _) fun _ => ok_noerr _
  case map =>
    exact bind_noerr (idx_noerr _ _) fun _ => bind_noerr (idx_noerr _ _) fun _ =>
      bind_noerr (sfrom_noerr _ _) fun _ => bind_noerr (u32of_noerr _) fun _ => ok_noerr _
  case list =>
    exact bind_noerr (idx_noerr _ _) fun _ => bind_noerr (sfrom_noerr _ _) fun _ =>
      bind_noerr (u32of_noerr _) fun _ => ok_noerr _
  case set =>
    exact bind_noerr (idx_noerr _ _) fun _ => bind_noerr (sfrom_noerr _ _) fun _ =>
      bind_noerr (u32of_noerr _) fun _ => ok_noerr _
  all_goals intro e; simp

theorem rd16_be16' (n : Nat) (h : n < 65536) : rd16 (be16 n) = n := by
  have := rd16_be16 n h []; simpa using this

theorem brReadBinary_ok (C : Cursor rem live) (r : Rd) (s rest : Bytes) (hs : s.length < 2147483648)
    (hrem : rem r = be32 s.length ++ (s ++ rest)) (hl : live r (4 + s.length)) :
    ∃ r', brReadBinary r = .ok (s, r') ∧ rem r' = rest ∧ r'.readLen = r.readLen + (4 + s.length) ∧
          ∀ m, live r (4 + s.length + m) → live r' m := by
  obtain ⟨r1, h1, h2, h3, h4⟩ := brReadI32_ok C r s.length (by omega) (s ++ rest) hrem (C.mono r 4 _ hl)
  obtain ⟨r2, g1, g2, g3, g4⟩ := brReadFull_ok C r1 s rest h2 (by have := h4 s.length hl; simpa using this)
  have e : toI32 s.length = (s.length : Int) := by simp [toI32]; omega
  refine ⟨r2, ?_, g2, by omega, ?_⟩
  · simp [brReadBinary, h1, e, g1]
  · intro m hm
    apply g4
    apply h4
    rw [← Nat.add_assoc]; exact hm

/-- BufferReader.ReadMessageBegin on a state that can deliver the header (any int32 type) -/
theorem brReadMessageBegin_ok (C : Cursor rem live) (r : Rd) (name rest : Bytes) (typ seq : Int)
    (hn : name.length < 2147483648) (hs : inI32 seq)
    (hrem : rem r = be32 (msgHeader typ) ++ be32 name.length ++ name ++ be32 (ofInt 32 seq) ++ rest)
    (hl : live r (12 + name.length)) :
    ∃ r', brReadMessageBegin r = .ok ((name, (msgType16 typ : Int), seq), r') ∧ rem r' = rest ∧
          r'.readLen = r.readLen + (12 + name.length) := by
  have hh : msgHeader typ < 4294967296 := by rw [msgHeader_eq]; have := msgType16_lt typ; omega
  have hv : ¬ (msgHeader typ &&& Facts.msgVersionMask ≠ Facts.msgVersion1) := by
    rw [ver_test _ hh, msgHeader_eq]; have := msgType16_lt typ; omega
  have ht : msgHeader typ &&& Facts.msgTypeMask = msgType16 typ := by
    rw [and_typeMask, msgHeader_eq]; have := msgType16_lt typ; omega
  have hl' : live r (4 + (4 + name.length + 4)) := by
    have e : 4 + (4 + name.length + 4) = 12 + name.length := by omega
    rw [e]; exact hl
  obtain ⟨r1, h1, h2, h3, h4⟩ := brReadI32_ok C r (msgHeader typ) hh
    (be32 name.length ++ (name ++ (be32 (ofInt 32 seq) ++ rest))) (by simp [hrem]) (C.mono r 4 _ hl')
  have l1 := h4 _ hl'
  obtain ⟨r2, g1, g2, g3, g4⟩ := brReadBinary_ok C r1 name (be32 (ofInt 32 seq) ++ rest) hn h2 (C.mono r1 _ 4 l1)
  have l2 := g4 4 l1
  obtain ⟨r3, k1, k2, k3, _⟩ := brReadI32_ok C r2 (ofInt 32 seq) (ofInt32_lt seq) rest g2 l2
  refine ⟨r3, ?_, k2, by omega⟩
  simp only [brReadMessageBegin, h1, Out.bind_eq, Out.bind_ok, ofInt32_toI32 _ hh, if_neg hv, ht, g1, k1,
    toI32_ofInt seq hs.1 hs.2, Out.pure_eq]

/-- every stream reader, on a state that can still deliver the encoding, returns the value, leaves
    exactly the rest and advances ReadLen by the encoding's length -/
theorem brRead_encM (C : Cursor rem live) (v : Val) (hv : v.wf) (r : Rd) (rest : Bytes)
    (hrem : rem r = encM v ++ rest) (hl : live r (encM v).length) :
    ∃ r', brRead v.kind r = .ok (v, r') ∧ rem r' = rest ∧ r'.readLen = r.readLen + (encM v).length := by
  cases hw : v.kind.width with
  | some n =>
    -- `next` hands out the encoding; decoding it gives what the buffer reader finds there, which is `v`
    have hn := encM_length_width v n hw
    subst hn
    obtain ⟨r', h1, h2, h3, _⟩ := brNext_ok C r (encM v) rest hrem hl
    obtain ⟨v', ht, hb⟩ := brTail_ok v.kind _ hw (encM v) rfl
    have hvv := hb rest
    rw [binRead_encM v hv rest] at hvv
    simp only [Out.ok.injEq, Prod.mk.injEq, and_true] at hvv
    refine ⟨r', ?_, h2, h3⟩
    rw [brRead_fixed _ _ hw, h1, Out.bind_ok, ht, Out.bind_ok, hvv]
  | none =>
    cases v <;> simp only [Val.kind, Kind.width, reduceCtorEq] at hw
    case binary x =>
      simp only [Val.wf] at hv
      have hx : x.length < 2147483648 := by simpa using hv
      obtain ⟨r', h1, h2, h3, _⟩ := brReadBinary_ok C r x rest hx (by simpa [encM] using hrem)
        (by simpa [encM] using hl)
      refine ⟨r', ?_, h2, by simpa [encM] using h3⟩
      simp [Val.kind, brRead, mapRM, h1]
    case str x =>
      simp only [Val.wf] at hv
      have hx : x.length < 2147483648 := by simpa using hv
      obtain ⟨r', h1, h2, h3, _⟩ := brReadBinary_ok C r x rest hx (by simpa [encM] using hrem)
        (by simpa [encM] using hl)
      refine ⟨r', ?_, h2, by simpa [encM] using h3⟩
      simp [Val.kind, brRead, mapRM, h1]
    case fieldBegin t id =>
      simp only [Val.wf] at hv
      have ht : ¬ t = T_STOP := by rw [tstop]; exact hv.1
      simp only [encM, List.length_cons, be16_length] at hl
      obtain ⟨r1, h1, h2, h3, h4⟩ := brNext_ok C r [t] (be16 (ofInt 16 id) ++ rest) (by simpa [encM] using hrem)
        (C.mono r 1 2 (by simpa using hl))
      obtain ⟨r2, g1, g2, g3, _⟩ := brNext_ok C r1 (be16 (ofInt 16 id)) rest h2
        (by have := h4 2 (by simpa using hl); simpa using this)
      simp only [List.length_singleton, be16_length, Int.cast_ofNat_Int] at h1 g1 h3 g3
      refine ⟨r2, ?_, g2, by simp [encM]; omega⟩
      simp [Val.kind, brRead, mapRM, brReadFieldBegin, h1, g1, idx, ht, u16of, rd16_be16' _ (ofInt16_lt id),
        toI16_ofInt id hv.2, fieldVal]
    case fieldStop =>
      obtain ⟨r', h1, h2, h3, _⟩ := brNext_ok C r _ rest hrem hl
      refine ⟨r', ?_, h2, h3⟩
      simp only [encM, List.length_singleton, Int.cast_ofNat_Int] at h1
      simp [Val.kind, brRead, mapRM, brReadFieldBegin, h1, idx, tstop, fieldVal]
    case messageBegin name typ seq =>
      simp only [Val.wf] at hv
      have hx : name.length < 2147483648 := by simpa using hv.1
      obtain ⟨r', h1, h2, h3⟩ := brReadMessageBegin_ok C r name rest typ seq hx hv.2.2.2 (by simpa [encM] using hrem)
        (by have e : (encM (.messageBegin name typ seq)).length = 12 + name.length := by simp [encM]; omega
            rw [← e]; exact hl)
      refine ⟨r', ?_, h2, by simp [encM]; omega⟩
      simp [Val.kind, brRead, mapRM, h1, msgType16_id typ hv.2.1 hv.2.2.1]

/-- every error of `x` satisfies `P` -/
def ErrIn {α} (P : TErr → Prop) (x : TOut α) : Prop := ∀ e, x = .err e → P e

theorem ErrIn.bind {α β} {P : TErr → Prop} {x : TOut α} {f : α → TOut β}
    (hx : ErrIn P x) (hf : ∀ a, ErrIn P (f a)) : ErrIn P (x.bind f) := by
  intro e h
  cases x with
  | ok a => exact hf a e h
  | err e' => simp at h; exact hx e (by rw [h])
  | panic s => simp at h
  | oob => simp at h

theorem ErrIn.mono {α} {P Q : TErr → Prop} {x : TOut α} (h : ErrIn P x) (hpq : ∀ e, P e → Q e) : ErrIn Q x :=
  fun e he => hpq e (h e he)

theorem errIn_ok {α} (P : TErr → Prop) (a : α) : ErrIn P (.ok a : TOut α) := by intro e h; simp at h
theorem errIn_panic {α} (P : TErr → Prop) (s : String) : ErrIn P (.panic s : TOut α) := by intro e h; simp at h

theorem errIn_of_noerr {α} (P : TErr → Prop) {x : TOut α} (h : ∀ e, x ≠ .err e) : ErrIn P x :=
  fun e he => absurd he (h e)

def isWrap (e : TErr) : Prop := ∃ se, e = .wrap se

theorem errIn_brNext (n : Int) (r : Rd) : ErrIn isWrap (brNext n r) := by
  intro e h
  unfold brNext at h
  split at h <;> simp at h
  exact ⟨_, h.symm⟩

theorem errIn_brReadFull (k : Nat) (r : Rd) : ErrIn isWrap (brReadFull k r) := by
  intro e h
  unfold brReadFull at h
  split at h
  · simp at h
  · split at h <;> simp at h
    exact ⟨_, h.symm⟩

theorem errIn_fixed (k : Kind) (n : Nat) (hk : k.width = some n) (r : Rd) : ErrIn isWrap (brRead k r) := by
  rw [brRead_fixed k n hk]
  apply ErrIn.bind (errIn_brNext _ _); intro p
  apply ErrIn.bind (errIn_of_noerr isWrap (brTail_noerr k p.1)); intro v
  exact errIn_ok _ _

theorem errIn_brReadI32 (r : Rd) : ErrIn isWrap (brReadI32 r) := by
  unfold brReadI32
  apply ErrIn.bind (errIn_brNext _ _); intro p
  obtain ⟨b, r1⟩ := p
  dsimp only
  apply ErrIn.bind (errIn_of_noerr isWrap (u32of_noerr _)); intro v
  exact errIn_ok _ _

theorem errIn_brReadFieldBegin (r : Rd) : ErrIn isWrap (brReadFieldBegin r) := by
  unfold brReadFieldBegin
  apply ErrIn.bind (errIn_brNext _ _); intro p
  apply ErrIn.bind (errIn_of_noerr isWrap (idx_noerr _ _)); intro t
  split
  · exact errIn_ok _ _
  · apply ErrIn.bind (errIn_brNext _ _); intro q
    apply ErrIn.bind (errIn_of_noerr isWrap (u16of_noerr _)); intro x; exact errIn_ok _ _

def isWrapNeg (e : TErr) : Prop := isWrap e ∨ e = errNeg
def isWrapNegVer (e : TErr) : Prop := isWrap e ∨ e = errNeg ∨ e = errBadVersion

theorem errIn_brReadBinary (r : Rd) : ErrIn isWrapNeg (brReadBinary r) := by
  unfold brReadBinary
  apply ErrIn.bind ((errIn_brReadI32 r).mono (fun e h => Or.inl h)); intro p
  split
  · intro e h; simp at h; exact Or.inr h.symm
  · exact (errIn_brReadFull _ _).mono (fun e h => Or.inl h)

theorem errIn_brReadMessageBegin (r : Rd) : ErrIn isWrapNegVer (brReadMessageBegin r) := by
  unfold brReadMessageBegin
  apply ErrIn.bind ((errIn_brReadI32 r).mono (fun e h => Or.inl h)); intro h
  dsimp only
  split
  · intro e he; simp at he; exact Or.inr (Or.inr he.symm)
  · apply ErrIn.bind ((errIn_brReadBinary _).mono (fun e h => h.elim Or.inl (fun h => Or.inr (Or.inl h)))); intro nm
    apply ErrIn.bind ((errIn_brReadI32 _).mono (fun e h => Or.inl h)); intro sq
    exact errIn_ok _ _

theorem errIn_mapRM {α} (P : TErr → Prop) (f : α → Val) (x : TOut (α × Rd)) (h : ErrIn P x) :
    ErrIn P (mapRM f x) := by
  intro e he
  cases x <;> simp [mapRM] at he
  exact h e (by rw [he])

/-- the failures a stream read of kind `k` may report -/
def StreamErr (k : Kind) (e : TErr) : Prop :=
  isWrap e ∨ (e = errNeg ∧ (k = .binary ∨ k = .str ∨ k = .msg)) ∨ (e = errBadVersion ∧ k = .msg)

/-- failures of the stream readers: the wrapped reader error, or (strings, message name) a negative
    size, or (message) a bad version -/
theorem brRead_errIn (k : Kind) (r : Rd) : ErrIn (StreamErr k) (brRead k r) := by
  cases hw : k.width with
  | some n => exact (errIn_fixed k n hw r).mono fun e h => Or.inl h
  | none =>
    cases k <;> simp only [Kind.width, reduceCtorEq] at hw <;> simp only [brRead] <;> apply errIn_mapRM
    case binary =>
      exact (errIn_brReadBinary r).mono (fun e h => by
        rcases h with h | h
        · exact Or.inl h
        · exact Or.inr (Or.inl ⟨h, Or.inl rfl⟩))
    case str =>
      exact (errIn_brReadBinary r).mono (fun e h => by
        rcases h with h | h
        · exact Or.inl h
        · exact Or.inr (Or.inl ⟨h, Or.inr (Or.inl rfl)⟩))
    case field => exact (errIn_brReadFieldBegin r).mono (fun e h => Or.inl h)
    case msg =>
      exact (errIn_brReadMessageBegin r).mono (fun e h => by
        rcases h with h | h | h
        · exact Or.inl h
        · exact Or.inr (Or.inl ⟨h, Or.inr (Or.inr rfl)⟩)
        · exact Or.inr (Or.inr ⟨h, rfl⟩))

/-- after a good version word, ReadMessageBegin can only fail like ReadString / ReadI32 do -/
theorem errIn_brMsgTail (r1 : Rd) (typ : Int) :
    ErrIn isWrapNeg ((brReadBinary r1).bind fun nm => (brReadI32 nm.2).bind fun sq =>
      (pure ((nm.1, typ, sq.1), sq.2) : TOut ((Bytes × Int × Int) × Rd))) := by
  apply ErrIn.bind (errIn_brReadBinary r1); intro nm
  apply ErrIn.bind ((errIn_brReadI32 nm.2).mono (fun e h => Or.inl h)); intro sq
  exact errIn_ok _ _

end Verif.Wire
