/- Lemmas/WireRd: the reader model `Rd` (Model/Reader.lean) satisfies the cursor contract of
   Spec/WireCursor for every state and every source script, with operational liveness `Live`:
   Next/ReadBinary, whenever they succeed, hand out exactly the next bytes of the remaining stream. -/
import Verif.Lemmas.WireS
namespace Verif.Wire

/-- the representation invariant of the reader model that the content lemmas need -/
def RInv (r : Rd) : Prop := r.ri ≤ r.buf.length ∧ (r.cap = 0 → r.buf = [])

theorem src_read_spec (s : Src) (room : Nat) :
    (s.read room).1 ++ (s.read room).2.2.stream = s.stream ∧ (s.read room).1.length ≤ room := by
  unfold Src.read
  split
  · simp
  · rename_i r rest _
    simp only [List.take_append_drop, List.length_take, true_and]
    omega

/-- the read loop keeps the remaining stream, the cursor and the invariant; what it reports is
    buffered; it reports less than asked only with an error recorded -/
theorem readLoop_spec (fuel i : Nat) (r : Rd) (n m : Nat) (r1 : Rd) (hI : RInv r)
    (h : Rd.readLoop fuel i r n = some (m, r1)) :
    RInv r1 ∧ remaining r1 = remaining r ∧ r1.ri = r.ri ∧ m ≤ r1.buf.length - r1.ri ∧ (m < n → r1.err.isSome) := by
  induction fuel generalizing i r with
  | zero => simp [Rd.readLoop] at h
  | succ f ih =>
    rw [Rd.readLoop] at h
    split at h
    · simp at h
      obtain ⟨h1, h2⟩ := h
      subst h2
      exact ⟨hI, rfl, rfl, by simp [← h1], by intro; rfl⟩
    · have hs := src_read_spec r.src (r.cap - r.buf.length)
      generalize hres : r.src.read (r.cap - r.buf.length) = res at h hs
      obtain ⟨d, e, s'⟩ := res
      simp only at h hs
      have hI' : RInv { r with buf := r.buf ++ d, src := s' } := by
        refine ⟨by simp; have := hI.1; omega, ?_⟩
        intro hc
        simp only at hc
        have hb := hI.2 hc
        have : d.length ≤ 0 := by have := hs.2; rw [hc] at this; simpa using this
        have hd : d = [] := List.eq_nil_of_length_eq_zero (by omega)
        simp [hb, hd]
      have hrem : remaining { r with buf := r.buf ++ d, src := s' } = remaining r := by
        simp only [remaining]
        rw [List.drop_append_of_le_length hI.1, List.append_assoc, hs.1]
      cases e with
      | some err =>
        simp at h
        obtain ⟨h1, h2⟩ := h
        subst h2
        exact ⟨hI', hrem, rfl, by simp [← h1], by intro; rfl⟩
      | none =>
        simp only at h
        split at h
        · simp at h
          obtain ⟨h1, h2⟩ := h
          subst h2
          rename_i hle
          refine ⟨hI', hrem, rfl, ?_, ?_⟩
          · rw [← h1]; exact hle
          · intro hlt; omega
        · split at h
          · obtain ⟨a, b, c, d', e'⟩ := ih 0 _ hI' h
            exact ⟨a, by rw [b, hrem], by rw [c], d', e'⟩
          · obtain ⟨a, b, c, d', e'⟩ := ih (i + 1) _ hI' h
            exact ⟨a, by rw [b, hrem], by rw [c], d', e'⟩

theorem setCap_spec (r : Rd) (c : Nat) (hc : 0 < c) (hI : RInv r) :
    RInv { r with cap := c, readOnly := false } ∧
    remaining { r with cap := c, readOnly := false } = remaining r := by
  refine ⟨⟨hI.1, ?_⟩, rfl⟩
  intro h; simp at h; omega

theorem fresh_spec (r : Rd) (c : Nat) (hc : 0 < c) (h0 : r.cap = 0) (hI : RInv r) :
    RInv { r with buf := [], cap := c, readOnly := false } ∧
    remaining { r with buf := [], cap := c, readOnly := false } = remaining r := by
  have hb := hI.2 h0
  have hri : r.ri = 0 := by have := hI.1; rw [hb] at this; simpa using this
  refine ⟨⟨by simp [hri], by intro h; simp at h; omega⟩, by simp [remaining, hb]⟩

/-- phases 2 and 3 of acquireSlow, named -/
def phase2 (r : Rd) (n : Nat) : Rd :=
  if r.cap = 0 then
    let m0 := statsMax r.stats
    let m1 := if m0 < Facts.defaultBufSize then Facts.defaultBufSize else m0
    let m2 := doubleUntil 64 m1 n
    { r with buf := [], cap := pow2ceil m2, readOnly := false }
  else r
def phase3 (r1 : Rd) (n : Nat) : Rd :=
  if n > r1.cap - r1.ri then
    { r1 with cap := pow2ceil (growCap 64 (r1.cap * 2) r1.ri n), readOnly := false }
  else r1

theorem prepare_eq (r : Rd) (n : Nat) : r.prepare n = phase3 (phase2 r n) n := rfl

theorem phase2_spec (r : Rd) (n : Nat) (hI : RInv r) :
    RInv (phase2 r n) ∧ remaining (phase2 r n) = remaining r ∧ (phase2 r n).ri = r.ri := by
  unfold phase2
  by_cases hc : r.cap = 0
  · rw [if_pos hc]
    obtain ⟨a, b⟩ := fresh_spec r _ (pow2ceil_pos _) hc hI
    exact ⟨a, b, rfl⟩
  · rw [if_neg hc]; exact ⟨hI, rfl, rfl⟩

theorem phase3_spec (r1 : Rd) (n : Nat) (hI : RInv r1) :
    RInv (phase3 r1 n) ∧ remaining (phase3 r1 n) = remaining r1 ∧ (phase3 r1 n).ri = r1.ri := by
  unfold phase3
  by_cases h : n > r1.cap - r1.ri
  · rw [if_pos h]
    obtain ⟨a, b⟩ := setCap_spec r1 _ (pow2ceil_pos (growCap 64 (r1.cap * 2) r1.ri n)) hI
    exact ⟨a, b, rfl⟩
  · rw [if_neg h]; exact ⟨hI, rfl, rfl⟩

theorem prepare_spec (r : Rd) (n : Nat) (hI : RInv r) :
    RInv (r.prepare n) ∧ remaining (r.prepare n) = remaining r ∧ (r.prepare n).ri = r.ri := by
  rw [prepare_eq]
  obtain ⟨a, b, c⟩ := phase2_spec r n hI
  obtain ⟨a', b', c'⟩ := phase3_spec _ n a
  exact ⟨a', by rw [b', b], by rw [c', c]⟩

theorem acquire_spec (r : Rd) (n m : Nat) (r1 : Rd) (hI : RInv r) (h : r.acquire n = some (m, r1)) :
    RInv r1 ∧ remaining r1 = remaining r ∧ r1.ri = r.ri ∧ m ≤ r1.buf.length - r1.ri ∧ (m < n → r1.err.isSome) := by
  unfold Rd.acquire at h
  split at h
  · simp at h; obtain ⟨h1, h2⟩ := h; subst h2
    rename_i hle
    exact ⟨hI, rfl, rfl, by omega, by intro; omega⟩
  · unfold Rd.acquireSlow at h
    split at h
    · simp at h; obtain ⟨h1, h2⟩ := h; subst h2
      rename_i he
      exact ⟨hI, rfl, rfl, by omega, by intro; exact he⟩
    · obtain ⟨p1, p2, p3⟩ := prepare_spec r n hI
      obtain ⟨a, b, c, d, e⟩ := readLoop_spec _ 0 _ n m r1 p1 h
      exact ⟨a, by rw [b, p2], by rw [c, p3], d, e⟩

/-- Next, when it succeeds, hands out exactly the next n bytes of the remaining stream -/
theorem next_sound (r : Rd) (n : Nat) (bs : Bytes) (r' : Rd) (hI : RInv r) (h : r.next (n : Int) = (.ok bs, r')) :
    bs = (remaining r).take n ∧ bs.length = n ∧ remaining r' = (remaining r).drop n ∧
    r'.readLen = r.readLen + n ∧ RInv r' := by
  unfold Rd.next at h
  rw [if_neg (by omega)] at h
  simp only [Int.toNat_natCast] at h
  generalize ha : r.acquire n = a at h
  cases a with
  | none => simp at h
  | some p =>
    obtain ⟨m, r1⟩ := p
    obtain ⟨i1, i2, i3, i4, _⟩ := acquire_spec r n m r1 hI ha
    simp only at h
    split at h
    · simp at h
    · rename_i hle
      simp at h
      obtain ⟨h1, h2⟩ := h
      subst h2
      have hn : n ≤ r1.buf.length - r1.ri := by omega
      obtain ⟨t1, t2⟩ := advance_spec r1 n hn
      refine ⟨by rw [← h1, t1, i2], by rw [← h1]; simp; omega, by rw [t2, i2], ?_, ?_⟩
      · simp [Rd.readLen, i3]
      · exact ⟨by simp; have := i1.1; omega, i1.2⟩

/-- ReadBinary(bs) with len(bs) = n, when it reports n bytes without error, copied exactly the next
    n bytes of the remaining stream -/
theorem readBinary_sound (r : Rd) (n : Nat) (out : Bytes) (r' : Rd) (hI : RInv r)
    (h : r.readBinary n = (some (out, n, none), r')) :
    out = (remaining r).take n ∧ remaining r' = (remaining r).drop n ∧
    r'.readLen = r.readLen + n ∧ RInv r' := by
  unfold Rd.readBinary at h
  generalize ha : r.acquire n = a at h
  cases a with
  | none => simp at h
  | some p =>
    obtain ⟨m, r1⟩ := p
    obtain ⟨i1, i2, i3, i4, _⟩ := acquire_spec r n m r1 hI ha
    simp only at h
    simp at h
    obtain ⟨⟨h1, h2, h3⟩, h4⟩ := h
    subst h4
    have hm : (if m > n then n else m) = n := by split <;> omega
    have hn : n ≤ r1.buf.length - r1.ri := by split at hm <;> omega
    obtain ⟨t1, t2⟩ := advance_spec r1 n hn
    refine ⟨by rw [← h1, hm, t1, i2], by rw [hm, t2, i2], ?_, ?_⟩
    · simp [Rd.readLen, i3, hm]
    · exact ⟨by simp [hm]; have := i1.1; omega, i1.2⟩

/-- `Live r n`: however the next n bytes are asked for — in any pieces, by Next or by ReadBinary —
    every request is served (the reader state, under its source script, can still deliver n bytes) -/
inductive Live : Rd → Nat → Prop
  | mk (r : Rd) (n : Nat)
      (nextOk : ∀ k, k ≤ n → ∃ bs r1, r.next (k : Int) = (.ok bs, r1))
      (rbOk : ∀ k, k ≤ n → ∃ out r1, r.readBinary k = (some (out, k, none), r1))
      (nextLive : ∀ k bs r1, 0 < k → k ≤ n → r.next (k : Int) = (.ok bs, r1) → Live r1 (n - k))
      (rbLive : ∀ k out r1, 0 < k → k ≤ n → r.readBinary k = (some (out, k, none), r1) → Live r1 (n - k)) :
      Live r n

theorem Live.mono' {r : Rd} {N : Nat} (h : Live r N) : ∀ n, n ≤ N → Live r n := by
  induction h with
  | mk r N a b c d ihc ihd =>
    intro n hn
    refine .mk r n (fun k hk => a k (by omega)) (fun k hk => b k (by omega)) ?_ ?_
    · intro k bs r1 hk0 hk h
      exact ihc k bs r1 hk0 (by omega) h (n - k) (by omega)
    · intro k out r1 hk0 hk h
      exact ihd k out r1 hk0 (by omega) h (n - k) (by omega)

theorem next_zero (r : Rd) (bs : Bytes) (r' : Rd) (h : r.next ((0 : Nat) : Int) = (.ok bs, r')) : r' = r := by
  simp [Rd.next, Rd.acquire] at h
  rw [← h.2]

theorem readBinary_zero (r : Rd) (out : Bytes) (r' : Rd) (h : r.readBinary 0 = (some (out, 0, none), r')) :
    r' = r := by
  simp [Rd.readBinary, Rd.acquire] at h
  rw [← h.2]

/-- the reader model satisfies the cursor contract with `Live` as liveness — for every state and
    every source script -/
theorem liveCursor : Cursor remaining (fun r n => RInv r ∧ Live r n) where
  le r n h := by
    obtain ⟨hI, hl⟩ := h
    cases hl with
    | mk _ _ a b c d =>
      obtain ⟨bs, r1, h1⟩ := a n (Nat.le_refl n)
      obtain ⟨e1, e2, _⟩ := next_sound r n bs r1 hI h1
      rw [e1] at e2; simp at e2; omega
  mono r n m h := ⟨h.1, h.2.mono' n (by omega)⟩
  next r n h := by
    obtain ⟨hI, hl⟩ := h
    cases hl with
    | mk _ _ a b c d =>
      obtain ⟨bs, r1, h1⟩ := a n (Nat.le_refl n)
      obtain ⟨e1, e2, e3, e4, e5⟩ := next_sound r n bs r1 hI h1
      refine ⟨r1, by rw [h1, e1], e3, e4, ?_⟩
      intro m hm
      refine ⟨e5, ?_⟩
      by_cases hn : n = 0
      · subst hn
        have := next_zero r bs r1 h1
        subst this
        simpa using hm.2
      · cases hm.2 with
        | mk _ _ a' b' c' d' =>
          have := c' n bs r1 (by omega) (by omega) h1
          simpa using this
  readBinary r n h := by
    obtain ⟨hI, hl⟩ := h
    cases hl with
    | mk _ _ a b c d =>
      obtain ⟨out, r1, h1⟩ := b n (Nat.le_refl n)
      obtain ⟨e1, e3, e4, e5⟩ := readBinary_sound r n out r1 hI h1
      refine ⟨r1, by rw [h1, e1], e3, e4, ?_⟩
      intro m hm
      refine ⟨e5, ?_⟩
      by_cases hn : n = 0
      · subst hn
        have := readBinary_zero r out r1 h1
        subst this
        simpa using hm.2
      · cases hm.2 with
        | mk _ _ a' b' c' d' =>
          have := d' n out r1 (by omega) (by omega) h1
          simpa using this

theorem rinv_newDefault (src : Src) : RInv (Rd.newDefault src) := by
  simp [RInv, Rd.newDefault]

theorem rinv_newBytes (data : Bytes) (cap : Nat) : RInv (Rd.newBytes data cap) := by
  unfold Rd.newBytes
  split
  · refine ⟨by simp, ?_⟩
    intro h0; simp at h0; omega
  · exact rinv_newDefault _

theorem next_zero_ok (r : Rd) : r.next ((0 : Nat) : Int) = (.ok [], r) := by
  simp [Rd.next, Rd.acquire]

theorem readBinary_zero_ok (r : Rd) : r.readBinary 0 = (some ([], 0, none), r) := by
  simp [Rd.readBinary, Rd.acquire]

/-- an executable check of `Live` (exponential; for examples) -/
def liveB : Nat → Nat → Rd → Bool
  | 0, n, _ => n == 0
  | f+1, n, r =>
    (List.range (n + 1)).all (fun k =>
      (match r.next (k : Int) with
       | (.ok _, r1) => k == 0 || liveB f (n - k) r1
       | _ => false) &&
      (match r.readBinary k with
       | (some (_, m, none), r1) => m == k && (k == 0 || liveB f (n - k) r1)
       | _ => false))

theorem live_zero (r : Rd) : Live r 0 := by
  refine .mk r 0 ?_ ?_ ?_ ?_
  · intro k hk; have : k = 0 := by omega
    subst this; exact ⟨_, _, next_zero_ok r⟩
  · intro k hk; have : k = 0 := by omega
    subst this; exact ⟨_, _, readBinary_zero_ok r⟩
  · intro k _ _ h0 hk; omega
  · intro k _ _ h0 hk; omega

theorem liveB_sound (f n : Nat) (r : Rd) (h : liveB f n r = true) : Live r n := by
  induction f generalizing n r with
  | zero =>
    simp [liveB] at h; subst h; exact live_zero r
  | succ f ih =>
    simp only [liveB, List.all_eq_true, List.mem_range, Bool.and_eq_true] at h
    refine .mk r n ?_ ?_ ?_ ?_
    · intro k hk
      have := (h k (by omega)).1
      split at this
      · rename_i bs r1 he; exact ⟨bs, r1, he⟩
      · simp at this
    · intro k hk
      have := (h k (by omega)).2
      split at this
      · rename_i out m r1 he
        simp at this
        rw [this.1] at he
        exact ⟨out, r1, he⟩
      · simp at this
    · intro k bs r1 hk0 hk he
      have := (h k (by omega)).1
      rw [he] at this
      simp at this
      rcases this with h0 | hl
      · omega
      · exact ih _ _ hl
    · intro k out r1 hk0 hk he
      have := (h k (by omega)).2
      rw [he] at this
      simp at this
      rcases this with h0 | hl
      · omega
      · exact ih _ _ hl

/-- a source that delivers the bytes one at a time with an empty read in between: live for all 3 bytes -/
example : Live (Rd.newDefault ⟨[1, 2, 3, 4], [⟨1, none⟩, ⟨0, none⟩, ⟨1, none⟩, ⟨7, some .eof⟩]⟩) 3 :=
  liveB_sound 3 3 _ (by decide)

end Verif.Wire
