/- Lemmas/WireSrc: provenance of stream-read failures: over C04's buffered reader on a source with
   script s0 (invariant `SrcInv` of Lemmas/SkipBRSource = C04's `Inv` with sizes in range + C04's `Prov`),
   every `.wrap se` returned by a BufferReader.Read* carries the SOURCE's own error (C04 `step_prov`). -/
import Verif.Lemmas.WireS
import Verif.Lemmas.SkipBRSource
namespace Verif.Wire

/-- outcome of a stream-reader step over a source with script `s0`: a success leaves a state with the
    invariant; an error is the source's own error wrapped, or one of the allowed grammar errors `G` -/
def SrcOK {α} (s0 : List Resp) (G : TErr → Prop) (x : TOut (α × Rd)) : Prop :=
  match x with
  | .ok p => SrcInv s0 p.2
  | .err e => (∃ se, e = .wrap se ∧ SrcErrOf s0 se) ∨ G e
  | _ => True

theorem SrcOK.bind {α β} {s0 : List Resp} {G : TErr → Prop} {x : TOut (α × Rd)} {f : α × Rd → TOut (β × Rd)}
    (hx : SrcOK s0 G x) (hf : ∀ p, SrcInv s0 p.2 → SrcOK s0 G (f p)) : SrcOK s0 G (x.bind f) := by
  cases x with
  | ok p => exact hf p hx
  | err e => exact hx
  | panic s => trivial
  | oob => trivial

theorem SrcOK.mono {α} {s0 : List Resp} {G H : TErr → Prop} {x : TOut (α × Rd)} (hx : SrcOK s0 G x)
    (h : ∀ e, G e → H e) : SrcOK s0 H x := by
  cases x with
  | ok p => exact hx
  | err e => exact hx.elim Or.inl (fun g => Or.inr (h e g))
  | panic s => trivial
  | oob => trivial

theorem srcOK_pure {α} (s0 : List Resp) (G : TErr → Prop) (a : α) (r : Rd) (h : SrcInv s0 r) :
    SrcOK s0 G (.ok (a, r) : TOut (α × Rd)) := h

theorem srcOK_brNext (s0 : List Resp) (G : TErr → Prop) (r : Rd) (n : Int) (h : SrcInv s0 r)
    (h0 : 0 ≤ n) (hb : n.toNat ≤ brReq) : SrcOK s0 G (brNext n r) := by
  unfold brNext
  generalize hn : r.next n = res
  obtain ⟨x, r1⟩ := res
  cases x with
  | ok b => exact rdStep_keeps h (.next ⟨h0, hb⟩ hn)
  | fail e =>
    cases e with
    | some e => exact Or.inl ⟨e, rfl, rdFails_source h ⟨n, r1, ⟨h0, hb⟩, Or.inl hn⟩⟩
    | none => exact rdStep_keeps h (.nextNil ⟨h0, hb⟩ hn)
  | nofuel => trivial

theorem srcOK_brReadFull (s0 : List Resp) (G : TErr → Prop) (r : Rd) (k : Nat) (h : SrcInv s0 r)
    (hk : k ≤ bigReq) : SrcOK s0 G (brReadFull k r) := by
  have hinv := h.1.1
  have hs := h.1.small k hk
  obtain ⟨m, r1, hacq, ha, he⟩ := readBinary_cases r k hinv hs
  have hp := step_prov s0 r (.readBinary k) hinv hs h.2
  simp only [Rd.step, he] at hp
  unfold brReadFull
  rw [he]
  simp only []
  cases hc : (if k > min m k then r1.err else none) with
  | some e =>
    simp only []
    have := hp.2 e (by simp [RRes.err, hc])
    left
    refine ⟨e, rfl, ?_⟩
    simpa [errAllowed, SrcErrOf, Bool.or_eq_true, Bool.and_eq_true, beq_iff_eq] using this
  | none =>
    simp only []
    refine ⟨⟨?_, ?_⟩, hp.1⟩
    · have hi := ha.inv
      have hmk : min m k ≤ r1.buf.length - r1.ri := by
        rcases ha.outcome with ⟨h1, h2, _⟩ | ⟨h1, _⟩ <;> omega
      exact ⟨by simp; have := hi.ri_le; omega, hi.len_le, hi.cap_le, hi.stats_le⟩
    · have hmk : min m k ≤ r1.buf.length - r1.ri := by
        rcases ha.outcome with ⟨h1, h2, _⟩ | ⟨h1, _⟩ <;> omega
      rw [advance_remaining r1 _ hmk, ha.remaining hinv.ri_le]
      have := h.1.2
      simp only [List.length_drop, ha.ri]
      have hle : min m k ≤ r.remaining.length := by
        rw [← ha.remaining hinv.ri_le]; unfold Rd.remaining; simp; omega
      omega

theorem SrcOK.bindPure {α β} {s0 : List Resp} {G : TErr → Prop} {y : TOut β} {g : β → TOut (α × Rd)}
    (hy : ∀ e, y ≠ .err e) (hg : ∀ b, SrcOK s0 G (g b)) : SrcOK s0 G (y.bind g) := by
  cases y with
  | ok b => exact hg b
  | err e => exact absurd rfl (hy e)
  | panic s => trivial
  | oob => trivial

theorem brq (n : Nat) (h : n ≤ 8) : ((n : Nat) : Int).toNat ≤ brReq := by simp [brReq]; omega

variable (s0 : List Resp) (G : TErr → Prop)

theorem srcOK_brReadI32 (r : Rd) (h : SrcInv s0 r) : SrcOK s0 G (brReadI32 r) := by
  unfold brReadI32
  apply SrcOK.bind (srcOK_brNext s0 G r 4 h (by omega) (by decide)); intro p hp
  obtain ⟨b, r1⟩ := p
  apply SrcOK.bindPure (u32of_noerr b); intro v
  exact hp

theorem srcOK_fixed (k : Kind) (n : Nat) (hk : k.width = some n) (r : Rd) (h : SrcInv s0 r) :
    SrcOK s0 G (brRead k r) := by
  rw [brRead_fixed k n hk]
  apply SrcOK.bind (srcOK_brNext s0 G r n h (by omega) (brq n (width_le k n hk))); intro p hp
  apply SrcOK.bindPure (brTail_noerr k p.1); intro v
  exact hp

theorem srcOK_brReadFieldBegin (r : Rd) (h : SrcInv s0 r) : SrcOK s0 G (brReadFieldBegin r) := by
  unfold brReadFieldBegin
  apply SrcOK.bind (srcOK_brNext s0 G r 1 h (by omega) (by decide)); intro p hp
  apply SrcOK.bindPure (idx_noerr _ _); intro t
  split
  · exact hp
  · apply SrcOK.bind (srcOK_brNext s0 G p.2 2 hp (by omega) (by decide)); intro q hq
    apply SrcOK.bindPure (u16of_noerr _); intro v; exact hq

theorem toNat_le_bigReq (v : Int) (h : ¬ v < 0) (hv : v < 2147483648) : v.toNat ≤ bigReq := by
  unfold bigReq; omega

theorem brReadI32_range (r : Rd) (v : Int) (r' : Rd) (h : brReadI32 r = .ok (v, r')) : v < 2147483648 := by
  unfold brReadI32 at h
  cases hb : brNext 4 r with
  | ok p =>
    obtain ⟨b, r1⟩ := p
    rw [hb] at h
    simp only [Out.bind_eq, Out.bind_ok] at h
    cases hu : u32of b with
    | ok w =>
      rw [hu] at h; simp at h
      have hw : w < 4294967296 := by
        unfold u32of at hu; split at hu <;> simp at hu
        rw [← hu]; exact rd32_lt b
      rw [← h.1]; unfold toI32; split <;> omega
    | err e => rw [hu] at h; simp at h
    | panic s => rw [hu] at h; simp at h
    | oob => rw [hu] at h; simp at h
  | err e => rw [hb] at h; simp at h
  | panic s => rw [hb] at h; simp at h
  | oob => rw [hb] at h; simp at h

theorem srcOK_brReadBinary (r : Rd) (h : SrcInv s0 r) (hG : G errNeg) : SrcOK s0 G (brReadBinary r) := by
  unfold brReadBinary
  cases hb : brReadI32 r with
  | ok p =>
    have h1 := srcOK_brReadI32 s0 G r h
    rw [hb] at h1
    have hr := brReadI32_range r p.1 p.2 hb
    simp only [Out.bind_eq, Out.bind_ok]
    split
    · exact Or.inr hG
    · rename_i hneg
      exact srcOK_brReadFull s0 G p.2 _ h1 (toNat_le_bigReq _ hneg hr)
  | err e => have h1 := srcOK_brReadI32 s0 G r h; rw [hb] at h1; exact h1
  | panic s => trivial
  | oob => trivial

theorem srcOK_brReadMessageBegin (r : Rd) (h : SrcInv s0 r) (hG : G errNeg) (hV : G errBadVersion) :
    SrcOK s0 G (brReadMessageBegin r) := by
  unfold brReadMessageBegin
  apply SrcOK.bind (srcOK_brReadI32 s0 G r h); intro p hp
  dsimp only
  split
  · exact Or.inr hV
  · apply SrcOK.bind (srcOK_brReadBinary s0 G p.2 hp hG); intro q hq
    apply SrcOK.bind (srcOK_brReadI32 s0 G q.2 hq); intro w hw
    exact hw

theorem srcOK_mapRM {α} (f : α → Val) (x : TOut (α × Rd)) (h : SrcOK s0 G x) : SrcOK s0 G (mapRM f x) := by
  cases x <;> first | exact h | trivial

/-- every failure of a stream read over a reader on a source with script `s0`: the SOURCE's own error
    (its first scripted error, io.EOF once the script is exhausted, or io.ErrNoProgress after
    `maxConsecutiveEmptyReads` quiet reads) wrapped, or a negative size / bad version -/
theorem brRead_err_source (k : Kind) (r : Rd) (h : SrcInv s0 r) (e : TErr) (hx : brRead k r = .err e) :
    (∃ se, e = .wrap se ∧ SrcErrOf s0 se) ∨ e = errNeg ∨ e = errBadVersion := by
  have key : SrcOK s0 (fun e => e = errNeg ∨ e = errBadVersion) (brRead k r) := by
    cases hw : k.width with
    | some n => exact srcOK_fixed _ _ k n hw r h
    | none =>
      cases k <;> simp only [Kind.width, reduceCtorEq] at hw <;> simp only [brRead] <;> apply srcOK_mapRM
      · exact srcOK_brReadBinary _ _ r h (Or.inl rfl)
      · exact srcOK_brReadBinary _ _ r h (Or.inl rfl)
      · exact srcOK_brReadFieldBegin _ _ r h
      · exact srcOK_brReadMessageBegin _ _ r h (Or.inl rfl) (Or.inr rfl)
  rw [hx] at key
  exact key

end Verif.Wire
