/-
  Lemmas/PoolsRsd: ReaderSkipDecoder with its retained buffer and the pool's dirty memory
  (Model/Pools `rsdBackend`, `rsdNext`) refines the content-level decoder that has no buffer at all
  (Model/SkipStream `readerBackend`, `readerDecNext`): neither the old content of the buffer nor the
  content of the memory the pool hands out is ever part of a result.
-/
import Verif.Lemmas.PoolsSkip
import Verif.Lemmas.Reader
namespace Verif.Pools
open Verif

theorem readFullLoop_len : ∀ (fuel : Nat) (s : Src) (k : Nat) (acc : Bytes), acc.length ≤ k →
    (readFullLoop fuel s k acc).1.length ≤ k ∧
      ((readFullLoop fuel s k acc).2.1 = none → k ≤ (readFullLoop fuel s k acc).1.length) := by
  intro fuel
  induction fuel with
  | zero => intro s k acc h; exact ⟨h, nofun⟩
  | succ f ih =>
    intro s k acc h
    simp only [readFullLoop]
    split
    · exact ⟨h, fun _ => ‹_›⟩
    · have hl := Src.read_len s (k - acc.length)
      split
      · exact ⟨by simp only [List.length_append]; omega, nofun⟩
      · exact ih _ _ _ (by simp only [List.length_append]; omega)

/-- the decoder with its buffer (`s`) against the decoder without (`u`): same source, and the first
    `n` bytes of the buffer are exactly the bytes read in this call; what lies behind them — the
    previous tenant's bytes, or dirty pool memory — is unconstrained -/
def RsdRel (s : RsdSt) (u : ReaderDec) : Prop :=
  s.src = u.src ∧ s.n = u.got.length ∧ s.b.take s.n = u.got ∧ s.n ≤ s.b.length

theorem rsdGrow_ok (d : Dirty) (s : RsdSt) (k : Nat) (hn : s.n ≤ s.b.length) :
    ∃ s1, rsdGrow d s k = .ok s1 ∧ s1.src = s.src ∧ s1.n = s.n ∧ s1.b.take s.n = s.b.take s.n ∧
      s.n + k ≤ s1.b.length := by
  unfold rsdGrow
  by_cases h : s.n ≤ s.b.length ∧ s.b.length - s.n ≥ k
  · rw [if_pos h]; exact ⟨s, rfl, rfl, rfl, rfl, by omega⟩
  · rw [if_neg h, if_neg (by omega)]
    refine ⟨_, rfl, rfl, rfl, ?_, ?_⟩
    · simp only []
      rw [List.take_append_of_le_length (by simp only [List.length_take]; omega), List.take_take]
      simp
    · simp only [List.length_append, List.length_take, List.length_map, List.length_range]; omega

theorem take_splice (b : Bytes) (n : Nat) (r : Bytes) (hn : n ≤ b.length) :
    (b.take n ++ r ++ b.drop (n + r.length)).take (n + r.length) = b.take n ++ r := by
  have h1 : (b.take n ++ r).length = n + r.length := by
    simp only [List.length_append, List.length_take]; omega
  rw [List.take_append_of_le_length (by omega), List.take_of_length_le (by omega)]

theorem rsd_skipN_rel (d : Dirty) (s : RsdSt) (u : ReaderDec) (k : Nat) (h : RsdRel s u) :
    OutRel (fun x y => x.1 = y.1 ∧ RsdRel x.2 y.2) ((rsdBackend d).skipN s k) (readerBackend.skipN u k) := by
  obtain ⟨hsrc, hn, hb, hle⟩ := h
  obtain ⟨s1, hg, h1src, h1n, h1b, h1len⟩ := rsdGrow_ok d s k hle
  simp only [rsdBackend, readerBackend, hg]
  rw [if_neg (by omega), h1src, hsrc]
  generalize hres : readFullLoop (u.src.script.length + 2) u.src k [] = res
  obtain ⟨hlen, hnone⟩ : res.1.length ≤ k ∧ (res.2.1 = none → k ≤ res.1.length) :=
    hres ▸ readFullLoop_len _ _ k [] (Nat.zero_le k)
  by_cases hk : res.1.length ≥ k
  · have hk' : res.1.length = k := by omega
    simp only [hk, if_true, OutRel]
    refine ⟨trivial, rfl, ?_, ?_, ?_⟩
    · simp only [List.length_append]; omega
    · simp only []
      rw [h1n, ← hk', take_splice _ _ _ (by omega), h1b, hb]
    · simp only [List.length_append, List.length_take, List.length_drop]; omega
  · simp only [hk, if_false]
    cases hr : res.2.1 with
    | none => exact absurd (hnone hr) (by omega)
    | some e => simp [OutRel]

theorem rsd_avail_eq (s : RsdSt) (u : ReaderDec) (h : RsdRel s u) :
    (rsdBackend d).avail s = readerBackend.avail u := by
  simp only [rsdBackend, readerBackend, h.1]

/-- `ReaderSkipDecoder.Next` on ANY pooled object that `Reset(r)` was called on — any old buffer
    content and length, any stale `n` — and with ANY content of the memory the pool hands out when the
    buffer grows: the outcome is that of the content-level decoder on the same source (same bytes,
    same error), and the object holds the source where that decoder left it. -/
theorem rsdNext_spec (d : Dirty) (p : ReaderSkipDecoderObj) (src : Src) (t : UInt8) (hp : p.r = some src) :
    OutRel (fun x y => x.1 = (y.1, y.2.stream.length) ∧ x.2.1.r = some y.2)
      (rsdNext d p t) (readerDecNext src t) := by
  have h0 : RsdRel ⟨src, 0, p.b, 0, []⟩ ⟨src, []⟩ := ⟨rfl, rfl, by simp, by simp⟩
  have hs := skipTplAt_sim (rsdBackend d) readerBackend RsdRel (rsd_skipN_rel d) (fun s u h => rsd_avail_eq s u h)
    Facts.defaultRecursionDepth t _ _ h0
  unfold rsdNext readerDecNext
  rw [hp]
  simp only [Out.bind_eq]
  generalize skipTplAt (rsdBackend d) Facts.defaultRecursionDepth t ⟨src, 0, p.b, 0, []⟩ = x at hs
  generalize skipTplAt readerBackend Facts.defaultRecursionDepth t ⟨src, []⟩ = y at hs
  refine hs.cases (fun s1 u1 h => ?_) (fun _ => rfl) (fun _ => rfl) trivial
  obtain ⟨h1, h2, h3, h4⟩ := h
  simp only [Out.bind, Out.pure_eq]
  rw [if_neg (by omega)]
  exact ⟨by rw [h3, h1], by rw [h1]⟩

end Verif.Pools
