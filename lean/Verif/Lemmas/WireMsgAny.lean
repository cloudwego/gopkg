/- Lemmas/WireMsgAny: UnmarshalFastMsg on EVERY input: the EXCEPTION path; names too long for int32. -/
import Verif.Lemmas.WireMsgSafe
namespace Verif.Wire

theorem msgbegin_ok_le (b : Bytes) (r : Bytes × Int × Int × Nat) (h : binReadMessageBegin b = .ok r) :
    r.2.2.2 ≤ b.length := by
  have hs := outcome_msg b
  rw [h] at hs
  exact hs

/-- UnmarshalFastMsg after a header of type EXCEPTION, on EVERY input -/
theorem unmarshal_exception_any {α} (C : Codec α) (b : Bytes) (s : α) (method : Bytes) (typ seq : Int) (i : Nat)
    (h : binReadMessageBegin b = .ok (method, typ, seq, i)) (ht : typ = ((Facts.mEXCEPTION : Nat) : Int)) :
    ∃ e, unmarshalFastMsg C b s = .ok ⟨method, seq, some e, s⟩ ∧
      ((∃ ex n, appExRead ⟨Facts.aeUNKNOWN, []⟩ (b.drop i) = (ex, .ok n) ∧ e = .appEx ex.t ex.m) ∨
       (∃ ex er, appExRead ⟨Facts.aeUNKNOWN, []⟩ (b.drop i) = (ex, .err er) ∧ e = .t er)) := by
  have hi := msgbegin_ok_le b _ h
  unfold unmarshalFastMsg
  simp only [h, if_neg (show ¬ i > b.length by simpa using hi), if_pos ht]
  generalize hr : appExRead ⟨Facts.aeUNKNOWN, []⟩ (b.drop i) = res
  obtain ⟨ex, x⟩ := res
  have hsafe := appExRead_safe ⟨Facts.aeUNKNOWN, []⟩ (b.drop i)
  rw [hr] at hsafe
  rcases hsafe with ⟨n, hn, _⟩ | ⟨er, her⟩
  · simp only at hn; subst hn
    exact ⟨_, rfl, Or.inl ⟨ex, n, rfl, rfl⟩⟩
  · simp only at her; subst her
    exact ⟨_, rfl, Or.inr ⟨ex, er, rfl, rfl⟩⟩

/-- the payload bytes of an ApplicationException in the spec's vocabulary -/
theorem appExEncM_eq_enc (e : AppEx) (ht : inI32 e.t) :
    appExEncM e = enc (.fieldBegin 11 1) ++ enc (.str e.m) ++ enc (.fieldBegin 8 2) ++ enc (.i32 e.t) ++ enc .fieldStop := by
  unfold appExEncM
  rw [enc_eq_encM (.fieldBegin 11 1) (by decide), enc_eq_encM (.str e.m) trivial,
    enc_eq_encM (.fieldBegin 8 2) (by decide), enc_eq_encM (.i32 e.t) ht, enc_eq_encM .fieldStop trivial]

/-- a name of 2^31 … 2^32-1 bytes: the writers emit its length as uint32, which the readers see as a
    negative int32: the buffer reader rejects the header with INVALID_DATA -/
theorem msg_long_name_rejected (name rest : Bytes) (typ seq : Int) (h1 : 2147483648 ≤ name.length)
    (h2 : name.length < 4294967296) :
    binReadMessageBegin (be32 (msgHeader typ) ++ be32 name.length ++ name ++ be32 (ofInt 32 seq) ++ rest) =
      .err (errShort, 0) := by
  have hh : msgHeader typ < 4294967296 := by rw [msgHeader_eq]; have := msgType16_lt typ; omega
  generalize hb : be32 (msgHeader typ) ++ be32 name.length ++ name ++ be32 (ofInt 32 seq) ++ rest = b
  have e0 : b = be32 (msgHeader typ) ++ (be32 name.length ++ (name ++ be32 (ofInt 32 seq) ++ rest)) := by
    subst hb; simp
  have hr : rd32 b = msgHeader typ := by rw [e0, rd32_be32 _ hh]
  have hlen : b.length = 12 + name.length + rest.length := by subst hb; simp; omega
  have d4 : b.drop 4 = be32 name.length ++ (name ++ be32 (ofInt 32 seq) ++ rest) := by
    rw [e0, List.drop_left' (by simp)]
  have r4 : rd32 (b.drop 4) = name.length := by rw [d4, rd32_be32 _ h2]
  have hv : ¬ (4 ≤ b.length ∧ rd32 b / 65536 ≠ 0x8001) := by
    rw [hr, msgHeader_eq]; have := msgType16_lt typ; omega
  rw [binReadMessageBegin_char, r4, if_neg (fun c => by omega), if_neg hv]

end Verif.Wire
