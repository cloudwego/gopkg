/-
  Lemmas/UnknownCW (Convert after Write): tree → bytes → tree. Writing a well-typed tree gives exactly its
  spec encoding (`ufSpecEnc`, Spec/Unknown), and reading that encoding (followed by anything) gives the same tree back,
  tags included, consuming exactly what was written.
-/
import Verif.Lemmas.UnknownBase
import Verif.Lemmas.UnknownEqns
import Verif.Lemmas.UnknownLen
namespace Verif

/-- round trip of one node: `wr` writes the encoding `e f`, and reading it back returns the node -/
def RT {α : Type} (rd : Bytes → UInt8 → UInt16 → UOut (α × Nat)) (wr : α → UOut Bytes) (e : α → Bytes)
    (mt : α → UMeta) (p : α → Bool) : Prop :=
  ∀ f, p f = true → (mt f).typ ≠ 0 ∧ wr f = .ok (e f) ∧
    ∀ rest, rd (e f ++ rest) (mt f).typ (mt f).id = .ok (f, (e f).length)

theorem drop_add_of_drop_eq {b : Bytes} {off : Nat} {a r : Bytes} (h : b.drop off = a ++ r) :
    b.drop (off + a.length) = r := by
  rw [← List.drop_drop, h, List.drop_left]

theorem add_length_le_of_drop_eq {b : Bytes} {off : Nat} {a r : Bytes} (ho : off ≤ b.length)
    (h : b.drop off = a ++ r) : off + a.length ≤ b.length := by
  have hl := congrArg List.length h
  rw [List.length_drop, List.length_append] at hl
  omega

theorem readElems_of_writeList {α : Type} (rd : Bytes → UInt8 → UInt16 → UOut (α × Nat)) (wr : α → UOut Bytes)
    (e : α → Bytes) (mt : α → UMeta) (p : α → Bool) (H : RT rd wr e mt p) (t : UInt8) :
    ∀ fs i, elemsOK mt p t i fs = true → writeList wr fs = .ok (fs.map e).flatten ∧
      ∀ (b : Bytes) off rest, off ≤ b.length → b.drop off = (fs.map e).flatten ++ rest →
        readElems (fun s j => rd s t j) fs.length i b off = .ok (fs, off + (fs.map e).flatten.length) := by
  intro fs
  induction fs with
  | nil => exact fun _ _ => ⟨rfl, fun _ _ _ _ _ => rfl⟩
  | cons c cs ih =>
    intro i h
    obtain ⟨hid, hty, hp, hcs⟩ := elemsOK_cons.mp h
    obtain ⟨_, hwa, hra⟩ := H c hp
    obtain ⟨hwr, hrr⟩ := ih (i + 1) hcs
    rw [List.map_cons, List.flatten_cons]
    refine ⟨by rw [writeList, hwa, Out.bind_ok, hwr, Out.bind_ok], fun b off rest ho hb => ?_⟩
    rw [List.append_assoc] at hb
    have h1 := hra ((cs.map e).flatten ++ rest)
    rw [hty, hid, ← hb] at h1
    rw [List.length_cons, readElems, ufSliceFrom_ok b off ho, Out.bind_ok, h1, Out.bind_ok,
      hrr b _ rest (add_length_le_of_drop_eq ho hb) (drop_add_of_drop_eq hb), Out.bind_ok, List.length_append,
      Nat.add_assoc]

theorem readKVs_of_writeKVs {α : Type} (rd : Bytes → UInt8 → UInt16 → UOut (α × Nat)) (wr : α → UOut Bytes)
    (e : α → Bytes) (mt : α → UMeta) (p : α → Bool) (H : RT rd wr e mt p) (kt vt : UInt8) :
    ∀ fs i, ufKvsOK mt p kt vt i fs = true → writeKVs wr fs = .ok (fs.map e).flatten ∧
      ∀ (b : Bytes) off rest, off ≤ b.length → b.drop off = (fs.map e).flatten ++ rest →
        ufReadKVs (fun s j => rd s kt j) (fun s j => rd s vt j) (fs.length / 2) i b off =
          .ok (fs, off + (fs.map e).flatten.length)
  | [], i, _ => ⟨rfl, fun _ _ _ _ _ => by rw [List.length_nil, Nat.zero_div]; rfl⟩
  | [_], i, h => nomatch h
  | k :: v :: cs, i, h => by
    obtain ⟨⟨hid, hty, hp⟩, ⟨hid', hty', hp'⟩, hcs⟩ := ufKvsOK_cons_cons.mp h
    obtain ⟨_, hwa, hra⟩ := H k hp
    obtain ⟨_, hwc, hrc⟩ := H v hp'
    obtain ⟨hwr, hrr⟩ := readKVs_of_writeKVs rd wr e mt p H kt vt cs (i + 1) hcs
    rw [List.map_cons, List.map_cons, List.flatten_cons, List.flatten_cons]
    refine ⟨by rw [writeKVs, hwa, Out.bind_ok, hwc, Out.bind_ok, hwr, Out.bind_ok, List.append_assoc],
      fun b off rest ho hb => ?_⟩
    rw [List.append_assoc, List.append_assoc] at hb
    have hb2 := drop_add_of_drop_eq hb
    have ho2 := add_length_le_of_drop_eq ho hb
    have h1 := hra (e v ++ ((cs.map e).flatten ++ rest))
    have h2 := hrc ((cs.map e).flatten ++ rest)
    rw [hty, hid, ← hb] at h1
    rw [hty', hid', ← hb2] at h2
    rw [show (k :: v :: cs).length / 2 = cs.length / 2 + 1 by rw [List.length_cons, List.length_cons]; omega,
      ufReadKVs, ufSliceFrom_ok b off ho, Out.bind_ok, h1, Out.bind_ok, ufSliceFrom_ok b _ ho2, Out.bind_ok, h2,
      Out.bind_ok, hrr b _ rest (add_length_le_of_drop_eq ho2 hb2) (drop_add_of_drop_eq hb2), Out.bind_ok,
      List.length_append, List.length_append, Nat.add_assoc, Nat.add_assoc]

theorem be16_length' (n : Nat) : (be16 n).length = 2 := be16_length n

theorem field_hdr (id : UInt16) (r : Bytes) :
    2 ≤ (be16 id.toNat ++ r).length ∧ UInt16.ofNat (rd16 (be16 id.toNat ++ r)) = id ∧
      (be16 id.toNat ++ r).drop 2 = r :=
  ⟨by rw [List.length_append, be16_length]; omega,
   by rw [rd16_be16 id.toNat id.toNat_lt r, UInt16.ofNat_toNat], List.drop_left' (be16_length _)⟩

theorem readFields_of_writeFields {α : Type} (rd : Bytes → UInt8 → UInt16 → UOut (α × Nat)) (wr : α → UOut Bytes)
    (e : α → Bytes) (mt : α → UMeta) (p : α → Bool) (H : RT rd wr e mt p) :
    ∀ fs, fs.all p = true →
      writeFields mt wr fs = .ok (fs.map fun c => (mt c).typ :: be16 (mt c).id.toNat ++ e c).flatten ∧
      ∀ (b : Bytes) off rest fuel, off ≤ b.length →
        b.drop off = (fs.map fun c => (mt c).typ :: be16 (mt c).id.toNat ++ e c).flatten ++ 0 :: rest →
        (fs.map fun c => (mt c).typ :: be16 (mt c).id.toNat ++ e c).flatten.length + 1 ≤ fuel →
        readFields rd fuel b off =
          .ok (fs, off + (fs.map fun c => (mt c).typ :: be16 (mt c).id.toNat ++ e c).flatten.length + 1) := by
  intro fs
  induction fs with
  | nil =>
    refine fun _ => ⟨rfl, fun b off rest fuel ho hb hf => ?_⟩
    obtain ⟨fuel, rfl⟩ : ∃ k, fuel = k + 1 := ⟨fuel - 1, by omega⟩
    exact readFields_stop rd _ ho (hb.trans (by rw [UT.STOP_eq]; rfl))
  | cons c cs ih =>
    intro h
    rw [List.all_cons, Bool.and_eq_true] at h
    obtain ⟨hne, hwa, hra⟩ := H c h.1
    obtain ⟨hwr, hrr⟩ := ih h.2
    rw [List.map_cons, List.flatten_cons]
    refine ⟨by rw [writeFields, hwa, Out.bind_ok, hwr, Out.bind_ok], fun b off rest fuel ho hb hf => ?_⟩
    obtain ⟨fuel, rfl⟩ : ∃ k, fuel = k + 1 := ⟨fuel - 1, by omega⟩
    have hl : ((mt c).typ :: be16 (mt c).id.toNat ++ e c).length = 3 + (e c).length := by
      rw [List.length_append, List.length_cons, be16_length, Nat.add_comm]
    rw [List.length_append, hl] at hf
    rw [List.append_assoc, List.append_assoc, List.cons_append] at hb
    obtain ⟨h2, hid, hd⟩ := field_hdr (mt c).id (e c ++ (_ ++ 0 :: rest))
    have h3 : b.drop (off + 3) = e c ++ (_ ++ 0 :: rest) := (drop_of_cons hb 2).trans hd
    have ho3 : off + 3 ≤ b.length := by
      have := length_of_drop_cons hb
      omega
    rw [readFields_field rd _ hb (UT.STOP_eq ▸ hne) h2, hid, hd, hra, Out.bind_ok,
      hrr b _ rest _ (add_length_le_of_drop_eq ho3 h3) (drop_add_of_drop_eq h3) (by omega), Out.bind_ok]
    refine congrArg (fun n => Out.ok (c :: cs, n)) ?_
    rw [List.length_append, hl]
    omega

theorem convertLoop_of_writeFields {α : Type} (rd : Bytes → UInt8 → UInt16 → UOut (α × Nat)) (wr : α → UOut Bytes)
    (e : α → Bytes) (mt : α → UMeta) (p : α → Bool) (H : RT rd wr e mt p) :
    ∀ fs, fs.all p = true →
      writeFields mt wr fs = .ok (fs.map fun c => (mt c).typ :: be16 (mt c).id.toNat ++ e c).flatten ∧
      ∀ (b : Bytes) off fuel, off ≤ b.length →
        b.drop off = (fs.map fun c => (mt c).typ :: be16 (mt c).id.toNat ++ e c).flatten →
        (fs.map fun c => (mt c).typ :: be16 (mt c).id.toNat ++ e c).flatten.length + 1 ≤ fuel →
        convertLoop rd fuel b off = .ok fs := by
  intro fs
  induction fs with
  | nil =>
    refine fun _ => ⟨rfl, fun b off fuel ho hb hf => ?_⟩
    obtain ⟨fuel, rfl⟩ : ∃ k, fuel = k + 1 := ⟨fuel - 1, by omega⟩
    have hoff : off = b.length := by
      have := congrArg List.length hb
      rw [List.length_drop] at this
      exact Nat.le_antisymm ho (Nat.le_of_sub_eq_zero this)
    rw [hoff]
    exact convertLoop_end rd _ b
  | cons c cs ih =>
    intro h
    rw [List.all_cons, Bool.and_eq_true] at h
    obtain ⟨hne, hwa, hra⟩ := H c h.1
    obtain ⟨hwr, hrr⟩ := ih h.2
    rw [List.map_cons, List.flatten_cons]
    refine ⟨by rw [writeFields, hwa, Out.bind_ok, hwr, Out.bind_ok], fun b off fuel ho hb hf => ?_⟩
    obtain ⟨fuel, rfl⟩ : ∃ k, fuel = k + 1 := ⟨fuel - 1, by omega⟩
    have hl : ((mt c).typ :: be16 (mt c).id.toNat ++ e c).length = 3 + (e c).length := by
      rw [List.length_append, List.length_cons, be16_length, Nat.add_comm]
    rw [List.length_append, hl] at hf
    rw [List.append_assoc, List.cons_append] at hb
    obtain ⟨h2, hid, hd⟩ := field_hdr (mt c).id (e c ++ _)
    have h3 : b.drop (off + 3) = e c ++ _ := (drop_of_cons hb 2).trans hd
    have ho3 : off + 3 ≤ b.length := by
      have := length_of_drop_cons hb
      omega
    rw [convertLoop_field rd _ hb (UT.STOP_eq ▸ hne) h2, hid, hd, hra, Out.bind_ok,
      hrr b _ _ (add_length_le_of_drop_eq ho3 h3) (drop_add_of_drop_eq h3) (by omega), Out.bind_ok]

theorem tags_zero {kt vt : UInt8} {c : Bool} (h : (kt == 0 && vt == 0 && c) = true) : kt = 0 ∧ vt = 0 ∧ c = true := by
  simp only [Bool.and_eq_true, beq_iff_eq] at h
  exact ⟨h.1.1, h.1.2, h.2⟩

theorem rt_readUF_succ (m : Nat) (ih : RT (fun s t id => readUF m s t id) (writeUF m) (ufSpecEnc m) (ufMeta m) (wt m)) :
    RT (fun s t id => readUF (m+1) s t id) (writeUF (m+1)) (ufSpecEnc (m+1)) (ufMeta (m+1)) (wt (m+1)) := by
  intro f hwt
  obtain ⟨⟨id, typ, kt, vt⟩, v⟩ := f
  show typ ≠ 0 ∧ _ ∧ ∀ rest, readUF (m+1) _ typ id = _
  rcases ttype_cases typ with rfl | rfl | rfl | rfl | rfl | rfl | rfl | hl | rfl | rfl | hno
  · obtain ⟨rfl, rfl, hc⟩ := tags_zero ((wt_BOOL m id kt vt v).symm.trans hwt)
    cases v with
    | bool x => exact ⟨by decide, rfl, fun rest => (readUF_BOOL m _ id).trans (by cases x <;> rfl)⟩
    | _ => cases hc
  · obtain ⟨rfl, rfl, hc⟩ := tags_zero ((wt_BYTE m id kt vt v).symm.trans hwt)
    cases v with
    | i8 x => exact ⟨by decide, rfl, fun rest => readUF_BYTE m _ id⟩
    | _ => cases hc
  · obtain ⟨rfl, rfl, hc⟩ := tags_zero ((wt_I16 m id kt vt v).symm.trans hwt)
    cases v with
    | i16 x =>
      exact ⟨by decide, rfl, fun rest =>
        (readUF_I16 m _ id).trans (congrArg (scalarUF id TT.I16) (rdI16_be16 x rest))⟩
    | _ => cases hc
  · obtain ⟨rfl, rfl, hc⟩ := tags_zero ((wt_I32 m id kt vt v).symm.trans hwt)
    cases v with
    | i32 x =>
      exact ⟨by decide, rfl, fun rest =>
        (readUF_I32 m _ id).trans (congrArg (scalarUF id TT.I32) (rdI32_be32 x rest))⟩
    | _ => cases hc
  · obtain ⟨rfl, rfl, hc⟩ := tags_zero ((wt_I64 m id kt vt v).symm.trans hwt)
    cases v with
    | i64 x =>
      exact ⟨by decide, rfl, fun rest =>
        (readUF_I64 m _ id).trans (congrArg (scalarUF id TT.I64) (rdI64_be64 x rest))⟩
    | _ => cases hc
  · obtain ⟨rfl, rfl, hc⟩ := tags_zero ((wt_DOUBLE m id kt vt v).symm.trans hwt)
    cases v with
    | f64 x =>
      exact ⟨by decide, rfl, fun rest =>
        (readUF_DOUBLE m _ id).trans (congrArg (scalarUF id TT.DOUBLE) (rdDouble_be64 x rest))⟩
    | _ => cases hc
  · obtain ⟨rfl, rfl, hc⟩ := tags_zero ((wt_STRING m id kt vt v).symm.trans hwt)
    cases v with
    | str x =>
      have hl : x.length < 2147483648 := of_decide_eq_true hc
      have hu : u32 x.length = x.length := Nat.mod_eq_of_lt (by omega)
      refine ⟨by decide, (writeUF_STRING m id 0 0 _).trans (congrArg (fun n => Out.ok (be32 n ++ x)) hu),
        fun rest => ?_⟩
      exact (readUF_STRING m _ id).trans (congrArg (scalarUF id TT.STRING) (rdStr_be32 x hl rest))
    | _ => cases hc
  · have hw := (wt_list m id kt vt v hl).symm.trans hwt
    cases v with
    | fields cs =>
      obtain ⟨hk, hc⟩ := Bool.and_eq_true_iff.mp hw
      obtain ⟨hlen, hok⟩ := Bool.and_eq_true_iff.mp hc
      obtain rfl : kt = 0 := beq_iff_eq.mp hk
      have hlen : cs.length < 4294967296 := of_decide_eq_true hlen
      obtain ⟨hwr, hrr⟩ := readElems_of_writeList _ _ _ _ _ ih vt cs 0 hok
      have hs : ufSpecEnc (m+1) (⟨id, typ, 0, vt⟩, .fields cs) =
          vt :: be32 cs.length ++ (cs.map (ufSpecEnc m)).flatten := by
        rcases hl with rfl | rfl <;> rfl
      rw [hs]
      refine ⟨by rcases hl with rfl | rfl <;> decide, (writeUF_list m id 0 vt _ hl).trans ?_, fun rest => ?_⟩
      · show ((writeList (writeUF m) cs).bind fun r => .ok (vt :: be32 (u32 cs.length) ++ r)) = _
        rw [hwr, Out.bind_ok, u32, Nat.mod_eq_of_lt hlen]
      · have hb := hrr (vt :: be32 cs.length ++ (cs.map (ufSpecEnc m)).flatten ++ rest) 5 rest
          (by simp only [List.length_cons, List.length_append, be32_length]; omega)
          (by rw [List.append_assoc]; exact List.drop_left' (l₁ := vt :: be32 cs.length) rfl)
        rw [readUF_list m _ _ hl]
        simp only [List.cons_append, List.append_assoc] at hb ⊢
        rw [readListLike, if_neg (by rw [List.length_append, be32_length]; omega),
          rd32_be32 _ hlen _, hb, Out.bind_ok]
        refine congrArg (fun n => Out.ok (_, n)) ?_
        simp only [List.length_cons, List.length_append, be32_length]
        omega
    | _ => exact absurd ((Bool.and_eq_true_iff.mp hw).2) nofun
  · have hw := (wt_MAP m id kt vt v).symm.trans hwt
    cases v with
    | fields cs =>
      obtain ⟨hlen, hok⟩ := Bool.and_eq_true_iff.mp hw
      have hlen : cs.length / 2 < 4294967296 := of_decide_eq_true hlen
      obtain ⟨hwr, hrr⟩ := readKVs_of_writeKVs _ _ _ _ _ ih kt vt cs 0 hok
      refine ⟨by decide, (writeUF_MAP m id kt vt _).trans ?_, fun rest => ?_⟩
      · show ((writeKVs (writeUF m) cs).bind fun r => .ok (kt :: vt :: be32 (u32 (cs.length / 2)) ++ r)) = _
        rw [hwr, Out.bind_ok, u32, Nat.mod_eq_of_lt hlen]
        rfl
      · show readUF (m+1) (kt :: vt :: be32 (cs.length / 2) ++ (cs.map (ufSpecEnc m)).flatten ++ rest) TT.MAP id =
          .ok (_, (kt :: vt :: be32 (cs.length / 2) ++ (cs.map (ufSpecEnc m)).flatten).length)
        have hb := hrr (kt :: vt :: be32 (cs.length / 2) ++ (cs.map (ufSpecEnc m)).flatten ++ rest) 6 rest
          (by simp only [List.length_cons, List.length_append, be32_length]; omega)
          (by rw [List.append_assoc]; exact List.drop_left' (l₁ := kt :: vt :: be32 (cs.length / 2)) rfl)
        rw [readUF_MAP]
        simp only [List.cons_append, List.append_assoc] at hb ⊢
        rw [readMapLike, if_neg (by rw [List.length_append, be32_length]; omega),
          rd32_be32 _ hlen _, hb, Out.bind_ok]
        refine congrArg (fun n => Out.ok (_, n)) ?_
        simp only [List.length_cons, List.length_append, be32_length]
        omega
    | _ => exact absurd hw nofun
  · obtain ⟨rfl, rfl, hc⟩ := tags_zero ((wt_STRUCT m id kt vt v).symm.trans hwt)
    cases v with
    | fields cs =>
      obtain ⟨hwr, hrr⟩ := readFields_of_writeFields _ _ _ _ _ ih cs hc
      refine ⟨by decide, (writeUF_STRUCT m id 0 0 _).trans ?_, fun rest => ?_⟩
      · show ((writeFields (ufMeta m) (writeUF m) cs).bind fun r => .ok (r ++ [UT.STOP])) = _
        rw [hwr, Out.bind_ok, UT.STOP_eq]
        rfl
      · show readUF (m+1) ((cs.map fun c => (ufMeta m c).typ :: be16 (ufMeta m c).id.toNat ++ ufSpecEnc m c).flatten
            ++ [0] ++ rest) TT.STRUCT id = .ok (_, (_ ++ [0]).length)
        rw [readUF_STRUCT, hrr _ 0 rest _ (Nat.zero_le _) (List.append_assoc _ _ _)
          (by simp only [List.length_append, List.length_cons, List.length_nil]; omega), Out.bind_ok]
        refine congrArg (fun n => Out.ok (_, n)) ?_
        rw [List.length_append, Nat.zero_add]
        rfl
    | _ => cases hc
  · exact absurd ((wt_other m (⟨id, typ, kt, vt⟩, v) hno).symm.trans hwt) nofun

theorem rt_readUF : ∀ m, RT (fun s t id => readUF m s t id) (writeUF m) (ufSpecEnc m) (ufMeta m) (wt m)
  | 0 => fun f => f.elim
  | m+1 => rt_readUF_succ m (rt_readUF m)

theorem writeUFs_eq_spec (d : Nat) (fs : List (UF d)) (h : fs.all (wt d) = true) :
    writeUFs d fs = .ok (ufSpecEncs d fs) ∧ lenUFs d fs = .ok (ufSpecEncs d fs).length :=
  have hw : writeUFs d fs = .ok (ufSpecEncs d fs) := (convertLoop_of_writeFields _ _ _ _ _ (rt_readUF d) fs h).1
  ⟨hw, lenUFs_of_writeUFs d fs _ hw⟩

end Verif
