/-
  Lemmas/SkipBinBase: what the proofs about the skippers share — in-bounds loads, int32 sizes, the type
  constants of the source, and runs of fixed-size elements in the grammar.
-/
import Verif.Model.Skip
import Verif.Lemmas.Grammar
import Verif.Lemmas.TypeSize
namespace Verif

theorem load_ok (b : Bytes) (i : Nat) (h : i < b.length) : load b i = .ok b[i] := by
  unfold load; simp [h]

theorem drop_cons4 (b : Bytes) (i : Nat) (h : i + 4 ≤ b.length) :
    b.drop i = b[i] :: b[i+1] :: b[i+2] :: b[i+3] :: b.drop (i+4) := by
  rw [List.drop_eq_getElem_cons (by omega), List.drop_eq_getElem_cons (by omega),
      List.drop_eq_getElem_cons (by omega), List.drop_eq_getElem_cons (by omega)]

theorem loadI32_ok (b : Bytes) (i : Nat) (h : i + 4 ≤ b.length) :
    loadI32 b i = .ok (toI32 (rd32 (b.drop i))) := by
  unfold loadI32
  rw [drop_cons4 b i h]
  simp [load_ok b i (by omega), load_ok b (i+1) (by omega), load_ok b (i+2) (by omega),
        load_ok b (i+3) (by omega), rd32]

theorem toI32_neg_iff (n : Nat) (h : n < 4294967296) : toI32 n < 0 ↔ ¬ n < 2147483648 := by
  unfold toI32; split <;> omega

theorem toI32_toNat (n : Nat) (h : n < 2147483648) : (toI32 n).toNat = n := by
  unfold toI32; simp [h]

theorem good_nil {g : Bytes → Option Nat} (h : Good g) : g [] = none := by
  cases hg : g [] with
  | none => rfl
  | some n => have := h [] n hg; simp at this; omega

theorem toI32_rd32 (b : Bytes) :
    (¬ rd32 b < 2147483648 ∧ toI32 (rd32 b) < 0) ∨
    (rd32 b < 2147483648 ∧ ¬ toI32 (rd32 b) < 0 ∧ (toI32 (rd32 b)).toNat = rd32 b) := by
  by_cases hn : rd32 b < 2147483648
  · exact .inr ⟨hn, by rw [toI32_neg_iff _ (rd32_lt b)]; exact fun h => h hn, toI32_toNat _ hn⟩
  · exact .inl ⟨hn, by rw [toI32_neg_iff _ (rd32_lt b)]; exact hn⟩

theorem T_STOP_eq : T_STOP = 0 := by decide
theorem T_STRING_eq : T_STRING = TT.STRING := by decide
theorem T_STRUCT_eq : T_STRUCT = TT.STRUCT := by decide
theorem T_MAP_eq : T_MAP = TT.MAP := by decide
theorem T_SET_eq : T_SET = TT.SET := by decide
theorem T_LIST_eq : T_LIST = TT.LIST := by decide

theorem defaultRecursionDepth_eq : Facts.defaultRecursionDepth = 64 := by decide

theorem refN_fixed (s : Nat) (g : Bytes → Option Nat)
    (hg : ∀ bb : Bytes, g bb = if s ≤ bb.length then some s else none) :
    ∀ n (b : Bytes), refN g n b = if n * s ≤ b.length then some (n * s) else none := by
  intro n
  induction n with
  | zero => intro b; simp [refN]
  | succ n ih =>
    intro b
    rw [Nat.succ_mul]
    simp only [refN, hg]
    by_cases h1 : s ≤ b.length
    · simp only [if_pos h1, ih, List.length_drop]
      by_cases h2 : n * s ≤ b.length - s
      · rw [if_pos h2, if_pos (by omega), Nat.add_comm]
      · rw [if_neg h2, if_neg (by omega)]
    · rw [if_neg h1, if_neg (by omega)]

theorem refKV_fixed (k v : Nat) (gk gv : Bytes → Option Nat)
    (hgk : ∀ bb : Bytes, gk bb = if k ≤ bb.length then some k else none)
    (hgv : ∀ bb : Bytes, gv bb = if v ≤ bb.length then some v else none) :
    ∀ n (b : Bytes), refKV gk gv n b = if n * (k + v) ≤ b.length then some (n * (k + v)) else none := by
  intro n
  induction n with
  | zero => intro b; simp [refKV]
  | succ n ih =>
    intro b
    rw [Nat.succ_mul]
    simp only [refKV, hgk, hgv]
    by_cases h1 : k ≤ b.length
    · simp only [if_pos h1, List.length_drop]
      by_cases h2 : v ≤ b.length - k
      · simp only [if_pos h2, ih, List.length_drop]
        by_cases h3 : n * (k + v) ≤ b.length - (k + v)
        · rw [if_pos h3, if_pos (by omega)]; exact congrArg _ (Nat.add_comm _ _)
        · rw [if_neg h3, if_neg (by omega)]
      · rw [if_neg h2, if_neg (by omega)]
    · rw [if_neg h1, if_neg (by omega)]

end Verif
