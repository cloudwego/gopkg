/-
  Lemmas/ReaderProv: where the reader's errors come from.
  The error field only ever holds the source's own error (`firstErr` of the script: the first
  scripted error, or io.EOF at exhaustion) or io.ErrNoProgress, and the latter only after
  `maxConsecutiveEmptyReads` consecutive reads that delivered nothing with a nil error.
-/
import Verif.Lemmas.ReaderOps
namespace Verif

theorem firstErr_cons (x : Resp) (rest : List Resp) :
    firstErr (x :: rest) = match x.err with | some e => e | none => firstErr rest := rfl

theorem readLoop_suffix {M need room i : Nat} {s s' : Src} {ok : Bool} {e : Option RErr}
    (h : Pull M need room i s s' ok e) : ∃ used, s.script = used ++ s'.script := by
  induction h with
  | stall => exact ⟨[], rfl⟩
  | eof => exact ⟨[], rfl⟩
  | err _ hs => exact ⟨[_], hs⟩
  | done _ hs => exact ⟨[_], hs⟩
  | more _ hs _ _ _ _ ih =>
    obtain ⟨v, hv⟩ := ih
    exact ⟨_ :: v, by rw [hs]; exact congrArg (List.cons _) hv⟩

/-- the read loop sets the error to the source's own error or to io.ErrNoProgress; on the
    no-error exit the source's own error is still ahead -/
theorem readLoop_err {M need room i : Nat} {s s' : Src} {ok : Bool} {e : Option RErr}
    (h : Pull M need room i s s' ok e) :
    (e = none ∧ firstErr s'.script = firstErr s.script) ∨
    e = some .noProgress ∨ e = some (firstErr s.script) := by
  induction h with
  | stall => exact Or.inr (Or.inl rfl)
  | eof _ hs => exact Or.inr (Or.inr (by rw [hs]; rfl))
  | err _ hs _ he => exact Or.inr (Or.inr (by rw [hs, firstErr_cons, he]))
  | done _ hs _ he => exact Or.inl ⟨rfl, by rw [hs, firstErr_cons, he]⟩
  | more _ hs _ he _ _ ih => rw [hs, firstErr_cons, he]; exact ih

/-- an io.ErrNoProgress freshly set by the loop means: the last `zs` scripted reads all returned a
    nil error and no data, and there were `maxConsecutiveEmptyReads` of them (counting the `i` the loop
    started with when nothing else happened) — unless io.ErrNoProgress is the source's own error.
    The loop always offers room, so a read without data is an empty entry or an empty stream. -/
theorem readLoop_noProgress {M need room i : Nat} {s s' : Src} {ok : Bool} {e : Option RErr}
    (h : Pull M need room i s s' ok e) (h0 : 0 < need) (hroom : need ≤ room) (hi : i ≤ M)
    (he : e = some .noProgress) :
    firstErr s.script = .noProgress ∨
    ∃ pre zs, s.script = pre ++ zs ++ s'.script ∧
      ((pre = [] ∧ zs.length + i = M ∧ s'.stream = s.stream) ∨ zs.length = M) ∧
      ∀ z ∈ zs, z.err = none ∧ (z.k = 0 ∨ s'.stream = []) := by
  induction h with
  | stall hM => exact Or.inr ⟨[], [], rfl, Or.inl ⟨rfl, by simp; omega, rfl⟩, nofun⟩
  | eof => cases he
  | err _ hs _ hx => cases he; exact Or.inl (by rw [hs, firstErr_cons, hx])
  | done => cases he
  | @more need room i s x rest d s' _ _ hM hs hd hx hlt hp ih =>
    have hempty : d = 0 → x.k = 0 ∨ s.stream.length = 0 := by omega
    rcases ih (Nat.sub_pos_of_lt hlt) (Nat.sub_le_sub_right hroom _)
      (by split; exact Nat.zero_le _; exact hM) he with hl | ⟨pre, zs, hsc, hc, hz⟩
    · exact Or.inl (by rw [hs, firstErr_cons, hx]; exact hl)
    · right
      by_cases hpos : d > 0
      · rw [if_pos hpos] at hc
        exact ⟨x :: pre, zs, by rw [hs]; exact congrArg (List.cons x) hsc,
          Or.inr (hc.elim (fun h => h.2.1) id), hz⟩
      · rw [if_neg hpos] at hc
        rcases hc with ⟨hpre, hlen, hstr⟩ | hc
        · have hd0 : d = 0 := Nat.eq_zero_of_not_pos hpos
          subst hd0 hpre
          refine ⟨[], x :: zs, by rw [hs]; exact congrArg (List.cons x) hsc,
            Or.inl ⟨rfl, by simp only [List.length_cons]; omega, hstr⟩, ?_⟩
          intro z hz'
          rcases List.mem_cons.mp hz' with rfl | hzz
          · exact ⟨hx, (hempty rfl).imp id (fun h => by rw [hstr]; exact List.eq_nil_of_length_eq_zero h)⟩
          · exact hz z hzz
        · exact ⟨x :: pre, zs, by rw [hs]; exact congrArg (List.cons x) hsc, Or.inr hc, hz⟩

/-- the same at the level of `acquire`: a freshly reported io.ErrNoProgress has
    `maxConsecutiveEmptyReads` consecutive empty reads right behind it -/
theorem acquire_noProgress (r : Rd) (n m : Nat) (r' : Rd) (hinv : Inv r) (hs : r.Small n)
    (hnone : r.err = none) (h : r.acquire n = some (m, r')) (he : r'.err = some .noProgress) :
    firstErr r.src.script = .noProgress ∨
    ∃ pre zs, r.src.script = pre ++ zs ++ r'.src.script ∧
      zs.length = Facts.maxConsecutiveEmptyReads ∧
      ∀ z ∈ zs, z.err = none ∧ min (min z.k (r'.cap - r'.buf.length)) r'.src.stream.length = 0 := by
  rcases acquire_cases r n m r' hinv hs h with ⟨rfl, _⟩ | ⟨hslow, _, _, _, hroom, hp⟩
  · rw [hnone] at he; cases he
  · rcases readLoop_noProgress hp (by omega) hroom (Nat.zero_le _) he with
      hl | ⟨pre, zs, hsc, hc, hz⟩
    · exact Or.inl hl
    · refine Or.inr ⟨pre, zs, hsc, hc.elim (fun h => h.2.1) id, fun z hz' => ⟨(hz z hz').1, ?_⟩⟩
      rcases (hz z hz').2 with h0 | h0
      · rw [h0]; simp
      · rw [h0]; simp

/-- the error is sticky: once it is set, `acquire` changes nothing — in particular the source is
    never read again -/
theorem acquire_sticky (r : Rd) (n m : Nat) (r' : Rd) (he : r.err ≠ none)
    (h : r.acquire n = some (m, r')) : r' = r := by
  unfold Rd.acquire at h
  split at h
  · simp only [Option.some.injEq, Prod.mk.injEq] at h
    exact h.2.symm
  · unfold Rd.acquireSlow at h
    split at h
    · simp only [Option.some.injEq, Prod.mk.injEq] at h
      exact h.2.symm
    · rename_i herr
      cases hx : r.err with
      | none => exact absurd hx he
      | some e => rw [hx] at herr; simp at herr

/-! ## `quietRun`: a contiguous run of error-free entries is found -/

theorem quietRun_of_ge (M : Nat) (l : List Resp) (run : Nat) (h : run ≥ M) : quietRun M l run = true := by
  cases l <;> simp [quietRun, h]

theorem quietRun_append_quiet (M : Nat) (zs b : List Resp) (run : Nat)
    (hz : ∀ z ∈ zs, z.err = none) (hl : run + zs.length ≥ M) : quietRun M (zs ++ b) run = true := by
  induction zs generalizing run with
  | nil => exact quietRun_of_ge _ _ _ (by simpa using hl)
  | cons z zs ih =>
    have hze := hz z (by simp)
    simp only [List.cons_append, quietRun, hze, Option.isNone_none, if_true, Bool.or_eq_true]
    right
    apply ih
    · intro w hw; exact hz w (by simp [hw])
    · simp only [List.length_cons] at hl; omega

theorem quietRun_infix (M : Nat) (a zs b : List Resp) (run : Nat)
    (hz : ∀ z ∈ zs, z.err = none) (hl : zs.length ≥ M) : quietRun M (a ++ zs ++ b) run = true := by
  induction a generalizing run with
  | nil => simpa using quietRun_append_quiet M zs b run hz (by omega)
  | cons x a ih =>
    simp only [List.cons_append, quietRun, Bool.or_eq_true]
    right
    split
    · exact ih _
    · exact ih _

/-! ## the provenance invariant along histories -/

/-- over a source with script `s0`: the unread script is a suffix of `s0`; the error field is nil
    while the source's own error is still ahead, else it is that error, or io.ErrNoProgress with
    `maxConsecutiveEmptyReads` consecutive error-free entries in `s0` -/
structure Prov (s0 : List Resp) (r : Rd) : Prop where
  suffix : ∃ used, s0 = used ++ r.src.script
  err : (r.err = none ∧ firstErr r.src.script = firstErr s0) ∨
        (∃ e, r.err = some e ∧
          (e = firstErr s0 ∨ (e = .noProgress ∧ quietRun Facts.maxConsecutiveEmptyReads s0 0 = true)))

theorem prov_newDefault (S : Bytes) (s0 : List Resp) : Prov s0 (Rd.newDefault ⟨S, s0⟩) :=
  ⟨⟨[], by simp [Rd.newDefault]⟩, Or.inl ⟨rfl, rfl⟩⟩

/-- a bytes reader's source is the empty script: its own error is io.EOF -/
theorem prov_newBytes (data : Bytes) (cap : Nat) : Prov [] (Rd.newBytes data cap) := by
  unfold Rd.newBytes; split
  · exact ⟨⟨[], by simp⟩, Or.inl ⟨rfl, rfl⟩⟩
  · exact prov_newDefault [] []

theorem acquire_prov (s0 : List Resp) (r : Rd) (n m : Nat) (r' : Rd) (hinv : Inv r) (hs : r.Small n)
    (hp : Prov s0 r) (h : r.acquire n = some (m, r')) : Prov s0 r' := by
  rcases acquire_cases r n m r' hinv hs h with ⟨rfl, _⟩ | ⟨hslow, hnone, _, _, hroom, hpl⟩
  · exact hp
  · obtain ⟨used, hused⟩ := hp.suffix
    obtain ⟨v, hv⟩ := readLoop_suffix hpl
    have hfe0 : firstErr r.src.script = firstErr s0 := by
      rcases hp.err with ⟨_, hf⟩ | ⟨e, he, _⟩
      · exact hf
      · rw [hnone] at he; cases he
    refine ⟨⟨used ++ v, by rw [hused, hv, List.append_assoc]⟩, ?_⟩
    rcases readLoop_err hpl with ⟨he, hf⟩ | he | he
    · exact Or.inl ⟨he, hf.trans hfe0⟩
    · refine Or.inr ⟨.noProgress, he, ?_⟩
      rcases readLoop_noProgress hpl (by omega) hroom (Nat.zero_le _) he with hl | ⟨pre, zs, hsc, hc, hz⟩
      · exact Or.inl (by rw [← hfe0, hl])
      · refine Or.inr ⟨rfl, ?_⟩
        have hlen : zs.length ≥ Facts.maxConsecutiveEmptyReads := by
          rcases hc with ⟨_, hc, _⟩ | hc <;> omega
        have : s0 = (used ++ pre) ++ zs ++ r'.src.script := by
          rw [hused, hsc]; simp only [List.append_assoc]
        rw [this]
        exact quietRun_infix _ _ _ _ _ (fun z hz' => (hz z hz').1) hlen
    · exact Or.inr ⟨_, he, Or.inl hfe0⟩

theorem Prov.frame {s0 : List Resp} {r r' : Rd} (h : Prov s0 r) (he : r'.err = r.err)
    (hs : r'.src = r.src) : Prov s0 r' := by
  refine ⟨by rw [hs]; exact h.suffix, ?_⟩
  rw [he, hs]; exact h.err

theorem Prov.allowed {s0 : List Resp} {r : Rd} (h : Prov s0 r) (e : RErr) (he : r.err = some e) :
    (e == firstErr s0 || (e == RErr.noProgress && quietRun Facts.maxConsecutiveEmptyReads s0 0)) = true := by
  rcases h.err with ⟨hn, _⟩ | ⟨e', he', hc⟩
  · rw [hn] at he; simp at he
  · rw [he'] at he; simp only [Option.some.injEq] at he; subst he
    rcases hc with hc | ⟨hc, hq⟩
    · simp [hc]
    · simp [hc, hq]

/-- the error a report carries is errNegativeCount for a negative count, else the reader's error
    field after `acquire` -/
theorem StepView.errAllowed {r r' : Rd} {op : ROp} {res : RRes RErr} (hv : StepView r op res r')
    (M : Nat) (s0 : List Resp) (e : RErr) (he : res.err = some e)
    (hdata : r'.err = some e → (e == firstErr s0 || (e == RErr.noProgress && quietRun M s0 0)) = true) :
    Verif.errAllowed M s0 op e = true := by
  cases hv with
  | neg hop hn => cases he; rcases hop with rfl | rfl | rfl <;> simp [Verif.errAllowed, hn]
  | short hop hn =>
    have := hdata he
    have hnn := Int.not_lt.mpr hn
    rcases hop with rfl | rfl | rfl <;> simpa [Verif.errAllowed, hnn] using this
  | next => cases he
  | peek => cases he
  | skip => cases he
  | release => cases he
  | readLen => cases he
  | readBinary =>
    simp only [RRes.err] at he
    split at he
    · simpa [Verif.errAllowed] using hdata he
    · cases he

/-- ONE STEP: provenance is kept, and any error the step reports is allowed by the spec's
    `errAllowed` (source's own error / no-progress with a quiet run / negative count) -/
theorem step_prov (s0 : List Resp) (r : Rd) (op : ROp) (hinv : Inv r) (hs : r.Small op.size)
    (hp : Prov s0 r) :
    Prov s0 (r.step op).2 ∧
    ∀ e, (r.step op).1.err = some e → errAllowed Facts.maxConsecutiveEmptyReads s0 op e = true := by
  have hv := step_view r op hinv hs
  have hf := release_frame r
  have hp' : Prov s0 (r.step op).2 := hv.state (Prov s0) (fun _ => ⟨hp, hp.frame hf.1 hf.2⟩)
    (fun m r1 _ _ h => (acquire_prov s0 r _ m r1 hinv hs hp h).frame rfl rfl)
  exact ⟨hp', fun e he => hv.errAllowed _ s0 e he (hp'.allowed e)⟩

end Verif
