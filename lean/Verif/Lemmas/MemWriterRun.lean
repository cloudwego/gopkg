/-
  Lemmas/MemWriterRun: writer histories.  `WStep A` = one step between two Flushes while the user keeps
  the region `A`: Malloc, WriteBinary, the user filling one of its OTHER regions, the environment, user
  allocations.  `WStepF` adds Flush and fills of any region.  Along every history the invariant holds
  (no fault), caller memory below its write limit is untouched, and with the cache disabled the pool is
  never called; along a Flush-free history every region stays a writable, pairwise disjoint part of a
  buffer that is not recycled, and nobody but its owner changes its bytes.
-/
import Verif.Lemmas.MemWriter
namespace Verif.Mem
open Verif Verif.Heap

abbrev WSt := MWr × Heap

/-- a user write through a region: at most `g.len` bytes at its start -/
def fillRegion (h : Heap) (g : Slice) (d : Bytes) : Heap := h.userWrite g.obj g.off d

inductive WStep (A : Slice) : WSt → WSt → Prop
  | malloc (w : MWr) (h : Heap) (n : Int) (hsz : n.toNat + w.buf.len < 2 ^ 64) :
      WStep A (w, h) ((w.malloc h n).2.1, (w.malloc h n).2.2)
  | writeBinary (w : MWr) (h : Heap) (bs : Slice) (hbs : Readable h bs) (hsz : bs.len + w.buf.len < 2 ^ 64) :
      WStep A (w, h) ((w.writeBinary h bs).2.1, (w.writeBinary h bs).2.2)
  | fill (w : MWr) (h : Heap) (g : Slice) (d : Bytes) (hg : g ∈ w.regions) (hd : d.length ≤ g.len)
      (hdis : g.Disjoint A) : WStep A (w, h) (w, fillRegion h g d)
  | env (w : MWr) (h h' : Heap) (he : Env h h') : WStep A (w, h) (w, h')
  | alloc (w : MWr) (h h' : Heap) (he : Extends h h') (hf : h'.faults = h.faults) (hev : h'.events = h.events) :
      WStep A (w, h) (w, h')

inductive WSteps (A : Slice) : WSt → WSt → Prop
  | refl (a : WSt) : WSteps A a a
  | cons {a b c : WSt} (s : WStep A a b) (t : WSteps A b c) : WSteps A a c

/-- any step of a history (fills of any region; Flush) -/
inductive WStepF : WSt → WSt → Prop
  | step {a b : WSt} (s : WStep Slice.nil a b) : WStepF a b
  | flush (w : MWr) (h : Heap) : WStepF (w, h) ((w.flush h).2.1, (w.flush h).2.2)

inductive WStepsF : WSt → WSt → Prop
  | refl (a : WSt) : WStepsF a a
  | cons {a b c : WSt} (s : WStepF a b) (t : WStepsF b c) : WStepsF a c

/-- what a step guarantees while region `A` is held -/
structure AOK (A : Slice) (w : MWr) (h : Heap) (w' : MWr) (h' : Heap) : Prop where
  inv : WInv w' h'
  keeps : Keeps h h'
  regs : ∀ g ∈ w.regions, g ∈ w'.regions
  same : ∀ p, A.off ≤ p → p < A.off + A.len → h'.byte? A.obj p = h.byte? A.obj p
  low : CallerLow h h'
  nopool : w.disableCache = true → h'.events = h.events
  dc : w'.disableCache = w.disableCache

theorem AOK.refl {A : Slice} {w : MWr} {h : Heap} (hi : WInv w h) : AOK A w h w h :=
  ⟨hi, Keeps.refl _, fun _ hg => hg, fun _ _ _ => rfl, CallerLow.refl _, fun _ => rfl, rfl⟩

theorem AOK.trans {A : Slice} {w1 w2 w3 : MWr} {h1 h2 h3 : Heap} (a : AOK A w1 h1 w2 h2) (b : AOK A w2 h2 w3 h3) :
    AOK A w1 h1 w3 h3 :=
  ⟨b.inv, a.keeps.trans b.keeps, fun g hg => b.regs g (a.regs g hg),
   fun p h1 h2 => (b.same p h1 h2).trans (a.same p h1 h2), a.low.trans b.low,
   fun hd => (b.nopool (by rw [a.dc]; exact hd)).trans (a.nopool hd), b.dc.trans a.dc⟩

/-- the positions of a region are protected -/
theorem region_prot {w : MWr} {h : Heap} (hi : WInv w h) (A : Slice) (hA : A ∈ w.regions) (p : Nat)
    (h1 : A.off ≤ p) (h2 : p < A.off + A.len) : WProt w h A.obj p := by
  rcases hi.reg_ok A hA with h0 | ⟨a, b, c⟩ | ⟨s, hs, ho⟩
  · omega
  · exact Or.inr (Or.inl ⟨a, b.symm, by omega⟩)
  · exact Or.inl ⟨s, hs, ho.symm⟩

theorem WStepOK.aok {A : Slice} {w w' : MWr} {h h' : Heap} (s : WStepOK w h w' h')
    (hA : ∀ p, A.off ≤ p → p < A.off + A.len → WProt w h A.obj p) : AOK A w h w' h' :=
  ⟨s.inv, s.keeps, s.regs, fun p h1 h2 => (s.frame A.obj p (hA p h1 h2)).2, s.callerLow, s.nopool, s.dc⟩

theorem fill_aok {A : Slice} (w : MWr) (h : Heap) (g : Slice) (d : Bytes) (hi : WInv w h) (hg : g ∈ w.regions)
    (hd : d.length ≤ g.len) (hdis : g.Disjoint A) : AOK A w h w (fillRegion h g d) := by
  unfold fillRegion Heap.userWrite
  by_cases hd0 : d = []
  · subst hd0; rw [setData_nil]; exact AOK.refl hi
  · have hdpos : 0 < d.length := List.length_pos_iff.mpr hd0
    obtain ⟨x, hx, hb, hnf, hcl⟩ := hi.reg_w g hg (by omega)
    have hbd : g.off + d.length ≤ x.data.length := by omega
    have t := setData_touches h g.obj g.off d x hx hbd
    have hss := t.shape
    have hk := t.keeps
    refine ⟨hi.of_keeps hk hi.nofault, hk, fun _ hg' => hg', ?_, ?_, fun _ => rfl, rfl⟩
    · intro p h1 h2
      apply t.out A.obj p
      unfold Slice.Disjoint at hdis
      rcases hdis with h0 | h0 | h0 | h0 | h0
      · omega
      · omega
      · exact Or.inl (Ne.symm h0)
      · exact Or.inr (Or.inr (by omega))
      · exact Or.inr (Or.inl (by omega))
    · intro o y hy hc
      obtain ⟨y', hy', ho, hw, hl⟩ := hss.obj? o y hy
      refine ⟨y', hy', by rw [ho]; exact hc, hw, hl, fun p hp => ?_⟩
      have := t.out o p (by
        by_cases heq : o = g.obj
        · subst heq; rw [hx] at hy; cases hy
          exact Or.inr (Or.inl (by have := hcl hc; omega))
        · exact Or.inl heq)
      rw [byte?_of_obj? _ o p y' hy', byte?_of_obj? h o p y hy] at this
      exact this

theorem WStep.aok_of {A : Slice} {a b : WSt} (s : WStep A a b) (hi : WInv a.1 a.2)
    (hA : ∀ p, A.off ≤ p → p < A.off + A.len → WProt a.1 a.2 A.obj p) : AOK A a.1 a.2 b.1 b.2 := by
  cases s with
  | malloc w h n hsz => exact (wMalloc_ok w h n hi hsz).1.aok hA
  | writeBinary w h bs hbs hsz => exact (wWriteBinary_ok w h bs hi hbs hsz).aok hA
  | fill w h g d hg hd hdis => exact fill_aok w h g d hi hg hd hdis
  | env w h h' he => exact (hi.env he).aok hA
  | alloc w h h' he hf hev =>
    have hk := Keeps.of_extends he
    exact (⟨hi.of_keeps hk (hf.trans hi.nofault), WFrame.of_extends hi he, hk, fun _ hg => hg,
      fun _ => hev, rfl⟩ : WStepOK w h w h').aok hA

theorem WStep.aok {A : Slice} {a b : WSt} (s : WStep A a b) (hi : WInv a.1 a.2) (hA : A ∈ a.1.regions) :
    AOK A a.1 a.2 b.1 b.2 :=
  s.aok_of hi (region_prot hi A hA)

theorem WSteps.aok {A : Slice} {a b : WSt} (t : WSteps A a b) (hi : WInv a.1 a.2) (hA : A ∈ a.1.regions) :
    AOK A a.1 a.2 b.1 b.2 := by
  induction t with
  | refl a => exact AOK.refl hi
  | cons s _ ih =>
    have := s.aok hi hA
    exact this.trans (ih this.inv (this.regs A hA))

/-- the same guarantees when no particular region is watched (`A = nil` has no position) -/
theorem WStep.aok_nil {a b : WSt} (s : WStep Slice.nil a b) (hi : WInv a.1 a.2) :
    AOK Slice.nil a.1 a.2 b.1 b.2 :=
  s.aok_of hi fun _ h1 h2 => absurd h2 (Nat.not_lt.mpr h1)

/-- along every history (with Flushes): the invariant, caller memory below its write limit, the pool -/
theorem WStepsF.ok {a b : WSt} (t : WStepsF a b) (hi : WInv a.1 a.2) :
    WInv b.1 b.2 ∧ CallerLow a.2 b.2 ∧ (a.1.disableCache = true → b.2.events = a.2.events) ∧
    b.1.disableCache = a.1.disableCache := by
  induction t with
  | refl a => exact ⟨hi, CallerLow.refl _, fun _ => rfl, rfl⟩
  | cons s _ ih =>
    cases s with
    | step s =>
      have := s.aok_nil hi
      obtain ⟨i, l, e, d⟩ := ih this.inv
      exact ⟨i, this.low.trans l, fun hd => (e (by rw [this.dc]; exact hd)).trans (this.nopool hd), d.trans this.dc⟩
    | flush w h =>
      obtain ⟨f1, f2, f3, f4⟩ := wFlush_ok w h hi
      obtain ⟨i, l, e, d⟩ := ih f1
      exact ⟨i, f2.trans l, fun hd => (e (by rw [f4]; exact hd)).trans (f3 hd), d.trans f4⟩

/-! ## initial states -/

theorem WInv.newDefault (okLeft : Option Nat) (h : Heap) (hf : h.faults = []) : WInv (MWr.newDefault okLeft) h :=
  WInv.nilState _ h hf rfl rfl rfl

/-- NewBytesWriter on the caller's slice: everything below `off + len` is the caller's data (write
    limit), the spare capacity `[len:cap]` is what the writer may fill -/
theorem WInv.newBytes (target : Slice) (isNil : Bool) (h : Heap) (hf : h.faults = [])
    (hlen : target.len ≤ target.cap)
    (hb : 0 < target.cap → ∃ x, h.obj? target.obj = some x ∧ target.off + target.cap ≤ x.data.length ∧
      x.owner = .caller ∧ x.wfrom ≤ target.off + target.len) :
    WInv (MWr.newBytes target isNil) h where
  nofault := hf
  len_le := hlen
  nil_pend := fun _ => rfl
  buf_ok := fun hc => by
    obtain ⟨x, hx, hbd, hcl, hw⟩ := hb hc
    exact ⟨x, hx, hbd, ⟨fun _ => Or.inr hcl, fun hd => by simp [MWr.newBytes] at hd⟩, fun _ => ⟨rfl, hw⟩⟩
  pend_ok := fun s hs => by simp [MWr.newBytes] at hs
  pend_nodup := by simp [MWr.newBytes]
  pend_sorted := by simp [MWr.newBytes]
  reg_ok := fun g hg => by simp [MWr.newBytes] at hg
  reg_w := fun g hg => by simp [MWr.newBytes] at hg
  reg_disj := by simp [MWr.newBytes]

end Verif.Mem
