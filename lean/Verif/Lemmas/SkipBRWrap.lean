/-
  Lemmas/SkipBRWrap: provenance of every error BufferReader.Skip (model `skipBRAt`) returns.
  An error is either `.wrap se` — NewProtocolExceptionWithErr(se) — where `se` is exactly the error a
  `Next`/`Skip` call of the underlying bufiox reader returned, that call being made in a reader state
  reached from the initial one through calls that did not fail; or it is one of the three grammar
  exceptions errNegativeSize / errDepthLimitExceeded / "unknown data type" (INVALID_DATA).
  Nothing else: never a bare reader error, never another type id.
-/
import Verif.Lemmas.SkipBR
namespace Verif

/-- `reqBound` (2^31 · 16, the largest single request BufferReader.Skip can make), under the name the
    provenance statements use -/
def brReq : Nat := 34359738368

/-- the requests BufferReader.Skip makes: non-negative and at most 2^35 bytes -/
def ReqOK (n : Int) : Prop := 0 ≤ n ∧ n.toNat ≤ brReq

/-- one call of the underlying reader that did not return an error value
    (`fail none` is the `(nil, nil)` return the model keeps possible; see Model/SkipStream) -/
inductive RdStep : Rd → Rd → Prop
  | next {r : Rd} {n : Int} {b : Bytes} {r' : Rd} : ReqOK n → r.next n = (.ok b, r') → RdStep r r'
  | nextNil {r : Rd} {n : Int} {r' : Rd} : ReqOK n → r.next n = (.fail none, r') → RdStep r r'
  | skip {r : Rd} {n : Int} {b : Bytes} {r' : Rd} : ReqOK n → r.skip n = (.ok b, r') → RdStep r r'
  | skipNil {r : Rd} {n : Int} {r' : Rd} : ReqOK n → r.skip n = (.fail none, r') → RdStep r r'

/-- reader states reachable through calls that did not fail -/
inductive RdReach : Rd → Rd → Prop
  | refl (r : Rd) : RdReach r r
  | step {r r1 r2 : Rd} : RdStep r r1 → RdReach r1 r2 → RdReach r r2

theorem RdReach.trans {a b c : Rd} (h1 : RdReach a b) (h2 : RdReach b c) : RdReach a c := by
  induction h1 with
  | refl => exact h2
  | step s _ ih => exact .step s (ih h2)

theorem RdReach.one {a b : Rd} (s : RdStep a b) : RdReach a b := .step s (.refl b)

/-- in state r a `Next(n)` / `Skip(n)` (0 ≤ n ≤ 2^35) of the underlying reader fails with the error `se` -/
def RdFails (r : Rd) (se : RErr) : Prop :=
  ∃ (n : Int) (r' : Rd), ReqOK n ∧ (r.next n = (.fail (some se), r') ∨ r.skip n = (.fail (some se), r'))

/-- the errors BufferReader.Skip can return, with where they come from -/
inductive BRErr (r0 : Rd) : TErr → Prop
  | wrap {r : Rd} {se : RErr} : RdReach r0 r → RdFails r se → BRErr r0 (.wrap se)
  | neg : BRErr r0 errNeg
  | depth : BRErr r0 errDepth
  | unknownType : BRErr r0 errUnknownType

theorem BRErr.mono {r0 r : Rd} {e : TErr} (h : RdReach r0 r) (he : BRErr r e) : BRErr r0 e := by
  cases he with
  | wrap hr hf => exact .wrap (h.trans hr) hf
  | neg => exact .neg
  | depth => exact .depth
  | unknownType => exact .unknownType

/-- a reader computation only moves the reader through non-failing calls, and every error it
    returns has a provenance -/
def RMProv {α : Type} (m : RM α) : Prop :=
  ∀ r, (∀ a r', m r = .ok (a, r') → RdReach r r') ∧ (∀ e, m r = .err e → BRErr r e)

theorem RMProv.bindQ {α β : Type} {m : RM α} {f : α × Rd → TOut (β × Rd)} (Q : α → Prop)
    (hm : RMProv m) (hq : ∀ r a r', m r = .ok (a, r') → Q a)
    (hf : ∀ a, Q a → RMProv (fun r => f (a, r))) : RMProv (fun r => (m r).bind f) := by
  intro r
  show (∀ b r', (m r).bind f = .ok (b, r') → RdReach r r') ∧ (∀ e, (m r).bind f = .err e → BRErr r e)
  cases hmr : m r with
  | ok p =>
    obtain ⟨a, r1⟩ := p
    have hfa := hf a (hq r a r1 hmr) r1
    have hr := (hm r).1 a r1 hmr
    exact ⟨fun b r' h => hr.trans (hfa.1 b r' h), fun e h => BRErr.mono hr (hfa.2 e h)⟩
  | err e' => exact ⟨fun _ _ h => (by cases h), fun e h => (by cases h; exact (hm r).2 _ hmr)⟩
  | _ => exact ⟨fun _ _ h => (by cases h), fun _ h => (by cases h)⟩

theorem RMProv.bind {α β : Type} {m : RM α} {f : α × Rd → TOut (β × Rd)}
    (hm : RMProv m) (hf : ∀ a, RMProv (fun r => f (a, r))) : RMProv (fun r => (m r).bind f) :=
  RMProv.bindQ (fun _ => True) hm (fun _ _ _ _ => trivial) (fun a _ => hf a)

/-- a stateless step (slice index, table lookup) that cannot return an error value -/
theorem RMProv.pre {α γ : Type} {x : TOut γ} {f : γ → RM α} (hx : ∀ e, x ≠ .err e)
    (hf : ∀ c, x = .ok c → RMProv (f c)) : RMProv (fun r => x.bind (fun c => f c r)) := by
  unfold RMProv
  intro r
  cases x with
  | ok c => exact hf c rfl r
  | err e => exact absurd rfl (hx e)
  | _ => exact ⟨fun _ _ h => (by cases h), fun _ h => (by cases h)⟩

theorem RMProv.congr {α : Type} {m m' : RM α} (h : ∀ r, m r = m' r) (hm : RMProv m') : RMProv m :=
  fun r => by rw [h r]; exact hm r

theorem RMProv.pure {α : Type} (a : α) : RMProv (fun r => (.ok (a, r) : TOut (α × Rd))) := by
  intro r
  constructor
  · intro a' r' h; cases h; exact .refl r
  · intro e h; cases h

theorem RMProv.fail {α : Type} {e : TErr} (he : ∀ r, BRErr r e) : RMProv (fun _ => (.err e : TOut (α × Rd))) := by
  intro r
  constructor
  · intro a' r' h; cases h
  · intro e' h; cases h; exact he r

theorem idx_noerr (b : Bytes) (i : Nat) (e : TErr) : idx b i ≠ .err e := by
  unfold idx; split <;> simp

theorem u32of_noerr (b : Bytes) (e : TErr) : u32of b ≠ .err e := by
  unfold u32of; split <;> simp

theorem u32of_val (b : Bytes) (c : Nat) (h : u32of b = .ok c) : c < 4294967296 := by
  unfold u32of at h
  split at h
  · cases h; exact rd32_lt b
  · cases h

theorem reqOK_small (n : Int) (h0 : 0 ≤ n) (h : n ≤ 8) : ReqOK n := by
  unfold ReqOK brReq; omega

theorem reqOK_fixed (t : UInt8) : ReqOK ((fixedSize t : Nat) : Int) := by
  have := fixedSize_le t
  unfold ReqOK brReq; omega

theorem brNext_prov (n : Int) (hn : ReqOK n) : RMProv (brNext n) := by
  intro r
  unfold brNext
  generalize hx : r.next n = p
  obtain ⟨res, r'⟩ := p
  cases res with
  | ok b => exact ⟨fun _ _ h => (by cases h; exact .one (.next hn hx)), fun _ h => (by cases h)⟩
  | fail e =>
    cases e with
    | none => exact ⟨fun _ _ h => (by cases h; exact .one (.nextNil hn hx)), fun _ h => (by cases h)⟩
    | some se =>
      exact ⟨fun _ _ h => (by cases h), fun _ h => (by cases h; exact .wrap (.refl r) ⟨n, r', hn, .inl hx⟩)⟩
  | nofuel => exact ⟨fun _ _ h => (by cases h), fun _ h => (by cases h)⟩

theorem brSkipn_prov (n : Int) (hb : n.toNat ≤ brReq) : RMProv (brSkipn n) := by
  intro r
  unfold brSkipn
  by_cases hn : n < 0
  · rw [if_pos hn]
    exact ⟨fun _ _ h => (by cases h), fun _ h => (by cases h; exact .neg)⟩
  · rw [if_neg hn]
    have hok : ReqOK n := ⟨by omega, hb⟩
    generalize hx : r.skip n = p
    obtain ⟨res, r'⟩ := p
    cases res with
    | ok b => exact ⟨fun _ _ h => (by cases h; exact .one (.skip hok hx)), fun _ h => (by cases h)⟩
    | fail e =>
      cases e with
      | none => exact ⟨fun _ _ h => (by cases h; exact .one (.skipNil hok hx)), fun _ h => (by cases h)⟩
      | some se =>
        exact ⟨fun _ _ h => (by cases h), fun _ h => (by cases h; exact .wrap (.refl r) ⟨n, r', hok, .inr hx⟩)⟩
    | nofuel => exact ⟨fun _ _ h => (by cases h), fun _ h => (by cases h)⟩

theorem brReadI32_prov : RMProv brReadI32 := by
  unfold brReadI32
  simp only [Out.bind_eq, Out.pure_eq]
  refine RMProv.bind (brNext_prov 4 (reqOK_small 4 (by omega) (by omega))) (fun b => ?_)
  exact RMProv.pre (u32of_noerr b) (fun v _ => RMProv.pure _)

/-- the value ReadI32 returns is an int32 -/
theorem brReadI32_val (r : Rd) (n : Int) (r' : Rd) (h : brReadI32 r = .ok (n, r')) : n.toNat ≤ brReq := by
  unfold brReadI32 at h
  simp only [Out.bind_eq, Out.pure_eq] at h
  cases hx : brNext 4 r with
  | ok p =>
    rw [hx, Out.bind_ok] at h
    cases hu : u32of p.1 with
    | ok v =>
      rw [hu] at h
      cases h
      have := u32of_val _ _ hu
      unfold toI32 brReq
      split <;> omega
    | _ => rw [hu] at h; cases h
  | _ => rw [hx] at h; cases h

theorem brSkipStr_prov : RMProv brSkipStr := by
  unfold brSkipStr
  simp only [Out.bind_eq]
  exact RMProv.bindQ (fun n => n.toNat ≤ brReq) brReadI32_prov brReadI32_val (fun n hn => brSkipn_prov n hn)

theorem brElem_prov {rec : UInt8 → RM Unit} (hrec : ∀ t, RMProv (rec t)) (t : UInt8) (sz : Int)
    (hsz : sz.toNat ≤ brReq) : RMProv (brElem rec t sz) := by
  unfold brElem
  by_cases h : sz > 0
  · simp only [h, if_true]; exact brSkipn_prov sz hsz
  · by_cases hs : t = T_STRING
    · simp only [h, hs, if_true, if_false]; exact brSkipStr_prov
    · simp only [h, hs, if_false]; exact hrec t

theorem brMapLoop_prov {rec : UInt8 → RM Unit} (hrec : ∀ t, RMProv (rec t)) (kt vt : UInt8) (ksz vsz : Int)
    (hk : ksz.toNat ≤ brReq) (hv : vsz.toNat ≤ brReq) :
    ∀ cnt, RMProv (brMapLoop rec kt vt ksz vsz cnt) := by
  intro cnt
  induction cnt with
  | zero => exact RMProv.pure ()
  | succ cnt ih =>
    show RMProv (fun r => brMapLoop rec kt vt ksz vsz (cnt + 1) r)
    simp only [brMapLoop, Out.bind_eq]
    refine RMProv.bind (brElem_prov hrec kt ksz hk) (fun _ => ?_)
    refine RMProv.bind (brElem_prov hrec vt vsz hv) (fun _ => ?_)
    exact ih

theorem brListLoop_prov {rec : UInt8 → RM Unit} (hrec : ∀ t, RMProv (rec t)) (vt : UInt8) :
    ∀ cnt, RMProv (brListLoop rec vt cnt) := by
  intro cnt
  induction cnt with
  | zero => exact RMProv.pure ()
  | succ cnt ih =>
    show RMProv (fun r => brListLoop rec vt (cnt + 1) r)
    simp only [brListLoop, Out.bind_eq]
    have h1 : RMProv (fun r => if vt = T_STRING then brSkipStr r else rec vt r) := by
      by_cases hs : vt = T_STRING
      · simp only [hs, if_true]; exact brSkipStr_prov
      · simp only [hs, if_false]; exact hrec vt
    exact RMProv.bind h1 (fun _ => ih)

theorem brFieldBegin_prov : RMProv brFieldBegin := by
  unfold brFieldBegin
  simp only [Out.bind_eq, Out.pure_eq]
  refine RMProv.bind (brNext_prov 1 (reqOK_small 1 (by omega) (by omega))) (fun b => ?_)
  refine RMProv.pre (idx_noerr b 0) (fun t _ => ?_)
  by_cases ht : t = T_STOP
  · simpa [ht] using RMProv.pure (α := UInt8) T_STOP
  · simp only [ht, if_false]
    refine RMProv.bind (brNext_prov 2 (reqOK_small 2 (by omega) (by omega))) (fun b2 => ?_)
    exact RMProv.pre (idx_noerr b2 1) (fun _ _ => RMProv.pure _)

theorem brStructLoop_prov {rec : UInt8 → RM Unit} (hrec : ∀ t, RMProv (rec t)) :
    ∀ fuel, RMProv (brStructLoop rec fuel) := by
  intro fuel
  induction fuel with
  | zero =>
    intro r
    constructor
    · intro _ _ h; simp [brStructLoop] at h
    · intro _ h; simp [brStructLoop] at h
  | succ fuel ih =>
    show RMProv (fun r => brStructLoop rec (fuel + 1) r)
    simp only [brStructLoop, Out.bind_eq, Out.pure_eq, typeSize_eq, Out.bind_ok]
    refine RMProv.bind brFieldBegin_prov (fun ft => ?_)
    by_cases ht : ft = T_STOP
    · simpa [ht] using RMProv.pure ()
    · simp only [ht, if_false]
      have h1 : RMProv (fun r => if ((fixedSize ft : Nat) : Int) > 0
          then brSkipn ((fixedSize ft : Nat) : Int) r else rec ft r) := by
        by_cases hs : ((fixedSize ft : Nat) : Int) > 0
        · simp only [hs, if_true]; exact brSkipn_prov _ (reqOK_fixed ft).2
        · simp only [hs, if_false]; exact hrec ft
      exact RMProv.bind h1 (fun _ => ih)

/-- a non-negative int32 size times a fixed width stays within the request bound -/
theorem fast_req (szu a : Nat) (hu : szu < 4294967296) (hneg : ¬ toI32 szu < 0) (ha : a ≤ 16) :
    (((szu : Nat) : Int) * ((a : Nat) : Int)).toNat ≤ brReq := by
  have hlt : szu < 2147483648 := by
    unfold toI32 at hneg
    split at hneg <;> omega
  rw [← Int.natCast_mul, Int.toNat_natCast]
  exact mul_le_reqBound szu a hlt ha

theorem brMapBody_prov {rec : UInt8 → RM Unit} (hrec : ∀ t, RMProv (rec t)) : RMProv (brMapBody rec) := by
  unfold brMapBody
  simp only [Out.bind_eq, typeSize_eq, Out.bind_ok]
  refine RMProv.bind (brNext_prov 6 (reqOK_small 6 (by omega) (by omega))) (fun b => ?_)
  dsimp only
  refine RMProv.pre (idx_noerr b 0) (fun kt _ => ?_)
  refine RMProv.pre (idx_noerr b 1) (fun vt _ => ?_)
  refine RMProv.pre (u32of_noerr _) (fun szu hszu => ?_)
  have hu := u32of_val _ _ hszu
  by_cases hneg : toI32 szu < 0
  · simpa only [hneg, if_true] using RMProv.fail (α := Unit) (fun _ => .neg)
  · simp only [hneg, if_false]
    by_cases hfast : ((fixedSize kt : Nat) : Int) > 0 ∧ ((fixedSize vt : Nat) : Int) > 0
    · simp only [hfast, and_self, if_true]
      refine brSkipn_prov _ ?_
      rw [← Int.natCast_add]
      have := fixedSize_le kt
      have := fixedSize_le vt
      exact fast_req szu _ hu hneg (by omega)
    · simp only [hfast, if_false]
      exact brMapLoop_prov hrec kt vt _ _ (reqOK_fixed kt).2 (reqOK_fixed vt).2 szu

theorem brListBody_prov {rec : UInt8 → RM Unit} (hrec : ∀ t, RMProv (rec t)) : RMProv (brListBody rec) := by
  unfold brListBody
  simp only [Out.bind_eq, typeSize_eq, Out.bind_ok]
  refine RMProv.bind (brNext_prov 5 (reqOK_small 5 (by omega) (by omega))) (fun b => ?_)
  dsimp only
  refine RMProv.pre (idx_noerr b 0) (fun vt _ => ?_)
  refine RMProv.pre (u32of_noerr _) (fun szu hszu => ?_)
  have hu := u32of_val _ _ hszu
  by_cases hneg : toI32 szu < 0
  · simpa only [hneg, if_true] using RMProv.fail (α := Unit) (fun _ => .neg)
  · simp only [hneg, if_false]
    by_cases hfast : ((fixedSize vt : Nat) : Int) > 0
    · simp only [hfast, if_true]
      refine brSkipn_prov _ ?_
      have := fixedSize_le vt
      exact fast_req szu _ hu hneg (by omega)
    · simp only [hfast, if_false]
      exact brListLoop_prov hrec vt szu

/-- every error of skipType has a provenance, at every depth and for every type byte -/
theorem skipBRAt_prov : ∀ d t, RMProv (skipBRAt d t) := by
  intro d
  induction d with
  | zero => intro t; exact RMProv.fail (fun _ => .depth)
  | succ d ih =>
    intro t
    by_cases hf : 0 < fixedSize t
    · exact .congr (fun r => by rw [skipBRAt_succ, if_pos hf]) (brSkipn_prov _ (reqOK_fixed t).2)
    by_cases hs : t = TT.STRING
    · exact .congr (fun r => by rw [skipBRAt_succ, if_neg hf, if_pos hs]) brSkipStr_prov
    by_cases hm : t = TT.MAP
    · exact .congr (fun r => by rw [skipBRAt_succ, if_neg hf, if_neg hs, if_pos hm]) (brMapBody_prov ih)
    by_cases hl : t = TT.LIST ∨ t = TT.SET
    · exact .congr (fun r => by rw [skipBRAt_succ, if_neg hf, if_neg hs, if_neg hm, if_pos hl]) (brListBody_prov ih)
    by_cases hst : t = TT.STRUCT
    · exact .congr (fun r => by rw [skipBRAt_succ, if_neg hf, if_neg hs, if_neg hm, if_neg hl, if_pos hst])
        (fun r => brStructLoop_prov ih _ r)
    · exact .congr (fun r => by rw [skipBRAt_succ, if_neg hf, if_neg hs, if_neg hm, if_neg hl, if_neg hst])
        (RMProv.fail (α := Unit) (fun _ => .unknownType))

theorem skipBR_prov (t : UInt8) : RMProv (skipBR t) := skipBRAt_prov _ t

end Verif
