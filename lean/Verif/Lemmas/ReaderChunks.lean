/-
  Lemmas/ReaderChunks: chunked sources of arbitrary chunk sizes, final data together with the error.
  (a) per request: `chunks_enough` — all k ≥ 1, an error only on the last entry, the chunks
      cover the need ⇒ `Enough` (the data that arrives with the error counts);
  (b) along histories, for streams that fit the first buffer: `Rd.LiveChunks` is kept by every
      operation and serves every request that fits (`SteadyChunks`, Spec/Cursor).
-/
import Verif.Lemmas.ReaderSteady
namespace Verif

theorem chunksOk_cons {x : Resp} {rest : List Resp} (h : chunksOk (x :: rest) = true) :
    1 ≤ x.k ∧ chunksOk rest = true ∧ (rest ≠ [] → x.err = none) := by
  cases rest with
  | nil => simp [chunksOk] at h ⊢; exact h
  | cons y ys =>
    simp only [chunksOk, Bool.and_eq_true, decide_eq_true_eq] at h
    refine ⟨h.1.1, ?_, fun _ => ?_⟩
    · simpa [chunksOk] using h.2
    · cases hx : x.err with
      | none => rfl
      | some e => rw [hx] at h; simp at h

/-- (a) arbitrary chunk sizes: the chunks deliver any need they and the stream cover -/
theorem chunks_enough (M : Nat) (s : List Resp) (need z slen : Nat) (hc : chunksOk s = true)
    (h0 : 0 < need) (hle : need ≤ slen) (hsum : need ≤ sumK s) (hz : z < M) :
    Enough M s need z slen = true := by
  induction s generalizing need z slen with
  | nil => simp [sumK] at hsum; omega
  | cons x rest ih =>
    obtain ⟨hk, hrest, herr⟩ := chunksOk_cons hc
    simp only [sumK] at hsum
    have hzM : ¬ z ≥ M := by omega
    unfold Enough
    simp only [hzM, if_false]
    generalize hd : min (min x.k need) slen = d
    by_cases hge : d ≥ need
    · simp [hge]
    · have hdk : d = x.k := by omega
      have hpos : d > 0 := by omega
      have hne : rest ≠ [] := by
        intro hnil; rw [hnil] at hsum; simp [sumK] at hsum; omega
      have hes : x.err.isSome = false := by rw [herr hne]; rfl
      simp only [hge, if_false, hes, Bool.false_eq_true, hpos, if_true]
      exact ih _ _ _ hrest (by omega) (by omega) (by omega) (by omega)

/-- the source part of (b): no error yet, a chunked rest of the script that covers the rest of the stream -/
structure ChunkSrc (r : Rd) : Prop where
  err : r.err = none
  ok : chunksOk r.src.script = true
  cover : r.src.stream.length ≤ sumK r.src.script

/-- the read loop with room for EVERYTHING that is left: every entry hands over its full
    `min k left`, so the chunks keep covering the rest; the last entry hands over all the rest -/
theorem readLoop_chunks {M need room i : Nat} {s s' : Src} {ok : Bool} {e : Option RErr}
    (h : Pull M need room i s s' ok e) (hi : i < M ∨ s.stream = [])
    (hc : chunksOk s.script = true) (hcov : s.stream.length ≤ sumK s.script)
    (hroom : s.stream.length ≤ room) :
    s'.stream = [] ∨ (e = none ∧ chunksOk s'.script = true ∧ s'.stream.length ≤ sumK s'.script) := by
  have hnil : ∀ l : Bytes, l.length = 0 → l = [] := fun l hl => List.eq_nil_of_length_eq_zero hl
  induction h with
  | stall hM => exact Or.inl (hi.elim (fun h => absurd h (by omega)) id)
  | eof _ hs => rw [hs] at hcov; exact Or.inl (hnil _ (by simpa [sumK] using hcov))
  | err _ hs hd he =>
    replace hd := took_free hd (Or.inr hroom)
    rw [hs] at hc hcov
    obtain ⟨_, _, herr⟩ := chunksOk_cons hc
    have hlast : _ = [] := Classical.byContradiction fun hne => by rw [herr hne] at he; cases he
    rw [hlast] at hcov; simp only [sumK] at hcov
    exact Or.inl (hnil _ (by rw [List.length_drop]; omega))
  | @done _ _ _ _ _ rest _ _ hs hd he hge =>
    replace hd := took_free hd (Or.inr hroom)
    rw [hs] at hc hcov
    obtain ⟨_, hrest, _⟩ := chunksOk_cons hc
    simp only [sumK] at hcov
    by_cases hlast : rest = []
    · rw [hlast] at hcov; simp only [sumK] at hcov
      exact Or.inl (hnil _ (by rw [List.length_drop]; omega))
    · exact Or.inr ⟨rfl, hrest, by simp only [List.length_drop]; omega⟩
  | more hM hs hd he hlt _ ih =>
    replace hd := took_free hd (Or.inr hroom)
    rw [hs] at hc hcov
    obtain ⟨hk, hrest, _⟩ := chunksOk_cons hc
    simp only [sumK] at hcov
    refine ih ?_ hrest (by simp only [List.length_drop]; omega) (by simp only [List.length_drop]; omega)
    split
    · exact Or.inl (by omega)
    · exact Or.inr (hnil _ (by rw [List.length_drop]; omega))

/-- (b) live for a small stream: chunked source, and the reader's own buffer (allocated at least
    `defaultBufSize` big) has room for everything that is buffered plus everything that is left -/
structure Rd.LiveChunks (r : Rd) : Prop where
  src : ChunkSrc r
  own : r.readOnly = false
  cap : r.cap = 0 ∨ Facts.defaultBufSize ≤ r.cap
  small : r.buf.length + r.src.stream.length ≤ Facts.defaultBufSize

/-- live, generalised: `Rd.Live` (everything handed over / `Steady`) or `Rd.LiveChunks` -/
def Rd.Live2 (r : Rd) : Prop := r.Live ∨ r.LiveChunks

theorem live2_canServe (r : Rd) (n : Nat) (hl : r.Live2) (hn : n ≤ r.remaining.length) :
    r.canServe n = true := by
  rcases hl with hl | hl
  · exact live_canServe r n hl hn
  · exact canServe_of_enough r n hn fun need h0 _ hle =>
      ⟨hl.src.err, chunks_enough _ _ _ _ _ hl.src.ok h0 hle (Nat.le_trans hle hl.src.cover) maxEmpty_pos⟩

theorem live2_drained (r : Rd) (hl : r.Live2) (he : r.err ≠ none) : r.src.stream = [] := by
  rcases hl with (hl | ⟨h1, _⟩) | hl
  · exact hl
  · exact absurd h1 he
  · exact absurd hl.src.err he

theorem acquire_keeps_live2 (r : Rd) (n m : Nat) (r' : Rd) (hinv : Inv r) (hs : r.Small n)
    (hl : r.Live2) (h : r.acquire n = some (m, r')) : r'.Live2 := by
  rcases hl with hl | hl
  · exact Or.inl (acquire_keeps_live r n m r' hinv hs hl h)
  · obtain ⟨dd, hb, hst⟩ := (acquire_post r n m r' hinv hs h).data
    rcases acquire_cases r n m r' hinv hs h with ⟨rfl, _⟩ | ⟨_, _, hcap, hro, _, hp⟩
    · exact Or.inr hl
    · -- the buffer the loop fills is the reader's own, at least `defaultBufSize` big
      obtain ⟨c, ro, heq, _, hcc, _, hc0, hown, _⟩ := prepare_shape r n hinv hs
      rw [heq] at hcap hro hp
      have hcapB : Facts.defaultBufSize ≤ c := hl.cap.elim hc0 (fun h => Nat.le_trans h hcc)
      have hsmall := hl.small
      have hsum : r'.buf.length + r'.src.stream.length = r.buf.length + r.src.stream.length := by
        rw [hb, hst, List.length_append, List.length_append]; omega
      rcases readLoop_chunks hp (Or.inl maxEmpty_pos) hl.src.ok hl.src.cover
        (by simp only []; omega) with hnil | ⟨he, hok, hcov⟩
      · exact Or.inl (Or.inl hnil)
      · exact Or.inr ⟨⟨he, hok, hcov⟩, hro.trans (hown hl.own), Or.inr (by rw [hcap]; exact hcapB),
          by rw [hsum]; exact hsmall⟩

theorem Rd.Live2.advance {r : Rd} (h : r.Live2) (k : Nat) : ({ r with ri := r.ri + k } : Rd).Live2 := by
  rcases h with h | h
  · exact Or.inl (h.frame rfl rfl)
  · exact Or.inr ⟨⟨h.src.err, h.src.ok, h.src.cover⟩, h.own, h.cap, h.small⟩

theorem live2_release (r : Rd) (h : r.Live2) : r.release.Live2 := by
  have hf := release_frame r
  rcases h with h | h
  · exact Or.inl (h.frame hf.1 hf.2)
  · refine Or.inr ⟨⟨by rw [hf.1]; exact h.src.err, by rw [hf.2]; exact h.src.ok,
      by rw [hf.2]; exact h.src.cover⟩, ?_, ?_, ?_⟩
    · unfold Rd.release; split
      · exact h.own
      · split <;> exact h.own
    · unfold Rd.release; split
      · exact Or.inl rfl
      · split
        · rename_i hro; rw [h.own] at hro; simp at hro
        · exact h.cap
    · have hsm := h.small
      rw [hf.2]
      have : r.release.buf.length ≤ r.buf.length := by
        unfold Rd.release; split
        · simp
        · split <;> simp
      omega

theorem live2_newDefault_chunks (S : Bytes) (script : List Resp)
    (h : SteadyChunks Facts.defaultBufSize script S.length = true) : (Rd.newDefault ⟨S, script⟩).Live2 := by
  simp only [SteadyChunks, Bool.and_eq_true, decide_eq_true_eq] at h
  exact Or.inr ⟨⟨rfl, h.1.2, h.2⟩, rfl, Or.inl rfl, by simpa [Rd.newDefault] using h.1.1⟩

/-- ONE STEP over a live (`Live2`) source: the source stays live, and the report passes the spec's
    liveness check `liveOk` at the contract's cursor -/
theorem step_live2 (c : Cur) (r : Rd) (op : ROp) (habs : Abs c r) (hs : r.Small op.size)
    (hl : r.Live2) : (r.step op).2.Live2 ∧ liveOk c op (r.step op).1 = true := by
  have hv := step_view r op habs.inv hs
  have hkeep := fun m r1 => acquire_keeps_live2 r op.size m r1 habs.inv hs hl
  constructor
  · exact hv.state Rd.Live2 (fun _ => ⟨hl, live2_release r hl⟩)
      (fun m r1 k _ hacq => (hkeep m r1 hacq).advance k)
  · exact hv.live habs (fun m r1 _ hacq =>
      ⟨fun hfit => (acquire_live r _ m r1 habs.inv hs hacq).mpr (live2_canServe r _ hl hfit),
       fun _ he => live2_drained r1 (hkeep m r1 hacq) he⟩)

end Verif
