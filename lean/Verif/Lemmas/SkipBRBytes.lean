/-
  Lemmas/SkipBRBytes: readers whose source is exhausted (`src = ⟨[], []⟩` — NewBytesReader's
  fakeIOReader, or any reader after its stream ran dry) satisfy the reader contract `RdC` for EVERY
  request size and every capacity, with no size hypothesis at all: a request either fits into the
  buffer (fast path) or fails with a non-nil error (the pending one, or io.EOF) and changes
  nothing the skippers can see.  Hence the stream skippers are total and exact on bytes-backed
  readers for every byte string, every capacity and every type byte.
-/
import Verif.Lemmas.SkipBR
import Verif.Lemmas.ReaderSteady
namespace Verif

/-- a fully buffered reader: nothing more will ever come from the source -/
def RdDry (r : Rd) : Prop :=
  r.src = ⟨[], []⟩ ∧ r.ri ≤ r.buf.length ∧ (r.cap = 0 → r.buf = [])

theorem RdDry.remaining {r : Rd} (h : RdDry r) : r.remaining = r.buf.drop r.ri := by
  unfold Rd.remaining; rw [h.1]; simp

theorem prepare_frame (r : Rd) (n : Nat) :
    (r.prepare n).buf = (if r.cap = 0 then [] else r.buf) ∧ (r.prepare n).ri = r.ri ∧
    (r.prepare n).src = r.src ∧ (r.prepare n).err = r.err := by
  unfold Rd.prepare
  by_cases hc : r.cap = 0
  · simp only [hc, if_true]; repeat' split
    all_goals simp
  · simp only [hc, if_false]; repeat' split
    all_goals simp

theorem prepare_cap_pos (r : Rd) (n : Nat) (hc : r.cap = 0) : 0 < (r.prepare n).cap := by
  unfold Rd.prepare
  simp only [hc, if_true]
  repeat' split
  all_goals (simp only []; exact pow2ceil_pos _)

/-- `acquire` on a dry reader: the fast path, or a failure that leaves buffer and cursor alone -/
theorem dry_acquire (r : Rd) (k : Nat) (h : RdDry r) :
    (k ≤ r.buf.length - r.ri ∧ r.acquire k = some (k, r)) ∨
    (¬ k ≤ r.buf.length - r.ri ∧ ∃ r' e, r.acquire k = some (r.buf.length - r.ri, r') ∧
      r'.err = some e ∧ r'.buf = r.buf ∧ r'.ri = r.ri ∧ RdDry r') := by
  obtain ⟨hsrc, hri, hcap⟩ := h
  by_cases hfast : k ≤ r.buf.length - r.ri
  · left; exact ⟨hfast, by simp [Rd.acquire, hfast]⟩
  · right
    refine ⟨hfast, ?_⟩
    cases herr : r.err with
    | some e =>
      exact ⟨r, e, by simp [Rd.acquire, hfast, Rd.acquireSlow, herr], herr, rfl, rfl, hsrc, hri, hcap⟩
    | none =>
      obtain ⟨hb, hr, hs, he⟩ := prepare_frame r k
      have hbuf : (r.prepare k).buf = r.buf := by
        rw [hb]; split
        · rename_i hc; exact (hcap hc).symm
        · rfl
      have hM := maxEmpty_pos
      have hnotge : ¬ (0 ≥ Facts.maxConsecutiveEmptyReads) := by omega
      have hread : ∀ room, (r.prepare k).src.read room = ([], some .eof, (r.prepare k).src) := by
        intro room; apply Src.read_nil; rw [hs, hsrc]
      refine ⟨{ r.prepare k with buf := (r.prepare k).buf ++ [], src := (r.prepare k).src, err := some .eof },
        .eof, ?_, rfl, by simp [hbuf], hr, ?_, ?_, ?_⟩
      · simp only [Rd.acquire, hfast, if_false, Rd.acquireSlow, herr, Option.isSome_none,
          Bool.false_eq_true, Rd.readLoop, hnotge, hread, List.append_nil, hbuf, hr]
      · simp [hs, hsrc]
      · simp only [List.append_nil, hbuf, hr]; exact hri
      · intro hc0
        simp only [] at hc0
        simp only [List.append_nil, hbuf]
        by_cases hc : r.cap = 0
        · exact hcap hc
        · exfalso
          have hpc : (r.prepare k).cap ≠ 0 := by
            unfold Rd.prepare
            simp only [hc, if_false]
            split
            · have := pow2ceil_pos (growCap 64 (r.cap * 2) r.ri k); simp only []; omega
            · exact hc
          exact hpc hc0

theorem dry_ops (r : Rd) (n : Int) (hp : RdDry r) (h0 : 0 ≤ n) :
    (n.toNat ≤ r.remaining.length ∧
      r.next n = (.ok (r.remaining.take n.toNat), { r with ri := r.ri + n.toNat }) ∧
      r.skip n = (.ok [], { r with ri := r.ri + n.toNat }) ∧
      r.peek n = (.ok (r.remaining.take n.toNat), r) ∧
      RdDry { r with ri := r.ri + n.toNat } ∧
      ({ r with ri := r.ri + n.toNat } : Rd).remaining = r.remaining.drop n.toNat) ∨
    (r.remaining.length < n.toNat ∧ ∃ e r',
      r.next n = (.fail (some e), r') ∧ r.skip n = (.fail (some e), r') ∧
      r.peek n = (.fail (some e), r')) := by
  have hneg : ¬ n < 0 := by omega
  rw [hp.remaining, List.length_drop]
  rcases dry_acquire r n.toNat hp with ⟨hfit, ha⟩ | ⟨hnfit, r', e, ha, he, _⟩
  · left
    have hd : RdDry { r with ri := r.ri + n.toNat } :=
      ⟨hp.1, by have := hp.2.1; simp only []; omega, hp.2.2⟩
    have hng : ¬ n.toNat > n.toNat := Nat.lt_irrefl _
    refine ⟨hfit, ?_, ?_, ?_, hd, by rw [hd.remaining]; simp only [List.drop_drop]⟩
    · simp only [Rd.next, hneg, ha, hng, if_false]
    · simp only [Rd.skip, hneg, ha, hng, if_false]
    · simp only [Rd.peek, hneg, ha, hng, if_false]
  · right
    have hgt : n.toNat > r.buf.length - r.ri := by omega
    refine ⟨by omega, e, r', ?_, ?_, ?_⟩
    · simp only [Rd.next, hneg, ha, hgt, he, if_true, if_false]
    · simp only [Rd.skip, hneg, ha, hgt, he, if_true, if_false]
    · simp only [Rd.peek, hneg, ha, hgt, he, if_true, if_false]

/-- THE INSTANCE for fully buffered readers: an exact cursor, for every request size -/
theorem rdc_dry (bnd : Nat) : RdC RdDry True bnd := by
  refine ⟨?_, ?_, ?_⟩
  · intro r n hp h0 _
    rcases dry_ops r n hp h0 with ⟨hfit, hx, _, _, hd, hrem⟩ | ⟨hl, e, r', hx, _, _⟩
    · exact .inl ⟨_, hx, hfit, hrem, rfl, hd⟩
    · exact .inr ⟨e, r', hx, fun _ => hl⟩
  · intro r n hp h0 _
    rcases dry_ops r n hp h0 with ⟨hfit, _, hx, _, hd, hrem⟩ | ⟨hl, e, r', _, hx, _⟩
    · exact .inl ⟨_, _, hx, hfit, hrem, rfl, hd⟩
    · exact .inr ⟨e, r', hx, fun _ => hl⟩
  · intro r n hp h0 _
    rcases dry_ops r n hp h0 with ⟨hfit, _, _, hx, _, _⟩ | ⟨hl, e, r', _, _, hx⟩
    · exact .inl ⟨r, hx, hfit, rfl, rfl, hp⟩
    · exact .inr ⟨e, r', hx, fun _ => hl⟩

theorem newBytes_dry (b : Bytes) (cap : Nat) : RdDry (Rd.newBytes b cap) := by
  unfold Rd.newBytes
  split
  · rename_i hc; exact ⟨rfl, Nat.zero_le _, fun h => by simp only [] at h; omega⟩
  · exact ⟨rfl, Nat.zero_le _, fun _ => rfl⟩

theorem newBytes_remaining (b : Bytes) (cap : Nat) (hcap : b.length ≤ cap) :
    (Rd.newBytes b cap).remaining = b ∧ (Rd.newBytes b cap).ri = 0 := by
  unfold Rd.newBytes; split
  · simp [Rd.remaining]
  · have : b = [] := by apply List.eq_nil_of_length_eq_zero; omega
    simp [Rd.remaining, Rd.newDefault, this]

/-- BufferReader.Skip on a fully buffered reader — every buffer content, every capacity, every type
    byte: ok iff refBR 64 accepts a prefix of the unread bytes, then exactly that prefix is
    consumed and ReadLen grows by its length; otherwise an error.  Never a panic. -/
theorem skipBR_dry (r : Rd) (t : UInt8) (h : RdDry r) :
    match refBR Facts.defaultRecursionDepth t r.remaining with
    | some n => ∃ r', skipBR t r = .ok ((), r') ∧ r'.remaining = r.remaining.drop n ∧
        r'.readLen = r.readLen + n ∧ RdDry r'
    | none => ∃ e, skipBR t r = .err e := by
  rcases skipBR_ref (rdc_dry reqBound) (Nat.le_refl _) t r h with ⟨e, hx, hnone⟩ | ⟨k, r', ho, hx, h'⟩
  · rw [hnone trivial]; exact ⟨e, hx⟩
  · rw [ho]; exact ⟨r', hx, h'⟩

theorem skipBR_newBytes (b : Bytes) (cap : Nat) (t : UInt8) (hcap : b.length ≤ cap) :
    match refBR 64 t b with
    | some n => ∃ r', skipBR t (Rd.newBytes b cap) = .ok ((), r') ∧ r'.remaining = b.drop n ∧ r'.readLen = n
    | none => ∃ e, skipBR t (Rd.newBytes b cap) = .err e := by
  have h := skipBR_dry (Rd.newBytes b cap) t (newBytes_dry b cap)
  obtain ⟨hr, hri⟩ := newBytes_remaining b cap hcap
  rw [hr, defaultRecursionDepth_eq] at h
  cases hb : refBR 64 t b with
  | none => rw [hb] at h; exact h
  | some n =>
    rw [hb] at h
    obtain ⟨r', hx, hrem, hlen, _⟩ := h
    exact ⟨r', hx, hrem, by rw [hlen, Rd.readLen, hri, Nat.zero_add]⟩

end Verif
