/-
  Lemmas/SkipBin: Binary.Skip (model skipBinAt) agrees exactly with the acceptance discipline
  refBin (Lemmas/Grammar.lean) for every input: ok n iff refBin says n, otherwise an error — never a
  panic, never an out-of-bounds load.  This is the error-exact refinement of Lemmas/SkipBinCause.lean
  with the error kinds forgotten.
-/
import Verif.Lemmas.SkipBinCause
namespace Verif

def Matches (x : TOut Nat) (o : Option Nat) : Prop :=
  match o with
  | some n => x = .ok n
  | none => ∃ e, x = .err e

theorem matches_toOut (c : CRes) : Matches (toOut c) (okOf c) := by
  cases c with
  | ok n => exact rfl
  | error e => exact ⟨_, rfl⟩

/-- at the very end of the slice (the one offset the refinement theorem leaves out) every type fails -/
theorem skipBinAt_end (d : Nat) (b0 : Bytes) (off : Nat) (t : UInt8) (h : b0.drop off = []) :
    ∃ e, skipBinAt d b0 off t = .err e := by
  cases d with
  | zero => exact ⟨_, rfl⟩
  | succ d =>
    -- every branch starts with a bounds check that an empty slice fails
    rw [skipBinAt_succ, h]
    by_cases hf : 0 < fixedSize t
    · exact ⟨errShort, by rw [if_pos hf]; exact if_pos hf⟩
    rw [if_neg hf]
    by_cases hs : t = TT.STRING
    · exact ⟨_, by rw [if_pos hs]; rfl⟩
    by_cases hm : t = TT.MAP
    · exact ⟨_, by rw [if_neg hs, if_pos hm]; rfl⟩
    by_cases hl : t = TT.LIST ∨ t = TT.SET
    · exact ⟨_, by rw [if_neg hs, if_neg hm, if_pos hl]; rfl⟩
    by_cases hst : t = TT.STRUCT
    · exact ⟨_, by rw [if_neg hs, if_neg hm, if_neg hl, if_pos hst]; rfl⟩
    · exact ⟨_, by rw [if_neg hs, if_neg hm, if_neg hl, if_neg hst]⟩

theorem skipBinAt_matches : ∀ d (b0 : Bytes) (off : Nat) (t : UInt8), off ≤ b0.length →
    Matches (skipBinAt d b0 off t) (refBin d t (b0.drop off)) := by
  intro d b0 off t hoff
  by_cases h : off < b0.length
  · rw [skipBinAt_cause d b0 off t h, ← causeBin_okOf]
    exact matches_toOut _
  · have hnil : b0.drop off = [] := List.drop_eq_nil_of_le (by omega)
    rw [hnil, good_nil (refBin_good d t)]
    exact skipBinAt_end d b0 off t hnil

/-- Binary.Skip, whole function: exact agreement with refBin 64 on every input -/
theorem skipBin_matches (b : Bytes) (t : UInt8) :
    Matches (skipBin b t) (refBin Facts.defaultRecursionDepth t b) := by
  rw [skipBin_cause, defaultRecursionDepth_eq, ← causeBin_okOf]
  exact matches_toOut _

end Verif
