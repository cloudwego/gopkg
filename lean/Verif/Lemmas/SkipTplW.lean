/-
  Lemmas/SkipTplW: SkipDecoderTpl.Skip over a WEAK cursor — soundness over any source and exactness
  over live sources in one statement (the analogue of Lemmas/SkipBR.lean for the template skipper;
  an exact cursor for requests of every size, such as BytesSkipDecoder's, is the case `live := True`).

  `WCursor B rem P live bound`: for every state satisfying the back-end invariant `P` and every
  request `k ≤ bound` (`bound ≥ reqBound = 2^31·16`, the largest request the template can make),
     `SkipN k` returns exactly the next `k` bytes of `rem s` and `rem` loses exactly them,  or
     `SkipN k` fails with an error — and, when `live`, only because fewer than `k` bytes are left.
  `TMw` then says of `skipTplAt`: an error (over a live source only if refTpl rejects), or success
  with refTpl's extent consumed exactly.  Never a panic; the struct loop's fuel suffices.
-/
import Verif.Lemmas.SkipTpl
namespace Verif

structure WCursor {σ : Type} (B : Backend σ) (rem : σ → Bytes) (P : σ → Prop) (live : Prop) (bound : Nat) :
    Prop where
  step : ∀ s k, P s → k ≤ bound →
    (∃ s', B.skipN s k = .ok ((rem s).take k, s') ∧ k ≤ (rem s).length ∧ rem s' = (rem s).drop k ∧ P s') ∨
    (∃ e, B.skipN s k = .err e ∧ (live → (rem s).length < k))
  avail : ∀ s, P s → (rem s).length ≤ B.avail s

/-- `TMw`: a `TOut` computation *matches* `refTpl`'s answer `o`, over a *weak* cursor (the lemmas `…W`
    below have this conclusion) -/
def TMw {σ : Type} (rem : σ → Bytes) (P : σ → Prop) (live : Prop) (x : TOut σ) (o : Option Nat) (s : σ) : Prop :=
  (∃ e, x = .err e ∧ (live → o = none)) ∨
  (∃ k s', o = some k ∧ x = .ok s' ∧ rem s' = (rem s).drop k ∧ P s')

section
variable {σ : Type} {B : Backend σ} {rem : σ → Bytes} {P : σ → Prop} {live : Prop} {bound : Nat}

theorem skipNW (hC : WCursor B rem P live bound) (s : σ) (hs : P s) (k : Nat) (hk : k ≤ bound) :
    TMw rem P live (tplSkip B s k) (if k ≤ (rem s).length then some k else none) s := by
  rcases hC.step s k hs hk with ⟨s1, hx, hle, hrem, hp1⟩ | ⟨e, hx, hl⟩
  · right; exact ⟨k, s1, by simp [hle], by simp [tplSkip, hx], hrem, hp1⟩
  · left; refine ⟨e, by simp [tplSkip, hx], fun l => ?_⟩
    have := hl l
    rw [if_neg]; omega

theorem TMw.shift {x : TOut σ} {o : Option Nat} {s s1 : σ} {h : Nat} (hrem : rem s1 = (rem s).drop h)
    (hx : TMw rem P live x o s1) : TMw rem P live x (o.map (h + ·)) s := by
  rcases hx with ⟨e, hx, hnone⟩ | ⟨k, s2, ho, hx, hrem2, hp2⟩
  · left; exact ⟨e, hx, fun l => by rw [hnone l]; rfl⟩
  · right; exact ⟨h + k, s2, by rw [ho]; rfl, hx, by rw [hrem2, hrem, List.drop_drop], hp2⟩

/-- sequencing: the continuation is measured on what the first computation left, which is never more
    than it found -/
theorem TMw.bind {x : TOut σ} {y : σ → TOut σ} {o : Option Nat} {g : Bytes → Option Nat} {s : σ}
    (hx : TMw rem P live x o s)
    (hy : ∀ s1, P s1 → (rem s1).length ≤ (rem s).length → TMw rem P live (y s1) (g (rem s1)) s1) :
    TMw rem P live (x.bind y) (o.bind fun k => (g ((rem s).drop k)).map (k + ·)) s := by
  rcases hx with ⟨e, hx, hnone⟩ | ⟨k, s1, ho, hx, hrem, hp1⟩
  · left; exact ⟨e, by rw [hx]; rfl, fun l => by rw [hnone l]; rfl⟩
  · have h := hy s1 hp1 (by rw [hrem, List.length_drop]; omega)
    rw [hrem] at h
    rw [hx, ho]
    exact h.shift hrem

theorem tplListLoopW {rec : UInt8 → σ → TOut σ} {f : UInt8 → Bytes → Option Nat} (vt : UInt8)
    (HR : ∀ s, P s → TMw rem P live (rec vt s) (f vt (rem s)) s) :
    ∀ cnt s, P s → TMw rem P live (tplListLoop rec vt cnt s) (refN (f vt) cnt (rem s)) s := by
  intro cnt
  induction cnt with
  | zero => intro s hs; right; exact ⟨0, s, rfl, rfl, rfl, hs⟩
  | succ cnt ih =>
    intro s hs
    rw [refN_succ]
    exact TMw.bind (HR s hs) fun s1 hp1 _ => ih s1 hp1

theorem tplMapLoopW {rec : UInt8 → σ → TOut σ} {f : UInt8 → Bytes → Option Nat} (kt vt : UInt8)
    (HK : ∀ s, P s → TMw rem P live (rec kt s) (f kt (rem s)) s)
    (HV : ∀ s, P s → TMw rem P live (rec vt s) (f vt (rem s)) s) :
    ∀ cnt s, P s → TMw rem P live (tplMapLoop rec kt vt cnt s) (refKV (f kt) (f vt) cnt (rem s)) s := by
  intro cnt
  induction cnt with
  | zero => intro s hs; right; exact ⟨0, s, rfl, rfl, rfl, hs⟩
  | succ cnt ih =>
    intro s hs
    rw [refKV_succ]
    exact TMw.bind (g := fun b' => ((f vt) b').bind fun v => (refKV (f kt) (f vt) cnt (b'.drop v)).map (v + ·))
      (HK s hs) fun s1 hp1 _ => TMw.bind (HV s1 hp1) fun s2 hp2 _ => ih s2 hp2

theorem tplStructLoopW (hC : WCursor B rem P live bound) (hb : reqBound ≤ bound)
    {rec : UInt8 → σ → TOut σ} {f : UInt8 → Bytes → Option Nat}
    (HR : ∀ t s, P s → TMw rem P live (rec t s) (f t (rem s)) s) :
    ∀ fuel s, P s → (rem s).length < fuel →
      TMw rem P live (tplStructLoop B rec fuel s) (refFields f fuel (rem s)) s := by
  have hb1 : 1 ≤ bound := Nat.le_trans (by decide) hb
  have hb2 : 2 ≤ bound := Nat.le_trans (by decide) hb
  intro fuel
  induction fuel with
  | zero => intro s _ h; omega
  | succ fuel ih =>
    intro s hs hfuel
    rcases hC.step s 1 hs hb1 with ⟨s1, hx, hle, hrem1, hp1⟩ | ⟨e, hx, hl⟩
    · match hrem : rem s, hle with
      | t :: rest, _ =>
        rw [hrem] at hx hrem1 hfuel
        have hx' : B.skipN s 1 = .ok ([t], s1) := hx
        have hrem1' : rem s1 = rest := hrem1
        simp only [tplStructLoop, hx', Out.bind_eq, Out.bind_ok, show idx [t] 0 = .ok t from rfl, T_STOP_eq]
        by_cases ht : t = 0
        · subst ht
          rw [if_pos rfl, refFields_stop]
          right; exact ⟨1, s1, rfl, rfl, by rw [hrem1', hrem]; rfl, hp1⟩
        rw [if_neg ht]
        rcases hC.step s1 2 hp1 hb2 with ⟨s2, hy, hle2, hrem2, hp2⟩ | ⟨e, hy, hl⟩
        · rw [hrem1'] at hle2 hrem2
          rw [hy, refFields_field f fuel t rest ht hle2]
          refine TMw.shift (h := 3) (s1 := s2) (by rw [hrem2, hrem]; rfl) ?_
          rw [← hrem2]
          refine TMw.bind (HR t s2 hp2) fun s3 hp3 hlen => ih s3 hp3 ?_
          rw [hrem2, List.length_drop] at hlen
          rw [List.length_cons] at hfuel
          omega
        · left
          refine ⟨e, by rw [hy]; rfl, fun l => ?_⟩
          have := hl l
          rw [hrem1'] at this
          simp only [refFields, ht, this, if_true, if_false]
    · left
      refine ⟨e, by simp only [tplStructLoop, hx, Out.bind_eq, Out.bind_err], fun l => ?_⟩
      have h0 : rem s = [] := List.eq_nil_of_length_eq_zero (by have := hl l; omega)
      rw [h0]; rfl

theorem tplStrW (hC : WCursor B rem P live bound) (hb : reqBound ≤ bound) (s : σ) (hs : P s) :
    TMw rem P live (tplStr B s) (refStr (rem s)) s := by
  rcases hC.step s 4 hs (Nat.le_trans (by decide) hb) with ⟨s1, hx, h4, hrem1, hp1⟩ | ⟨e, hx, hl⟩
  · rw [tplStr_header B hx h4]
    rcases toI32_rd32 (rem s) with ⟨hn, hneg⟩ | ⟨hn, hneg, hnat⟩
    · rw [if_pos hneg]
      left; exact ⟨errNeg, rfl, fun _ => by unfold refStr; rw [if_neg]; exact fun h => hn h.2.1⟩
    · rw [if_neg hneg, hnat]
      have href : refStr (rem s) =
          (if rd32 (rem s) ≤ (rem s1).length then some (rd32 (rem s)) else none).map (4 + ·) := by
        rw [hrem1, List.length_drop]; unfold refStr
        by_cases hfit : rd32 (rem s) ≤ (rem s).length - 4
        · rw [if_pos hfit, if_pos ⟨h4, hn, by omega⟩]; rfl
        · rw [if_neg hfit, if_neg (fun h => hfit (by omega))]; rfl
      rw [href]
      exact TMw.shift hrem1 (skipNW hC s1 hp1 _ (by unfold reqBound at hb; omega))
  · left
    refine ⟨e, by simp [tplStr, hx], fun l => ?_⟩
    have := hl l
    unfold refStr; rw [if_neg]; omega

theorem tplMapW (hC : WCursor B rem P live bound) (hb : reqBound ≤ bound) {rec : UInt8 → σ → TOut σ}
    {E : UInt8 → Bytes → Option Nat} (HR : ∀ t s, P s → TMw rem P live (rec t s) (E t (rem s)) s)
    (s : σ) (hs : P s) :
    TMw rem P live (tplMap B rec s) (mapBody (tplK E) (tplV E) (rem s)) s := by
  rcases hC.step s 6 hs (Nat.le_trans (by decide) hb) with ⟨s1, hx, h6, hrem1, hp1⟩ | ⟨e, hx, hl⟩
  · match hr : rem s, h6 with
    | kt :: vt :: rest, h6 =>
      have h4 : 4 ≤ rest.length := by rw [List.length_cons, List.length_cons] at h6; omega
      rw [hr] at hx hrem1
      have hrem1' : rem s1 = rest.drop 4 := hrem1
      rw [tplMap_header B hx h4]
      rcases toI32_rd32 rest with ⟨hn, hneg⟩ | ⟨hn, hneg, hnat⟩
      · rw [if_pos hneg]
        left; exact ⟨errNeg, rfl, fun _ => by simp only [mapBody]; rw [if_neg]; exact fun h => hn h.2⟩
      · rw [if_neg hneg, hnat]
        have href : mapBody (tplK E) (tplV E) (kt :: vt :: rest) =
            (refKV (tplK E kt vt) (tplV E kt vt) (rd32 rest) (rem s1)).map (6 + ·) := by
          rw [hrem1']; simp only [mapBody]; rw [if_pos ⟨h4, hn⟩]
        rw [href]
        refine TMw.shift (h := 6) (by rw [hrem1', hr]; rfl) ?_
        by_cases hfast : 0 < fixedSize kt ∧ 0 < fixedSize vt
        · rw [if_pos hfast, (tplKV_fixed E hfast.1 hfast.2).1, (tplKV_fixed E hfast.1 hfast.2).2,
            refKV_fixed (fixedSize kt) (fixedSize vt) (fixedFn kt) (fixedFn vt)
              (fun _ => rfl) (fun _ => rfl)]
          have h16 : fixedSize kt + fixedSize vt ≤ 16 := by
            have := fixedSize_le kt; have := fixedSize_le vt; omega
          exact skipNW hC s1 hp1 _ (Nat.le_trans (mul_le_reqBound _ _ hn h16) hb)
        · rw [if_neg hfast, (tplKV_nested E hfast).1, (tplKV_nested E hfast).2]
          exact tplMapLoopW kt vt (HR kt) (HR vt) _ s1 hp1
  · left
    exact ⟨e, by simp [tplMap, hx], fun l => mapBody_short (hl l)⟩

theorem tplListW (hC : WCursor B rem P live bound) (hb : reqBound ≤ bound) {rec : UInt8 → σ → TOut σ}
    {E : UInt8 → Bytes → Option Nat} (HR : ∀ t s, P s → TMw rem P live (rec t s) (E t (rem s)) s)
    (s : σ) (hs : P s) :
    TMw rem P live (tplList B rec s) (listBody (gFix E) (rem s)) s := by
  rcases hC.step s 5 hs (Nat.le_trans (by decide) hb) with ⟨s1, hx, h5, hrem1, hp1⟩ | ⟨e, hx, hl⟩
  · match hr : rem s, h5 with
    | et :: rest, h5 =>
      have h4 : 4 ≤ rest.length := by rw [List.length_cons] at h5; omega
      rw [hr] at hx hrem1
      have hrem1' : rem s1 = rest.drop 4 := hrem1
      rw [tplList_header B hx h4]
      rcases toI32_rd32 rest with ⟨hn, hneg⟩ | ⟨hn, hneg, hnat⟩
      · rw [if_pos hneg]
        left; exact ⟨errNeg, rfl, fun _ => by simp only [listBody]; rw [if_neg]; exact fun h => hn h.2⟩
      · rw [if_neg hneg, hnat]
        have href : listBody (gFix E) (et :: rest) =
            (refN (gFix E et) (rd32 rest) (rem s1)).map (5 + ·) := by
          rw [hrem1']; simp only [listBody]; rw [if_pos ⟨h4, hn⟩]
        rw [href]
        refine TMw.shift (h := 5) (by rw [hrem1', hr]; rfl) ?_
        by_cases hfast : 0 < fixedSize et
        · rw [if_pos hfast, gFix_fixed E hfast,
            refN_fixed (fixedSize et) (fixedFn et) (fun _ => rfl)]
          have h16 : fixedSize et ≤ 16 := Nat.le_trans (fixedSize_le et) (by decide)
          exact skipNW hC s1 hp1 _ (Nat.le_trans (mul_le_reqBound _ _ hn h16) hb)
        · rw [if_neg hfast, gFix_nested E hfast]
          exact tplListLoopW et (HR et) _ s1 hp1
  · left
    exact ⟨e, by simp [tplList, hx], fun l => listBody_short (hl l)⟩

/-- SkipDecoderTpl.Skip over a weak cursor: soundness (any source) and exactness (live sources) -/
theorem skipTplAtW (hC : WCursor B rem P live bound) (hb : reqBound ≤ bound) :
    ∀ d t s, P s → TMw rem P live (skipTplAt B d t s) (refTpl d t (rem s)) s := by
  intro d
  induction d with
  | zero => intro t s _; left; exact ⟨errDepth, rfl, fun _ => rfl⟩
  | succ d ih =>
    intro t s hs
    have hG := refTpl_good d
    rw [skipTplAt_succ]
    show TMw rem P live _ (layerG (refTpl d) (gFix (refTpl d)) (tplK (refTpl d)) (tplV (refTpl d)) t (rem s)) s
    rcases layerG_cases t with ⟨hf, h⟩ | ⟨h0, rfl, h⟩ | ⟨h0, rfl, h⟩ | ⟨h0, hl, h⟩ | ⟨h0, rfl, h⟩ |
        ⟨h0, hstr, hst, hl, hm, h⟩ <;> rw [h]
    · rw [if_pos hf]
      exact skipNW hC s hs _ (by have := fixedSize_le t; unfold reqBound at hb; omega)
    · rw [if_neg (by decide), if_pos rfl]
      exact tplStrW hC hb s hs
    · show TMw rem P live _ (refFields (refTpl d) ((rem s).length + 1) (rem s)) s
      rw [if_neg (by decide), if_neg (by decide), if_pos rfl,
        refFields_fuel_eq hG (rem s) ((rem s).length + 1) (B.avail s + 1) (by omega)
          (by have := hC.avail s hs; omega)]
      exact tplStructLoopW hC hb ih _ s hs (by have := hC.avail s hs; omega)
    · have hns : t ≠ TT.STRING ∧ t ≠ TT.STRUCT ∧ t ≠ TT.MAP := by
        rcases hl with rfl | rfl <;> decide
      rw [if_neg (by omega), if_neg hns.1, if_neg hns.2.1, if_neg hns.2.2, if_pos hl.symm]
      exact tplListW hC hb ih s hs
    · rw [if_neg (by decide), if_neg (by decide), if_neg (by decide), if_pos rfl]
      exact tplMapW hC hb ih s hs
    · rw [if_neg (by omega), if_neg hstr, if_neg hst, if_neg hm, if_neg (fun h => hl h.symm)]
      left; exact ⟨errUnknownType, rfl, fun _ => rfl⟩
end

end Verif
