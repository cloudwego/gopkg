/- Lemmas/WireMsgSafe: UnmarshalFastMsg (and ApplicationException.FastRead inside it) returns normally on
   every byte string: no panic, no out-of-bounds load, fuel never exhausted; offsets stay inside the input.
   Uses the skip family's exact characterisation of Binary.Skip (Lemmas/SkipBinCor). -/
import Verif.Lemmas.WireMsg
import Verif.Lemmas.SkipBinCor
namespace Verif.Wire

/-- a FastRead result that is a normal Go return: nil error with an offset inside the input, or an error -/
def ReadOK (len : Nat) (x : TOut Nat) : Prop :=
  (∃ n, x = .ok n ∧ n ≤ len) ∨ (∃ e, x = .err e)

/-- ApplicationException.FastRead: on every byte string, from every offset inside it, with enough fuel,
    the loop returns normally -/
theorem appExReadLoop_safe (b : Bytes) : ∀ (fuel : Nat) (e : AppEx) (off : Nat), off ≤ b.length →
    b.length - off < fuel → ReadOK b.length (appExReadLoop fuel e b off).2 := by
  intro fuel
  induction fuel with
  | zero => intro e off _ h; omega
  | succ f ih =>
    intro e off hoff hf
    have hdl (k : Nat) : (b.drop k).length = b.length - k := List.length_drop
    have hfo := outcome_field (b.drop off)
    rw [appExReadLoop, if_neg (by omega)]
    cases hfb : binReadFieldBegin (b.drop off) with
    | err er => exact Or.inr ⟨_, rfl⟩
    | panic s => rw [hfb] at hfo; exact hfo.elim
    | oob => rw [hfb] at hfo; exact hfo.elim
    | ok fb =>
      rw [hfb] at hfo
      have hfo' : fb.2.2 ≤ (b.drop off).length := hfo
      have hpos := binReadFieldBegin_len _ _ hfb
      dsimp only
      by_cases hst : fb.1 = T_STOP
      · rw [if_pos hst]; exact Or.inl ⟨_, rfl, by rw [hdl] at hfo'; omega⟩
      rw [if_neg hst, if_neg (by rw [hdl] at hfo'; omega)]
      by_cases h1 : fb.2.1 = 1 ∧ fb.1 = T_STRING
      · rw [if_pos h1]
        have ho := outcome_binary (b.drop (off + fb.2.2))
        cases hrb : binReadBinary (b.drop (off + fb.2.2)) with
        | ok p =>
          rw [hrb] at ho
          have ho' : p.2 ≤ (b.drop (off + fb.2.2)).length := ho
          rw [hdl] at ho' hfo'
          exact ih _ _ (by omega) (by omega)
        | err er => exact Or.inr ⟨_, rfl⟩
        | panic s => rw [hrb] at ho; exact ho.elim
        | oob => rw [hrb] at ho; exact ho.elim
      rw [if_neg h1]
      by_cases h2 : fb.2.1 = 2 ∧ fb.1 = T_I32
      · rw [if_pos h2, binReadI32_char]
        rw [hdl] at hfo'
        by_cases h4 : (b.drop (off + fb.2.2)).length < 4
        · rw [if_pos h4]; exact Or.inr ⟨_, rfl⟩
        · rw [if_neg h4]; rw [hdl] at h4; exact ih _ _ (by omega) (by omega)
      rw [if_neg h2]
      rw [hdl] at hfo'
      rcases skipBin_total (b.drop (off + fb.2.2)) fb.1 with ⟨n, hn⟩ | ⟨er, her⟩
      · rw [hn]
        have := (refBin_good _ _ _ _ ((skipBin_ok_iff _ _ _).1 hn)).2
        rw [hdl] at this
        exact ih _ _ (by omega) (by omega)
      · rw [her]; exact Or.inr ⟨_, rfl⟩

theorem appExRead_safe (e : AppEx) (b : Bytes) : ReadOK b.length (appExRead e b).2 :=
  appExReadLoop_safe b (b.length + 1) e 0 (Nat.zero_le _) (by omega)

/-- UnmarshalFastMsg returns normally on every byte string whenever the payload's FastRead does -/
theorem unmarshal_safe {α} (C : Codec α) (hC : ∀ t b, ReadOK b.length (C.read t b).2) (b : Bytes) (msg : α) :
    ∃ u, unmarshalFastMsg C b msg = .ok u := by
  unfold unmarshalFastMsg
  have hs := outcome_msg b
  cases hm : binReadMessageBegin b with
  | err e => exact ⟨_, rfl⟩
  | panic s => rw [hm] at hs; exact hs.elim
  | oob => rw [hm] at hs; exact hs.elim
  | ok h =>
    rw [hm] at hs
    have hle : h.2.2.2 ≤ b.length := hs
    simp only []
    rw [if_neg (by omega)]
    split
    · rcases appExRead_safe ⟨Facts.aeUNKNOWN, []⟩ (b.drop h.2.2.2) with ⟨n, hn, _⟩ | ⟨er, her⟩
      · rw [hn]; exact ⟨_, rfl⟩
      · rw [her]; exact ⟨_, rfl⟩
    · rcases hC msg (b.drop h.2.2.2) with ⟨n, hn, _⟩ | ⟨er, her⟩
      · rw [hn]; exact ⟨_, rfl⟩
      · rw [her]; exact ⟨_, rfl⟩

end Verif.Wire
