/-
  Lemmas/TthEnc: the model's Encode on a healthy writer, in closed form.
    W.app / put_app'     the writer log after handing out items; filling an earlier region changes only it
    strKVItems … infoItems
                         the items each writer helper hands out (one per Malloc / WriteBinary), in program
                         order; their concatenation is the raw printer
    encode_items         Encode = size error, or the meta region followed by `infoItems p`
    encode_raw           … in bytes: meta region ++ `rawInfo p` ++ zero padding, where `rawInfo` is the
                         printer WITH the encoder's 16-bit truncations (which do nothing when the info
                         area fits its limit: `bounds`, `rawInfo_eq` in Lemmas/TthRt)
-/
import Verif.Model.TTHeader
namespace Verif.TTH

/-- the writer after handing out the items `l` (in this order) -/
def W.app (w : W) (l : List Bytes) : W := { w with items := l.reverse ++ w.items, n := w.n + l.length }

@[simp] theorem W.app_broken (w : W) (l : List Bytes) : (w.app l).broken = w.broken := rfl
@[simp] theorem W.app_n (w : W) (l : List Bytes) : (w.app l).n = w.n + l.length := rfl
@[simp] theorem W.app_dirt (w : W) (l : List Bytes) : (w.app l).dirt = w.dirt := rfl

theorem W.app_app (w : W) (l1 l2 : List Bytes) : (w.app l1).app l2 = w.app (l1 ++ l2) := by
  simp [W.app, Nat.add_assoc]

@[simp] theorem W.app_nil (w : W) : w.app [] = w := by simp [W.app]

theorem W.bytes_app (w : W) (l : List Bytes) : (w.app l).bytes = w.bytes ++ l.flatten := by
  simp [W.app, W.bytes]

/-- overwrite `v` at offset `off` -/
def poke (r : Bytes) (off : Nat) (v : Bytes) : Bytes := r.take off ++ v ++ r.drop (off + v.length)

@[simp] theorem poke_length (r : Bytes) (off : Nat) (v : Bytes) (h : off + v.length ≤ r.length) :
    (poke r off v).length = r.length := by
  rw [poke, List.length_append, List.length_append, List.length_take, List.length_drop,
    Nat.min_eq_left (Nat.le_trans (Nat.le_add_right _ _) h), Nat.add_sub_of_le h]

theorem poke_poke (r a b : Bytes) (off off' : Nat) (h : off ≤ r.length) (h' : off' = off + a.length) :
    poke (poke r off a) off' b = poke r off (a ++ b) := by
  subst h'
  have hX : (r.take off ++ a).length = off + a.length := by simp [h]
  unfold poke
  rw [List.take_left' hX, ← hX, ← List.drop_drop, List.drop_left, List.drop_drop, hX, List.length_append,
    List.append_assoc _ a b, Nat.add_assoc]

/-- filling a region handed out earlier: only that item changes -/
theorem put_app' (w : W) (r : Bytes) (l : List Bytes) (off : Nat) (v : Bytes) (h : off + v.length ≤ r.length) :
    (w.app (r :: l)).put w.n off v = .ok (w.app (poke r off v :: l)) := by
  have hn : (w.app (r :: l)).n - 1 - w.n = l.reverse.length := by
    rw [List.length_reverse]
    show w.n + l.length - w.n = l.length
    exact Nat.add_sub_cancel_left _ _
  have hi : (w.app (r :: l)).items = l.reverse ++ r :: w.items := by
    show (r :: l).reverse ++ w.items = _
    rw [List.reverse_cons, List.append_assoc]
    rfl
  have hp : w.app (poke r off v :: l) = { w.app (r :: l) with items := l.reverse ++ poke r off v :: w.items } := by
    unfold W.app
    rw [List.reverse_cons, List.append_assoc]
    rfl
  have h1 : ¬ w.n ≥ (w.app (r :: l)).n := Nat.not_le.mpr (Nat.lt_add_of_pos_right (Nat.succ_pos _))
  unfold W.put
  rw [if_neg h1, hn, hi,
    List.getElem?_append_right (Nat.le_refl _), Nat.sub_self, List.getElem?_cons_zero, hp]
  dsimp only
  rw [if_neg (Nat.not_lt.mpr h), List.set_append_right _ _ (Nat.le_refl _), Nat.sub_self]
  rfl

theorem malloc_ok (w : W) (hb : w.broken = false) (k : Nat) :
    w.malloc k = .ok (w.n, w.app [(List.range k).map (w.dirt w.n)]) := by
  simp [W.malloc, hb, W.app]

theorem writeBinary_ok (w : W) (hb : w.broken = false) (bs : Bytes) :
    w.writeBinary bs = .ok (bs.length, w.app [bs]) := by
  simp [W.writeBinary, hb, W.app]

theorem put_fill (w : W) (r v : Bytes) (h : r.length = v.length) : (w.app [r]).put w.n 0 v = .ok (w.app [v]) := by
  rw [put_app' w r [] 0 v (by omega)]
  simp [poke, ← h]

/-- Malloc(k) followed by filling all k bytes -/
theorem malloc_fill (w : W) (hb : w.broken = false) (v : Bytes) :
    (w.malloc v.length).bind (fun r => r.2.put r.1 0 v) = .ok (w.app [v]) := by
  rw [malloc_ok w hb]
  exact put_fill w _ v (by simp)

theorem writeByte_ok (w : W) (hb : w.broken = false) (v : Nat) : writeByte w v = .ok (w.app [[UInt8.ofNat v]]) :=
  malloc_fill w hb [UInt8.ofNat v]

theorem writeU16_ok (w : W) (hb : w.broken = false) (v : Nat) : writeU16 w v = .ok (w.app [be16 v]) :=
  malloc_fill w hb (be16 v)

/-- a length-prefixed string as the encoder writes it: the length is truncated to 16 bits -/
def rawStr2 (s : Bytes) : Bytes := be16 (s.length % 65536) ++ s

theorem broken_err (w : W) (hb : w.broken = true) (k : Nat) : w.malloc k = .err .writer := by
  simp [W.malloc, hb]

/-! ### what the encoder writes (with the 16-bit truncations it performs) -/

def rawStrKV (kv : Bytes × Bytes) : Bytes := if kv.1 = gdprKey then [] else rawStr2 kv.1 ++ rawStr2 kv.2
def rawIntKV (kv : Nat × Bytes) : Bytes := be16 kv.1 ++ rawStr2 kv.2

/-- `strKVSize` after the token has been taken out -/
def strCount (strKV : StrMap) : Int :=
  match strKV.lookup gdprKey with
  | some _ => (strKV.length : Int) - 1
  | none => (strKV.length : Int)

def rawAcl (strKV : StrMap) : Bytes :=
  match strKV.lookup gdprKey with
  | some t => UInt8.ofNat Facts.ttInfoACLToken :: rawStr2 t
  | none => []

def rawStrSec (strKV : StrMap) : Bytes :=
  if strCount strKV > 0 then
    UInt8.ofNat Facts.ttInfoKeyValue :: (be16 (u16OfInt (strCount strKV)) ++ strKV.flatMap rawStrKV)
  else []

def rawIntSec (intKV : IntMap) : Bytes :=
  if (intKV.length : Int) > 0 then
    UInt8.ofNat Facts.ttInfoIntKeyValue :: (be16 (u16OfInt intKV.length) ++ intKV.flatMap rawIntKV)
  else []

def rawInfo (p : EncParam) : Bytes :=
  [UInt8.ofNat p.proto, 0] ++ rawAcl p.strKV ++ rawStrSec p.strKV ++ rawIntSec p.intKV

/-- "the call returned the size advanced by exactly the bytes it appended to the log" -/
def Wrote (res : Out EErr (Nat × W)) (sz : Nat) (w : W) (bytes : Bytes) : Prop :=
  ∃ L, res = .ok (sz + bytes.length, w.app L) ∧ L.flatten = bytes

theorem Wrote.broken {res sz w bytes} (h : Wrote res sz w bytes) : ∃ x, res = .ok x ∧ x.2.broken = w.broken := by
  obtain ⟨L, h1, _⟩ := h; exact ⟨_, h1, rfl⟩

/-! ### the items the encoder hands out, call by call

Every Malloc and every WriteBinary is one item of the log; the lists below follow the writers of
Model/TTHeader branch for branch, and their concatenation is the raw printer above. -/

def str2Items (s : Bytes) : List Bytes := [be16 (s.length % 65536), s]

def strKVItems : StrMap → List Bytes
  | [] => []
  | kv :: rest => if kv.1 = gdprKey then strKVItems rest else str2Items kv.1 ++ str2Items kv.2 ++ strKVItems rest

def intKVItems : IntMap → List Bytes
  | [] => []
  | kv :: rest => be16 kv.1 :: (str2Items kv.2 ++ intKVItems rest)

def aclItems (strKV : StrMap) : List Bytes :=
  match strKV.lookup gdprKey with
  | some t => [UInt8.ofNat Facts.ttInfoACLToken] :: str2Items t
  | none => []

def strSecItems (strKV : StrMap) : List Bytes :=
  if strCount strKV > 0 then
    [UInt8.ofNat Facts.ttInfoKeyValue] :: be16 (u16OfInt (strCount strKV)) :: strKVItems strKV
  else []

def intSecItems (intKV : IntMap) : List Bytes :=
  if (intKV.length : Int) > 0 then
    [UInt8.ofNat Facts.ttInfoIntKeyValue] :: be16 (u16OfInt intKV.length) :: intKVItems intKV
  else []

def secItems (intKV : IntMap) (strKV : StrMap) : List Bytes :=
  aclItems strKV ++ strSecItems strKV ++ intSecItems intKV

/-- the padding `writePadding sz` appends -/
def padding (sz : Nat) : Bytes := List.replicate ((4 - sz % 4) % 4) 0

def kvItems (sz : Nat) (intKV : IntMap) (strKV : StrMap) : List Bytes :=
  secItems intKV strKV ++ [padding (sz + (secItems intKV strKV).flatten.length)]

def infoItems (p : EncParam) : List Bytes :=
  [UInt8.ofNat p.proto] :: [UInt8.ofNat 0] :: kvItems 2 p.intKV p.strKV

@[simp] theorem str2Items_flatten (s : Bytes) : (str2Items s).flatten = rawStr2 s := by
  simp [str2Items, rawStr2]

@[simp] theorem rawStr2_length (s : Bytes) : (rawStr2 s).length = s.length + 2 := by
  simp [rawStr2]; omega

theorem strKVItems_flatten (kvs : StrMap) : (strKVItems kvs).flatten = kvs.flatMap rawStrKV := by
  induction kvs with
  | nil => rfl
  | cons kv rest ih =>
    simp only [strKVItems, List.flatMap_cons, rawStrKV]
    split
    · rw [ih, List.nil_append]
    · simp only [List.flatten_append, str2Items_flatten, ih]

theorem intKVItems_flatten (kvs : IntMap) : (intKVItems kvs).flatten = kvs.flatMap rawIntKV := by
  induction kvs with
  | nil => rfl
  | cons kv rest ih =>
    simp only [intKVItems, List.flatMap_cons, rawIntKV, List.flatten_cons, List.flatten_append,
      str2Items_flatten, ih, List.append_assoc]

theorem aclItems_flatten (strKV : StrMap) : (aclItems strKV).flatten = rawAcl strKV := by
  unfold aclItems rawAcl
  split <;> simp

theorem strSecItems_flatten (strKV : StrMap) : (strSecItems strKV).flatten = rawStrSec strKV := by
  unfold strSecItems rawStrSec
  split <;> simp [strKVItems_flatten]

theorem intSecItems_flatten (intKV : IntMap) : (intSecItems intKV).flatten = rawIntSec intKV := by
  unfold intSecItems rawIntSec
  split <;> simp [intKVItems_flatten]

theorem secItems_flatten (intKV : IntMap) (strKV : StrMap) :
    (secItems intKV strKV).flatten = rawAcl strKV ++ rawStrSec strKV ++ rawIntSec intKV := by
  simp only [secItems, List.flatten_append, aclItems_flatten, strSecItems_flatten, intSecItems_flatten]

theorem infoItems_flatten (p : EncParam) :
    (infoItems p).flatten = rawInfo p ++ padding (rawInfo p).length := by
  have hl : (rawInfo p).length = 2 + (rawAcl p.strKV ++ rawStrSec p.strKV ++ rawIntSec p.intKV).length := by
    simp only [rawInfo, List.length_append, List.length_cons, List.length_nil]; omega
  rw [hl]
  simp [infoItems, kvItems, secItems_flatten, rawInfo]

theorem writeStr2_ok (w : W) (hb : w.broken = false) (s : Bytes) :
    writeStr2 w s = .ok (s.length + 2, w.app (str2Items s)) := by
  simp only [writeStr2, writeU16_ok w hb, Out.bind_ok, writeBinary_ok (w.app _) hb, W.app_app]
  rfl

theorem writeStrKVs_ok : ∀ (kvs : StrMap) (sz : Nat) (w : W), w.broken = false →
    writeStrKVs kvs sz w = .ok (sz + (strKVItems kvs).flatten.length, w.app (strKVItems kvs)) := by
  intro kvs
  induction kvs with
  | nil => intro sz w _; simp [writeStrKVs, strKVItems]
  | cons kv rest ih =>
    intro sz w hb
    simp only [writeStrKVs, strKVItems]
    split
    · exact ih sz w hb
    · simp only [writeStr2_ok w hb, Out.bind_ok, writeStr2_ok (w.app _) hb, ih _ (w.app _) hb, W.app_app,
        List.flatten_append, List.length_append, str2Items_flatten, rawStr2_length, Nat.add_assoc]

theorem writeIntKVs_ok : ∀ (kvs : IntMap) (sz : Nat) (w : W), w.broken = false →
    writeIntKVs kvs sz w = .ok (sz + (intKVItems kvs).flatten.length, w.app (intKVItems kvs)) := by
  intro kvs
  induction kvs with
  | nil => intro sz w _; simp [writeIntKVs, intKVItems]
  | cons kv rest ih =>
    intro sz w hb
    simp only [writeIntKVs, intKVItems, writeU16_ok w hb, Out.bind_ok, writeStr2_ok (w.app _) hb,
      ih _ (w.app _) hb, W.app_app, List.flatten_cons, List.flatten_append, List.length_append, str2Items_flatten,
      rawStr2_length, be16_length, Nat.add_assoc, List.cons_append, List.nil_append]

theorem writeACL_ok (sz : Nat) (strKV : StrMap) (w : W) (hb : w.broken = false) :
    writeACL sz strKV w = .ok (strCount strKV, sz + (aclItems strKV).flatten.length, w.app (aclItems strKV)) := by
  unfold writeACL strCount aclItems
  cases strKV.lookup gdprKey with
  | none => simp
  | some tok =>
    simp only [writeByte_ok w hb, Out.bind_ok, writeStr2_ok (w.app _) hb, W.app_app, List.flatten_cons,
      str2Items_flatten, rawStr2_length, List.length_cons, Nat.add_assoc, List.cons_append, List.nil_append]
    congr 3
    omega

theorem sec_length (sz : Nat) (t : UInt8) (c : Nat) (L : List Bytes) :
    sz + ([t] :: be16 c :: L).flatten.length = sz + 3 + L.flatten.length := by
  rw [List.flatten_cons, List.flatten_cons, List.length_append, List.length_append, be16_length,
    List.length_singleton, ← Nat.add_assoc 1 2, Nat.add_assoc sz]

theorem writeStrSection_ok (sz : Nat) (strKV : StrMap) (w : W) (hb : w.broken = false) :
    writeStrSection (strCount strKV) sz strKV w =
      .ok (sz + (strSecItems strKV).flatten.length, w.app (strSecItems strKV)) := by
  unfold writeStrSection strSecItems
  split
  · rw [writeByte_ok w hb, Out.bind_ok, writeU16_ok (w.app _) hb, Out.bind_ok, W.app_app,
      writeStrKVs_ok _ _ (w.app _) hb, W.app_app, sec_length]
    rfl
  · simp

theorem writeIntSection_ok (sz : Nat) (intKV : IntMap) (w : W) (hb : w.broken = false) :
    writeIntSection sz intKV w = .ok (sz + (intSecItems intKV).flatten.length, w.app (intSecItems intKV)) := by
  unfold writeIntSection intSecItems
  split
  · rw [writeByte_ok w hb, Out.bind_ok, writeU16_ok (w.app _) hb, Out.bind_ok, W.app_app,
      writeIntKVs_ok _ _ (w.app _) hb, W.app_app, sec_length]
    rfl
  · simp

theorem writePadding_ok (sz : Nat) (w : W) (hb : w.broken = false) :
    writePadding sz w = .ok (sz + (padding sz).length, w.app [padding sz]) := by
  unfold writePadding
  simp only [malloc_ok w hb, Out.bind_ok]
  rw [put_fill w _ _ (by simp)]
  simp [padding]

theorem writeKVInfo_ok (sz : Nat) (intKV : IntMap) (strKV : StrMap) (w : W) (hb : w.broken = false) :
    writeKVInfo sz intKV strKV w =
      .ok (sz + (kvItems sz intKV strKV).flatten.length, w.app (kvItems sz intKV strKV)) := by
  simp only [writeKVInfo, writeACL_ok sz strKV w hb, Out.bind_ok, writeStrSection_ok _ strKV (w.app _) hb,
    writeIntSection_ok _ intKV (w.app _) hb, writePadding_ok _ (w.app _) hb, W.app_app, kvItems, secItems,
    List.flatten_append, List.flatten_cons, List.flatten_nil, List.length_append, List.append_nil, Nat.add_assoc]

/-- the 14 meta bytes Encode leaves behind: the caller's length field (whatever the fresh memory held),
    magic + flags, sequence id, size/4 -/
def metaBytes (p : EncParam) (w : W) (sz : Nat) : Bytes :=
  ((List.range 14).map (w.dirt w.n)).take 4 ++ be32 ((Facts.ttMagic + p.flags) % 4294967296)
    ++ be32 (ofInt 32 p.seq) ++ be16 ((sz / 4) % 65536)

/-- header info size as Go computes it: the bytes written, padded to a multiple of 4 -/
def rawSize (p : EncParam) : Nat := (rawInfo p).length + (4 - (rawInfo p).length % 4) % 4

theorem infoItems_size (p : EncParam) : (infoItems p).flatten.length = rawSize p := by
  rw [infoItems_flatten, List.length_append, rawSize, padding, List.length_replicate]

/-- the three stores into the fresh meta region, in the order Encode makes them: they are adjacent and
    reach the end of the region, so only its first four bytes keep their fresh content -/
theorem metaBytes_stores (p : EncParam) (w : W) (sz : Nat) :
    poke (poke (poke ((List.range 14).map (w.dirt w.n)) 4 (be32 ((Facts.ttMagic + p.flags) % 4294967296)))
      8 (be32 (ofInt 32 p.seq))) 12 (be16 ((sz / 4) % 65536)) = metaBytes p w sz := by
  have hD : ((List.range 14).map (w.dirt w.n)).length = 14 := by simp
  rw [poke_poke _ _ _ 4 8 (by omega) rfl, poke_poke _ _ _ 4 12 (by omega) rfl]
  unfold poke metaBytes
  rw [List.drop_eq_nil_of_le (by rw [hD]; exact Nat.le_refl 14)]
  simp only [List.append_nil, List.append_assoc]

theorem encode_items (p : EncParam) (w : W) (hb : w.broken = false) :
    encode p w =
      if (infoItems p).flatten.length % 2 ^ Facts.ttEncodeSizeCheckBits > Facts.ttMaxHeaderSize then .err .size
      else .ok (w.n, w.app (metaBytes p w (infoItems p).flatten.length :: infoItems p)) := by
  have hsz : 2 + (kvItems 2 p.intKV p.strKV).flatten.length = (infoItems p).flatten.length := by
    simp only [infoItems, List.flatten_cons, List.length_append, List.length_cons, List.length_nil]; omega
  unfold encode
  rw [malloc_ok w hb]
  simp only [Out.bind_ok, Facts.ttMetaSize]
  rw [put_app' w _ [] 4 (be32 _) (by simp)]
  simp only [Out.bind_ok]
  rw [put_app' w _ [] 8 (be32 _) (by rw [poke_length _ _ _ (by simp)]; simp)]
  simp only [Out.bind_ok, writeByte_ok (w.app _) hb, writeKVInfo_ok 2 p.intKV p.strKV (w.app _) hb, hsz, W.app_app,
    List.cons_append, List.nil_append]
  split
  · rfl
  · rw [put_app' w _ _ 12 (be16 _) (by
      rw [poke_length _ _ _ (by rw [poke_length _ _ _ (by simp)]; simp), poke_length _ _ _ (by simp)]; simp)]
    simp only [Out.bind_ok, metaBytes_stores, infoItems]

/-- Encode on a healthy writer, in terms of the raw printer -/
theorem encode_raw (p : EncParam) (w : W) (hb : w.broken = false) :
    if rawSize p % 2 ^ Facts.ttEncodeSizeCheckBits > Facts.ttMaxHeaderSize then encode p w = .err .size
    else ∃ L, encode p w = .ok (w.n, w.app (metaBytes p w (rawSize p) :: L)) ∧
      L.flatten = rawInfo p ++ List.replicate ((4 - (rawInfo p).length % 4) % 4) 0 := by
  -- the statement is an `if` over a comparison with a large literal: at default transparency the
  -- comparison is evaluated whenever the goal is inspected
  with_reducible rw [encode_items p w hb, infoItems_size]
  with_reducible split
  · rfl
  · exact ⟨infoItems p, rfl, infoItems_flatten p⟩

end Verif.TTH
