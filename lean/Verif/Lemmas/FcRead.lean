/-
  Lemmas/FcRead: the readers of binary.go on printed values, the generated FastRead loop on a printed
  field list, and ApplicationException's hand-written loop against the generated one.
-/
import Verif.Model.FastCodec
import Verif.Lemmas.SkipBinCor
namespace Verif

/-- every well-formed value with nesting ≤ 64 is skipped with exactly its extent -/
theorem skipBin_complete64 (b : Bytes) (t : UInt8) (n : Nat) (h : refLen 64 t b = some n) :
    skipBin b t = .ok n := by
  rw [skipBin_ok_iff, defaultRecursionDepth_eq]
  exact refLen_le_refBin 64 t b n h

/-- a reported length never exceeds the input -/
theorem skipBin_le_len (b : Bytes) (t : UInt8) (n : Nat) (h : skipBin b t = .ok n) : n ≤ b.length := by
  rw [skipBin_ok_iff] at h
  exact (refBin_good _ t b n h).2

/-! ## `b[off:]`: the readers below are stated for a buffer whose slice at `off` starts with a printed value -/

theorem sliceFrom_ok (b : Bytes) (off : Nat) (h : off ≤ b.length) : sliceFrom b off = .ok (b.drop off) := by
  simp [sliceFrom]; omega

theorem sliceFrom_add {b A B : Bytes} {off n : Nat} (h : sliceFrom b off = .ok (A ++ B)) (hn : A.length = n) :
    sliceFrom b (off + n) = .ok B := by
  subst hn
  unfold sliceFrom at h
  split at h
  · cases h
  · have hd : b.drop off = A ++ B := by injection h
    have hlen := congrArg List.length hd
    rw [List.length_drop, List.length_append] at hlen
    rw [sliceFrom_ok b _ (by omega), ← List.drop_drop, hd, List.drop_left]

theorem readFieldBegin_stop (r : Bytes) : readFieldBegin (0 :: r) = ⟨T_STOP, 0, 1, none⟩ := by
  simp [readFieldBegin, T_STOP_eq]

theorem readFieldBegin_enc (t : UInt8) (id : Nat) (r : Bytes) (ht : t ≠ 0) (hid : id < 65536) :
    readFieldBegin (t :: (be16 id ++ r)) = ⟨t, id, 3, none⟩ := by
  simp only [readFieldBegin, T_STOP_eq, if_neg ht]
  rw [if_neg (by simp), rd16_be16 id hid]

theorem readString_enc (s r : Bytes) (hs : s.length < 2147483648) :
    readString (encStr s ++ r) = ⟨s, 4 + s.length, none⟩ := by
  have hrd : rd32 (encStr s ++ r) = s.length := by
    unfold encStr; rw [List.append_assoc]; exact rd32_be32 _ (by omega) _
  unfold readString
  rw [if_neg (by simp; omega)]
  simp only [hrd, toI32_eq_cast _ hs]
  rw [if_neg (by omega), if_neg (by simp)]
  have hd : (encStr s ++ r).drop 4 = s ++ r := by
    unfold encStr; rw [List.append_assoc]; exact List.drop_left' (be32_length _)
  simp only [Int.toNat_natCast]
  rw [hd, List.take_left' rfl]

theorem readI32_enc (v : Int) (r : Bytes) (hv : isI32 v) : readI32 (encI32 v ++ r) = ⟨v, 4, none⟩ := by
  obtain ⟨h1, h2⟩ := hv
  have hv' : ofInt 32 v < 4294967296 ∧ toI32 (ofInt 32 v) = v := by
    show (v % 4294967296).toNat < 4294967296 ∧ toI32 (v % 4294967296).toNat = v
    unfold toI32
    by_cases h0 : 0 ≤ v
    · rw [Int.emod_eq_of_lt h0 (by omega), if_pos (by omega)]
      omega
    · rw [← Int.add_emod_right, Int.emod_eq_of_lt (by omega) (by omega), if_neg (by omega)]
      omega
  unfold readI32 encI32
  rw [if_neg (by simp), rd32_be32 _ hv'.1, hv'.2]

theorem readMapBegin_enc (kt vt : UInt8) (n : Nat) (r : Bytes) (hn : n < 4294967296) :
    readMapBegin (kt :: vt :: (be32 n ++ r)) = ⟨kt, vt, n, 6, none⟩ := by
  simp only [readMapBegin]
  rw [if_neg (by simp), rd32_be32 n hn]

/-! ## the entries of a map -/

theorem encKVs_cons (kv : Bytes × Bytes) (r : List (Bytes × Bytes)) :
    encKVs (kv :: r) = encStr kv.1 ++ encStr kv.2 ++ encKVs r := by simp [encKVs]

theorem readKVs_enc (kvs : List (Bytes × Bytes)) (b more : Bytes) (off : Nat) (m : SMap)
    (hok : ∀ kv ∈ kvs, strOK kv.1 ∧ strOK kv.2) (h : sliceFrom b off = .ok (encKVs kvs ++ more)) :
    readKVs b kvs.length off m
      = .ok ⟨kvs.foldl (fun m kv => m.set kv.1 kv.2) m, off + (encKVs kvs).length, none⟩ := by
  induction kvs generalizing off m with
  | nil => rfl
  | cons kv r ih =>
    obtain ⟨hk, hv⟩ := hok kv List.mem_cons_self
    rw [encKVs_cons, List.append_assoc, List.append_assoc] at h
    have h2 := sliceFrom_add h (encStr_length kv.1)
    have ih := ih _ (m.set kv.1 kv.2) (fun x hx => hok x (List.mem_cons_of_mem _ hx))
      (sliceFrom_add h2 (encStr_length kv.2))
    simp only [List.length_cons, readKVs, Out.bind_eq, Out.pure_eq]
    rw [h, Out.bind_ok, readString_enc kv.1 _ hk]
    simp only []
    rw [h2, Out.bind_ok, readString_enc kv.2 _ hv]
    simp only []
    rw [ih, encKVs_cons, List.foldl_cons]
    simp only [List.length_append, encStr_length, Nat.add_assoc]

/-! ## `case` bodies on printed values -/

theorem caseStr_enc {α : Type} (setF : α → Bytes → α) (p : α) (b more s : Bytes) (off : Nat)
    (h : sliceFrom b off = .ok (encStr s ++ more)) (hs : strOK s) :
    caseStr setF p b off = .ok ⟨setF p s, off + (encStr s).length, none⟩ := by
  simp only [caseStr, Out.bind_eq, Out.pure_eq]
  rw [h, Out.bind_ok, readString_enc s more hs, encStr_length]

theorem caseI32_enc {α : Type} (setF : α → Int → α) (p : α) (b more : Bytes) (v : Int) (off : Nat)
    (h : sliceFrom b off = .ok (encI32 v ++ more)) (hv : isI32 v) :
    caseI32 setF p b off = .ok ⟨setF p v, off + (encI32 v).length, none⟩ := by
  simp only [caseI32, Out.bind_eq, Out.pure_eq]
  rw [h, Out.bind_ok, readI32_enc v more hv, encI32_length]

theorem encMapSS_length (n : Nat) (kvs : List (Bytes × Bytes)) :
    (encMapSS n kvs).length = 6 + (encKVs kvs).length := by
  simp [encMapSS]; omega

theorem caseMap_enc {α : Type} (setF : α → SMap → α) (p : α) (b more : Bytes) (kvs : List (Bytes × Bytes))
    (off : Nat) (h : sliceFrom b off = .ok (encMapSS kvs.length kvs ++ more)) (hk : kvsOK kvs) :
    caseMap setF p b off
      = .ok ⟨setF p (SMap.ofList kvs), off + (encMapSS kvs.length kvs).length, none⟩ := by
  have h1 : sliceFrom b off = .ok ((TT.STRING :: TT.STRING :: be32 kvs.length) ++ (encKVs kvs ++ more)) := by
    rw [h, encMapSS]; simp only [List.cons_append, List.append_assoc]
  have h2 := readKVs_enc kvs b more (off + 6) [] hk.2 (sliceFrom_add h1 rfl)
  simp only [caseMap, Out.bind_eq, Out.pure_eq]
  rw [h1, Out.bind_ok, List.cons_append, List.cons_append, readMapBegin_enc _ _ _ _ hk.1]
  simp only []
  rw [h2, Out.bind_ok, encMapSS_length, SMap.ofList, Nat.add_assoc]

theorem caseSkip_enc {α : Type} (p : α) (b more v : Bytes) (t : UInt8) (off : Nat)
    (h : sliceFrom b off = .ok (v ++ more)) (hv : refLen 64 t v = some v.length) :
    caseSkip p b off t = .ok ⟨p, off + v.length, none⟩ := by
  simp only [caseSkip, Out.bind_eq, Out.pure_eq]
  rw [h, Out.bind_ok, skipBin_complete64 _ t _ (refLen_append hv more)]

/-! ## the generated loop on a printed field list -/

theorem encFields_cons (f : Fld) (fs : List Fld) : encFields (f :: fs) = f.enc ++ encFields fs := by
  simp [encFields]

theorem genLoop_fields {α F : Type} (body : α → Bytes → Nat → Nat → UInt8 → TOut (RR α))
    (apply : α → F → α) (toFld : F → Fld) (Valid : F → Prop)
    (hbody : ∀ (p : α) (f : F) (b more : Bytes) (off : Nat), Valid f →
      sliceFrom b off = .ok ((toFld f).val ++ more) →
      body p b off (toFld f).id (toFld f).t = .ok ⟨apply p f, off + (toFld f).val.length, none⟩)
    (hhdr : ∀ f, Valid f → (toFld f).id < 65536 ∧ (toFld f).t ≠ 0)
    (fs : List F) (b rest : Bytes) (off : Nat) (p : α) (fuel : Nat) (hval : ∀ f ∈ fs, Valid f)
    (hfuel : fs.length < fuel) (h : sliceFrom b off = .ok (encFields (fs.map toFld) ++ 0 :: rest)) :
    genLoop body b fuel p off
      = .ok ⟨fs.foldl apply p, off + (encFields (fs.map toFld)).length + 1, none⟩ := by
  induction fs generalizing off p fuel with
  | nil =>
    obtain ⟨k, rfl⟩ := Nat.exists_eq_add_one.mpr hfuel
    simp only [List.map_nil, encFields, List.flatMap_nil, List.nil_append] at h ⊢
    simp only [genLoop, Out.bind_eq, Out.pure_eq]
    rw [h, Out.bind_ok, readFieldBegin_stop]
    simp
  | cons f fs ih =>
    obtain ⟨k, rfl⟩ := Nat.exists_eq_add_one.mpr (Nat.zero_lt_of_lt hfuel)
    have hf := hval f List.mem_cons_self
    obtain ⟨hid, ht⟩ := hhdr f hf
    have h1 : sliceFrom b off = .ok (((toFld f).t :: be16 (toFld f).id) ++
        ((toFld f).val ++ (encFields (fs.map toFld) ++ 0 :: rest))) := by
      rw [h, List.map_cons, encFields_cons, Fld.enc]; simp only [List.cons_append, List.append_assoc]
    have h2 := sliceFrom_add h1 (n := 3) rfl
    have ih := ih (p := apply p f) (fuel := k) (hval := fun x hx => hval x (List.mem_cons_of_mem _ hx))
      (hfuel := by rw [List.length_cons] at hfuel; omega) (h := sliceFrom_add h2 rfl)
    simp only [genLoop, Out.bind_eq, Out.pure_eq]
    rw [h1, Out.bind_ok, List.cons_append, readFieldBegin_enc _ _ _ ht hid]
    simp only [T_STOP_eq, if_neg ht]
    rw [hbody p f b _ _ hf h2, Out.bind_ok]
    simp only []
    rw [ih, List.map_cons, encFields_cons, List.foldl_cons]
    simp only [Fld.enc, List.length_append, List.length_cons, be16_length, Out.ok.injEq, RR.mk.injEq, true_and,
      and_true]
    omega

/-- ApplicationException's hand-written loop is the generated loop over its switch, except for the offset
    it reports together with an error -/
theorem exLoop_of_genLoop (b : Bytes) (fuel : Nat) (e : AppEx) (off : Nat) (r : RR AppEx)
    (h : genLoop exBody b fuel e off = .ok r) :
    ∃ off', exLoop b fuel e off = .ok ⟨r.p, off', r.err⟩ ∧ (r.err = none → off' = r.off) := by
  induction fuel generalizing e off with
  | zero => cases h
  | succ fuel ih =>
    simp only [genLoop, exLoop, Out.bind_eq, Out.pure_eq] at h ⊢
    obtain ⟨buf, hs, h⟩ := Out.bind_ok_inv h
    rw [hs, Out.bind_ok]
    cases hfb : (readFieldBegin buf).err with
    | some er => rw [hfb] at h; cases h; exact ⟨_, rfl, nofun⟩
    | none =>
      rw [hfb] at h
      simp only [] at h ⊢
      by_cases hstop : (readFieldBegin buf).t = T_STOP
      · rw [if_pos hstop] at h ⊢; cases h; exact ⟨_, rfl, fun _ => rfl⟩
      · rw [if_neg hstop] at h ⊢
        obtain ⟨x, hb, h⟩ := Out.bind_ok_inv h
        rw [hb, Out.bind_ok]
        cases hx : x.err with
        | some er => rw [hx] at h; cases h; exact ⟨_, rfl, nofun⟩
        | none => rw [hx] at h; exact ih x.p x.off h

end Verif
