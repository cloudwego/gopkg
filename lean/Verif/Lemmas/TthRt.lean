/-
  Lemmas/TthRt (the round trip): Encode against the documented layout, and Decode of a laid-out frame.
    lookup_perm / lookup_reverse   duplicate-free association lists answer alike in every order
    rawInfo_length / bounds / rawInfo_eq
                                   Go's accumulated size is the spec's info size (always); if it fits 64 KiB
                                   every length/count fits 16 bits and the written bytes are the spec's info
    encode_layout_lemma            Encode = size error (info size > limit) or meta :: items, whose bytes are the layout
    layout_valid / decode_layout   a laid-out frame ++ payload is valid and decodes to the same parameters
    setTotalLen_layout / encode_frame
                                   the caller's PutUint32 on the total-length field; Encode followed by it
-/
import Verif.Lemmas.TthEnc
import Verif.Lemmas.TthDecode
namespace Verif.TTH
open Verif.Frame (Params plainStr aclKey str2 encStrKV encIntKV Sec encSec encSecs secsOf padLen infoSize layout)

/-- the encoder's parameter record as the spec's parameter set -/
def fp (p : EncParam) : Params :=
  { flags := p.flags, seq := p.seq, proto := p.proto, intKV := p.intKV, strKV := p.strKV }

/-! ### association lists with duplicate-free keys -/

theorem lookup_of_mem {κ ν : Type} [BEq κ] [LawfulBEq κ] (l : List (κ × ν)) (k : κ) (v : ν)
    (hn : (l.map (·.1)).Nodup) (hm : (k, v) ∈ l) : l.lookup k = some v := by
  obtain ⟨l1, l2, rfl⟩ := List.append_of_mem hm
  rw [List.map_append, List.map_cons, List.nodup_append] at hn
  refine List.lookup_eq_some_iff.mpr ⟨l1, l2, rfl, fun q hq => bne_iff_ne.mpr fun e => ?_⟩
  exact hn.2.2 _ (List.mem_map.mpr ⟨q, hq, rfl⟩) _ (List.mem_cons_self ..) e.symm

theorem mem_of_lookup {κ ν : Type} [BEq κ] [LawfulBEq κ] (l : List (κ × ν)) (k : κ) (v : ν)
    (h : l.lookup k = some v) : (k, v) ∈ l := by
  obtain ⟨l1, l2, rfl, _⟩ := List.lookup_eq_some_iff.mp h
  exact List.mem_append_right _ (List.mem_cons_self ..)

/-- two orders of the same duplicate-free map answer every lookup alike -/
theorem lookup_perm {κ ν : Type} [BEq κ] [LawfulBEq κ] (l1 l2 : List (κ × ν)) (hp : l1.Perm l2)
    (hn : (l1.map (·.1)).Nodup) (k : κ) : l1.lookup k = l2.lookup k := by
  have hn2 : (l2.map (·.1)).Nodup := (hp.map _).nodup_iff.mp hn
  cases h1 : l1.lookup k with
  | some v => exact (lookup_of_mem l2 k v hn2 (hp.mem_iff.mp (mem_of_lookup l1 k v h1))).symm
  | none =>
    cases h2 : l2.lookup k with
    | none => rfl
    | some v =>
      have := lookup_of_mem l1 k v hn (hp.mem_iff.mpr (mem_of_lookup l2 k v h2))
      rw [h1] at this; cases this

theorem lookup_reverse {κ ν : Type} [BEq κ] [LawfulBEq κ] (l : List (κ × ν)) (hn : (l.map (·.1)).Nodup)
    (k : κ) : l.reverse.lookup k = l.lookup k :=
  (lookup_perm l l.reverse (List.reverse_perm l).symm hn k).symm

/-! ### the raw printer in terms of the spec's entry lists -/

def rawKV2 (kv : Bytes × Bytes) : Bytes := rawStr2 kv.1 ++ rawStr2 kv.2

theorem plainStr_cons (kv : Bytes × Bytes) (r : StrMap) :
    plainStr (kv :: r) = if kv.1 = gdprKey then plainStr r else kv :: plainStr r := by
  simp only [plainStr, List.filter_cons, gdprKey_eq]
  by_cases h : kv.1 = aclKey
  · have hb : (kv.1 != aclKey) = false := by rw [h]; simp
    rw [hb, if_pos h]; simp
  · have hb : (kv.1 != aclKey) = true := bne_iff_ne.mpr h
    rw [hb, if_neg h]; simp

theorem flatMap_rawStrKV (m : StrMap) : m.flatMap rawStrKV = (plainStr m).flatMap rawKV2 := by
  induction m with
  | nil => rfl
  | cons kv rest ih =>
    rw [plainStr_cons]
    simp only [List.flatMap_cons, rawStrKV]
    by_cases hk : kv.1 = gdprKey
    · simp only [hk, if_true, List.nil_append]
      exact ih
    · simp only [hk, if_false, List.flatMap_cons, rawKV2, ih]

def aclEntry (m : StrMap) : StrMap :=
  match m.lookup aclKey with
  | some t => [(aclKey, t)]
  | none => []

theorem aclEntry_length_le (m : StrMap) : (aclEntry m).length ≤ 1 := by
  unfold aclEntry; cases m.lookup aclKey <;> simp

theorem plain_perm : ∀ (m : StrMap), (m.map (·.1)).Nodup → m.Perm (plainStr m ++ aclEntry m) := by
  intro m
  induction m with
  | nil => intro _; exact List.Perm.refl _
  | cons kv rest ih =>
    intro hn
    obtain ⟨k, v⟩ := kv
    rw [List.map_cons, List.nodup_cons] at hn
    have ih := ih hn.2
    rw [plainStr_cons, gdprKey_eq]
    unfold aclEntry at ih ⊢
    rw [List.lookup_cons]
    by_cases hk : k = aclKey
    · have hnone : rest.lookup aclKey = none := by
        cases hl : rest.lookup aclKey with
        | none => rfl
        | some v' => exact absurd (List.mem_map.mpr ⟨(aclKey, v'), mem_of_lookup rest _ _ hl, hk.symm⟩) hn.1
      rw [hnone, List.append_nil] at ih
      simp only [hk, if_true, beq_self_eq_true]
      exact (ih.cons _).trans (List.perm_append_singleton _ _).symm
    · simp only [hk, if_false, beq_false_of_ne (Ne.symm hk)]
      exact ih.cons _

theorem plain_length (m : StrMap) (hn : (m.map (·.1)).Nodup) :
    m.length = (plainStr m).length + (aclEntry m).length :=
  (plain_perm m hn).length_eq.trans List.length_append

/-- `strKVSize` of the encoder is the number of entries of the spec's 0x01 section -/
theorem strCount_eq (m : StrMap) (hn : (m.map (·.1)).Nodup) : strCount m = ((plainStr m).length : Int) := by
  have h := plain_length m hn
  unfold strCount
  unfold aclEntry at h
  rw [gdprKey_eq]
  cases hl : m.lookup aclKey with
  | none => rw [hl] at h; simp only [List.length_nil] at h ⊢; omega
  | some v => rw [hl] at h; simp only [List.length_cons, List.length_nil] at h ⊢; omega

/-- a counted section: nothing for an empty list, else the tag, a 16-bit count field and the entries -/
def counted {α : Type} (tag : UInt8) (n : Nat) (f : α → Bytes) (l : List α) : Bytes :=
  if l.isEmpty then [] else tag :: (be16 n ++ l.flatMap f)

theorem counted_length {α : Type} (tag : UInt8) (n : Nat) (f : α → Bytes) (l : List α) :
    (counted tag n f l).length = if l.isEmpty then 0 else 3 + (l.flatMap f).length := by
  unfold counted
  split
  · rfl
  · rw [List.length_cons, List.length_append, be16_length]; omega

theorem flatMap_length_congr {α : Type} (f g : α → Bytes) (h : ∀ x, (f x).length = (g x).length) :
    ∀ (l : List α), (l.flatMap f).length = (l.flatMap g).length := by
  intro l; induction l with
  | nil => rfl
  | cons a r ih => simp only [List.flatMap_cons, List.length_append, ih, h a]

theorem flatMap_congr' {α : Type} (f g : α → Bytes) : ∀ (l : List α), (∀ x ∈ l, f x = g x) →
    l.flatMap f = l.flatMap g := by
  intro l; induction l with
  | nil => intro _; rfl
  | cons a r ih =>
    intro h
    obtain ⟨ha, hr⟩ := List.forall_mem_cons.mp h
    rw [List.flatMap_cons, List.flatMap_cons, ha, ih hr]

theorem counted_length_congr {α : Type} (tag : UInt8) (n n' : Nat) (f g : α → Bytes) (l : List α)
    (h : ∀ x, (f x).length = (g x).length) : (counted tag n f l).length = (counted tag n' g l).length := by
  rw [counted_length, counted_length, flatMap_length_congr f g h]

theorem counted_congr {α : Type} (tag : UInt8) {n n' : Nat} {f g : α → Bytes} {l : List α} (hn : n = n')
    (h : ∀ x ∈ l, f x = g x) : counted tag n f l = counted tag n' g l := by
  unfold counted
  rw [hn, flatMap_congr' f g l h]

theorem counted_length_perm {α : Type} (tag : UInt8) (n n' : Nat) (f : α → Bytes) {l l' : List α}
    (h : l.Perm l') : (counted tag n f l).length = (counted tag n' f l').length := by
  have he : l.isEmpty = l'.isEmpty := by
    rw [Bool.eq_iff_iff, List.isEmpty_iff_length_eq_zero, List.isEmpty_iff_length_eq_zero, h.length_eq]
  rw [counted_length, counted_length, he, (h.flatMap_right f).length_eq]

theorem flatMap_length_ge {α : Type} (f : α → Bytes) (c : Nat) (hf : ∀ x, c ≤ (f x).length) :
    ∀ (l : List α), l.length * c ≤ (l.flatMap f).length ∧ ∀ x ∈ l, (f x).length ≤ (l.flatMap f).length
  | [] => ⟨Nat.le_of_eq (Nat.zero_mul c), List.forall_mem_nil _⟩
  | a :: r => by
    obtain ⟨ih1, ih2⟩ := flatMap_length_ge f c hf r
    rw [List.flatMap_cons, List.length_append, List.length_cons, Nat.succ_mul, Nat.add_comm]
    exact ⟨Nat.add_le_add (hf a) ih1, List.forall_mem_cons.mpr
      ⟨Nat.le_add_right _ _, fun x hx => Nat.le_trans (ih2 x hx) (Nat.le_add_left _ _)⟩⟩

theorem counted_le {α : Type} (tag : UInt8) (n : Nat) (f : α → Bytes) (c : Nat) (hf : ∀ x, c ≤ (f x).length)
    (l : List α) : l.length * c ≤ (counted tag n f l).length ∧
      ∀ x ∈ l, 3 + (f x).length ≤ (counted tag n f l).length := by
  obtain ⟨h1, h2⟩ := flatMap_length_ge f c hf l
  rw [counted_length]
  cases l with
  | nil => exact ⟨Nat.le_of_eq (Nat.zero_mul c), List.forall_mem_nil _⟩
  | cons a r => exact ⟨Nat.le_trans h1 (Nat.le_add_left _ _), fun x hx => Nat.add_le_add_left (h2 x hx) 3⟩

theorem rawStr2_eq (s : Bytes) (h : s.length < 65536) : rawStr2 s = str2 s := by
  simp [rawStr2, str2, Nat.mod_eq_of_lt h]

theorem u16OfInt_nat (n : Nat) (h : n < 65536) : u16OfInt (n : Int) = n := by
  have h' : (n : Int) < 65536 := Int.ofNat_lt.mpr h
  rw [u16OfInt, Int.emod_eq_of_lt (Int.natCast_nonneg n) h', Int.toNat_natCast]

def aclPart (m : StrMap) : Bytes :=
  match m.lookup aclKey with
  | some t => 0x11 :: str2 t
  | none => []

theorem encSecs_append (a b : List Sec) : encSecs (a ++ b) = encSecs a ++ encSecs b := by
  simp [encSecs]

theorem info_parts (q : Params) :
    Frame.info q = [UInt8.ofNat q.proto, 0] ++ aclPart q.strKV
      ++ counted 0x01 (plainStr q.strKV).length encStrKV (plainStr q.strKV)
      ++ counted 0x10 q.intKV.length encIntKV q.intKV := by
  have hstr : ∀ l : StrMap, encSecs (if l.isEmpty then [] else [Sec.str l]) = counted 0x01 l.length encStrKV l := by
    intro l; cases l <;> simp [counted, encSecs, encSec]
  have hint : ∀ l : IntMap, encSecs (if l.isEmpty then [] else [Sec.int l]) = counted 0x10 l.length encIntKV l := by
    intro l; cases l <;> simp [counted, encSecs, encSec]
  unfold Frame.info secsOf aclPart
  rw [encSecs_append, encSecs_append, hstr, hint]
  cases q.strKV.lookup aclKey <;> simp [encSecs, encSec]

/-- the same sections as the encoder writes them, over the spec's entry lists -/
theorem rawStrSec_eq (m : StrMap) (hn : (m.map (·.1)).Nodup) :
    rawStrSec m = counted 0x01 ((plainStr m).length % 65536) rawKV2 (plainStr m) := by
  unfold rawStrSec counted
  rw [strCount_eq m hn, flatMap_rawStrKV]
  cases h : plainStr m with
  | nil => simp
  | cons a r =>
    have : ((a :: r).length : Int) > 0 := by simp only [List.length_cons]; omega
    simp only [this, if_true, List.isEmpty_cons, Bool.false_eq_true, if_false, Facts.ttInfoKeyValue]
    congr 2

theorem rawIntSec_eq (m : IntMap) :
    rawIntSec m = counted 0x10 (m.length % 65536) rawIntKV m := by
  unfold rawIntSec counted
  cases m with
  | nil => simp
  | cons a r =>
    have : ((a :: r).length : Int) > 0 := by simp only [List.length_cons]; omega
    simp only [this, if_true, List.isEmpty_cons, Bool.false_eq_true, if_false, Facts.ttInfoIntKeyValue]
    congr 2

theorem rawAcl_eq (m : StrMap) :
    rawAcl m = match m.lookup aclKey with
      | some t => 0x11 :: rawStr2 t
      | none => [] := by
  unfold rawAcl
  rw [gdprKey_eq]
  cases m.lookup aclKey <;> simp [Facts.ttInfoACLToken]

theorem rawKV2_length (kv : Bytes × Bytes) : (rawKV2 kv).length = (encStrKV kv).length := by
  simp [rawKV2, encStrKV]

theorem rawIntKV_length (kv : Nat × Bytes) : (rawIntKV kv).length = (encIntKV kv).length := by
  simp [rawIntKV, encIntKV]

/-- Go's accumulated write size is the spec's info length — always, truncated length fields or not -/
theorem rawInfo_length (p : EncParam) (hn : (p.strKV.map (·.1)).Nodup) :
    (rawInfo p).length = (Frame.info (fp p)).length := by
  have h1 : (rawAcl p.strKV).length = (aclPart p.strKV).length := by
    rw [rawAcl_eq]; unfold aclPart
    cases p.strKV.lookup aclKey <;> simp
  rw [info_parts]
  unfold rawInfo
  simp only [fp, List.length_append]
  rw [h1, rawStrSec_eq _ hn, rawIntSec_eq, counted_length_congr 0x01 _ _ rawKV2 encStrKV _ rawKV2_length,
    counted_length_congr 0x10 _ _ rawIntKV encIntKV _ rawIntKV_length]

theorem rawSize_eq (p : EncParam) (hn : (p.strKV.map (·.1)).Nodup) : rawSize p = infoSize (fp p) := by
  unfold rawSize infoSize padLen
  rw [rawInfo_length p hn]

theorem rawInfo_le (p : EncParam) (hn : (p.strKV.map (·.1)).Nodup) (hs : infoSize (fp p) ≤ 65536) :
    (rawInfo p).length ≤ 65536 := by
  rw [rawInfo_length p hn]
  exact Nat.le_trans (Nat.le_add_right _ _) hs

/-- if the written info fits the 64 KiB limit, every length and count fits its 16-bit field:
    the encoder's truncations `uint16(len)` are then the identity -/
theorem bounds (p : EncParam) (hn : (p.strKV.map (·.1)).Nodup) (hs : (rawInfo p).length ≤ 65536) :
    (∀ t, p.strKV.lookup aclKey = some t → t.length < 65536) ∧
    ((plainStr p.strKV).length < 65536 ∧
      ∀ kv ∈ plainStr p.strKV, kv.1.length < 65536 ∧ kv.2.length < 65536) ∧
    (p.intKV.length < 65536 ∧ ∀ kv ∈ p.intKV, kv.2.length < 65536) := by
  unfold rawInfo at hs
  rw [rawStrSec_eq _ hn, rawIntSec_eq, List.length_append, List.length_append, List.length_append] at hs
  have hA := Nat.le_trans (Nat.le_trans (Nat.le_trans (Nat.le_add_left _ _) (Nat.le_add_right _ _))
    (Nat.le_add_right _ _)) hs
  have hS := Nat.le_trans (Nat.le_trans (Nat.le_add_left _ _) (Nat.le_add_right _ _)) hs
  have hI := Nat.le_trans (Nat.le_add_left _ _) hs
  obtain ⟨s1, s2⟩ := counted_le 0x01 ((plainStr p.strKV).length % 65536) rawKV2 4
    (fun x => by rw [rawKV2, List.length_append, rawStr2_length, rawStr2_length]; omega) (plainStr p.strKV)
  obtain ⟨i1, i2⟩ := counted_le 0x10 (p.intKV.length % 65536) rawIntKV 4
    (fun x => by rw [rawIntKV, List.length_append, rawStr2_length, be16_length]; omega) p.intKV
  have small : ∀ n : Nat, n * 4 ≤ 65536 → n < 65536 := fun n h =>
    Nat.lt_of_mul_lt_mul_right (Nat.lt_of_le_of_lt h (by decide : 65536 < 65536 * 4))
  refine ⟨fun t ht => ?_, ⟨small _ (Nat.le_trans s1 hS), fun kv hkv => ?_⟩,
    small _ (Nat.le_trans i1 hI), fun kv hkv => ?_⟩
  · rw [rawAcl_eq, ht, List.length_cons, rawStr2_length] at hA
    exact Nat.lt_of_lt_of_le (Nat.lt_add_of_pos_right (by decide : 0 < 2 + 1)) hA
  · have := Nat.le_trans (s2 kv hkv) hS
    rw [rawKV2, List.length_append, rawStr2_length, rawStr2_length] at this
    omega
  · have := Nat.le_trans (i2 kv hkv) hI
    rw [rawIntKV, List.length_append, rawStr2_length, be16_length] at this
    omega

/-- … and then what the encoder writes is the documented info area -/
theorem rawInfo_eq (p : EncParam) (hn : (p.strKV.map (·.1)).Nodup) (hs : (rawInfo p).length ≤ 65536) :
    rawInfo p = Frame.info (fp p) := by
  obtain ⟨b1, ⟨b2, b3⟩, ⟨b4, b5⟩⟩ := bounds p hn hs
  have h1 : rawAcl p.strKV = aclPart p.strKV := by
    rw [rawAcl_eq]; unfold aclPart
    cases h : p.strKV.lookup aclKey with
    | none => rfl
    | some t => simp only; rw [rawStr2_eq t (b1 t h)]
  rw [info_parts]
  unfold rawInfo
  simp only [fp]
  rw [h1, rawStrSec_eq _ hn, rawIntSec_eq,
    counted_congr 0x01 (g := encStrKV) (Nat.mod_eq_of_lt b2) (fun kv hkv => by
      rw [rawKV2, encStrKV, rawStr2_eq _ (b3 kv hkv).1, rawStr2_eq _ (b3 kv hkv).2]),
    counted_congr 0x10 (g := encIntKV) (Nat.mod_eq_of_lt b4) (fun kv hkv => by
      rw [rawIntKV, encIntKV, rawStr2_eq _ (b5 kv hkv)])]

/-! ### Encode against the layout -/

/-- the magic word 0x10000000 plus 16-bit flags: the two high bytes are those of the magic, the two low
    bytes those of the flags (nothing carries) -/
theorem be32_magic_flags (f : Nat) (h : f < 65536) :
    be32 ((Facts.ttMagic + f) % 4294967296) = be16 0x1000 ++ be16 f := by
  have hm : (Facts.ttMagic + f) % 4294967296 = 268435456 + f :=
    Nat.mod_eq_of_lt
      (Nat.add_lt_add_left (Nat.lt_trans h (by decide)) 268435456 : 268435456 + f < 268435456 + 4026531840)
  have h1 : (268435456 + f) / 16777216 = 16 :=
    Nat.div_eq_of_lt_le (Nat.le_add_right 268435456 f)
      (Nat.add_lt_add_left (Nat.lt_trans h (by decide)) 268435456 : 268435456 + f < 268435456 + 16777216)
  have h2 : (268435456 + f) / 65536 = 4096 :=
    Nat.div_eq_of_lt_le (Nat.le_add_right 268435456 f) (Nat.add_lt_add_left h 268435456)
  have h3 : (268435456 + f) / 256 = 256 * 4096 + f / 256 := Nat.mul_add_div (by decide : 0 < 256) 1048576 f
  rw [hm, be32, h1, h2, h3, Frame.ofNat_mul_add, show 268435456 + f = 256 * 1048576 + f from rfl,
    Frame.ofNat_mul_add]
  rfl

theorem padLen_mod (n : Nat) : (n + padLen n) % 4 = 0 := by
  unfold padLen
  rw [Nat.add_mod, Nat.mod_mod]
  exact (by decide : ∀ r : Fin 4, (r.val + (4 - r.val) % 4) % 4 = 0) ⟨n % 4, Nat.mod_lt _ (by decide)⟩

theorem infoSize_mod4 (q : Params) : infoSize q % 4 = 0 := padLen_mod _

/-- the four bytes of fresh memory Encode leaves in the total-length field -/
def lenField (w : W) : Bytes := ((List.range 14).map (w.dirt w.n)).take 4

theorem lenField_length (w : W) : (lenField w).length = 4 := by simp [lenField]

/-- the size check of Encode is made on a 64-bit value (Tie A): a regression to `uint32(...)` breaks this -/
theorem ttEncodeSizeCheckBits_eq : Facts.ttEncodeSizeCheckBits = 64 := by decide

theorem layout_eq_raw (p : EncParam) (hd : (fp p).Dom) (hs : infoSize (fp p) ≤ 65536) (lf : Bytes) :
    lf ++ (be32 ((Facts.ttMagic + p.flags) % 4294967296) ++ be32 (ofInt 32 p.seq)
      ++ be16 ((infoSize (fp p) / 4) % 65536) ++ (rawInfo p ++ padding (rawInfo p).length)) = layout lf (fp p) := by
  have hn := hd.strNodup
  rw [rawInfo_eq p hn (rawInfo_le p hn hs), be32_magic_flags p.flags hd.flags,
    Nat.mod_eq_of_lt (Nat.div_lt_of_lt_mul (Nat.lt_of_le_of_lt hs (by decide)))]
  simp only [layout, padding, padLen, Frame.seqBits, fp, List.append_assoc]

/-- Encode on a healthy writer, against the documented layout -/
theorem encode_layout_lemma (p : EncParam) (w : W) (hb : w.broken = false) (hd : (fp p).Dom)
    (h64 : infoSize (fp p) < 2 ^ 64) :
    (infoSize (fp p) > 65536 → encode p w = .err .size) ∧
    (infoSize (fp p) ≤ 65536 →
      encode p w = .ok (w.n, w.app (metaBytes p w (infoSize (fp p)) :: infoItems p)) ∧
      (w.app (metaBytes p w (infoSize (fp p)) :: infoItems p)).bytes = w.bytes ++ layout (lenField w) (fp p)) := by
  have he := encode_items p w hb
  rw [infoItems_size, rawSize_eq p hd.strNodup, ttEncodeSizeCheckBits_eq, Nat.mod_eq_of_lt h64,
    show Facts.ttMaxHeaderSize = 65536 from rfl] at he
  constructor
  · intro hbig; rw [he, if_pos hbig]
  · intro hs
    refine ⟨by rw [he, if_neg (Nat.not_lt.mpr hs)], ?_⟩
    rw [W.bytes_app, List.flatten_cons, infoItems_flatten, ← layout_eq_raw p hd hs]
    simp only [metaBytes, lenField, List.append_assoc]

theorem drop_add {b x y : Bytes} {i : Nat} (h : b.drop i = x ++ y) : b.drop (i + x.length) = y := by
  rw [← List.drop_drop, h, List.drop_left]

theorem layout_drops (lf rest : Bytes) (q : Params) (hlf : lf.length = 4) :
    (layout lf q ++ rest).drop 4 = be16 0x1000 ++ (layout lf q ++ rest).drop 6 ∧
    (layout lf q ++ rest).drop 6 = be16 q.flags ++ (layout lf q ++ rest).drop 8 ∧
    (layout lf q ++ rest).drop 8 = be32 (Frame.seqBits q.seq) ++ (layout lf q ++ rest).drop 12 ∧
    (layout lf q ++ rest).drop 12 = be16 (infoSize q / 4) ++ (layout lf q ++ rest).drop 14 ∧
    (layout lf q ++ rest).drop 14 = Frame.info q ++ (List.replicate (padLen (Frame.info q).length) 0 ++ rest) := by
  have d4 : (layout lf q ++ rest).drop 4 = be16 0x1000 ++ (be16 q.flags ++ (be32 (Frame.seqBits q.seq) ++
      (be16 (infoSize q / 4) ++ (Frame.info q ++ (List.replicate (padLen (Frame.info q).length) 0 ++ rest))))) := by
    simp only [layout, List.append_assoc]
    exact List.drop_left' hlf
  have d6 : (layout lf q ++ rest).drop 6 = _ := drop_add d4
  have d8 : (layout lf q ++ rest).drop 8 = _ := drop_add d6
  have d12 : (layout lf q ++ rest).drop 12 = _ := drop_add d8
  have d14 : (layout lf q ++ rest).drop 14 = _ := drop_add d12
  exact ⟨d4.trans (congrArg _ d6.symm), d6.trans (congrArg _ d8.symm), d8.trans (congrArg _ d12.symm),
    d12.trans (congrArg _ d14.symm), d14⟩

theorem layout_length (lf : Bytes) (q : Params) (hlf : lf.length = 4) :
    (layout lf q).length = 14 + infoSize q := by
  unfold layout infoSize; simp [hlf]; omega

theorem layout_magic (lf rest : Bytes) (q : Params) (hlf : lf.length = 4) :
    rd16 ((layout lf q ++ rest).drop 4) = 0x1000 := by
  rw [(layout_drops lf rest q hlf).1]; exact rd16_be16 _ (by decide) _

theorem layout_flags (lf rest : Bytes) (q : Params) (hlf : lf.length = 4) (hf : q.flags < 65536) :
    rd16 ((layout lf q ++ rest).drop 6) = q.flags := by
  rw [(layout_drops lf rest q hlf).2.1]; exact rd16_be16 _ hf _

theorem layout_seq (lf rest : Bytes) (q : Params) (hlf : lf.length = 4) :
    rd32 ((layout lf q ++ rest).drop 8) = Frame.seqBits q.seq := by
  rw [(layout_drops lf rest q hlf).2.2.1]; exact rd32_be32 _ (ofInt32_lt _) _

theorem layout_declared (lf rest : Bytes) (q : Params) (hlf : lf.length = 4) (hs : infoSize q ≤ 65536) :
    Frame.declared (layout lf q ++ rest) = infoSize q := by
  unfold Frame.declared Frame.sizeField
  rw [(layout_drops lf rest q hlf).2.2.2.1,
    rd16_be16 _ (Nat.div_lt_of_lt_mul (Nat.lt_of_le_of_lt hs (by decide))) _]
  exact Nat.mul_div_cancel' (Nat.dvd_of_mod_eq_zero (infoSize_mod4 q))

theorem layout_total (lf rest : Bytes) (q : Params) (hlf : lf.length = 4) :
    Frame.totalLen (layout lf q ++ rest) = rd32 lf := by
  unfold Frame.totalLen layout
  simp only [List.append_assoc]
  match lf, hlf with
  | [a, b, c, d], _ => rfl

theorem layout_proto (lf rest : Bytes) (q : Params) (hlf : lf.length = 4) (hp : q.proto < 256) :
    rd8 ((layout lf q ++ rest).drop 14) = q.proto := by
  rw [(layout_drops lf rest q hlf).2.2.2.2]
  simp only [Frame.info, List.cons_append, rd8, List.headD_cons, UInt8.toNat_ofNat']
  omega

theorem infoSize_ge (q : Params) : 2 ≤ infoSize q := by
  unfold infoSize Frame.info
  simp only [List.length_append, List.length_cons]; omega

/-- the checks Decode makes before it looks into the info area pass on a laid-out frame -/
theorem layout_framed (lf rest : Bytes) (q : Params) (hlf : lf.length = 4) (hs : infoSize q ≤ 65536) :
    14 ≤ (layout lf q ++ rest).length ∧ rd16 ((layout lf q ++ rest).drop 4) = 0x1000 ∧
    2 ≤ Frame.declared (layout lf q ++ rest) ∧ Frame.declared (layout lf q ++ rest) ≤ 65536 ∧
    14 + Frame.declared (layout lf q ++ rest) ≤ (layout lf q ++ rest).length := by
  rw [layout_declared lf rest q hlf hs, List.length_append, layout_length lf q hlf]
  exact ⟨Nat.le_trans (Nat.le_add_right _ _) (Nat.le_add_right _ _), layout_magic lf rest q hlf, infoSize_ge q, hs,
    Nat.le_add_right _ _⟩

/-! ### Decode of a laid-out frame -/

theorem encSecs_pads (k : Nat) : encSecs (List.replicate k Sec.pad) = List.replicate k 0 := by
  induction k with
  | zero => rfl
  | succ k ih => rw [List.replicate_succ, Frame.encSecs_cons, ih]; rfl

theorem info_struct (q : Params) :
    Frame.info q = UInt8.ofNat q.proto :: 0 :: encSecs (secsOf q) := rfl

/-- every section the encoder emits fits its 16-bit fields when the info area fits the limit -/
theorem secsOf_wf (p : EncParam) (hd : (fp p).Dom) (hs : infoSize (fp p) ≤ 65536) :
    ∀ s ∈ secsOf (fp p), Frame.wfSec s := by
  have hn : (p.strKV.map (·.1)).Nodup := hd.strNodup
  obtain ⟨b1, ⟨b2, b3⟩, ⟨b4, b5⟩⟩ := bounds p hn (rawInfo_le p hn hs)
  unfold secsOf
  refine List.forall_mem_append.mpr ⟨List.forall_mem_append.mpr ⟨?_, ?_⟩, ?_⟩
  · cases h : (fp p).strKV.lookup aclKey with
    | none => exact List.forall_mem_nil _
    | some t => exact List.forall_mem_singleton.mpr (b1 t h)
  · split
    · exact List.forall_mem_nil _
    · exact List.forall_mem_singleton.mpr ⟨b2, b3⟩
  · split
    · exact List.forall_mem_nil _
    · exact List.forall_mem_singleton.mpr ⟨b4, fun kv hkv => ⟨hd.intKeys kv hkv, b5 kv hkv⟩⟩

theorem layout_valid (q : Params) (lf rest : Bytes) (hlf : lf.length = 4) (hp : q.proto < 256)
    (hsup : q.proto ∈ Frame.supported) (hs : infoSize q ≤ 65536) (hw : ∀ s ∈ secsOf q, Frame.wfSec s) :
    Frame.Valid (layout lf q ++ rest) (secsOf q ++ List.replicate (padLen (Frame.info q).length) Sec.pad) := by
  obtain ⟨h14, hmagic, hlo, hhi, hc⟩ := layout_framed lf rest q hlf hs
  have hdecl := layout_declared lf rest q hlf hs
  have d14 := (layout_drops lf rest q hlf).2.2.2.2
  have hnt : Frame.numTransforms (layout lf q ++ rest) = 0 := by
    unfold Frame.numTransforms
    rw [show 15 = 14 + 1 from rfl, ← List.drop_drop, d14, info_struct]
    rfl
  refine { hdr := h14, magic := hmagic, sizeLo := hlo, sizeHi := hhi, complete := hc,
           proto := by rw [layout_proto lf rest q hlf hp]; exact hsup, transforms := hnt ▸ Nat.zero_le _, wf := ?_,
           sections := ?_ }
  · intro s hsm
    rw [List.mem_append] at hsm
    rcases hsm with hsm | hsm
    · exact hw s hsm
    · rw [List.mem_replicate] at hsm; rw [hsm.2]; trivial
  · rw [hnt, hdecl, show 16 + 0 = 14 + 2 from rfl, ← List.drop_drop, d14, info_struct, encSecs_append,
      encSecs_pads]
    simp only [List.cons_append, List.drop_succ_cons, List.drop_zero]
    rw [← List.append_assoc]
    apply List.take_left'
    simp only [infoSize, info_struct, List.length_append, List.length_cons, List.length_replicate]
    omega

/-! ### what the sections of a parameter set denote -/

theorem applySecs_append (m : Frame.IntMap × Frame.StrMap) (a b : List Sec) :
    Frame.applySecs m (a ++ b) = Frame.applySecs (Frame.applySecs m a) b := List.foldl_append

theorem applySecs_pads (m : Frame.IntMap × Frame.StrMap) (k : Nat) :
    Frame.applySecs m (List.replicate k Sec.pad) = m := by
  induction k with
  | zero => rfl
  | succ k ih => rw [List.replicate_succ]; exact ih

theorem applySecs_secsOf (q : Params) (k : Nat) :
    Frame.applySecs ([], []) (secsOf q ++ List.replicate k Sec.pad)
      = (q.intKV.reverse, (plainStr q.strKV).reverse ++ aclEntry q.strKV) := by
  have hstr : ∀ (m : Frame.IntMap × Frame.StrMap) (l : StrMap),
      Frame.applySecs m (if l.isEmpty then [] else [Sec.str l]) = (m.1, l.reverse ++ m.2) := by
    intro m l; cases l <;> rfl
  have hint : ∀ (m : Frame.IntMap × Frame.StrMap) (l : IntMap),
      Frame.applySecs m (if l.isEmpty then [] else [Sec.int l]) = (l.reverse ++ m.1, m.2) := by
    intro m l; cases l <;> rfl
  unfold secsOf aclEntry
  rw [applySecs_append, applySecs_append, applySecs_append, hstr, hint, applySecs_pads]
  cases q.strKV.lookup aclKey <;> simp [Frame.applySecs, Frame.applySec]

/-- the decoded string map answers like the parameter's string map -/
theorem str_lookup (m : StrMap) (hn : (m.map (·.1)).Nodup) (k : Bytes) :
    ((plainStr m).reverse ++ aclEntry m).lookup k = m.lookup k :=
  (lookup_perm m _ ((plain_perm m hn).trans ((List.reverse_perm _).symm.append_right _)) hn k).symm

/-- **round trip on the layout**: Decode of a laid-out frame followed by any payload -/
theorem decode_layout (p : EncParam) (lf payload : Bytes) (cap : Nat) (hlf : lf.length = 4) (hd : (fp p).Dom)
    (hsup : p.proto ∈ Frame.supported) (hs : infoSize (fp p) ≤ 65536)
    (hcap : (layout lf (fp p) ++ payload).length ≤ cap) :
    ∃ d, decodeBytes (layout lf (fp p) ++ payload) cap = (.ok d, (layout lf (fp p)).length) ∧
      d.flags = p.flags ∧ d.seq = p.seq ∧ d.proto = p.proto ∧
      (∀ k, (mk d.intKV).lookup k = p.intKV.lookup k) ∧ (∀ k, (mk d.strKV).lookup k = p.strKV.lookup k) ∧
      d.headerLen = ((layout lf (fp p)).length : Int) ∧
      d.payloadLen = (rd32 lf : Int) + 4 - ((layout lf (fp p)).length : Int) := by
  have hv := layout_valid (fp p) lf payload hlf hd.proto hsup hs (secsOf_wf p hd hs)
  have hdecl := layout_declared lf payload (fp p) hlf hs
  have hflags := layout_flags lf payload (fp p) hlf hd.flags
  have hseq := layout_seq lf payload (fp p) hlf
  have hproto := layout_proto lf payload (fp p) hlf hd.proto
  have htot := layout_total lf payload (fp p) hlf
  have hmaps := pairOf_applyMs (secsOf (fp p) ++ List.replicate (padLen (Frame.info (fp p)).length) Sec.pad)
    ⟨none, none⟩
  rw [show pairOf ⟨none, none⟩ = ([], []) from rfl, applySecs_secsOf] at hmaps
  rw [decodeBytes_eq_cur _ _ hcap, decodeCur_valid hv, hdecl, layout_length _ _ hlf]
  -- from here on the frame is only known through the facts above
  generalize layout lf (fp p) ++ payload = b at *
  generalize applyMs ⟨none, none⟩ _ = M at *
  refine ⟨_, rfl, hflags, ?_, hproto, fun k => ?_, fun k => ?_, ?_, ?_⟩
  · simp only [toParam, hseq]; exact toI32_ofInt p.seq hd.seq.1 hd.seq.2
  · exact (congrArg (List.lookup k) (congrArg Prod.fst hmaps)).trans (lookup_reverse _ hd.intNodup k)
  · exact (congrArg (List.lookup k) (congrArg Prod.snd hmaps)).trans (str_lookup _ hd.strNodup k)
  · simp only [toParam, hdecl]; omega
  · simp only [toParam, hdecl, htot]; omega

/-- Encode does not look at the protocol id, Decode does: a laid-out frame whose protocol id is not in the
    allow-list is refused with the protocol error, after both Next calls (14 + declared bytes consumed) -/
theorem decode_layout_unsupported (p : EncParam) (lf payload : Bytes) (cap : Nat) (hlf : lf.length = 4)
    (hd : (fp p).Dom) (hsup : p.proto ∉ Frame.supported) (hs : infoSize (fp p) ≤ 65536)
    (hcap : (layout lf (fp p) ++ payload).length ≤ cap) :
    decodeBytes (layout lf (fp p) ++ payload) cap = (.err .protocol, (layout lf (fp p)).length) := by
  obtain ⟨h14, hmagic, hlo, hhi, hc⟩ := layout_framed lf payload (fp p) hlf hs
  rw [decodeBytes_eq_cur _ _ hcap, decodeCur_unsupported _ h14 hmagic hlo hhi hc
      (by rw [layout_proto lf payload (fp p) hlf hd.proto]; exact hsup),
    layout_declared lf payload (fp p) hlf hs, layout_length _ _ hlf]

/-- the caller's PutUint32(totalLenField, total) after Encode: the frame becomes the layout with that
    length field -/
theorem setTotalLen_layout (p : EncParam) (w : W) (total : Nat) (hd : (fp p).Dom)
    (hs : infoSize (fp p) ≤ 65536) :
    ∃ w'', setTotalLen (w.app (metaBytes p w (infoSize (fp p)) :: infoItems p)) w.n total = .ok w'' ∧
      w''.bytes = w.bytes ++ layout (be32 (total % 4294967296)) (fp p) := by
  unfold setTotalLen
  rw [put_app' w _ _ 0 (be32 (total % 4294967296)) (by simp [metaBytes])]
  refine ⟨_, rfl, ?_⟩
  rw [W.bytes_app, List.flatten_cons, infoItems_flatten, ← layout_eq_raw p hd hs]
  simp [poke, metaBytes]

theorem encode_frame (p : EncParam) (w : W) (hb : w.broken = false) (hd : (fp p).Dom)
    (hs : infoSize (fp p) ≤ 65536) (total : Nat) :
    ∃ w' w'', encode p w = .ok (w.n, w') ∧ setTotalLen w' w.n total = .ok w'' ∧
      w''.bytes = w.bytes ++ layout (be32 (total % 4294967296)) (fp p) := by
  obtain ⟨w'', e2, hb2⟩ := setTotalLen_layout p w total hd hs
  exact ⟨_, w'', ((encode_layout_lemma p w hb hd (Nat.lt_of_le_of_lt hs (by decide))).2 hs).1, e2, hb2⟩

theorem rd32_be32_mod (t : Nat) : rd32 (be32 (t % 4294967296)) = t % 4294967296 := by
  have := rd32_be32 (t % 4294967296) (Nat.mod_lt _ (by decide)) []
  rwa [List.append_nil] at this

theorem frame_length (lf payload : Bytes) (q : Params) (hlf : lf.length = 4) :
    (layout lf q ++ payload).length = 14 + infoSize q + payload.length := by
  rw [List.length_append, layout_length lf q hlf]

end Verif.TTH
