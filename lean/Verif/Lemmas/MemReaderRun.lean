/-
  Lemmas/MemReaderRun: reader histories.  `RStep` = one operation that is not Release, or one step of
  the environment (co-tenant / user allocations); `RStepR` adds Release.  The invariant holds along
  every history; protected bytes survive every Release-free history; caller memory survives everything.
-/
import Verif.Lemmas.MemReader
import Verif.Lemmas.MemSkip
namespace Verif.Mem
open Verif Verif.Heap

abbrev RSt := MRd × Heap

/-- one step between two Releases -/
inductive RStep : RSt → RSt → Prop
  | next (r : MRd) (h : Heap) (n : Int) : RStep (r, h) ((r.next h n).2.1, (r.next h n).2.2)
  | peek (r : MRd) (h : Heap) (n : Int) : RStep (r, h) ((r.peek h n).2.1, (r.peek h n).2.2)
  | skip (r : MRd) (h : Heap) (n : Int) : RStep (r, h) ((r.skip h n).2.1, (r.skip h n).2.2)
  | readBinary (r : MRd) (h : Heap) (bs : Slice) (hbs : GcDst h bs) :
      RStep (r, h) ((r.readBinary h bs).2.1, (r.readBinary h bs).2.2)
  /-- SkipDecoder.Next(t) on top of this reader (a run of Peeks, then one Next) -/
  | skipNext (r : MRd) (h : Heap) (t : UInt8) (s : Slice) (r' : MRd) (h' : Heap)
      (hrun : memSkipDecNext r h t = .ok (s, r', h')) : RStep (r, h) (r', h')
  /-- the environment: the co-tenant overwrites freed objects, allocates, scribbles over its own memory -/
  | env (r : MRd) (h h' : Heap) (he : Env h h') : RStep (r, h) (r, h')
  /-- the user allocates memory of its own (e.g. a destination for ReadBinary) -/
  | alloc (r : MRd) (h h' : Heap) (he : Extends h h') (hf : h'.faults = h.faults) : RStep (r, h) (r, h')

/-- any step of a history -/
inductive RStepR : RSt → RSt → Prop
  | step {a b : RSt} (s : RStep a b) : RStepR a b
  | release (r : MRd) (h : Heap) : RStepR (r, h) ((r.release h).1, (r.release h).2)

inductive RSteps : RSt → RSt → Prop
  | refl (a : RSt) : RSteps a a
  | cons {a b c : RSt} (s : RStep a b) (t : RSteps b c) : RSteps a c

inductive RStepsR : RSt → RSt → Prop
  | refl (a : RSt) : RStepsR a a
  | cons {a b c : RSt} (s : RStepR a b) (t : RStepsR b c) : RStepsR a c

theorem RStep.ok {a b : RSt} (s : RStep a b) (hi : RInv a.1 a.2) : StepOK a.1 a.2 b.1 b.2 := by
  cases s with
  | next r h n => exact (next_ok r h n hi).1
  | peek r h n => exact (peek_ok r h n hi).1
  | skip r h n => exact skip_ok r h n hi
  | readBinary r h bs hbs => exact readBinary_ok r h bs hi hbs
  | skipNext r h t s r' h' hrun => exact (memSkipDecNext_ok r h t s r' h' hrun hi).1
  | env r h h' he =>
    exact ⟨(hi.env he).1, (hi.env he).2, he.keeps⟩
  | alloc r h h' he hf =>
    exact ⟨hi.of_keeps (Keeps.of_extends he) (hf.trans hi.nofault), Frame.of_extends hi he, Keeps.of_extends he⟩

theorem RSteps.ok {a b : RSt} (t : RSteps a b) (hi : RInv a.1 a.2) : StepOK a.1 a.2 b.1 b.2 := by
  induction t with
  | refl a => exact StepOK.refl hi
  | cons s _ ih => exact (s.ok hi).trans (ih (s.ok hi).inv)

theorem RStepsR.inv {a b : RSt} (t : RStepsR a b) (hi : RInv a.1 a.2) : RInv b.1 b.2 := by
  induction t with
  | refl a => exact hi
  | cons s _ ih =>
    apply ih
    cases s with
    | step s => exact (s.ok hi).inv
    | release r h => exact (release_ok r h hi).1

/-- caller-owned objects: still there, still the caller's, byte for byte what they were -/
def CallerSame (h h' : Heap) : Prop := ∀ o x, h.obj? o = some x → x.owner = .caller →
  ∃ x', h'.obj? o = some x' ∧ x'.owner = .caller ∧ x'.wfrom = x.wfrom ∧ x'.data = x.data

theorem CallerSame.refl (h : Heap) : CallerSame h h := fun _ x hx hc => ⟨x, hx, hc, rfl, rfl⟩
theorem CallerSame.trans {a b c : Heap} (h1 : CallerSame a b) (h2 : CallerSame b c) : CallerSame a c :=
  fun o x hx hc => by
    obtain ⟨y, hy, c1, w1, d1⟩ := h1 o x hx hc
    obtain ⟨z, hz, c2, w2, d2⟩ := h2 o y hy c1
    exact ⟨z, hz, c2, w2.trans w1, d2.trans d1⟩

theorem StepOK.callerSame {r r' : MRd} {h h' : Heap} (s : StepOK r h r' h') : CallerSame h h' := by
  intro o x hx hc
  obtain ⟨x', hx', ho, hw, hl⟩ := s.keeps o x hx
  refine ⟨x', hx', by rw [ho]; exact hc, hw, ?_⟩
  apply List.ext_getElem?; intro p
  have := (s.frame o p (Or.inr (Or.inr ⟨x, hx, hc⟩))).2
  rw [byte?_of_obj? h' o p x' hx', byte?_of_obj? h o p x hx] at this
  exact this

theorem RStepsR.callerSame {a b : RSt} (t : RStepsR a b) (hi : RInv a.1 a.2) : CallerSame a.2 b.2 := by
  induction t with
  | refl a => exact CallerSame.refl _
  | cons s _ ih =>
    cases s with
    | step s => exact (s.ok hi).callerSame.trans (ih (s.ok hi).inv)
    | release r h =>
      obtain ⟨i, k, _⟩ := release_ok r h hi
      refine CallerSame.trans ?_ (ih i)
      intro o x hx hc
      exact ⟨x, k o x hx (by rw [hc]; decide), hc, rfl, rfl⟩

/-- bytes seen through a slice inside the protected region do not change along a Release-free history -/
theorem view_stable {r : MRd} {h : Heap} {b : RSt} (s : Slice) (hi : RInv r h) (hp : InProt r h s)
    (t : RSteps (r, h) b) : b.2.view s = h.view s := by
  have ok := t.ok hi
  unfold Heap.view
  apply bytes_congr
  intro q h1 h2
  exact (ok.frame s.obj q (hp q h1 h2)).2

/-! ## initial states -/

theorem RInv.newDefault (src : Src) (h : Heap) (hf : h.faults = []) : RInv (MRd.newDefault src) h where
  nofault := hf
  ri_le := Nat.le_refl _
  len_le := Nat.le_refl _
  nil_pend := fun _ => rfl
  buf_ok := fun hc => by simp [MRd.newDefault, Slice.nil] at hc
  ro_src := fun hr => by simp [MRd.newDefault] at hr
  pend_ok := fun s hs => by simp [MRd.newDefault] at hs
  pend_nodup := by simp [MRd.newDefault]

/-- NewBytesReader on a slice of caller memory (any capacity, power of two or not) -/
theorem RInv.newBytes (buf : Slice) (h : Heap) (hf : h.faults = []) (hlen : buf.len ≤ buf.cap)
    (hb : ∃ x, h.obj? buf.obj = some x ∧ buf.off + buf.cap ≤ x.data.length ∧ x.owner = .caller) :
    RInv (MRd.newBytes buf) h := by
  unfold MRd.newBytes
  by_cases hc : buf.cap > 0
  · rw [if_pos hc]
    obtain ⟨x, hx, hbd, hcl⟩ := hb
    exact {
      nofault := hf
      ri_le := Nat.zero_le _
      len_le := hlen
      nil_pend := fun _ => rfl
      buf_ok := fun _ => ⟨x, hx, hbd, fun _ => hcl, fun hr => by simp at hr⟩
      ro_src := fun _ => rfl
      pend_ok := fun s hs => by simp at hs
      pend_nodup := by simp }
  · rw [if_neg hc]; exact RInv.newDefault _ h hf

end Verif.Mem
