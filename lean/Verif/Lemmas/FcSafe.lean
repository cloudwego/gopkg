/-
  Lemmas/FcSafe: FastRead of the three structs on arbitrary bytes: always a normal return (no panic, no
  out-of-bounds load, fuel never exhausted), and on success the reported length is within the input.
-/
import Verif.Lemmas.FcRead
namespace Verif

/-- a `case` body / loop result that is a normal return, with `off` inside the input on success -/
def RetOK {α : Type} (b : Bytes) (off : Nat) (x : TOut (RR α)) : Prop :=
  ∃ r, x = .ok r ∧ (r.err = none → off ≤ r.off ∧ r.off ≤ b.length)

theorem readFieldBegin_le (buf : Bytes) (h : (readFieldBegin buf).err = none) :
    1 ≤ (readFieldBegin buf).l ∧ (readFieldBegin buf).l ≤ buf.length := by
  cases buf with
  | nil => simp [readFieldBegin] at h
  | cons t rest =>
    simp only [readFieldBegin] at h ⊢
    by_cases h1 : t = T_STOP
    · simp [h1]
    · by_cases h2 : rest.length + 1 < 3
      · simp [h1, h2] at h
      · have h2' : ¬ (t :: rest).length < 3 := by simpa using h2
        simp only [if_neg h1, if_neg h2']
        simp at h2 ⊢; omega

theorem readString_le (buf : Bytes) (h : (readString buf).err = none) : (readString buf).l ≤ buf.length := by
  unfold readString at h ⊢
  by_cases h1 : buf.length < 4
  · simp [h1] at h
  · by_cases h2 : toI32 (rd32 buf) < 0
    · simp [h1, h2] at h
    · by_cases h3 : buf.length < 4 + (toI32 (rd32 buf)).toNat
      · simp [h1, h2, h3] at h
      · simp only [if_neg h1, if_neg h2, if_neg h3]; omega

theorem readI32_le (buf : Bytes) (h : (readI32 buf).err = none) : (readI32 buf).l ≤ buf.length := by
  unfold readI32 at h ⊢
  by_cases h1 : buf.length < 4
  · simp [h1] at h
  · simp only [if_neg h1]; omega

theorem readMapBegin_le (buf : Bytes) (h : (readMapBegin buf).err = none) : (readMapBegin buf).l ≤ buf.length := by
  match buf, h with
  | [], h => simp [readMapBegin] at h
  | [_], h => simp [readMapBegin] at h
  | kt :: vt :: rest, h =>
    simp only [readMapBegin] at h ⊢
    by_cases h1 : rest.length + 1 + 1 < 6
    · simp [h1] at h
    · have h1' : ¬ (kt :: vt :: rest).length < 6 := by simpa using h1
      simp only [if_neg h1']
      simp at h1 ⊢; omega

theorem readKVs_safe (b : Bytes) (cnt off : Nat) (m : SMap) (h : off ≤ b.length) :
    RetOK b off (readKVs b cnt off m) := by
  induction cnt generalizing off m with
  | zero => exact ⟨_, rfl, fun _ => ⟨Nat.le_refl _, h⟩⟩
  | succ cnt ih =>
    simp only [readKVs, Out.bind_eq, Out.pure_eq]
    rw [sliceFrom_ok b off h, Out.bind_ok]
    cases hk : (readString (b.drop off)).err with
    | some e => exact ⟨_, rfl, nofun⟩
    | none =>
      have hkl := readString_le _ hk
      rw [List.length_drop] at hkl
      simp only []
      rw [sliceFrom_ok b _ (by omega), Out.bind_ok]
      cases hv : (readString (b.drop (off + (readString (b.drop off)).l))).err with
      | some e => exact ⟨_, rfl, nofun⟩
      | none =>
        have hvl := readString_le _ hv
        rw [List.length_drop] at hvl
        simp only []
        obtain ⟨r, hr, hro⟩ := ih (off + (readString (b.drop off)).l +
          (readString (b.drop (off + (readString (b.drop off)).l))).l) (m.set _ _) (by omega)
        exact ⟨r, hr, fun he => ⟨by have := (hro he).1; omega, (hro he).2⟩⟩

theorem caseStr_safe {α : Type} (setF : α → Bytes → α) (p : α) (b : Bytes) (off : Nat) (h : off ≤ b.length) :
    RetOK b off (caseStr setF p b off) := by
  simp only [caseStr, Out.bind_eq, Out.pure_eq]
  rw [sliceFrom_ok b off h, Out.bind_ok]
  refine ⟨_, rfl, fun he => ?_⟩
  have := readString_le _ he
  simp only [List.length_drop] at this
  constructor <;> simp only [] <;> omega

theorem caseI32_safe {α : Type} (setF : α → Int → α) (p : α) (b : Bytes) (off : Nat) (h : off ≤ b.length) :
    RetOK b off (caseI32 setF p b off) := by
  simp only [caseI32, Out.bind_eq, Out.pure_eq]
  rw [sliceFrom_ok b off h, Out.bind_ok]
  refine ⟨_, rfl, fun he => ?_⟩
  have := readI32_le _ he
  simp only [List.length_drop] at this
  constructor <;> simp only [] <;> omega

theorem caseMap_safe {α : Type} (setF : α → SMap → α) (p : α) (b : Bytes) (off : Nat) (h : off ≤ b.length) :
    RetOK b off (caseMap setF p b off) := by
  simp only [caseMap, Out.bind_eq, Out.pure_eq]
  rw [sliceFrom_ok b off h, Out.bind_ok]
  cases hm : (readMapBegin (b.drop off)).err with
  | some e => exact ⟨_, rfl, by simp⟩
  | none =>
    have hml := readMapBegin_le _ hm
    simp only [List.length_drop] at hml
    simp only []
    obtain ⟨r, hr, hro⟩ := readKVs_safe b (readMapBegin (b.drop off)).size (off + (readMapBegin (b.drop off)).l) []
      (by omega)
    rw [hr, Out.bind_ok]
    exact ⟨_, rfl, fun he => ⟨by have := (hro he).1; simp only [] at this ⊢; omega, (hro he).2⟩⟩

theorem caseSkip_safe {α : Type} (p : α) (b : Bytes) (off : Nat) (t : UInt8) (h : off ≤ b.length) :
    RetOK b off (caseSkip p b off t) := by
  simp only [caseSkip, Out.bind_eq, Out.pure_eq]
  rw [sliceFrom_ok b off h, Out.bind_ok]
  rcases skipBin_total (b.drop off) t with ⟨n, hn⟩ | ⟨e, he⟩
  · have := skipBin_le_len _ _ _ hn
    simp only [List.length_drop] at this
    rw [hn]
    exact ⟨_, rfl, fun _ => ⟨by simp only []; omega, by simp only []; omega⟩⟩
  · rw [he]
    exact ⟨_, rfl, by simp⟩

/-- the generated loop is safe whenever every `case` body is -/
theorem genLoop_safe {α : Type} (body : α → Bytes → Nat → Nat → UInt8 → TOut (RR α)) (b : Bytes)
    (hbody : ∀ p off fid ftyp, off ≤ b.length → RetOK b off (body p b off fid ftyp))
    (fuel : Nat) (p : α) (off : Nat) (h : off ≤ b.length) (hf : b.length - off < fuel) :
    ∃ r, genLoop body b fuel p off = .ok r ∧ (r.err = none → r.off ≤ b.length) := by
  induction fuel generalizing p off with
  | zero => omega
  | succ fuel ih =>
    simp only [genLoop, Out.bind_eq, Out.pure_eq]
    rw [sliceFrom_ok b off h, Out.bind_ok]
    cases hfb : (readFieldBegin (b.drop off)).err with
    | some e => exact ⟨_, rfl, nofun⟩
    | none =>
      have hl := readFieldBegin_le _ hfb
      rw [List.length_drop] at hl
      simp only []
      split
      · exact ⟨_, rfl, fun _ => by simp only []; omega⟩
      · obtain ⟨r, hr, hro⟩ := hbody p (off + (readFieldBegin (b.drop off)).l) (readFieldBegin (b.drop off)).id
          (readFieldBegin (b.drop off)).t (by omega)
        rw [hr, Out.bind_ok]
        cases hre : r.err with
        | some e => exact ⟨_, rfl, nofun⟩
        | none =>
          have := hro hre
          exact ih r.p r.off this.2 (by omega)

theorem baseBody_safe (b : Bytes) (p : Base) (off fid : Nat) (ftyp : UInt8) (h : off ≤ b.length) :
    RetOK b off (baseBody p b off fid ftyp) := by
  unfold baseBody
  split
  · exact caseStr_safe _ p b off h
  · exact caseStr_safe _ p b off h
  · exact caseStr_safe _ p b off h
  · exact caseMap_safe _ p b off h
  · exact caseSkip_safe p b off ftyp h

theorem respBody_safe (b : Bytes) (p : BaseResp) (off fid : Nat) (ftyp : UInt8) (h : off ≤ b.length) :
    RetOK b off (respBody p b off fid ftyp) := by
  unfold respBody
  split
  · exact caseStr_safe _ p b off h
  · exact caseI32_safe _ p b off h
  · exact caseMap_safe _ p b off h
  · exact caseSkip_safe p b off ftyp h

theorem exBody_safe (b : Bytes) (e : AppEx) (off fid : Nat) (ftyp : UInt8) (h : off ≤ b.length) :
    RetOK b off (exBody e b off fid ftyp) := by
  unfold exBody
  split
  · split
    · exact caseStr_safe _ e b off h
    · split
      · exact caseI32_safe _ e b off h
      · exact caseSkip_safe e b off ftyp h
  · rename_i hne
    exact absurd rfl (hne (1, 11) (2, 8))

theorem exLoop_safe (b : Bytes) (fuel : Nat) (e : AppEx) (off : Nat) (h : off ≤ b.length)
    (hf : b.length - off < fuel) : ∃ r, exLoop b fuel e off = .ok r ∧ (r.err = none → r.off ≤ b.length) := by
  obtain ⟨r, hr, hro⟩ := genLoop_safe exBody b (fun e off fid ftyp h => exBody_safe b e off fid ftyp h) fuel e off h hf
  obtain ⟨off', hx, hoff⟩ := exLoop_of_genLoop b fuel e off r hr
  exact ⟨_, hx, fun he => by rw [hoff he]; exact hro he⟩

end Verif
