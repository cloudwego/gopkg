/-
  Lemmas/Funcs/StreamW: the 14 stream writers `BufferWriter.Write*` TRANSLATED from protocol/thrift/bufferwriter.go
  (`Verif.Funcs.BW_*`, generated, over an abstract `bufiox.Writer` = `WriterI ρ`) are the hand-written model writers
  `Wire.bw*` over the writer log `Wire.WLog`.

  * `wlI dirty errOf : WriterI WLog` is the log model seen as the abstract Go interface.  The generated code commits a
    Malloc'ed region only when the function returns (the region aliases the writer's memory), the model appends the
    region when it is filled (`wlCommit`).  So that the ORDER of items is the same, `malloc` reserves the slot at once:
    it appends `.region <dirty contents>` and hands out the slot's index as the handle; `commit w h bs` replaces the item
    at index `h` (nothing happens when `h` is not an index of the log — the handle returned next to an error is
    `items.length`, which is none); `writeBinary` appends `.payload v`.  On the sticky error and on a negative count
    `malloc` returns the error (`errOf e`, `errOf .negCount`: `wlMalloc` tests the sticky error first, like
    `DefaultWriter.Malloc`), a nil region, and leaves the log as it is.
  * `liftBW back : GM (WLog × GoErr) → WOut WLog`: a nil error is `.ok log`; a non-nil error `e` is `.err r` when
    `back e = some r` — the log returned next to an error is dropped, as every `Wire.bw*` does.  The theorems take any
    rendering `errOf : RErr → GoErr` of the writer's errors that avoids `nil` and that `back` inverts (`WErrOK`);
    `wErrOf` / `wErrBack` is a concrete one.
  * Shape of every theorem: `liftBW back (Funcs.BW_WriteX (wlI d errOf) w args) = Wire.bwX w d args'`, for every log
    `w` (with or without a sticky error) and every dirt function `d`.

  Method: split on the SEMANTIC condition (`w.err = some e` / `none`); `malloc`/`commit`/`writeBinary` of `wlI` and
  `wlMalloc`/`wlCommit`/`wlWriteBinary` have rewrite rules under those hypotheses; the fill is the view primitives
  against the model's slice primitives in the normal forms of `Write.lean` (here at the literal offset `0`); the
  region's length is a literal (`freshRegion_length`), so every bounds check is closed arithmetic — but for
  `WriteMessageBegin`, where the length of the name goes to `omega`.
-/
import Verif.Lemmas.Funcs.Append
import Verif.Model.Wire
namespace Verif.FuncsEq
open Verif Verif.GoSem Verif.Wire

/-! ## the log model as a `WriterI` -/

/-- fresh memory of `n` bytes: the model's arbitrary initial content -/
def freshRegion (dirty : Nat → UInt8) (n : Nat) : Bytes := (List.range n).map dirty

theorem freshRegion_length (d : Nat → UInt8) (n : Nat) : (freshRegion d n).length = n := by simp [freshRegion]

def wlI (dirty : Nat → UInt8) (errOf : RErr → GoErr) : WriterI WLog where
  malloc w n :=
    match w.err with
    | some e => .ok (([], w.items.length, errOf e), w)
    | none =>
      if n < 0 then .ok (([], w.items.length, errOf .negCount), w)
      else .ok ((freshRegion dirty n.toNat, w.items.length, GoErr.nil),
                { w with items := w.items ++ [.region (freshRegion dirty n.toNat)] })
  commit w h bs := { w with items := w.items.set h (.region bs) }
  writeBinary w v :=
    match w.err with
    | some e => .ok ((0, errOf e), w)
    | none => .ok (((v.length : Int), GoErr.nil), { w with items := w.items ++ [.payload v] })
  writtenLen w := (w.bytes.length : Int)

/-- result `(log, err)` of a translated stream writer as the model's outcome -/
def liftBW (back : GoErr → Option RErr) (x : GM (WLog × GoErr)) : WOut WLog :=
  match x with
  | .ok r =>
    if r.2 = .nil then .ok r.1
    else match back r.2 with
      | some e => .err e
      | none => .panic "liftBW: not an error of the writer"
  | .panic s => .panic s
  | .oob => .oob
  | .err e => nomatch e

/-- `errOf` renders the writer's errors as non-nil Go errors and `back` reads them back -/
structure WErrOK (errOf : RErr → GoErr) (back : GoErr → Option RErr) : Prop where
  ne_nil : ∀ e, errOf e ≠ GoErr.nil
  inv : ∀ e, back (errOf e) = some e

def wErrOf : RErr → GoErr
  | .eof => .named "io.EOF"
  | .noProgress => .named "io.ErrNoProgress"
  | .negCount => .named "bufiox:errNegativeCount"
  | .src k => .pe (k : Int) "bufiox:sink error"

def wErrBack : GoErr → Option RErr
  | .named s =>
    if s = "io.EOF" then some .eof
    else if s = "io.ErrNoProgress" then some .noProgress
    else if s = "bufiox:errNegativeCount" then some .negCount
    else none
  | .pe k _ => if 0 ≤ k then some (.src k.toNat) else none
  | .nil => none

theorem wErrOK : WErrOK wErrOf wErrBack where
  ne_nil e := by cases e <;> simp [wErrOf]
  inv e := by cases e <;> simp [wErrOf, wErrBack]

/-! ## rewrite rules under the semantic case hypotheses -/

theorem wlI_malloc_err (d : Nat → UInt8) (errOf : RErr → GoErr) (w : WLog) (n : Int) (e : RErr) (h : w.err = some e) :
    (wlI d errOf).malloc w n = .ok (([], w.items.length, errOf e), w) := by
  simp [wlI, h]

theorem wlI_malloc_neg (d : Nat → UInt8) (errOf : RErr → GoErr) (w : WLog) (n : Int) (h : w.err = none) (hn : n < 0) :
    (wlI d errOf).malloc w n = .ok (([], w.items.length, errOf .negCount), w) := by
  simp [wlI, h, hn]

theorem wlI_malloc_ok (d : Nat → UInt8) (errOf : RErr → GoErr) (w : WLog) (n : Int) (h : w.err = none) (hn : 0 ≤ n) :
    (wlI d errOf).malloc w n =
      .ok ((freshRegion d n.toNat, w.items.length, GoErr.nil),
           { items := w.items ++ [.region (freshRegion d n.toNat)], err := none }) := by
  have hn' : ¬ n < 0 := by omega
  cases w; simp_all [wlI]

theorem bw_wlMalloc_err (d : Nat → UInt8) (w : WLog) (n : Int) (e : RErr) (h : w.err = some e) :
    wlMalloc w n d = .err e := by
  simp [wlMalloc, h]

theorem bw_wlMalloc_ok (d : Nat → UInt8) (w : WLog) (n : Int) (h : w.err = none) (hn : 0 ≤ n) :
    wlMalloc w n d = .ok (freshRegion d n.toNat) := by
  have hn' : ¬ n < 0 := by omega
  simp [wlMalloc, h, hn', freshRegion]

theorem set_reserved (l : List WItem) (x y : WItem) (rest : List WItem) :
    (l ++ x :: rest).set l.length y = l ++ y :: rest :=
  set_at_length l x y rest

/-- the reserved slot receives the region's final contents, whatever was appended after it -/
theorem wlI_commit_reserved (d : Nat → UInt8) (errOf : RErr → GoErr) (l : List WItem) (x : WItem) (rest : List WItem)
    (o : Option RErr) (bs : Bytes) :
    (wlI d errOf).commit { items := l ++ x :: rest, err := o } l.length bs =
      { items := l ++ .region bs :: rest, err := o } := by
  simp [wlI]

/-- the handle returned next to an error is no index of the log: nothing is committed -/
theorem wlI_commit_none (d : Nat → UInt8) (errOf : RErr → GoErr) (w : WLog) (bs : Bytes) :
    (wlI d errOf).commit w w.items.length bs = w := by
  cases w; simp [wlI, List.set_eq_of_length_le]

theorem wlI_writeBinary_ok (d : Nat → UInt8) (errOf : RErr → GoErr) (l : List WItem) (v : Bytes) :
    (wlI d errOf).writeBinary { items := l, err := none } v =
      .ok (((v.length : Int), GoErr.nil), { items := l ++ [.payload v], err := none }) := by
  simp [wlI]

theorem bw_wlCommit_ok (w : WLog) (bs : Bytes) (h : w.err = none) :
    wlCommit w bs = { items := w.items ++ [.region bs], err := none } := by
  cases w; simp_all [wlCommit]

theorem bw_wlWriteBinary_ok (l : List WItem) (v : Bytes) :
    wlWriteBinary { items := l, err := none } v = .ok { items := l ++ [.payload v], err := none } := by
  simp [wlWriteBinary]

theorem liftBW_ok (back : GoErr → Option RErr) (w : WLog) : liftBW back (.ok (w, GoErr.nil)) = .ok w := by
  simp [liftBW]

theorem liftBW_err (errOf : RErr → GoErr) (back : GoErr → Option RErr) (H : WErrOK errOf back) (w : WLog) (e : RErr) :
    liftBW back (.ok (w, errOf e)) = .err e := by
  simp [liftBW, H.ne_nil, H.inv]

/- Proved, not `rfl`: used as `simp` rules inside the first argument of a `bind`, where a definitional step makes
   `simp` leave the congruence rule `bind_congr_arg` for the default one. -/
theorem bw_fill_ok (b : Bytes) : fill (.ok b) = .ok b := by unfold fill; exact Eq.refl _
theorem bw_fill_panic (s : String) : fill (.panic s) = .panic s := by unfold fill; exact Eq.refl _

attribute [writer_simp] bw_fill_ok bw_fill_panic

/-! ## the view primitives on a fresh region: its view starts at the literal offset `0` -/

@[writer_simp] theorem vset_zero (whole : Bytes) (i x : Int) :
    vset whole 0 i x =
      if 0 ≤ i ∧ i.toNat < whole.length then .ok (store whole i.toNat [byteOf x]) else .panic "index" := by
  have := vset_store whole 0 i x
  rw [Nat.zero_add] at this; exact this

@[writer_simp] theorem vfrom_zero (whole : Bytes) (lo : Int) :
    vfrom whole 0 lo = if 0 ≤ lo ∧ lo.toNat ≤ whole.length then .ok ((lo.toNat : Nat) : Int) else .panic "slice" := by
  have := vfrom_nat whole 0 lo
  rw [Nat.zero_add] at this; exact this

@[writer_simp] theorem vputU16_zero (whole : Bytes) (x : Int) :
    vputU16 whole 0 x = if 2 ≤ whole.length then .ok (store whole 0 (be16 (ofInt 16 x))) else .panic "index" := by
  have := vputU16_store whole 0 x
  rw [Nat.zero_add] at this; exact this

@[writer_simp] theorem vputU32_zero (whole : Bytes) (x : Int) :
    vputU32 whole 0 x = if 4 ≤ whole.length then .ok (store whole 0 (be32 (ofInt 32 x))) else .panic "index" := by
  have := vputU32_store whole 0 x
  rw [Nat.zero_add] at this; exact this

@[writer_simp] theorem vputU64_zero (whole : Bytes) (x : Int) :
    vputU64 whole 0 x = if 8 ≤ whole.length then .ok (store whole 0 (be64 (ofInt 64 x))) else .panic "index" := by
  have := vputU64_store whole 0 x
  rw [Nat.zero_add] at this; exact this

theorem shr_8 (x : Int) : shr x 8 = x / 256 := rfl

@[writer_simp] theorem ofNat_ofInt16 (x : Int) : UInt8.ofNat (ofInt 16 x) = UInt8.ofNat (ofInt 8 x) := by
  rw [← ofInt_wrap 8 .u16 x (by decide), wrap_u16]
  exact (u8_ofNat_mod (ofInt 16 x) 256 ⟨1, rfl⟩).symm

attribute [writer_simp] shr_8 freshRegion_length wlI_commit_reserved wlI_commit_none wlI_writeBinary_ok
  bw_wlWriteBinary_ok liftBW_ok Binary_MessageBeginLength_eq List.append_assoc List.cons_append List.nil_append
  Funcs.BW_WriteMessageBegin Funcs.BW_WriteFieldBegin Funcs.BW_WriteFieldStop Funcs.BW_WriteMapBegin
  Funcs.BW_WriteListBegin Funcs.BW_WriteSetBegin Funcs.BW_WriteBool Funcs.BW_WriteByte Funcs.BW_WriteI16
  Funcs.BW_WriteI32 Funcs.BW_WriteI64 Funcs.BW_WriteDouble Funcs.BW_WriteBinary Funcs.BW_WriteString
  Wire.bwMessageBegin Wire.bwFieldBegin Wire.bwFieldStop Wire.bwMapBegin Wire.bwListBegin Wire.bwSetBegin Wire.bwBool
  Wire.bwByte Wire.bwI16 Wire.bwI32 Wire.bwI64 Wire.bwDouble Wire.bwBinary

/-- the sticky-error case `hw : w.err = some e`: both sides return the error at the first `Malloc` -/
syntax "bw_err " ident ident : tactic
macro_rules
  | `(tactic| bw_err $hw $H) => `(tactic|
      simp (disch := go_disch) only [writer_simp, wlI_malloc_err _ _ _ _ _ $hw, bw_wlMalloc_err _ _ _ _ $hw, liftBW_err _ _ $H,
        WErrOK.ne_nil $H])

/-- the case `hw : w.err = none`: `Malloc` reserves, the fill is decided by arithmetic on the region's length (closed
    arithmetic, but for the name of a message), the commit fills the reserved slot; what is left is an equation
    between `store` towers with arithmetically equal offsets and equal bytes -/
syntax "bw_ok " ident : tactic
macro_rules
  | `(tactic| bw_ok $hw) => `(tactic| (
      simp (disch := go_disch) only [writer_simp, wlI_malloc_ok _ _ _ _ $hw, bw_wlMalloc_ok _ _ _ $hw,
        bw_wlCommit_ok _ _ $hw, Int.reduceToNat, Int.reduceLE, Nat.reduceAdd, Nat.reduceLeDiff, Nat.reduceLT]
      <;> congr_omega))

section
attribute [local congr] bind_congr_arg ite_congr_cond
variable (d : Nat → UInt8) (errOf : RErr → GoErr) (back : GoErr → Option RErr) (H : WErrOK errOf back) (w : WLog)
include H

theorem BW_WriteFieldStop_eq :
    liftBW back (Funcs.BW_WriteFieldStop (wlI d errOf) w) = Wire.bwFieldStop w d := by
  cases hw : w.err with
  | some e => bw_err hw H
  | none => bw_ok hw

theorem BW_WriteFieldBegin_eq (t : UInt8) (id : Int) :
    liftBW back (Funcs.BW_WriteFieldBegin (wlI d errOf) w (toI8 t.toNat) id) = Wire.bwFieldBegin w d t id := by
  cases hw : w.err with
  | some e => bw_err hw H
  | none => bw_ok hw

theorem BW_WriteMapBegin_eq (kt vt : UInt8) (size : Int) :
    liftBW back (Funcs.BW_WriteMapBegin (wlI d errOf) w (toI8 kt.toNat) (toI8 vt.toNat) size) =
      Wire.bwMapBegin w d kt vt size := by
  cases hw : w.err with
  | some e => bw_err hw H
  | none => bw_ok hw

theorem BW_WriteListBegin_eq (et : UInt8) (size : Int) :
    liftBW back (Funcs.BW_WriteListBegin (wlI d errOf) w (toI8 et.toNat) size) = Wire.bwListBegin w d et size := by
  cases hw : w.err with
  | some e => bw_err hw H
  | none => bw_ok hw

theorem BW_WriteSetBegin_eq (et : UInt8) (size : Int) :
    liftBW back (Funcs.BW_WriteSetBegin (wlI d errOf) w (toI8 et.toNat) size) = Wire.bwSetBegin w d et size := by
  cases hw : w.err with
  | some e => bw_err hw H
  | none => bw_ok hw

theorem BW_WriteBool_eq (v : Bool) :
    liftBW back (Funcs.BW_WriteBool (wlI d errOf) w v) = Wire.bwBool w d v := by
  cases hw : w.err with
  | some e => bw_err hw H
  | none => cases v <;> bw_ok hw

theorem BW_WriteByte_eq (v : Int) :
    liftBW back (Funcs.BW_WriteByte (wlI d errOf) w v) = Wire.bwByte w d v := by
  cases hw : w.err with
  | some e => bw_err hw H
  | none => bw_ok hw

theorem BW_WriteI16_eq (v : Int) :
    liftBW back (Funcs.BW_WriteI16 (wlI d errOf) w v) = Wire.bwI16 w d v := by
  cases hw : w.err with
  | some e => bw_err hw H
  | none => bw_ok hw

theorem BW_WriteI32_eq (v : Int) :
    liftBW back (Funcs.BW_WriteI32 (wlI d errOf) w v) = Wire.bwI32 w d v := by
  cases hw : w.err with
  | some e => bw_err hw H
  | none => bw_ok hw

theorem BW_WriteI64_eq (v : Int) :
    liftBW back (Funcs.BW_WriteI64 (wlI d errOf) w v) = Wire.bwI64 w d v := by
  cases hw : w.err with
  | some e => bw_err hw H
  | none => bw_ok hw

theorem BW_WriteDouble_eq (bits : Nat) :
    liftBW back (Funcs.BW_WriteDouble (wlI d errOf) w (bits : Int)) = Wire.bwDouble w d bits := by
  cases hw : w.err with
  | some e => bw_err hw H
  | none => bw_ok hw

theorem BW_WriteBinary_eq (v : Bytes) :
    liftBW back (Funcs.BW_WriteBinary (wlI d errOf) w v) = Wire.bwBinary w d v := by
  cases hw : w.err with
  | some e => bw_err hw H
  | none => bw_ok hw

theorem BW_WriteString_eq (v : Bytes) :
    liftBW back (Funcs.BW_WriteString (wlI d errOf) w v) = Wire.bwBinary w d v := by
  cases hw : w.err with
  | some e => bw_err hw H
  | none => bw_ok hw

theorem BW_WriteMessageBegin_eq (name : Bytes) (typ seq : Int) (hlen : name.length < 2 ^ 62) :
    liftBW back (Funcs.BW_WriteMessageBegin (wlI d errOf) w name typ seq) = Wire.bwMessageBegin w d name typ seq := by
  cases hw : w.err with
  | some e => bw_err hw H
  | none =>
    have hl : lenMessageBegin name = 4 + (4 + name.length) + 4 := rfl
    bw_ok hw

end


/-- `malloc` of `wlI` against `wlMalloc`, all three cases (sticky error first, then the negative count) -/
theorem malloc_wlMalloc (d : Nat → UInt8) (errOf : RErr → GoErr) (w : WLog) (n : Int) :
    (wlI d errOf).malloc w n =
      match wlMalloc w n d with
      | .ok r => .ok ((r, w.items.length, GoErr.nil), { w with items := w.items ++ [.region r] })
      | .err e => .ok (([], w.items.length, errOf e), w)
      | _ => .panic "unreachable" := by
  cases hw : w.err with
  | some e => simp [wlI, wlMalloc, hw]
  | none => by_cases hn : n < 0 <;> simp [wlI, wlMalloc, hw, hn, freshRegion]

/-! ## the generated functions compute (non-vacuity) -/

def demoD : Nat → UInt8 := fun i => UInt8.ofNat (170 + i)
def demoI : WriterI WLog := wlI demoD wErrOf

/-- a message begin, a string and a field stop through one log: four items in wire order (the length prefix of the
    string is committed when `WriteString` returns, AFTER its payload was appended, and still precedes it) -/
example :
    (do let r1 ← Funcs.BW_WriteMessageBegin demoI ⟨[], none⟩ [104, 105] 1 7
        let r2 ← Funcs.BW_WriteString demoI r1.1 [97]
        Funcs.BW_WriteFieldStop demoI r2.1 : GM (WLog × GoErr)) =
      .ok (⟨[.region [128, 1, 0, 1, 0, 0, 0, 2, 104, 105, 0, 0, 0, 7], .region [0, 0, 0, 1], .payload [97],
             .region [0]], none⟩, GoErr.nil) := by decide
/-- the model, same calls -/
example :
    (do let w1 ← bwMessageBegin ⟨[], none⟩ demoD [104, 105] 1 7
        let w2 ← bwBinary w1 demoD [97]
        bwFieldStop w2 demoD : WOut WLog) =
      .ok ⟨[.region [128, 1, 0, 1, 0, 0, 0, 2, 104, 105, 0, 0, 0, 7], .region [0, 0, 0, 1], .payload [97],
            .region [0]], none⟩ := by decide
/-- a sticky error: the first `Malloc` returns it, nothing is written, the log is as it was -/
example :
    Funcs.BW_WriteI32 demoI ⟨[.payload [1]], some (.src 3)⟩ 5 =
      .ok (⟨[.payload [1]], some (.src 3)⟩, GoErr.pe 3 "bufiox:sink error") := by decide
example :
    liftBW wErrBack (Funcs.BW_WriteString demoI ⟨[.payload [1]], some .noProgress⟩ [5, 6]) = .err .noProgress ∧
      bwBinary ⟨[.payload [1]], some .noProgress⟩ demoD [5, 6] = .err .noProgress := by decide
/-- a negative count is `errNegativeCount` (no translated writer asks for one; the interface does) -/
example : (demoI.malloc ⟨[], none⟩ (-1)) = .ok (([], 0, wErrOf .negCount), ⟨[], none⟩) := by decide
/-- a panic: a writer whose `Malloc` hands out a region shorter than asked for makes `PutUint32` panic -/
def shortI : WriterI Unit where
  malloc _ _ := .ok (([0, 0], 0, GoErr.nil), ())
  commit _ _ _ := ()
  writeBinary _ _ := .ok ((0, GoErr.nil), ())
  writtenLen _ := 0
example : Funcs.BW_WriteI32 shortI () 5 = .panic "index" := by decide

end Verif.FuncsEq
