/-
  Lemmas/Funcs/StrMapEq: the functions of container/strmap translated from the source on every run
  (`Verif/Gen/StrMapGen.lean`, translator `extract/strmap.go`, semantics `Base/GoSemSM.lean`) are EQUAL to the
  hand-written model `Model/StrMap.lean` that the C07 theorems are about — through the explicit abstraction `absMap`
  of the generated receiver structure, for all receiver states satisfying the representation invariant `Inv`, all
  arguments, every hash `h`, every `sorter`.

  `absMap`: data = `data[0:len]`, items = the items with their `int`/`uint32` fields as naturals, ht = `hashtable[0:len]`,
  spare = `hashtable[len:cap]`; the spare capacity of `data` and `items` is dropped (the model does not have it).
-/
import Verif.Gen.StrMapGen
import Verif.Lemmas.StrMapStore
namespace Verif.StrMapEq
open Verif Verif.GoSemSM Verif.StrMapGen
open Verif.GoSem (GM wrap LoopR goMod IT toU wrap_i64_of_range wrap_i32_of_range)

variable {V α : Type}

/-! ## abstraction -/

def absItem (e : S_mapItem V) : SMap.Item V := ⟨e.off.toNat, e.sz.toNat, e.slot.toNat, e.v⟩
def repItem (e : SMap.Item V) : S_mapItem V := ⟨(e.off : Int), (e.sz : Int), (e.slot : Int), e.v⟩

def absMap (m : S_StrMap V) : SMap.StrMap V :=
  ⟨m.data.arr, m.items.arr.map absItem, m.hashtable.arr.toArray, m.hashtable.spare.toArray⟩

/-- outcome of a translated call as an outcome of the model (a `GM` has no error outcome) -/
def liftG {α β : Type} (f : α → β) : GM α → Out SMap.LErr β
  | .ok a => .ok (f a)
  | .panic s => .panic s
  | .oob => .oob
  | .err e => nomatch e

/-- Go's `(v, ok)` as the model's `Option` -/
def optOf (r : V × Bool) : Option V := if r.2 then some r.1 else none

@[simp] theorem absItem_repItem (e : SMap.Item V) : absItem (repItem e) = e := by
  cases e; simp [absItem, repItem]

/-! ## representation invariant -/

/-- an item as the code can hold it: `off` a non-negative int below 2^62, `sz`/`slot` uint32, and the key range
    `[off, off+sz)` does not END in the spare capacity of `data` (Go's slice expression is legal up to the capacity and
    would read stale bytes there; the model checks against the length) -/
structure ItemOK (d : Sl UInt8) (e : S_mapItem V) : Prop where
  off0 : 0 ≤ e.off
  offB : e.off < 4611686018427387904
  sz0 : 0 ≤ e.sz
  szB : e.sz < 4294967296
  slot0 : 0 ≤ e.slot
  key : e.off + e.sz ≤ slen d ∨ scap d < e.off + e.sz

structure Inv (m : S_StrMap V) : Prop where
  items : ∀ e ∈ m.items.arr, ItemOK m.data e
  nItems : m.items.arr.length < 2147483648

/-! ## integer facts -/

theorem wrap32_succ {i : Int} {n : Nat} (h0 : ¬ i < 0) (h : i.toNat < n) (hn : n < 2147483648) :
    wrap .i32 (i + 1) = ((i.toNat + 1 : Nat) : Int) := by
  rw [wrap_i32_of_range _ (by omega) (by omega)]; omega

theorem wrapU32 (x : Int) : wrap .u32 x = x % 4294967296 := by
  simp [wrap, toU, IT.bits, IT.signed]

theorem wrapU32_id (x : Int) (h0 : 0 ≤ x) (h1 : x < 4294967296) : wrap .u32 x = x := by
  rw [wrapU32]; omega

theorem wrapU32_hash (h : Bytes → Nat) (s : Bytes) :
    wrap .u32 (hashStr h s) = ((h s % SMap.two32 : Nat) : Int) := by
  rw [wrapU32]; unfold hashStr SMap.two32
  have : h s % 18446744073709551616 % 4294967296 = h s % 4294967296 :=
    Nat.mod_mod_of_dvd _ (by decide)
  omega

theorem goMod_u32 (a : Int) (b : Nat) (ha : 0 ≤ a) (hb0 : 0 < b) (hb : b < 4294967296) :
    goMod .u32 a (b : Int) = .ok (a % (b : Int)) := by
  have hS : ¬ (b : Int) = 0 := by omega
  have := Int.emod_lt_of_pos a (show (0 : Int) < (b : Int) by omega)
  have := Int.emod_nonneg a hS
  simp only [goMod, hS, if_false]
  rw [Int.tmod_eq_emod_of_nonneg ha, wrapU32_id _ (by omega) (by omega)]

/-! a translated body is a chain `x.bind K`; `A` is whatever reads the outcome (`liftG f`, `absLoad`, …) -/

theorem abs_bind_congr {α β γ : Type} {A : GM β → γ} {x y : GM α} {K : α → GM β} {R : γ}
    (hxy : x = y) (hk : A (y.bind K) = R) : A (x.bind K) = R := by
  subst hxy; exact hk

theorem abs_bind_ok {α β γ : Type} {A : GM β → γ} {x : GM α} {a : α} {K : α → GM β} {R : γ}
    (hx : x = .ok a) (hk : A (K a) = R) : A (x.bind K) = R := by
  subst hx; exact hk

theorem abs_bind_ex {α β γ : Type} {A : GM β → γ} {x : GM α} {K : α → GM β} {R : γ} {P : α → Prop}
    (hx : ∃ a, x = .ok a ∧ P a) (hk : ∀ a, P a → A (K a) = R) : A (x.bind K) = R := by
  obtain ⟨a, rfl, hp⟩ := hx
  exact hk a hp

/-! ## Len -/

theorem Len_eq (zV : V) (m : S_StrMap V) : StrMap_Len zV m = .ok ((SMap.len (absMap m) : Nat) : Int) := by
  simp [StrMap_Len, SMap.len, absMap, slen]

theorem sslice_len (d : Sl α) (lo hi : Nat) (h1 : lo ≤ hi) (h : hi ≤ d.arr.length) :
    ∃ t, sslice d (lo : Int) (hi : Int) = .ok t ∧ t.arr = (d.arr.drop lo).take (hi - lo) := by
  have c1 : ¬ ((hi : Int) < 0 ∨ (hi : Int) > scap d) := by unfold scap; omega
  have c2 : ¬ ((lo : Int) < 0 ∨ (lo : Int) > hi) := by omega
  refine ⟨_, by simp only [sslice, c1, c2, if_false]; rfl, ?_⟩
  simp only [Sl.mem, Int.toNat_natCast]
  rw [List.take_append_of_le_length h, List.drop_take]

theorem sslice_cap (d : Sl α) (lo hi : Int) (h : scap d < hi) : sslice d lo hi = .panic "slice" := by
  have c1 : hi < 0 ∨ hi > scap d := by omega
  simp only [sslice, c1, if_true]

theorem sget_some {s : Sl α} {i : Int} {x : α} (h0 : 0 ≤ i) (h : s.arr[i.toNat]? = some x) : sget s i = .ok x := by
  simp only [sget, Int.not_lt.mpr h0, if_false, h]

theorem sget_none {s : Sl α} {i : Int} (h : s.arr[i.toNat]? = none) : sget s i = .panic "index" := by
  simp only [sget, h, ite_self]

/-- `if cap(b) < n { b = make([]T, n) } else { b = b[:n] }`: a slice of length `n` either way (the guard in both
    orientations) -/
theorem refit (z : α) (b : Sl α) (n : Nat) :
    ∃ b' : Sl α, b'.arr.length = n ∧
      ((scap b < (n : Int) ∧ ¬ (n : Int) ≤ scap b ∧ smake z (n : Int) (n : Int) = .ok b' ∧
          b' = ⟨List.replicate n z, []⟩) ∨
       (¬ scap b < (n : Int) ∧ (n : Int) ≤ scap b ∧ sslice b 0 (n : Int) = .ok b' ∧
          b' = ⟨b.mem.take n, b.mem.drop n⟩)) := by
  by_cases hc : scap b < (n : Int)
  · have c1 : ¬ ((n : Int) < 0) := by omega
    exact ⟨_, List.length_replicate, .inl ⟨hc, by omega, by simp [smake, c1], rfl⟩⟩
  · have c1 : ¬ ((n : Int) < 0 ∨ (n : Int) > scap b) := by omega
    refine ⟨_, ?_, .inr ⟨hc, by omega, by simp [sslice, c1], rfl⟩⟩
    unfold scap at hc
    simp [Sl.mem]; omega

/-! ## the key of an item -/

/-- `m.data[e.off : e.off+int(e.sz)]` against the model's `keyAt` -/
theorem key_eq (d : Sl UInt8) (e : S_mapItem V) (he : ItemOK d e) :
    (∃ t, sslice d e.off (wrap .i64 (e.off + wrap .i64 e.sz)) = .ok t ∧
          SMap.keyAt d.arr (absItem e) = some (strOf t)) ∨
    (sslice d e.off (wrap .i64 (e.off + wrap .i64 e.sz)) = .panic "slice" ∧
          SMap.keyAt d.arr (absItem e) = none) := by
  obtain ⟨h0, h1, h2, h3, _, hk⟩ := he
  rw [wrap_i64_of_range e.sz (by omega) (by omega), wrap_i64_of_range _ (by omega) (by omega)]
  obtain ⟨o, ho⟩ : ∃ o : Nat, e.off = (o : Int) := ⟨e.off.toNat, by omega⟩
  obtain ⟨z, hz⟩ : ∃ z : Nat, e.sz = (z : Int) := ⟨e.sz.toNat, by omega⟩
  simp only [SMap.keyAt, absItem, ho, hz, Int.toNat_natCast, slen, scap] at hk ⊢
  rcases hk with hk | hk
  · obtain ⟨t, ht, ha⟩ := sslice_len d o (o + z) (by omega) (by omega)
    exact .inl ⟨t, by rw [← ht, Int.natCast_add], by rw [if_pos (by omega), strOf, ha, Nat.add_sub_cancel_left]⟩
  · exact .inr ⟨sslice_cap _ _ _ (by unfold scap; omega), if_neg (by omega)⟩

/-! ## Item -/

theorem Item_eq (zV : V) (m : S_StrMap V) (hI : Inv m) (i : Int) :
    liftG id (StrMap_Item zV m i) = SMap.item (absMap m) i := by
  unfold StrMap_Item SMap.item sget
  by_cases hi : i < 0
  · simp [hi, liftG]
  · simp only [hi, if_false, absMap, List.getElem?_map]
    cases hg : m.items.arr[i.toNat]? with
    | none => simp [liftG]
    | some e =>
      have he := hI.items e (List.mem_of_getElem? hg)
      rcases key_eq m.data e he with ⟨t, h1, h2⟩ | ⟨h1, h2⟩
      · simp [h1, h2, liftG]; rfl
      · simp [h1, h2, liftG]

/-! ## Get -/

theorem drop_cons_of_getElem? {α : Type} (l : List α) (n : Nat) (x : α) (h : l[n]? = some x) :
    l.drop n = x :: l.drop (n + 1) := by
  obtain ⟨hl, hx⟩ := List.getElem?_eq_some_iff.mp h
  rw [List.drop_eq_getElem_cons hl, hx]

/-- one iteration of the collision loop of `Get`, as a function of "the rest of the loop" `rec` — the generated loop
    function (whatever its read-only parameters are) satisfies `L (f+1) = getStep … (L f)` -/
def getStep (m : S_StrMap V) (s : Bytes) (slot lim : Int)
    (rec : S_mapItem V → Int → GM (LoopR (V × Bool) (S_mapItem V × Int)))
    (e0 : S_mapItem V) (j : Int) : GM (LoopR (V × Bool) (S_mapItem V × Int)) :=
  if j < lim then
    (sget m.items j).bind fun e =>
      if e.slot = slot then
        (sslice m.data e.off (wrap .i64 (e.off + wrap .i64 e.sz))).bind fun t =>
          if strOf t = s then .ok (.ret (e.v, true)) else rec e (wrap .i32 (j + 1))
      else .ok (.done (e, j))
  else .ok (.done (e0, j))

theorem absItem_slot_eq {d : Sl UInt8} {e : S_mapItem V} (he : ItemOK d e) (slot : Nat) :
    (absItem e).slot = slot ↔ e.slot = (slot : Int) := by
  have := he.slot0
  simp only [absItem]; omega

/-- for ANY function `L` with the step equation `hstep` (the generated loop function is found by unification where this
    is used). The counter is a natural number: it never leaves `[0, len(items)]`, so `int32(j+1)` does not wrap. -/
theorem Get_loop_eq (zV : V) (m : S_StrMap V) (hI : Inv m) (s : Bytes) (slot : Nat)
    (L : Nat → S_mapItem V → Int → GM (LoopR (V × Bool) (S_mapItem V × Int)))
    (hstep : ∀ f e j, L (f + 1) e j = getStep m s slot (m.items.arr.length : Int) (L f) e j)
    (K : LoopR (V × Bool) (S_mapItem V × Int) → GM (V × Bool))
    (hK1 : ∀ x, K (LoopR.ret x) = .ok x) (hK2 : ∀ st, K (LoopR.done st) = .ok (zV, false)) :
    ∀ (fuel : Nat) (e0 : S_mapItem V) (j : Nat), m.items.arr.length - j < fuel →
      liftG optOf ((L fuel e0 (j : Int)).bind K) =
        SMap.scan m.data.arr ((m.items.arr.map absItem).drop j) slot s := by
  intro fuel
  induction fuel with
  | zero => intro e0 j hf; omega
  | succ fuel ih =>
    intro e0 j hf
    rw [hstep]
    unfold getStep
    by_cases hlt : j < m.items.arr.length
    · have hg : m.items.arr[j]? = some m.items.arr[j] := List.getElem?_eq_getElem hlt
      have wj : wrap .i32 ((j : Int) + 1) = ((j + 1 : Nat) : Int) := wrap_i32_of_range _ (by omega) (by have := hI.nItems; omega)
      have hf' : m.items.arr.length - (j + 1) < fuel := by omega
      generalize m.items.arr[j] = e at hg
      have he := hI.items e (List.mem_of_getElem? hg)
      rw [drop_cons_of_getElem? (m.items.arr.map absItem) j (absItem e) (by rw [List.getElem?_map, hg]; rfl)]
      simp only [Int.ofNat_lt.mpr hlt, if_true, sget_some (Int.natCast_nonneg j) hg, Out.bind_ok]
      by_cases hsl : e.slot = (slot : Int)
      · have hsl' := (absItem_slot_eq he slot).mpr hsl
        simp only [hsl, if_true]
        rcases key_eq m.data e he with ⟨t, h1, h2⟩ | ⟨h1, h2⟩
        · rw [SMap.scan_key _ _ s hsl' h2, h1, Out.bind_ok]
          by_cases hk : strOf t = s
          · simp only [hk, if_true, Out.bind_ok, hK1]; rfl
          · simp only [hk, if_false, wj]
            exact ih e (j + 1) hf'
        · rw [SMap.scan_slice _ _ s hsl' h2, h1]; rfl
      · rw [SMap.scan_ne _ _ s (fun c => hsl ((absItem_slot_eq he slot).mp c))]
        simp only [hsl, if_false, Out.bind_ok, hK2]; rfl
    · have hd : (m.items.arr.map absItem).drop j = [] :=
        List.drop_eq_nil_of_le (by rw [List.length_map]; omega)
      simp [hlt, hd, hK2, liftG, optOf, SMap.scan]

set_option linter.unusedSimpArgs false in
/-- `(*StrMap[V]).Get` is the model's `get`, for every state with `Inv`, every hash, every key; the fuel only has to
    exceed the number of items -/
theorem Get_eq (zV : V) (h : Bytes → Nat) (fuel : Nat) (m : S_StrMap V) (hI : Inv m) (hf : m.items.arr.length < fuel)
    (s : Bytes) : liftG optOf (StrMap_Get zV h fuel m s) = SMap.get h (absMap m) s := by
  have hn := hI.nItems
  have hsz : (absMap m).ht.size = m.hashtable.arr.length := List.size_toArray
  have hht : ∀ k : Nat, (absMap m).ht[k]? = m.hashtable.arr[k]? := fun _ => List.getElem?_toArray
  have hdata : (absMap m).data = m.data.arr := rfl
  have hitems : (absMap m).items = m.items.arr.map absItem := rfl
  have wl : wrap .i32 (slen m.items) = (m.items.arr.length : Int) := wrap_i32_of_range _ (by unfold slen; omega) (by unfold slen; omega)
  have hlim : toI32 ((m.items.arr.map absItem).length % SMap.two32) = (m.items.arr.length : Int) := by
    rw [List.length_map]; exact SMap.toI32_small hn
  unfold SMap.get
  simp only [StrMap_Get, Out.bind_eq, Out.pure_eq, hsz, hht, hdata, hitems, hlim, wl]
  by_cases h0 : m.hashtable.arr.length = 0
  · have h0' : slen m.hashtable = 0 := by unfold slen; omega
    simp [h0, h0', liftG, optOf]
  have h0' : ¬ slen m.hashtable = 0 := by unfold slen; omega
  have h0s : ¬ 0 = slen m.hashtable := fun c => h0' c.symm
  simp only [h0, h0', h0s, decide_false, if_false, Bool.false_eq_true]
  have wlen : wrap .u32 (slen m.hashtable) = ((m.hashtable.arr.length % SMap.two32 : Nat) : Int) := by
    rw [wrapU32]; unfold slen SMap.two32; omega
  rw [wrapU32_hash, wlen]
  by_cases hz : m.hashtable.arr.length % SMap.two32 = 0
  · simp [goMod, hz, liftG]
  have hgm := goMod_u32 ((h s % SMap.two32 : Nat) : Int) (m.hashtable.arr.length % SMap.two32) (Int.natCast_nonneg _)
    (Nat.pos_of_ne_zero hz) (Nat.mod_lt _ (by decide))
  rw [← Int.natCast_emod] at hgm
  simp only [hz, if_false, hgm, Out.bind_ok]
  generalize h s % SMap.two32 % (m.hashtable.arr.length % SMap.two32) = slot
  cases hg : m.hashtable.arr[slot]? with
  | none => simp [sget_none (i := (slot : Int)) hg, liftG]
  | some i =>
    simp only [sget_some (Int.natCast_nonneg slot) hg, Out.bind_ok]
    by_cases hi : i < 0
    · simp [hi, liftG, optOf]
    have hi0 : ¬ 0 > i := hi
    simp only [hi, hi0, decide_false, if_false, Bool.false_eq_true, List.getElem?_map]
    cases hge : m.items.arr[i.toNat]? with
    | none => simp [sget_none hge, liftG]
    | some e =>
      have he := hI.items e (List.mem_of_getElem? hge)
      have hil : m.items.arr.length - (i.toNat + 1) < fuel := Nat.lt_of_le_of_lt (Nat.sub_le _ _) hf
      have hi1 := wrap32_succ hi (List.getElem?_eq_some_iff.mp hge).1 hn
      simp only [sget_some (Int.not_lt.mp hi) hge, Out.bind_ok, Option.map_some]
      rcases key_eq m.data e he with ⟨t, h1, h2⟩ | ⟨h1, h2⟩
      · simp only [h1, h2, Out.bind_ok]
        by_cases hk : strOf t = s
        · have hks : s = strOf t := hk.symm
          simp [hk, ← hks, liftG, optOf]; rfl
        have hks : ¬ s = strOf t := fun c => hk c.symm
        simp only [hk, hks, decide_false, if_false, Bool.false_eq_true, Int.toNat_natCast,
          List.take_of_length_le (Nat.le_of_eq (List.length_map _)), hi1]
        apply Get_loop_eq zV m hI s slot _ _ _ _ _ fuel e (i.toNat + 1) hil
        · -- the generated loop function satisfies the step equation in whatever shape it was written: `c1`, `c2`
          -- turn either orientation of its two comparisons into `getStep`'s
          intro f e0 j
          have c1 : ∀ x : Int, ((slot : Int) = x) = (x = (slot : Int)) := fun x => propext eq_comm
          have c2 : ∀ x : Bytes, (s = x) = (x = s) := fun x => propext eq_comm
          simp [StrMap_Get_loop1, getStep, wl, c1, c2]
        · intro x; rfl
        · intro st; rfl
      · simp [h1, h2, liftG]

/-! ## calcHashtableSlots (utils.go) -/

theorem tbl_eq : StrMapGen.bits2primes = Facts.bits2primes := by decide

theorem bitsLen64_nat (k : Nat) : bitsLen64 (k : Int) = ((SMap.bitLen k : Nat) : Int) := by
  unfold bitsLen64 SMap.bitLen
  by_cases hk : k = 0 <;> simp [hk]

/-- the translation and the model agree on `calcHashtableSlots(n)`, `n` a length: the same prime (positive, below 2^31)
    or the same panic -/
theorem calcSlots_cases (n : Nat) :
    (∃ p : Nat, calcHashtableSlots (n : Int) = .ok (p : Int) ∧ SMap.calcSlots n = .ok p ∧ 0 < p ∧ p < 2147483648) ∨
    (∃ w, calcHashtableSlots (n : Int) = .panic w ∧ SMap.calcSlots n = .panic w) := by
  have e1 : f64DivToU64 (n : Int) 3 4 = ((SMap.scaled n : Nat) : Int) := by
    simp [f64DivToU64, SMap.scaled, Facts.loadfactorDen, Facts.loadfactorNum]
  have hl : Facts.bits2primes.length = 32 := by decide
  -- `simp only` also substitutes the `let`s of a hoisted sub-expression
  simp only [calcHashtableSlots, SMap.calcSlots, e1, bitsLen64_nat, tbl_eq, hl]
  generalize SMap.bitLen (SMap.scaled n) = b
  by_cases hb : b ≥ 32
  · right
    have : ((b : Nat) : Int) ≥ 32 := by omega
    have this2 : ¬ ((b : Nat) : Int) < 32 := by omega
    exact ⟨"too many items", by simp [this, this2], by simp [hb]⟩
  · left
    have hb' : ¬ ((b : Nat) : Int) ≥ 32 := by omega
    have hlt : b < Facts.bits2primes.length := by omega
    have hg : Facts.bits2primes[b]? = some Facts.bits2primes[b] := List.getElem?_eq_getElem hlt
    have hp := SMap.primes_range _ (List.getElem_mem hlt)
    generalize Facts.bits2primes[b] = p at hg hp
    have hb0 : ¬ ((b : Nat) : Int) < 0 := by omega
    refine ⟨p.toNat, ?_, ?_, by omega, by omega⟩
    · have : ((p.toNat : Nat) : Int) = p := by omega
      have hb2 : ((b : Nat) : Int) < 32 := by omega
      simp [hb', hb2, tblGet, hb0, hg, this]
    · simp [hb, hg]

theorem calcHashtableSlots_eq (n : Nat) : liftG Int.toNat (calcHashtableSlots (n : Int)) = SMap.calcSlots n := by
  rcases calcSlots_cases n with ⟨p, h1, h2, _, _⟩ | ⟨w, h1, h2⟩
  · rw [h1, h2]; simp [liftG]
  · rw [h1, h2]; simp [liftG]

/-! ## makeHashtable -/

/-- result and final state of a model call as one outcome (the state after a panic is not observable in the translation) -/
def outOf {σ : Type} (r : Out SMap.LErr Unit × σ) : Out SMap.LErr σ :=
  match r.1 with
  | .ok _ => .ok r.2
  | .panic w => .panic w
  | .err e => .err e
  | .oob => .oob

/-- the model's sorter (on model items) as a sorter of generated items -/
def liftSorter (sorter : List (SMap.Item V) → List (SMap.Item V)) (l : List (S_mapItem V)) : List (S_mapItem V) :=
  (sorter (l.map absItem)).map repItem

theorem wrapI32_nat (i : Nat) : wrap .i32 (i : Int) = toI32 (i % SMap.two32) := by
  simp only [wrap, toU, IT.bits, IT.signed, toI32, SMap.two32]
  by_cases hi : i % 4294967296 < 2147483648
  · simp [hi]; omega
  · simp [hi]; omega

theorem sget_append (m : Sl α) (pre rest : List α) (e : α) (h : m.arr = pre ++ e :: rest) :
    sget m (pre.length : Int) = .ok e := by
  have : ¬ ((pre.length : Nat) : Int) < 0 := by omega
  simp [sget, this, h]

theorem sset_append (m : Sl α) (pre rest : List α) (e e' : α) (h : m.arr = pre ++ e :: rest) :
    sset m (pre.length : Int) e' = .ok { m with arr := (pre ++ [e']) ++ rest } := by
  have : ¬ (((pre.length : Nat) : Int) < 0 ∨ ((pre.length : Nat) : Int) ≥ slen m) := by
    unfold slen; rw [h]; simp; omega
  simp [sset, this, h]

/-- `s[i] = v` succeeds wherever `s[i]` does -/
theorem sset_of_sget (s : Sl α) (i : Int) (e v : α) (h : sget s i = .ok e) :
    sset s i v = .ok { s with arr := s.arr.set i.toNat v } := by
  unfold sget at h
  by_cases hi : i < 0
  · simp [hi] at h
  · simp only [hi, if_false] at h
    cases hg : s.arr[i.toNat]? with
    | none => simp [hg] at h
    | some x =>
      have hl : i.toNat < s.arr.length := (List.getElem?_eq_some_iff.mp hg).1
      have : ¬ (i < 0 ∨ i ≥ slen s) := by unfold slen; omega
      simp [sset, this]

/-- first loop: `items[i].slot = items[i].slot % uint32(slots)` for every item — for ANY function `L` that, on a
    non-empty rest, stores the reduced slot into item `i` and goes on with `i+1` -/
theorem mh_loop1 (S : Nat) (L : List (S_mapItem V) → Int → S_StrMap V → GM (S_StrMap V))
    (hnil : ∀ i m, L [] i m = .ok m)
    (hcons : ∀ x rest (i : Int) m e, sget m.items i = .ok e → 0 ≤ e.slot →
      L (x :: rest) i m =
        L rest (i + 1) { m with items := { m.items with arr := m.items.arr.set i.toNat { e with slot := e.slot % (S : Int) } } }) :
    ∀ (rest pre : List (S_mapItem V)) (i : Int) (m : S_StrMap V), i = (pre.length : Int) → m.items.arr = pre ++ rest →
      (∀ e ∈ rest, 0 ≤ e.slot) →
      L rest i m =
        .ok { m with items := { m.items with arr := pre ++ rest.map (fun e => { e with slot := e.slot % (S : Int) }) } } := by
  intro rest
  induction rest with
  | nil => intro pre i m _ h _; simp [hnil, ← h]
  | cons e rest ih =>
    intro pre i m hi h hs
    have he : 0 ≤ e.slot := hs e (by simp)
    subst hi
    rw [hcons e rest _ m e (sget_append m.items pre rest e h) he]
    rw [ih (pre ++ [({ e with slot := e.slot % (S : Int) } : S_mapItem V)]) _ _ (by simp) (by simp [h])
      (fun x hx => hs x (by simp [hx]))]
    simp

/-- second loop: `hashtable[i] = -1` for every cell — for ANY function `L` that stores -1 at `i` and goes on with
    `i+1` while `i < lim`, `lim` being the length of the table (read every time round or hoisted) -/
theorem mh_loop2 (lim : Int) (L : Nat → S_StrMap V → Int → GM (S_StrMap V × Int))
    (hlt : ∀ f m (i : Int), slen m.hashtable = lim → 0 ≤ i → i < lim → i < 4611686018427387904 →
      L (f + 1) m i = L f { m with hashtable := { m.hashtable with arr := m.hashtable.arr.set i.toNat (-1) } } (i + 1))
    (hge : ∀ f m (i : Int), slen m.hashtable = lim → ¬ i < lim → L (f + 1) m i = .ok (m, i)) :
    ∀ (fuel : Nat) (tail : List Int) (k : Nat) (m : S_StrMap V) (i0 : Int), i0 = (k : Int) → slen m.hashtable = lim →
      m.hashtable.arr = List.replicate k (-1) ++ tail → tail.length < fuel → k + tail.length < 4611686018427387904 →
      L fuel m i0 =
        .ok ({ m with hashtable := { m.hashtable with arr := List.replicate (k + tail.length) (-1) } },
             ((k + tail.length : Nat) : Int)) := by
  intro fuel
  induction fuel with
  | zero => intro tail k m _ _ _ _ hf; omega
  | succ fuel ih =>
    intro tail k m i0 hi0 hl h hf hb
    subst hi0
    cases tail with
    | nil =>
      have : ¬ ((k : Nat) : Int) < lim := by rw [← hl]; unfold slen; rw [h]; simp
      have h' : List.replicate k (-1 : Int) = m.hashtable.arr := by simpa using h.symm
      rw [hge fuel m _ hl this]
      simp [h']
    | cons x tail =>
      have hlt' : ((k : Nat) : Int) < lim := by rw [← hl]; unfold slen; rw [h]; simp; omega
      rw [hlt fuel m _ hl (by omega) hlt' (by simp at hb; omega)]
      have hset : m.hashtable.arr.set ((k : Nat) : Int).toNat (-1) = List.replicate (k + 1) (-1) ++ tail := by
        rw [h]; simp [List.replicate_succ']
      have hc : ((k : Nat) : Int) + 1 = ((k + 1 : Nat) : Int) := by simp
      rw [hset, hc, ih tail (k + 1) _ _ rfl (by rw [← hl]; unfold slen; rw [h]; simp; omega) rfl (by simp at hf; omega)
        (by simp at hb ⊢; omega)]
      have e1 : k + 1 + tail.length = k + (x :: tail).length := by simp; omega
      rw [e1]

/-- third loop: the model's `fillFirst` on the hashtable; nothing else changes — for ANY function `L` that, on a
    non-empty rest, reads item `i`, looks at `hashtable[e.slot]` and stores `int32(i)` there when it is negative -/
theorem mh_loop3 (L : List (S_mapItem V) → Int → S_StrMap V → GM (S_StrMap V))
    (hnil : ∀ i m, L [] i m = .ok m)
    (hcons : ∀ x rest (i : Int) m e, sget m.items i = .ok e → 0 ≤ e.slot →
      L (x :: rest) i m =
        (sget m.hashtable e.slot).bind fun c =>
          if c < 0 then
            L rest (i + 1) { m with hashtable := { m.hashtable with arr := m.hashtable.arr.set e.slot.toNat (wrap .i32 i) } }
          else L rest (i + 1) m) :
    ∀ (rest pre : List (S_mapItem V)) (i : Int) (m : S_StrMap V), i = (pre.length : Int) → m.items.arr = pre ++ rest →
      (∀ e ∈ rest, 0 ≤ e.slot) →
      liftG (fun m' => m'.hashtable.arr.toArray) (L rest i m) =
        SMap.fillFirst (rest.map absItem) pre.length m.hashtable.arr.toArray ∧
      ∀ m', L rest i m = .ok m' →
        m'.items = m.items ∧ m'.data = m.data ∧ m'.hashtable.spare = m.hashtable.spare := by
  intro rest
  induction rest with
  | nil => intro pre i m _ _ _; simp [hnil, SMap.fillFirst, liftG]
  | cons e rest ih =>
    intro pre i m hi h hs
    subst hi
    have he : 0 ≤ e.slot := hs e (by simp)
    have he' : ¬ e.slot < 0 := by omega
    rw [hcons e rest _ m e (sget_append m.items pre rest e h) he]
    unfold SMap.fillFirst
    have hc : ((pre.length : Nat) : Int) + 1 = (((pre ++ [e]).length : Nat) : Int) := by simp
    have hl : pre.length + 1 = (pre ++ [e]).length := by simp
    simp only [List.map_cons]
    have hslot : (absItem e).slot = e.slot.toNat := rfl
    rw [hslot, List.getElem?_toArray]
    simp only [sget, he', if_false]
    cases hg : m.hashtable.arr[e.slot.toNat]? with
    | none => simp [liftG]
    | some x =>
      by_cases hx : x < 0
      · simp only [hx, if_true, Out.bind_ok]
        have := ih (pre ++ [e]) _ { m with hashtable := { m.hashtable with arr := m.hashtable.arr.set e.slot.toNat (wrap .i32 (pre.length : Int)) } }
          hc (by simp [h]) (fun y hy => hs y (by simp [hy]))
        rw [wrapI32_nat] at this
        rw [hl, wrapI32_nat]
        simpa using this
      · simp only [hx, if_false, Out.bind_ok]
        have := ih (pre ++ [e]) _ m hc (by simp [h]) (fun y hy => hs y (by simp [hy]))
        rw [hl]
        exact this

theorem absItem_mod (e : S_mapItem V) (he : 0 ≤ e.slot) (p : Nat) :
    absItem ({ e with slot := e.slot % (p : Int) } : S_mapItem V) = { absItem e with slot := (absItem e).slot % p } := by
  simp only [absItem]
  congr 1
  obtain ⟨n, hn⟩ : ∃ n : Nat, e.slot = (n : Int) := ⟨e.slot.toNat, by omega⟩
  rw [hn]
  simp only [Int.toNat_natCast]
  omega

/-- the model state after `fillFirst` -/
def finishOut (d : Bytes) (its : List (SMap.Item V)) (sp : Array Int) :
    Out SMap.LErr (Array Int) → Out SMap.LErr (SMap.StrMap V)
  | .ok ht2 => .ok ⟨d, its, ht2, sp⟩
  | .panic w => .panic w
  | .err e => .err e
  | .oob => .oob

/-- what `makeHashtable` returns after its last loop, given what the loop does to the table -/
theorem mh_finish {x : GM (S_StrMap V)} {K : S_StrMap V → GM (S_StrMap V)} (hK : ∀ a, K a = .ok a)
    {R : Out SMap.LErr (Array Int)} {m4 : S_StrMap V}
    (h3 : liftG (fun m' => m'.hashtable.arr.toArray) x = R ∧
      ∀ m', x = .ok m' → m'.items = m4.items ∧ m'.data = m4.data ∧ m'.hashtable.spare = m4.hashtable.spare)
    {R' : Out SMap.LErr (SMap.StrMap V)}
    (hR : finishOut m4.data.arr (m4.items.arr.map absItem) m4.hashtable.spare.toArray R = R') :
    liftG absMap (x.bind K) = R' := by
  obtain ⟨h3a, h3b⟩ := h3
  subst h3a hR
  cases x with
  | ok m' =>
    obtain ⟨q1, q2, q3⟩ := h3b m' rfl
    simp [liftG, hK, absMap, q1, q2, q3, finishOut]
  | panic w => simp [liftG, finishOut]
  | oob => simp [liftG, finishOut]
  | err e => exact nomatch e

theorem items_repItem_slot (l : List (SMap.Item V)) : ∀ e ∈ l.map repItem, 0 ≤ (e : S_mapItem V).slot := by
  intro e he
  obtain ⟨x, _, rfl⟩ := List.mem_map.mp he
  exact Int.natCast_nonneg _

/-- `if cap(ht) < p { ht = make([]int32, p) } else { ht = ht[:p] }`: the table `htA` either way, and the model's
    two arrays for it -/
theorem resize_spec (ht : Sl Int) (p : Nat) :
    ∃ htA : Sl Int, htA.arr.length = p ∧
      htA.arr.toArray = (if (ht.arr.toArray ++ ht.spare.toArray).size < p then Array.replicate p (0 : Int)
          else (ht.arr.toArray ++ ht.spare.toArray).extract 0 p) ∧
      htA.spare.toArray = (if (ht.arr.toArray ++ ht.spare.toArray).size < p then #[]
          else (ht.arr.toArray ++ ht.spare.toArray).extract p (ht.arr.toArray ++ ht.spare.toArray).size) ∧
      ((scap ht < (p : Int) ∧ ¬ (p : Int) ≤ scap ht ∧ smake 0 (p : Int) (p : Int) = .ok htA) ∨
       (¬ scap ht < (p : Int) ∧ (p : Int) ≤ scap ht ∧ sslice ht 0 (p : Int) = .ok htA)) := by
  have hsz : (ht.arr.toArray ++ ht.spare.toArray).size = ht.arr.length + ht.spare.length := by simp
  rw [hsz]
  obtain ⟨htA, hl, ⟨c, c2, hm, rfl⟩ | ⟨c, c2, hm, rfl⟩⟩ := refit (0 : Int) ht p
  · have hc : ht.arr.length + ht.spare.length < p := by unfold scap at c; omega
    exact ⟨_, hl, by simp [hc], by simp [hc], .inl ⟨c, c2, hm⟩⟩
  · have hc : ¬ ht.arr.length + ht.spare.length < p := by unfold scap at c; omega
    refine ⟨_, hl, ?_, ?_, .inr ⟨c, c2, hm⟩⟩
    · simp [hc, Sl.mem, List.take_append]
    · simp only [hc, if_false, Sl.mem, List.append_toArray, List.extract_toArray, List.extract_eq_take_drop]
      rw [List.take_of_length_le (by simp)]

/-- `makeHashtable` is the model's `makeHashtable` (result, and the state when it returns normally) for every state whose
    items carry non-negative slots, EVERY sorter; the fuel only has to exceed the number of slots -/
theorem makeHashtable_eq (zV : V) (sorter : List (SMap.Item V) → List (SMap.Item V)) (fuel : Nat) (m : S_StrMap V)
    (hs : ∀ e ∈ m.items.arr, 0 ≤ e.slot) (hf : ∀ p, SMap.calcSlots m.items.arr.length = .ok p → p < fuel) :
    liftG absMap (StrMap_makeHashtable zV (liftSorter sorter) fuel m) = outOf (SMap.makeHashtable sorter (absMap m)) := by
  have hlen : (absMap m).items.length = m.items.arr.length := by simp [absMap]
  have hsl : slen m.items = ((m.items.arr.length : Nat) : Int) := rfl
  rcases calcSlots_cases m.items.arr.length with ⟨p, h1, h2, hp0, hp1⟩ | ⟨w, h1, h2⟩
  · have hfp := hf p h2
    have wp : wrap .i64 (p : Int) = (p : Int) := wrap_i64_of_range _ (by omega) (by omega)
    have hp32 : p % SMap.two32 = p := Nat.mod_eq_of_lt (by unfold SMap.two32; omega)
    have hpz : ¬ p = 0 := by omega
    obtain ⟨htA, hAl, hA1, hA2, hfacts⟩ := resize_spec m.hashtable p
    have hitems1 : (m.items.arr.map (fun e => ({ e with slot := e.slot % (p : Int) } : S_mapItem V))).map absItem
        = (absMap m).items.map (fun e => { e with slot := e.slot % p }) := by
      simp only [absMap, List.map_map]
      apply List.map_congr_left
      intro e he
      exact absItem_mod e (hs e he) p
    have hsorted : (liftSorter sorter (m.items.arr.map (fun e => ({ e with slot := e.slot % (p : Int) } : S_mapItem V)))).map absItem
        = sorter ((absMap m).items.map (fun e => { e with slot := e.slot % p })) := by
      simp only [liftSorter, List.map_map, hitems1]
      rw [← hitems1]
      simp [Function.comp_def]
    have hgm : ∀ a : Int, 0 ≤ a → goMod .u32 a (wrap .u32 (p : Int)) = .ok (a % (p : Int)) := by
      intro a ha
      rw [wrapU32_id _ (by omega) (by omega)]
      exact goMod_u32 a p ha hp0 (by omega)
    have hRHS : outOf (SMap.makeHashtable sorter (absMap m)) =
        finishOut m.data.arr (sorter ((absMap m).items.map (fun e => { e with slot := e.slot % p }))) htA.spare.toArray
          (SMap.fillFirst (sorter ((absMap m).items.map (fun e => { e with slot := e.slot % p }))) 0
            (Array.replicate p (-1))) := by
      have hht : (absMap m).ht = m.hashtable.arr.toArray := rfl
      have hsp : (absMap m).spare = m.hashtable.spare.toArray := rfl
      have hsz0 : htA.arr.toArray.size = p := by rw [List.size_toArray, hAl]
      simp only [SMap.makeHashtable, hlen, h2, hp32, hpz, if_false, hht, hsp, ← hA1, ← hA2, hsz0]
      cases SMap.fillFirst (sorter ((absMap m).items.map (fun e => { e with slot := e.slot % p }))) 0
          (Array.replicate p (-1)) <;> simp [outOf, absMap, finishOut]
    rw [hRHS]
    simp only [StrMap_makeHashtable, hsl, h1, wp, Out.bind_eq, Out.bind_ok, Out.pure_eq]
    -- the re-sized table, whichever way it is obtained
    refine abs_bind_ok (a := { m with hashtable := htA }) ?_ ?_
    · rcases hfacts with ⟨c, c2, hm⟩ | ⟨c, c2, hm⟩ <;> simp [c, c2, hm]
    refine abs_bind_ok (mh_loop1 p _ ?_ ?_ m.items.arr [] 0 _ rfl (by simp) hs) ?_
    · intro i m; simp [StrMap_makeHashtable_loop1]
    · intro x rest i m e hsg he
      have hss := fun v => sset_of_sget m.items i e v hsg
      simp [StrMap_makeHashtable_loop1, hsg, hgm _ he, hss]
    refine abs_bind_ok (mh_loop2 (slen htA) _ ?_ ?_ fuel htA.arr 0 _ 0 rfl rfl (by simp) (by omega) (by omega)) ?_
    · intro f m i hl h0 hc hb
      have hi0 : ¬ (i < 0 ∨ i ≥ slen m.hashtable) := by omega
      have hi1 : ¬ (i < 0 ∨ slen htA ≤ i) := by omega
      have w : wrap .i64 (i + 1) = i + 1 := wrap_i64_of_range _ (by omega) (by omega)
      simp [StrMap_makeHashtable_loop2, hl, hc, sset, hi1, w]
    · intro f m i hl hc
      simp [StrMap_makeHashtable_loop2, hl, hc]
    refine mh_finish (fun a => rfl)
      (mh_loop3 _ ?_ ?_ (liftSorter sorter (m.items.arr.map (fun e => ({ e with slot := e.slot % (p : Int) } : S_mapItem V))))
        [] 0 _ rfl ?_ ?_) ?_
    · intro i m; simp [StrMap_makeHashtable_loop3]
    · intro x rest i m e hsg he
      cases hsh : sget m.hashtable e.slot with
      | ok c =>
        have hss := fun v => sset_of_sget m.hashtable e.slot c v hsh
        by_cases hc : c < 0 <;> simp [StrMap_makeHashtable_loop3, hsg, hsh, hc, hss]
      | panic w => simp [StrMap_makeHashtable_loop3, hsg, hsh]
      | oob => simp [StrMap_makeHashtable_loop3, hsg, hsh]
      | err x => exact nomatch x
    · simp [sortSl]
    · exact items_repItem_slot _
    · simp [sortSl, hsorted, hAl]
  · simp [StrMap_makeHashtable, SMap.makeHashtable, hlen, hsl, h1, h2, liftG, outOf]

/-! ## LoadFromSlice -/

/-- total length of the keys -/
def totalLen : List Bytes → Nat
  | [] => 0
  | k :: r => k.length + totalLen r

/-- first loop (the size check): for ANY function `L` that returns the error at the first over-long key and otherwise
    adds the key's length -/
theorem lfs_loop1 (m : S_StrMap V) (L : List Bytes → Int → GM (LoopR (S_StrMap V × SErr) Int))
    (hnil : ∀ sz, L [] sz = .ok (.done sz))
    (hbig : ∀ k rest sz, k.length > SMap.maxU32 → L (k :: rest) sz = .ok (.ret (m, SErr.new "key too large")))
    (hsmall : ∀ k rest sz, ¬ k.length > SMap.maxU32 → L (k :: rest) sz = L rest (wrap .i64 (sz + llen k))) :
    ∀ (kk : List Bytes) (sz : Int), 0 ≤ sz → sz + (totalLen kk : Int) < 4611686018427387904 →
      L kk sz = if SMap.anyKeyTooLarge kk then .ok (.ret (m, SErr.new "key too large"))
                else .ok (.done (sz + (totalLen kk : Int))) := by
  intro kk
  induction kk with
  | nil => intro sz _ _; simp [hnil, SMap.anyKeyTooLarge, totalLen]
  | cons k rest ih =>
    intro sz h0 hb
    simp only [totalLen] at hb
    by_cases hk : k.length > SMap.maxU32
    · simp [hbig k rest sz hk, SMap.anyKeyTooLarge, hk]
    · have w : wrap .i64 (sz + llen k) = sz + (k.length : Int) := by
        unfold llen; exact wrap_i64_of_range _ (by omega) (by omega)
      rw [hsmall k rest sz hk, w, ih _ (by omega) (by omega)]
      have : SMap.anyKeyTooLarge (k :: rest) = SMap.anyKeyTooLarge rest := by
        simp [SMap.anyKeyTooLarge, hk]
      simp only [this, totalLen]
      split <;> simp <;> omega

/-- second loop (the appends): for ANY function `L` that appends the item and the key's bytes -/
theorem lfs_loop2 (h : Bytes → Nat) (vv : List V) (L : List Bytes → Int → S_StrMap V → GM (S_StrMap V))
    (hnil : ∀ i m, L [] i m = .ok m)
    (hcons : ∀ k rest (i : Int) m v, lget vv i = .ok v →
      L (k :: rest) i m = L rest (i + 1)
        { m with items := sappend m.items ⟨slen m.data, wrap .u32 (llen k), wrap .u32 (hashStr h k), v⟩,
                 data := sappendAll m.data k }) :
    ∀ (kk : List Bytes) (pre vs : List V) (i : Int) (m : S_StrMap V), i = (pre.length : Int) → vv = pre ++ vs →
      kk.length = vs.length →
      ∃ m', L kk i m = .ok m' ∧
        m'.items.arr = m.items.arr ++ (SMap.appendLoop h (kk.zip vs) m.data.arr.length).2.map repItem ∧
        m'.data.arr = m.data.arr ++ (SMap.appendLoop h (kk.zip vs) m.data.arr.length).1 ∧
        m'.hashtable = m.hashtable := by
  intro kk
  induction kk with
  | nil => intro pre vs i m _ _ _; exact ⟨m, hnil i m, by simp [SMap.appendLoop], by simp [SMap.appendLoop], rfl⟩
  | cons k rest ih =>
    intro pre vs i m hi hv hl
    cases vs with
    | nil => simp at hl
    | cons v vs =>
      subst hi
      have hg : lget vv (pre.length : Int) = .ok v := by
        have : ¬ ((pre.length : Nat) : Int) < 0 := by omega
        simp [lget, this, hv]
      rw [hcons k rest _ m v hg]
      obtain ⟨m', h1, h2, h3, h4⟩ := ih (pre ++ [v]) vs (((pre.length : Nat) : Int) + 1) _ (by simp) (by simp [hv])
        (by simpa using hl)
      refine ⟨m', h1, ?_, ?_, ?_⟩
      · rw [h2]
        simp only [sappend, sappendAll, List.zip_cons_cons, SMap.appendLoop, List.map_cons, List.length_append,
          List.append_assoc, List.singleton_append]
        congr 2
        simp only [repItem, slen]
        congr 1
        all_goals first | exact wrapU32_hash h k | (rw [wrapU32]; unfold llen SMap.two32; omega) | rfl
      · rw [h3]
        simp [sappendAll, SMap.appendLoop]
      · rw [h4]

/-- errors of the loaders, by their text -/
def errOf {σ : Type} (e : SErr) : Out SMap.LErr σ :=
  match e with
  | .nil => .panic "nil error"
  | .new t => if t = SMap.LErr.kvLen.msg then .err .kvLen
              else if t = SMap.LErr.keyTooLarge.msg then .err .keyTooLarge else .panic t

/-- outcome of `LoadFromSlice`: the loaded map, or the model's error for the returned Go error -/
def absLoad : GM (S_StrMap V × SErr) → Out SMap.LErr (SMap.StrMap V)
  | .ok (m, .nil) => .ok (absMap m)
  | .ok (_, .new t) => errOf (.new t)
  | .panic w => .panic w
  | .oob => .oob
  | .err e => nomatch e

theorem absLoad_ret (x : GM (S_StrMap V)) : absLoad (x.bind fun t => .ok (t, SErr.nil)) = liftG absMap x := by
  cases x with
  | ok a => simp [absLoad, liftG]
  | panic w => simp [absLoad, liftG]
  | oob => simp [absLoad, liftG]
  | err e => exact nomatch e

/-- the two error returns of `LoadFromSlice` ("kv len not match", "key too large" for the first over-long key, checked
    before anything is reset): the receiver comes back exactly as it was, for EVERY receiver state, hash and sorter -/
theorem LoadFromSlice_err (zV : V) (h : Bytes → Nat) (sorter : List (S_mapItem V) → List (S_mapItem V)) (fuel : Nat)
    (m : S_StrMap V) (kk : List Bytes) (vv : List V) (hb : totalLen kk < 4611686018427387904)
    (herr : kk.length ≠ vv.length ∨ SMap.anyKeyTooLarge kk = true) :
    StrMap_LoadFromSlice zV h sorter fuel m kk vv =
      .ok (m, SErr.new (if kk.length = vv.length then "key too large" else "kv len not match")) := by
  by_cases hlen : kk.length = vv.length
  · have hlen' : llen kk = llen vv := by unfold llen; omega
    have hbig : SMap.anyKeyTooLarge kk = true := herr.resolve_left (fun c => c hlen)
    simp only [StrMap_LoadFromSlice, hlen', hlen, ne_eq, not_true_eq_false, decide_false, if_false, if_true,
      Bool.false_eq_true, Out.bind_eq]
    have hl1 := fun L a b c => lfs_loop1 m L a b c kk 0 (by omega) (by omega)
    simp only [hbig, if_true] at hl1
    refine abs_bind_congr (A := id) (hl1 _ ?_ ?_ ?_) rfl
    · intro sz; simp [StrMap_LoadFromSlice_loop1]
    · intro k rest sz hk
      have : llen k > 4294967295 := by unfold llen; unfold SMap.maxU32 at hk; omega
      simp [StrMap_LoadFromSlice_loop1, this]
    · intro k rest sz hk
      have : ¬ llen k > 4294967295 := by unfold llen; unfold SMap.maxU32 at hk; omega
      have ec : llen k + sz = sz + llen k := Int.add_comm _ _
      simp [StrMap_LoadFromSlice_loop1, this, ec]
  · have hlen' : ¬ llen kk = llen vv := by unfold llen; omega
    have hlen'' : ¬ llen vv = llen kk := by unfold llen; omega
    simp [StrMap_LoadFromSlice, hlen, hlen', hlen'']

/-- the error returns are the model's -/
theorem LoadFromSlice_err_eq (zV : V) (h : Bytes → Nat) (sorter : List (SMap.Item V) → List (SMap.Item V)) (fuel : Nat)
    (m : S_StrMap V) (kk : List Bytes) (vv : List V) (hb : totalLen kk < 4611686018427387904)
    (herr : kk.length ≠ vv.length ∨ SMap.anyKeyTooLarge kk = true) :
    absLoad (StrMap_LoadFromSlice zV h (liftSorter sorter) fuel m kk vv) =
      outOf (SMap.loadFromSlice h sorter (absMap m) kk vv) := by
  rw [LoadFromSlice_err zV h _ fuel m kk vv hb herr]
  by_cases hlen : kk.length = vv.length
  · rw [SMap.loadFromSlice_keyTooLarge h sorter _ hlen (herr.resolve_left (fun c => c hlen)), if_pos hlen]
    rfl
  · rw [SMap.loadFromSlice_kvLen h sorter _ hlen, if_neg hlen]
    rfl

/-- a failed `LoadFromSlice` returns its error with the receiver exactly as it was -/
theorem LoadFromSlice_err_state (zV : V) (h : Bytes → Nat) (sorter : List (S_mapItem V) → List (S_mapItem V)) (fuel : Nat)
    (m : S_StrMap V) (kk : List Bytes) (vv : List V) (hb : totalLen kk < 4611686018427387904)
    (herr : kk.length ≠ vv.length ∨ SMap.anyKeyTooLarge kk = true) :
    ∃ t, StrMap_LoadFromSlice zV h sorter fuel m kk vv = .ok (m, SErr.new t) :=
  ⟨_, LoadFromSlice_err zV h sorter fuel m kk vv hb herr⟩

set_option linter.unusedSimpArgs false in
/-- `LoadFromSlice` is the model's `loadFromSlice` — both error returns and the success path — for EVERY receiver state,
    every hash, every sorter, provided the keys are shorter than 2^62 bytes in total and the fuel exceeds the number of
    slots -/
theorem LoadFromSlice_eq (zV : V) (h : Bytes → Nat) (sorter : List (SMap.Item V) → List (SMap.Item V)) (fuel : Nat)
    (m : S_StrMap V) (kk : List Bytes) (vv : List V) (hb : totalLen kk < 4611686018427387904)
    (hf : ∀ p, SMap.calcSlots kk.length = .ok p → p < fuel) :
    absLoad (StrMap_LoadFromSlice zV h (liftSorter sorter) fuel m kk vv) =
      outOf (SMap.loadFromSlice h sorter (absMap m) kk vv) := by
  by_cases herr : kk.length ≠ vv.length ∨ SMap.anyKeyTooLarge kk = true
  · exact LoadFromSlice_err_eq zV h sorter fuel m kk vv hb herr
  · have hlen : kk.length = vv.length := by
      by_cases c : kk.length = vv.length
      · exact c
      · exact absurd (Or.inl c) herr
    have hbig : ¬ SMap.anyKeyTooLarge kk = true := fun c => herr (Or.inr c)
    have hlen' : llen kk = llen vv := by unfold llen; omega
    have hvv : llen vv = ((vv.length : Nat) : Int) := rfl
    have hs1 : ∀ {β : Type} (d : Sl β), sslice d 0 0 = .ok ⟨[], d.mem⟩ := by
      intro β d
      simp only [sslice]
      rw [if_neg (by unfold scap; omega), if_neg (by omega)]
      simp
    have hmk : ∀ {β : Type} (z : β) (n : Nat), smake z 0 (n : Int) = .ok ⟨[], List.replicate n z⟩ := by
      intro β z n
      have : ¬ ((n : Int) < 0) := by omega
      simp [smake, this]
    rw [SMap.loadFromSlice_run h sorter _ hlen (Bool.eq_false_iff.mpr hbig)]
    simp only [StrMap_LoadFromSlice, hlen', ne_eq, not_true_eq_false, decide_false, if_false,
      Bool.false_eq_true, Out.bind_eq]
    have hl1 := fun L a b c => lfs_loop1 m L a b c kk 0 (by omega) (by omega)
    simp only [hbig, if_false, Bool.false_eq_true, Int.zero_add] at hl1
    refine abs_bind_congr (hl1 _ ?_ ?_ ?_) ?_
    · intro sz; simp [StrMap_LoadFromSlice_loop1]
    · intro k rest sz hk
      have : llen k > 4294967295 := by unfold llen; unfold SMap.maxU32 at hk; omega
      simp [StrMap_LoadFromSlice_loop1, this]
    · intro k rest sz hk
      have : ¬ llen k > 4294967295 := by unfold llen; unfold SMap.maxU32 at hk; omega
      have ec : llen k + sz = sz + llen k := Int.add_comm _ _
      simp [StrMap_LoadFromSlice_loop1, this, ec]
    · -- the three `[:0]` resets, then the two capacity tests: either way data and items are empty
      simp only [Out.bind_ok, hs1, hvv, Out.bind_eq, Out.pure_eq]
      refine abs_bind_ex
        (P := fun m1 => m1.data.arr = [] ∧ m1.items.arr = [] ∧ m1.hashtable = ⟨[], m.hashtable.mem⟩) ?_ ?_
      · split <;> simp [hmk]
      intro m1 ⟨hd1, hi1, hh1⟩
      refine abs_bind_ex
        (P := fun m2 => m2.data.arr = [] ∧ m2.items.arr = [] ∧ m2.hashtable = ⟨[], m.hashtable.mem⟩) ?_ ?_
      · split <;> simp [hmk, hd1, hi1, hh1]
      intro m2 ⟨hd2, hi2, hh2⟩
      refine abs_bind_ex (lfs_loop2 h vv _ ?_ ?_ kk [] vv 0 m2 rfl rfl hlen) ?_
      · intro i m; simp [StrMap_LoadFromSlice_loop2]
      · intro k rest i m v hg; simp [StrMap_LoadFromSlice_loop2, hg]
      · intro m' ⟨q1, q2, q3⟩
        simp only [hd2, hi2, hh2, List.nil_append, List.length_nil] at q1 q2 q3
        have hil : m'.items.arr.length = kk.length := by
          rw [q1, List.length_map, SMap.appendLoop_length, List.length_zip, hlen, Nat.min_self]
        have hmh := makeHashtable_eq zV sorter fuel m' (by rw [q1]; exact items_repItem_slot _)
          (by rw [hil]; exact hf)
        have habs : absMap m' = ⟨(SMap.appendLoop h (kk.zip vv) 0).1, (SMap.appendLoop h (kk.zip vv) 0).2, #[],
            (absMap m).ht ++ (absMap m).spare⟩ := by
          simp [absMap, q1, q2, q3, Sl.mem, Function.comp_def]
        rw [← habs, ← hmh]
        exact absLoad_ret _

/-! ## internal/strstore: Get, Len -/

def absStore (s : S_StrStore) : SMap.StrStore := ⟨s.buf.arr⟩

theorem StrStore_Len_eq (s : S_StrStore) : StrStore_Len s = .ok ((absStore s).buf.length : Int) := by
  simp [StrStore_Len, absStore, slen]

/-- the entry a (possibly bogus) index points at does not END in the spare capacity of `buf` (Go's slice expression is
    legal up to the capacity and would return stale bytes there; the model checks against the length) -/
def EntryOK (s : S_StrStore) (idx : Int) : Prop :=
  ∀ n, uload32 s.buf idx = .ok n → idx + 4 + n ≤ slen s.buf ∨ scap s.buf < idx + 4 + n

theorem drop4 (l : List UInt8) (i : Nat) (h : i + 4 ≤ l.length) :
    ∃ a c d e r, l.drop i = a :: c :: d :: e :: r := by
  have hl : (l.drop i).length = l.length - i := List.length_drop
  match hd : l.drop i with
  | a :: c :: d :: e :: r => exact ⟨a, c, d, e, r, rfl⟩
  | [] => rw [hd] at hl; simp at hl; omega
  | [_] => rw [hd] at hl; simp at hl; omega
  | [_, _] => rw [hd] at hl; simp at hl; omega
  | [_, _, _] => rw [hd] at hl; simp at hl; omega

theorem uload32_eq (b : Sl UInt8) (i : Nat) (h : i + 4 ≤ b.arr.length) :
    uload32 b (i : Int) = .ok ((SMap.rdle32 (b.arr.drop i) : Nat) : Int) ∧ SMap.rdle32 (b.arr.drop i) < 4294967296 := by
  obtain ⟨a, c, d, e, r, hd⟩ := drop4 b.arr i h
  have c1 : ¬ ((i : Int) < 0 ∨ (i : Int) ≥ slen b) := by unfold slen; omega
  have c2 : ¬ ((i : Int) + 4 > slen b) := by unfold slen; omega
  have := a.toNat_lt; have := c.toNat_lt; have := d.toNat_lt; have := e.toNat_lt
  simp only [uload32, c1, c2, if_false, Int.toNat_natCast, hd, SMap.rdle32, true_and]
  omega

theorem uload32_oob (b : Sl UInt8) (i : Nat) (h0 : i < b.arr.length) (h : b.arr.length < i + 4) :
    uload32 b (i : Int) = .oob := by
  have c1 : ¬ ((i : Int) < 0 ∨ (i : Int) ≥ slen b) := by unfold slen; omega
  have c2 : (i : Int) + 4 > slen b := by unfold slen; omega
  simp only [uload32, c1, c2, if_false, if_true]

/-- `(*StrStore).Get` is the model's `storeGet` — "" outside the buffer, `oob` when the unsafe 4-byte load leaves the
    buffer, the slice panic, the string — for every buffer below 2^62 bytes and every index whose entry is `EntryOK` -/
theorem StrStore_Get_eq (s : S_StrStore) (idx : Int) (hcap : scap s.buf < 4611686018427387904) (hk : EntryOK s idx) :
    liftG id (StrStore_Get s idx) = SMap.storeGet (absStore s) idx := by
  have hbuf : (absStore s).buf = s.buf.arr := rfl
  unfold SMap.storeGet
  simp only [StrStore_Get, hbuf, Out.bind_eq, Out.pure_eq, SMap.u32Size, Facts.strlenSize]
  by_cases h0 : idx < 0 ∨ idx ≥ (s.buf.arr.length : Int)
  · have h0' : idx < 0 ∨ idx ≥ slen s.buf := h0
    simp [h0, h0', liftG]
  have h0' : ¬ (idx < 0 ∨ idx ≥ slen s.buf) := h0
  obtain ⟨i, rfl⟩ : ∃ i : Nat, idx = (i : Int) := ⟨idx.toNat, by omega⟩
  have hi : i < s.buf.arr.length := by omega
  unfold scap at hcap
  simp only [h0, h0', if_false, Int.toNat_natCast, Bool.or_eq_true, decide_eq_true_eq]
  by_cases h4 : i + 4 > s.buf.arr.length
  · simp [h4, uload32_oob s.buf i hi h4, liftG]
  obtain ⟨hu, hn⟩ := uload32_eq s.buf i (by omega)
  have hkk := hk _ hu
  generalize SMap.rdle32 (s.buf.arr.drop i) = n at hu hn hkk
  have w1 : wrap .i64 ((i : Int) + 4) = ((i + 4 : Nat) : Int) := by rw [wrap_i64_of_range _ (by omega) (by omega)]; rfl
  have w3 : wrap .i64 (((i + 4 : Nat) : Int) + wrap .i64 (n : Int)) = ((i + 4 + n : Nat) : Int) := by
    rw [wrap_i64_of_range (n : Int) (by omega) (by omega), wrap_i64_of_range _ (by omega) (by omega)]; rfl
  simp only [h4, if_false, hu, Out.bind_ok, w1, w3]
  unfold slen scap at hkk
  rcases hkk with hkk | hkk
  · obtain ⟨t, ht, ha⟩ := sslice_len s.buf (i + 4) (i + 4 + n) (by omega) (by omega)
    rw [ht, if_neg (by omega), Out.bind_ok, strOf, ha, Nat.add_sub_cancel_left]
    rfl
  · rw [sslice_cap _ _ _ (by unfold scap; omega), if_pos (by omega)]
    rfl
/-! ## internal/strstore: Load -/

/-- bytes `Load` packs for these strings -/
def packLen : List Bytes → Nat
  | [] => 0
  | x :: r => 4 + x.length + packLen r

theorem packLoop_len : ∀ (l : List Bytes) (off : Nat), (SMap.packLoop l off).1.length = packLen l := by
  intro l
  induction l with
  | nil => intro off; simp [SMap.packLoop, packLen]
  | cons x r ih =>
    intro off
    simp [SMap.packLoop, packLen, ih, SMap.hdr, SMap.le32, Facts.strlenSize, SMap.u32Size]
    omega

theorem le32_eq (n : Nat) : GoSemSM.le32 (wrap .u32 (llen (α := UInt8) (List.replicate n 0))) = SMap.hdr (n % SMap.two32) := by
  have : (toU 32 (wrap .u32 ((n : Nat) : Int))).toNat = n % 4294967296 := by
    rw [wrapU32]; simp only [toU]; omega
  simp [GoSemSM.le32, llen, SMap.hdr, SMap.le32, Facts.strlenSize, SMap.u32Size, this, SMap.two32]

theorem le32_len (x : Bytes) : GoSemSM.le32 (wrap .u32 (llen x)) = SMap.hdr (x.length % SMap.two32) := by
  have := le32_eq x.length
  simpa [llen] using this

theorem hdr_len (n : Nat) : (SMap.hdr n).length = 4 := by
  simp [SMap.hdr, SMap.le32, Facts.strlenSize, SMap.u32Size]

/-- the unsafe 4-byte store at the end of the packed prefix `P` -/
theorem ustore_at (b : Sl UInt8) (P J : Bytes) (off : Int) (v : Int) (hb : b.arr = P ++ J) (ho : off = (P.length : Int))
    (hJ : 4 ≤ J.length) : ustore32 b off v = .ok { b with arr := P ++ GoSemSM.le32 v ++ J.drop 4 } := by
  subst ho
  have c1 : ¬ (((P.length : Nat) : Int) < 0 ∨ ((P.length : Nat) : Int) ≥ slen b) := by unfold slen; rw [hb]; simp; omega
  have c2 : ¬ (((P.length : Nat) : Int) + 4 > slen b) := by unfold slen; rw [hb]; simp; omega
  simp only [ustore32, c1, c2, if_false, Int.toNat_natCast, hb]
  congr 2
  rw [List.take_left', List.drop_append]
  · simp
  · rfl

/-- `copy(b[lo:hi], x)` right after the packed prefix `P` -/
theorem copy_at (b : Sl UInt8) (P J x : Bytes) (lo hi : Int) (hb : b.arr = P ++ J) (hlo : lo = (P.length : Int))
    (hhi : hi = ((P.length + x.length : Nat) : Int)) (hJ : x.length ≤ J.length) :
    scopyInto b lo hi x = .ok { b with arr := P ++ x ++ J.drop x.length } := by
  subst hlo hhi
  have c1 : ¬ (((P.length + x.length : Nat) : Int) < 0 ∨ ((P.length + x.length : Nat) : Int) > scap b) := by
    unfold scap; rw [hb]; simp; omega
  have c2 : ¬ (((P.length : Nat) : Int) < 0 ∨ ((P.length : Nat) : Int) > ((P.length + x.length : Nat) : Int)) := by omega
  have hmin : min (P.length + x.length - P.length) x.length = x.length := by omega
  simp only [scopyInto, c1, c2, if_false, Int.toNat_natCast, hmin, Sl.mem, hb, List.take_length]
  have e1 : List.take P.length (P ++ J ++ b.spare) = P := by
    rw [List.append_assoc, List.take_left']; rfl
  have e2 : List.drop (P.length + x.length) (P ++ J ++ b.spare) = J.drop x.length ++ b.spare := by
    rw [← List.drop_drop, List.append_assoc, List.drop_left' rfl, List.drop_append_of_le_length hJ]
  rw [e1, e2]
  have hl' : (P ++ (x ++ J.drop x.length)).length = P.length + (x.length + (J.length - x.length)) := by simp
  have ht := List.take_left' (l₁ := P ++ (x ++ J.drop x.length)) (l₂ := b.spare) hl'
  have hd := List.drop_left' (l₁ := P ++ (x ++ J.drop x.length)) (l₂ := b.spare) hl'
  have hlen : (P ++ J).length = P.length + (x.length + (J.length - x.length)) := by simp; omega
  simp only [List.append_assoc] at ht hd ⊢
  rw [hlen, ht, hd]

theorem lset_at (D : List Int) (n : Nat) (v i : Int) (hi : i = (D.length : Int)) :
    lset (D ++ List.replicate (n + 1) 0) i v = .ok ((D ++ [v]) ++ List.replicate n 0) := by
  subst hi
  have c : ¬ (((D.length : Nat) : Int) < 0 ∨ ((D.length : Nat) : Int) ≥ llen (D ++ (0 : Int) :: List.replicate n 0)) := by
    unfold llen; rw [List.length_append, List.length_cons, List.length_replicate]; omega
  simp only [lset, c, if_false, Int.toNat_natCast, List.replicate_succ, List.set_append_right _ _ (Nat.le_refl _),
    Nat.sub_self, List.set_cons_zero, List.append_assoc, List.singleton_append]

theorem lget_append (pre rest : List α) (x : α) (l : List α) (i : Int) (hl : l = pre ++ x :: rest)
    (hi : i = (pre.length : Int)) : lget l i = .ok x := by
  subst hi hl
  have : ¬ ((pre.length : Nat) : Int) < 0 := by omega
  simp [lget, this]

/-- first loop of `Load` (length check and total): for ANY function `L` with these steps -/
theorem sl_loop1 (ss : List Bytes) (L : Nat → Int → Int → GM (Int × Int))
    (hge : ∀ f t (i : Int), ¬ i < (ss.length : Int) → L (f + 1) t i = .ok (t, i))
    (hbig : ∀ f t (i : Int) x, lget ss i = .ok x → x.length > SMap.maxU32 → L (f + 1) t i = .panic "string too long")
    (hsmall : ∀ f t (i : Int) x, i < (ss.length : Int) → lget ss i = .ok x → ¬ x.length > SMap.maxU32 →
      L (f + 1) t i = L f (wrap .i64 (t + llen x)) (wrap .i64 (i + 1))) :
    ∀ (fuel : Nat) (rest pre : List Bytes) (t i : Int), ss = pre ++ rest → i = (pre.length : Int) → rest.length < fuel →
      0 ≤ t → t + (totalLen rest : Int) < 4611686018427387904 → ss.length < 4611686018427387904 →
      L fuel t i = if rest.any (fun x => decide (x.length > SMap.maxU32)) then .panic "string too long"
                   else .ok (t + (totalLen rest : Int), (ss.length : Int)) := by
  intro fuel
  induction fuel with
  | zero => intro rest pre t i _ _ hf; omega
  | succ fuel ih =>
    intro rest pre t i hs hi hf h0 hb hn
    cases rest with
    | nil =>
      have : ¬ i < (ss.length : Int) := by rw [hs, hi]; simp
      have e : (ss.length : Int) = i := by rw [hs, hi]; simp
      simp [hge fuel t i this, totalLen, e]
    | cons x rest =>
      have hg := lget_append pre rest x ss i hs hi
      have hlt : i < (ss.length : Int) := by rw [hs, hi]; simp; omega
      simp only [totalLen] at hb
      by_cases hx : x.length > SMap.maxU32
      · simp [hbig fuel t i x hg hx, hx]
      · have w1 : wrap .i64 (t + llen x) = t + (x.length : Int) := by unfold llen; exact wrap_i64_of_range _ (by omega) (by omega)
        have w2 : wrap .i64 (i + 1) = i + 1 := wrap_i64_of_range _ (by omega) (by omega)
        rw [hsmall fuel t i x hlt hg hx, w1, w2,
          ih rest (pre ++ [x]) _ _ (by simp [hs]) (by simp [hi]) (by simp at hf; omega) (by omega) (by omega) hn]
        simp only [List.any_cons, hx, decide_false, Bool.false_or, totalLen]
        split <;> simp <;> omega

/-- second loop of `Load` (the packing): for ANY function `L` that records the offset, stores the length, copies the
    string and advances -/
theorem sl_loop2 (ss : List Bytes) (L : Nat → S_StrStore → List Int → Int → Int → GM (S_StrStore × List Int × Int × Int))
    (hge : ∀ f s ix off (i : Int), ¬ i < (ss.length : Int) → L (f + 1) s ix off i = .ok (s, ix, off, i))
    (hlt : ∀ f s ix (off i : Int) x, 0 ≤ i → i < (ss.length : Int) → ss.length < 4611686018427387904 → 0 ≤ off →
      off + 4 + (x.length : Int) < 4611686018427387904 → lget ss i = .ok x →
      L (f + 1) s ix off i =
        (lset ix i off).bind fun ix' =>
          (ustore32 s.buf off (wrap .u32 (llen x))).bind fun b1 =>
            (scopyInto b1 (off + 4) (off + 4 + llen x) x).bind fun b2 =>
              L f ⟨b2⟩ ix' (off + (4 + llen x)) (i + 1)) :
    ∀ (fuel : Nat) (rest pre : List Bytes) (s : S_StrStore) (D : List Int) (P J : Bytes) (i off : Int),
      ss = pre ++ rest → i = (pre.length : Int) → off = (P.length : Int) → s.buf.arr = P ++ J → J.length = packLen rest →
      D.length = pre.length → rest.length < fuel → P.length + packLen rest < 4611686018427387904 →
      ss.length < 4611686018427387904 →
      L fuel s (D ++ List.replicate rest.length 0) off i =
        .ok (⟨{ s.buf with arr := P ++ (SMap.packLoop rest P.length).1 }⟩,
             D ++ (SMap.packLoop rest P.length).2, off + (packLen rest : Int), (ss.length : Int)) := by
  intro fuel
  induction fuel with
  | zero => intro rest pre s D P J i off _ _ _ _ _ _ hf; omega
  | succ fuel ih =>
    intro rest pre s D P J i off hs hi ho hb hJ hD hf hbd hn
    cases rest with
    | nil =>
      have : ¬ i < (ss.length : Int) := by rw [hs, hi]; simp
      have e : (ss.length : Int) = i := by rw [hs, hi]; simp
      have hJ0 : J = [] := by simpa [packLen] using hJ
      rw [hge fuel s _ off i this]
      have hP : s.buf.arr = P := by rw [hb, hJ0]; simp
      have hsP : s = ⟨{ s.buf with arr := P }⟩ := by
        cases s with
        | mk buf => cases buf with
          | mk a sp => simp at hP; simp [hP]
      simp [SMap.packLoop, packLen, e]
      exact hsP
    | cons x rest =>
      have hg := lget_append pre rest x ss i hs hi
      have hlti : i < (ss.length : Int) := by rw [hs, hi]; simp; omega
      simp only [packLen] at hbd hJ
      rw [hlt fuel s _ off i x (by omega) hlti hn (by omega) (by omega) hg, List.length_cons,
        lset_at D rest.length off i (by rw [hi, hD]), Out.bind_ok,
        ustore_at s.buf P J off _ hb ho (by omega), Out.bind_ok, le32_len]
      simp only [SMap.packLoop]
      -- the header `H` (4 bytes), then the string: the packed prefix grows to `P ++ H ++ x`
      have hH := hdr_len (x.length % SMap.two32)
      generalize SMap.hdr (x.length % SMap.two32) = H at hH ⊢
      have hE : (P ++ H ++ x).length = P.length + 4 + x.length := by simp only [List.length_append, hH]
      have hPH : (P ++ H).length = P.length + 4 := by simp only [List.length_append, hH]
      rw [copy_at _ (P ++ H) (J.drop 4) x (off + 4) (off + 4 + llen x) rfl (by rw [hPH, ho]; rfl)
          (by rw [hPH, ho]; unfold llen; omega) (by rw [List.length_drop]; omega), Out.bind_ok,
        show off + (4 + llen x) = (((P ++ H ++ x).length : Nat) : Int) by rw [hE, ho]; unfold llen; omega,
        ih rest (pre ++ [x]) _ (D ++ [off]) (P ++ H ++ x) ((J.drop 4).drop x.length) (i + 1) _
          (by rw [hs, List.append_assoc]; rfl) (by rw [hi, List.length_append]; rfl) rfl rfl
          (by rw [List.length_drop, List.length_drop]; omega) (by rw [List.length_append, List.length_append, hD]; rfl)
          (by rw [List.length_cons] at hf; omega) (by rw [hE]; omega) hn,
        hE, show P.length + Facts.strlenSize + x.length = P.length + 4 + x.length from rfl]
      simp only [packLen, List.append_assoc, List.singleton_append, Out.ok.injEq, Prod.mk.injEq, true_and]
      subst ho
      exact ⟨rfl, by omega, trivial⟩

theorem lget_lt {l : List α} {i : Int} {x : α} (h : lget l i = .ok x) : 0 ≤ i ∧ i < (l.length : Int) := by
  unfold lget at h
  by_cases hi : i < 0
  · simp [hi] at h
  · simp only [hi, if_false] at h
    cases hg : l[i.toNat]? with
    | none => simp [hg] at h
    | some y =>
      have := (List.getElem?_eq_some_iff.mp hg).1
      omega

theorem packLen_eq : ∀ l : List Bytes, packLen l = 4 * l.length + totalLen l := by
  intro l
  induction l with
  | nil => rfl
  | cons x r ih => simp [packLen, totalLen, ih]; omega

/-- outcome of `Load`: the indexes and the store afterwards -/
def absLd : GM (S_StrStore × List Int × SErr) → Out SMap.LErr (List Int × SMap.StrStore)
  | .ok (s, ix, .nil) => .ok (ix, absStore s)
  | .ok (_, _, .new t) => .panic t
  | .panic w => .panic w
  | .oob => .oob
  | .err e => nomatch e

def ldOut (r : Out SMap.LErr (List Int) × SMap.StrStore) : Out SMap.LErr (List Int × SMap.StrStore) :=
  match r.1 with
  | .ok ix => .ok (ix, r.2)
  | .panic w => .panic w
  | .err e => .err e
  | .oob => .oob

set_option linter.unusedSimpArgs false in
/-- `(*StrStore).Load` is the model's `storeLoad` — the "string too long" panic, the indexes, the packed buffer whatever
    the previous buffer held — for every store, provided the packed size is below 2^62 and the fuel exceeds the number of
    strings -/
theorem StrStore_Load_eq (fuel : Nat) (s : S_StrStore) (ss : List Bytes) (hb : packLen ss < 4611686018427387904)
    (hf : ss.length < fuel) : absLd (StrStore_Load fuel s ss) = ldOut (SMap.storeLoad (absStore s) ss) := by
  have hpe := packLen_eq ss
  have hn : ss.length < 4611686018427387904 := by omega
  have hll : llen ss = ((ss.length : Nat) : Int) := rfl
  have wt : wrap .i64 (4 * ((ss.length : Nat) : Int)) = ((4 * ss.length : Nat) : Int) := by
    rw [wrap_i64_of_range _ (by omega) (by omega)]; simp
  have hl1 := fun L a b c => sl_loop1 ss L a b c fuel ss [] ((4 * ss.length : Nat) : Int) 0 (by simp) (by simp) hf
    (by omega) (by omega) hn
  have hmk0 : lmake (0 : Int) ((ss.length : Nat) : Int) ((ss.length : Nat) : Int) = .ok (List.replicate ss.length 0) := by
    have : ¬ (((ss.length : Nat) : Int) < 0) := by omega
    simp [lmake, this]
  have wt' : wrap .i64 (((ss.length : Nat) : Int) * 4) = ((4 * ss.length : Nat) : Int) := by
    rw [Int.mul_comm]; exact wt
  unfold SMap.storeLoad
  simp only [StrStore_Load, hll, wt, wt', Out.bind_eq]
  refine abs_bind_congr (hl1 _ ?_ ?_ ?_) ?_
  · intro f t i hc
    simp [StrStore_Load_loop1, hc]
  · intro f t i x hg hx
    have hlt := (lget_lt hg).2
    have : llen x > 4294967295 := by unfold llen; unfold SMap.maxU32 at hx; omega
    simp [StrStore_Load_loop1, hlt, hg, this]
  · intro f t i x hlt hg hx
    have : ¬ llen x > 4294967295 := by unfold llen; unfold SMap.maxU32 at hx; omega
    have ec : llen x + t = t + llen x := Int.add_comm _ _
    have ec1 : 1 + i = i + 1 := Int.add_comm _ _
    simp [StrStore_Load_loop1, hlt, hg, this, ec, ec1]
  · by_cases hany : (ss.any fun x => decide (x.length > SMap.maxU32)) = true
    · simp [hany, absLd, ldOut]
    · have hT : ((4 * ss.length : Nat) : Int) + ((totalLen ss : Nat) : Int) = ((packLen ss : Nat) : Int) := by omega
      simp only [hany, if_false, Bool.false_eq_true, Out.bind_ok, hmk0, hT]
      have hl2 := fun L a b bufA J hbuf hJ => sl_loop2 ss L a b fuel ss [] ⟨bufA⟩ [] [] J 0 0 (by simp) (by simp) (by simp)
        hbuf hJ (by simp) hf (by simpa using hb) hn
      simp only [List.nil_append, List.length_nil] at hl2
      obtain ⟨bufA, hlenA, hblk⟩ := refit (0 : UInt8) s.buf (packLen ss)
      refine abs_bind_ok (a := ⟨bufA⟩) ?_ ?_
      · rcases hblk with ⟨c, c2, hm, _⟩ | ⟨c, c2, hm, _⟩ <;> simp [c, c2, hm]
      simp only [Out.pure_eq]
      refine abs_bind_ok (hl2 _ ?_ ?_ _ bufA.arr rfl hlenA) ?_
      · intro f s ix off i hc
        simp [StrStore_Load_loop2, hc]
      · intro f s ix off i x h0 hlt hnn ho hbb hg
        have w1 : wrap .i64 (off + 4) = off + 4 := wrap_i64_of_range _ (by omega) (by omega)
        have w2 : wrap .i64 (off + 4 + llen x) = off + 4 + llen x := by unfold llen; exact wrap_i64_of_range _ (by omega) (by omega)
        have w3 : wrap .i64 (4 + llen x) = 4 + llen x := by unfold llen; exact wrap_i64_of_range _ (by omega) (by omega)
        have w4 : wrap .i64 (off + (4 + llen x)) = off + (4 + llen x) := by unfold llen; exact wrap_i64_of_range _ (by omega) (by omega)
        have w5 : wrap .i64 (i + 1) = i + 1 := wrap_i64_of_range _ (by omega) (by omega)
        have ec1 : 4 + off = off + 4 := Int.add_comm _ _
        have ec2 : llen x + 4 = 4 + llen x := Int.add_comm _ _
        have ec3 : llen x + (off + 4) = off + 4 + llen x := Int.add_comm _ _
        have ec4 : 4 + llen x + off = off + (4 + llen x) := Int.add_comm _ _
        have ec5 : 1 + i = i + 1 := Int.add_comm _ _
        simp only [StrStore_Load_loop2, hlt, decide_true, if_true, hg, Out.bind_eq, Out.bind_ok, ec1, ec2, ec3, ec4, ec5,
          w1, w2, w3, w4, w5]
      · simp [absLd, ldOut, absStore, hany]

/-! ## Str2Str: Len, Get -/

def absS2S (sm : S_Str2Str) : SMap.Str2Str := ⟨sm.strMap.map absMap, sm.strStore.map absStore⟩

theorem Str2Str_Len_eq (sm : S_Str2Str) : liftG Int.toNat (Str2Str_Len sm) = SMap.s2sLen (absS2S sm) := by
  cases hm : sm.strMap with
  | none => simp [Str2Str_Len, SMap.s2sLen, absS2S, hm, derefP, liftG]
  | some m => simp [Str2Str_Len, SMap.s2sLen, absS2S, hm, derefP, liftG, Len_eq]

/-- Go's `(string, ok)` as the model's `Option` -/
def optOfB (r : Bytes × Bool) : Option Bytes := if r.2 then some r.1 else none

/-- `(*Str2Str).Get` is the model's `s2sGet` (nil components panic "nil"), given the invariants of its parts -/
theorem Str2Str_Get_eq (h : Bytes → Nat) (fuel : Nat) (sm : S_Str2Str) (k : Bytes)
    (hM : ∀ m, sm.strMap = some m → Inv m ∧ m.items.arr.length < fuel)
    (hS : ∀ st, sm.strStore = some st → scap st.buf < 4611686018427387904 ∧ ∀ idx, EntryOK st idx) :
    liftG optOfB (Str2Str_Get h fuel sm k) = SMap.s2sGet h (absS2S sm) k := by
  simp only [Str2Str_Get, SMap.s2sGet, absS2S, Out.bind_eq, Out.pure_eq]
  cases hm : sm.strMap with
  | none => simp [derefP, liftG]
  | some m =>
    obtain ⟨hI, hf⟩ := hM m hm
    simp only [derefP, Out.bind_ok, Option.map_some, ← Get_eq (0 : Int) h fuel m hI hf k]
    cases StrMap_Get (0 : Int) h fuel m k with
    | ok r =>
      obtain ⟨v, b⟩ := r
      cases b with
      | false => simp [liftG, optOf, optOfB]
      | true =>
        cases hs : sm.strStore with
        | none => simp [liftG, optOf]
        | some st =>
          obtain ⟨hc, he⟩ := hS st hs
          simp only [liftG, optOf, if_true, Out.bind_ok, Option.map_some, ← StrStore_Get_eq st v hc (he v)]
          cases StrStore_Get st v with
          | ok x => simp [liftG, optOfB]
          | panic w => simp [liftG]
          | oob => simp [liftG]
          | err x => exact nomatch x
    | panic w => simp [liftG]
    | oob => simp [liftG]
    | err x => exact nomatch x

/-! ## Str2Str: LoadFromSlice -/

/-- outcome of `Str2Str.LoadFromSlice`: the loaded object, or the model's error for the returned Go error -/
def absS2SLoad : GM (S_Str2Str × SErr) → Out SMap.LErr SMap.Str2Str
  | .ok (sm, .nil) => .ok (absS2S sm)
  | .ok (_, .new t) => errOf (.new t)
  | .panic w => .panic w
  | .oob => .oob
  | .err e => nomatch e

theorem ldOut_ok {R : Out SMap.LErr (List Int) × SMap.StrStore} {ix s} (h : ldOut R = .ok (ix, s)) :
    R.1 = .ok ix ∧ R.2 = s := by
  obtain ⟨a, b⟩ := R
  cases a <;> simp [ldOut] at h ⊢
  exact h
theorem ldOut_panic {R : Out SMap.LErr (List Int) × SMap.StrStore} {w} (h : ldOut R = .panic w) : R.1 = .panic w := by
  obtain ⟨a, b⟩ := R
  cases a <;> simp [ldOut] at h ⊢
  exact h
theorem ldOut_oob {R : Out SMap.LErr (List Int) × SMap.StrStore} (h : ldOut R = .oob) : R.1 = .oob := by
  obtain ⟨a, b⟩ := R
  cases a <;> simp [ldOut] at h ⊢

theorem outOf_ok {σ : Type} {R : Out SMap.LErr Unit × σ} {s} (h : outOf R = .ok s) : R.1 = .ok () ∧ R.2 = s := by
  obtain ⟨a, b⟩ := R
  cases a <;> simp [outOf] at h ⊢
  exact h
theorem outOf_panic {σ : Type} {R : Out SMap.LErr Unit × σ} {w} (h : outOf R = .panic w) : R.1 = .panic w := by
  obtain ⟨a, b⟩ := R
  cases a <;> simp [outOf] at h ⊢
  exact h
theorem outOf_oob {σ : Type} {R : Out SMap.LErr Unit × σ} (h : outOf R = .oob) : R.1 = .oob := by
  obtain ⟨a, b⟩ := R
  cases a <;> simp [outOf] at h ⊢

/-- the outcome of a model call does not depend on the state paired with it, except in the normal return -/
theorem errOf_transfer {σ1 σ2 : Type} (t : String) (a : Out SMap.LErr Unit) (s1 : σ1) (s2 : σ2)
    (h : (errOf (.new t) : Out SMap.LErr σ1) = outOf (a, s1)) : outOf (a, s2) = (errOf (.new t) : Out SMap.LErr σ2) := by
  unfold errOf at h ⊢
  simp only at h ⊢
  by_cases h1 : t = SMap.LErr.kvLen.msg
  · simp only [h1, if_true] at h ⊢
    cases a <;> simp_all [outOf]
  · by_cases h2 : t = SMap.LErr.keyTooLarge.msg
    · simp only [h1, h2, if_true, if_false] at h ⊢
      cases a <;> simp_all [outOf]
    · simp only [h1, h2, if_false] at h ⊢
      cases a <;> simp_all [outOf]

theorem storeLoad_panic (st : SMap.StrStore) (ss : List Bytes) (t : String)
    (h : (SMap.storeLoad st ss).1 = .panic t) : t = "string too long" := by
  unfold SMap.storeLoad at h
  split at h <;> simp at h
  exact h.symm

/-- the key-size loop of `Str2Str.LoadFromSlice`: for ANY function `L` with these steps -/
theorem s2s_loop1 (sm : S_Str2Str) (L : List Bytes → GM (LoopR (S_Str2Str × SErr) Unit))
    (hnil : L [] = .ok (.done ()))
    (hbig : ∀ k rest, k.length > SMap.maxU32 → L (k :: rest) = .ok (.ret (sm, SErr.new "key too large")))
    (hsmall : ∀ k rest, ¬ k.length > SMap.maxU32 → L (k :: rest) = L rest) :
    ∀ kk, L kk = if SMap.anyKeyTooLarge kk then .ok (.ret (sm, SErr.new "key too large")) else .ok (.done ()) := by
  intro kk
  induction kk with
  | nil => simp [hnil, SMap.anyKeyTooLarge]
  | cons k rest ih =>
    by_cases hk : k.length > SMap.maxU32
    · simp [hbig k rest hk, SMap.anyKeyTooLarge, hk]
    · have : SMap.anyKeyTooLarge (k :: rest) = SMap.anyKeyTooLarge rest := by simp [SMap.anyKeyTooLarge, hk]
      rw [hsmall k rest hk, ih, this]

set_option linter.unusedSimpArgs false in
/-- `(*Str2Str).LoadFromSlice` is the model's `s2sLoad` — both error returns, nil components replaced by fresh ones,
    the "string too long" panic of the store, the store loaded before the map — for EVERY receiver state -/
theorem Str2Str_LoadFromSlice_eq (h : Bytes → Nat) (sorter : List (SMap.Item Int) → List (SMap.Item Int)) (fuel : Nat)
    (sm : S_Str2Str) (kk vv : List Bytes) (hb1 : totalLen kk < 4611686018427387904)
    (hb2 : packLen vv < 4611686018427387904) (hf1 : vv.length < fuel)
    (hf2 : ∀ p, SMap.calcSlots kk.length = .ok p → p < fuel) :
    absS2SLoad (Str2Str_LoadFromSlice h (liftSorter sorter) fuel sm kk vv) =
      outOf (SMap.s2sLoad h sorter (absS2S sm) kk vv) := by
  by_cases hne : kk.length ≠ vv.length
  · have hlen' : ¬ llen kk = llen vv := by unfold llen; omega
    have hlen'' : ¬ llen vv = llen kk := by unfold llen; omega
    simp [Str2Str_LoadFromSlice, SMap.s2sLoad, hne, hlen', hlen'', absS2SLoad, errOf, outOf, SMap.LErr.msg]
  have hlen : kk.length = vv.length := by omega
  have hlen' : llen kk = llen vv := by unfold llen; omega
  have hl1 := fun L a b c => s2s_loop1 sm L a b c kk
  simp only [Str2Str_LoadFromSlice, hlen', ne_eq, not_true_eq_false, decide_false, if_false, Bool.false_eq_true,
    Out.bind_eq]
  refine abs_bind_congr (hl1 _ ?_ ?_ ?_) ?_
  · simp [Str2Str_LoadFromSlice_loop1]
  · intro k rest hk
    have : llen k > 4294967295 := by unfold llen; unfold SMap.maxU32 at hk; omega
    simp [Str2Str_LoadFromSlice_loop1, this]
  · intro k rest hk
    have : ¬ llen k > 4294967295 := by unfold llen; unfold SMap.maxU32 at hk; omega
    simp [Str2Str_LoadFromSlice_loop1, this]
  by_cases hbig : SMap.anyKeyTooLarge kk = true
  · simp [SMap.s2sLoad, hlen, hbig, absS2SLoad, errOf, outOf, SMap.LErr.msg]
  -- the store and the map that get loaded (fresh ones for nil components)
  obtain ⟨st, hstA, hst⟩ : ∃ st : S_StrStore, absStore st = SMap.storeOrNew (absS2S sm).strStore ∧
      (sm.strStore = some st ∨ (sm.strStore = none ∧ st = ⟨Sl.nil⟩)) := by
    cases hs : sm.strStore with
    | none => exact ⟨⟨Sl.nil⟩, by simp [absS2S, hs, SMap.storeOrNew, absStore, SMap.StrStore.init, Sl.nil], Or.inr ⟨rfl, rfl⟩⟩
    | some st => exact ⟨st, by simp [absS2S, hs, SMap.storeOrNew], Or.inl rfl⟩
  obtain ⟨mp, hmpA, hmp⟩ : ∃ mp : S_StrMap Int, absMap mp = SMap.mapOrNew (absS2S sm).strMap ∧
      (sm.strMap = some mp ∨ (sm.strMap = none ∧ mp = ⟨Sl.nil, Sl.nil, Sl.nil⟩)) := by
    cases hm : sm.strMap with
    | none => exact ⟨⟨Sl.nil, Sl.nil, Sl.nil⟩, by simp [absS2S, hm, SMap.mapOrNew, absMap, SMap.StrMap.init, Sl.nil], Or.inr ⟨rfl, rfl⟩⟩
    | some mp => exact ⟨mp, by simp [absS2S, hm, SMap.mapOrNew], Or.inl rfl⟩
  have hL := StrStore_Load_eq fuel st vv hb2 hf1
  rw [hstA] at hL
  have hpanic := storeLoad_panic (SMap.storeOrNew (absS2S sm).strStore) vv
  have hF := fun ix => LoadFromSlice_eq (0 : Int) h sorter fuel mp kk ix hb1 hf2
  rw [hmpA] at hF
  -- the model side, with its sub-computations as atoms
  unfold SMap.s2sLoad
  simp only [hlen, ne_eq, not_true_eq_false, if_false, hbig, Bool.false_eq_true, Out.bind_ok]
  generalize SMap.storeLoad (SMap.storeOrNew (absS2S sm).strStore) vv = R at hL hpanic ⊢
  generalize SMap.mapOrNew (absS2S sm).strMap = MP at hF ⊢
  generalize (absS2S sm).strMap = SMm
  -- `if sm.strStore == nil { sm.strStore = strstore.New() }`
  refine abs_bind_ok (a := ⟨sm.strMap, some st⟩) ?_ ?_
  · obtain ⟨oM, oS⟩ := sm
    rcases hst with hs | ⟨hs, rfl⟩ <;> dsimp only at hs <;> simp [hs]
  simp only [derefP, Out.bind_ok]
  -- outcome of the store's Load
  cases hr : StrStore_Load fuel st vv with
  | err x => exact nomatch x
  | panic w =>
    rw [hr] at hL
    simp [absS2SLoad, ldOut_panic hL.symm, outOf]
  | oob =>
    rw [hr] at hL
    simp [absS2SLoad, ldOut_oob hL.symm, outOf]
  | ok r4 =>
    obtain ⟨s', ix, e⟩ := r4
    rw [hr] at hL
    cases e with
    | new t =>
      have hR := ldOut_panic (w := t) (by simpa [absLd] using hL.symm)
      have ht := hpanic _ hR
      subst ht
      simp [absS2SLoad, hR, outOf, errOf, SMap.LErr.msg]
    | nil =>
      obtain ⟨hR1, hR2⟩ := ldOut_ok (ix := ix) (s := absStore s') (by simpa [absLd] using hL.symm)
      have hF' := hF ix
      simp only [hR1, hR2, Out.bind_ok, ne_eq, not_true_eq_false, decide_false, Bool.false_eq_true, if_false]
      generalize SMap.loadFromSlice h sorter MP kk ix = X at hF' ⊢
      -- `if sm.strMap == nil { sm.strMap = New[int]() }`
      refine abs_bind_ok (a := ⟨some mp, some s'⟩) ?_ ?_
      · rcases hmp with hm | ⟨hm, rfl⟩ <;> simp [hm]
      simp only [derefP, Out.bind_ok]
      -- outcome of the map's LoadFromSlice
      cases hr7 : StrMap_LoadFromSlice (0 : Int) h (liftSorter sorter) fuel mp kk ix with
      | err x => exact nomatch x
      | panic w =>
        rw [hr7] at hF'
        simp [absS2SLoad, outOf, outOf_panic (w := w) (by simpa [absLoad] using hF'.symm)]
      | oob =>
        rw [hr7] at hF'
        simp [absS2SLoad, outOf, outOf_oob (by simpa [absLoad] using hF'.symm)]
      | ok r7 =>
        obtain ⟨m', e7⟩ := r7
        rw [hr7] at hF'
        cases e7 with
        | nil =>
          obtain ⟨hP1, hP2⟩ := outOf_ok (s := absMap m') (by simpa [absLoad] using hF'.symm)
          simp [absS2SLoad, outOf, hP1, hP2, absS2S]
        | new t =>
          have hT := errOf_transfer t X.1 X.2 (⟨some X.2, some (absStore s')⟩ : SMap.Str2Str)
            (by have := hF'; simp only [absLoad] at this; exact this)
          simp [absS2SLoad, hT]

/-! ## closed examples: the GENERATED LoadFromSlice / Get / Item / Len run on a map all of whose keys collide -/

/-- a structurally recursive slot sorter (insertion sort) for kernel evaluation -/
def insBySlot (x : S_mapItem Nat) : List (S_mapItem Nat) → List (S_mapItem Nat)
  | [] => [x]
  | y :: r => if x.slot ≤ y.slot then x :: y :: r else y :: insBySlot x r
def isortBySlot : List (S_mapItem Nat) → List (S_mapItem Nat)
  | [] => []
  | x :: r => insBySlot x (isortBySlot r)

def exKeys : List Bytes := [[97], [98, 99], [], [100, 101, 102]]
def exVals : List Nat := [10, 20, 30, 40]
/-- every key hashes to 5: one chain -/
def exHash : Bytes → Nat := fun _ => 5
/-- two chains: the hash is the key's length mod 2 -/
def exHash2 : Bytes → Nat := fun k => k.length % 2
def exEmpty : S_StrMap Nat := ⟨Sl.nil, Sl.nil, Sl.nil⟩

def exLoad (h : Bytes → Nat) : GM (S_StrMap Nat) :=
  (StrMap_LoadFromSlice 0 h isortBySlot 64 exEmpty exKeys exVals).bind fun r =>
    if r.2 = SErr.nil then .ok r.1 else .panic "load failed"

def exGet (h : Bytes → Nat) (k : Bytes) : GM (Nat × Bool) := (exLoad h).bind fun m => StrMap_Get 0 h 64 m k

example : exGet exHash [97] = .ok (10, true) := by decide +kernel
example : exGet exHash [98, 99] = .ok (20, true) := by decide +kernel
example : exGet exHash [] = .ok (30, true) := by decide +kernel
example : exGet exHash [100, 101, 102] = .ok (40, true) := by decide +kernel
example : exGet exHash [98] = .ok (0, false) := by decide +kernel
example : exGet exHash2 [100, 101, 102] = .ok (40, true) := by decide +kernel
example : exGet exHash2 [98, 99] = .ok (20, true) := by decide +kernel
example : exGet exHash2 [99] = .ok (0, false) := by decide +kernel
example : ((exLoad exHash).bind fun m => StrMap_Len 0 m) = .ok 4 := by decide +kernel
example : ((exLoad exHash).bind fun m => StrMap_Item 0 m 1) = .ok ([98, 99], 20) := by decide +kernel
example : ((exLoad exHash).bind fun m => StrMap_Item 0 m 4) = .panic "index" := by decide +kernel
example : ((exLoad exHash).bind fun m => pure (slen m.hashtable)) = .ok 17 := by decide +kernel
/-- a never-loaded map answers "not found" (the `len(hashtable) == 0` guard) -/
example : StrMap_Get 0 exHash 64 exEmpty [97] = .ok (0, false) := by decide +kernel
/-- mismatched lengths: the error, the map untouched -/
example : ((StrMap_LoadFromSlice 0 exHash isortBySlot 64 exEmpty exKeys [1]).bind fun r => pure r.2)
    = .ok (SErr.new "kv len not match") := by decide +kernel

/-! ### the GENERATED Str2Str (store + map) on the zero value, with colliding keys -/

def insBySlotI (x : S_mapItem Int) : List (S_mapItem Int) → List (S_mapItem Int)
  | [] => [x]
  | y :: r => if x.slot ≤ y.slot then x :: y :: r else y :: insBySlotI x r
def isortBySlotI : List (S_mapItem Int) → List (S_mapItem Int)
  | [] => []
  | x :: r => insBySlotI x (isortBySlotI r)

def exVals2 : List Bytes := [[1, 2, 3], [], [9], [7, 7]]
/-- the zero value `Str2Str{}`: both components nil -/
def exZero : S_Str2Str := ⟨none, none⟩

def exLoad2 : GM S_Str2Str :=
  (Str2Str_LoadFromSlice exHash isortBySlotI 64 exZero exKeys exVals2).bind fun r =>
    if r.2 = SErr.nil then .ok r.1 else .panic "load failed"

example : (exLoad2.bind fun sm => Str2Str_Get exHash 64 sm [98, 99]) = .ok ([], true) := by decide +kernel
example : (exLoad2.bind fun sm => Str2Str_Get exHash 64 sm [100, 101, 102]) = .ok ([7, 7], true) := by decide +kernel
example : (exLoad2.bind fun sm => Str2Str_Get exHash 64 sm [97]) = .ok ([1, 2, 3], true) := by decide +kernel
example : (exLoad2.bind fun sm => Str2Str_Get exHash 64 sm [5]) = .ok ([], false) := by decide +kernel
example : (exLoad2.bind fun sm => Str2Str_Len sm) = .ok 4 := by decide +kernel
/-- `Get` on the zero value panics (nil strMap) -/
example : Str2Str_Get exHash 64 exZero [97] = .panic "nil" := by decide +kernel
/-- the store: indexes 0, 7, 11, 16 and an unsafe load at the last byte is `oob` -/
example : ((StrStore_Load 64 ⟨Sl.nil⟩ exVals2).bind fun r => pure r.2.1) = .ok [0, 7, 11, 16] := by decide +kernel
example : ((StrStore_Load 64 ⟨Sl.nil⟩ exVals2).bind fun r => StrStore_Get r.1 21) = .oob := by decide +kernel
example : ((StrStore_Load 64 ⟨Sl.nil⟩ exVals2).bind fun r => StrStore_Get r.1 16) = .ok [7, 7] := by decide +kernel
example : ((StrStore_Load 64 ⟨Sl.nil⟩ exVals2).bind fun r => StrStore_Get r.1 22) = .ok [] := by decide +kernel

end Verif.StrMapEq
