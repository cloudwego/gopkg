/-
  Lemmas/Funcs/FcW: the WRITE side of the generated structs, TRANSLATED from protocol/thrift/base/k-base.go and
  protocol/thrift/binary.go (`Verif.Funcs.Base_BLength`, `Base_FastWriteNocopy`, `Base_FastWrite`, the same three of
  `BaseResp`, `Binary_WriteStringNocopy`, `Binary_WriteBinaryNocopy`; generated), is the hand-written model of
  `Model/FastCodec` (`bLengthBase`, `fastWriteNocopyBase`, `fastWriteBase`, …, `writeStringNocopy`).

  * Go's map iteration order: the translated functions take the sequence of entries the `range` loop visits as an
    explicit parameter (`ord1`), the model takes it as `it : SMap`. Every theorem holds for EVERY such sequence (no
    relation to the map is needed: the code only uses `len(p.Extra)` and the visited entries).
  * the receiver may be nil: the translation takes `Option S_base_Base`, the model `Option Base`.
  * the `thrift.NocopyWriter` parameter: the translation takes `Option ν` (`none` = the nil interface) and the behaviour
    `J : NocopyI ν` of `WriteDirect`; the theorems instantiate it with the recorder `recJ e` over the model's `Directs`
    (`WriteDirect(b, remainCap)` appends `(b, remainCap)` and returns the arbitrary error `e …`, which the code ignores),
    for both `w == nil` (`wOpt false ds = none`) and a real writer (`wOpt true ds = some ds`). The threshold is
    `Facts.nocopyWriteThreshold`.
  * in-place writers: the generated function works on the view `(whole, off)`; the theorems are stated for the view
    `(pre ++ sb, pre.length)` against the model on `sb` (`*_view`: the bytes in front of the view are not touched), and
    for a whole slice (`*_eq`, offset 0). Panics are carried over with their kind.

  Method (independent of the SHAPE of the generated code): the simulation `WSim` of Lemmas/Funcs/Fc relates the outcome
  of translated code on the view with the outcome of model statements on the slice. The generated function is unfolded
  and WALKED: every primitive of the translation has a continuation-passing step lemma against the model primitive it
  implements (those of Fc for `vset`, `vfrom`+`vputU16/32`, the final return; here `vfrom`+`WriteStringNocopy` against
  `writeStringNocopy` and the `range` loop against `wAll (stKVs …)`); `fw_step` picks the lemma by unification. Offsets
  are whatever `Int` expression the code computes, with a side goal that says which offset of the model it is
  (`off_tac`); guards are decided from the semantic case split made BEFORE simplification (`bsimp`, or `rsimp` where no
  arithmetic is involved); the loop lemmas speak of ANY function with the loop's step behaviour (the generated loop
  function is never named in a statement). Renamed locals, hoisted or commuted arithmetic, inverted guards with
  swapped branches, un-nested returns, local constants and split/merged declarations leave the proofs unchanged.
-/
import Verif.Lemmas.Funcs.Fc
namespace Verif.FuncsEq
open Verif Verif.GoSem

/-! ## the recording no-copy writer, lifts -/

/-- the model's recorder of direct writes as a `thrift.NocopyWriter`: `WriteDirect(b, remainCap)` appends the pair; the
    error it returns is arbitrary (the callers drop it) -/
def recJ (e : Directs → Bytes → Int → GoErr) : NocopyI Directs :=
  ⟨fun ds b n => .ok (e ds b n, ds ++ [(b, n.toNat)])⟩

/-- the `w` argument: `none` = nil -/
def wOpt (w : Bool) (ds : Directs) : Option Directs := if w then some ds else none

/-- what the theorems need of a `NocopyWriter` value `enc ds` (`none` = nil) with behaviour `J`, seen as a rendering of the
    model's recorder contents `ds`: it is nil exactly when `w = false`, and `WriteDirect(b, n)` records `(b, n)` — whatever
    error it returns -/
structure NCOK {ν : Type} (J : NocopyI ν) (w : Bool) (enc : Directs → Option ν) : Prop where
  isNone : ∀ ds, (enc ds).isNone = !w
  step : w = true → ∀ (ds : Directs) (b : Bytes) (n : Int), ∃ x er x', enc ds = some x ∧
    J.writeDirect x b n = .ok (er, x') ∧ enc (ds ++ [(b, n.toNat)]) = some x'

theorem recJ_ok (e : Directs → Bytes → Int → GoErr) (w : Bool) : NCOK (recJ e) w (wOpt w) where
  isNone ds := by cases w <;> rfl
  step hw ds b n := by subst hw; exact ⟨ds, e ds b n, ds ++ [(b, n.toNat)], rfl, rfl, rfl⟩

/-- the literal `nil` writer that `FastWrite` passes on -/
theorem nilNocopy_ok : NCOK nilNocopy false (fun _ => (none : Option Unit)) where
  isNone _ := rfl
  step hw := by cases hw

/-- result `(b', w', n)` of a translated no-copy writer as the model's `(WS, n)`; `ds0`: what the recorder held before (a
    nil writer stays nil) -/
def liftWN (ds0 : Directs) (x : GM (Bytes × Option Directs × Int)) : TOut (WS × Nat) :=
  match x with
  | .ok r => .ok (⟨r.1, r.2.1.getD ds0⟩, r.2.2.toNat)
  | .panic s => .panic s
  | .oob => .oob
  | .err e => nomatch e

theorem vlen_pre (pre sb : Bytes) (o : Nat) :
    vlen (pre ++ sb) ((pre.length + o : Nat) : Int) = (sb.length : Int) - o := by
  simp [vlen, len]; omega

/-! ## `Binary.WriteStringNocopy` / `WriteBinaryNocopy` -/

/-- the model statement in normal form (`o ≤ sb.length`: the slice `b[off:]` exists) -/
theorem writeStringNocopy_nf (thr : Nat) (w : Bool) (sb : Bytes) (ds : Directs) (o : Nat) (v : Bytes)
    (h : o ≤ sb.length) :
    writeStringNocopy thr w ⟨sb, ds⟩ o v =
      if o + 4 ≤ sb.length then
        if (!w || decide (v.length < thr)) = true then
          .ok (⟨patch (patch sb o (be32 v.length)) (o + 4) (v.take (min (sb.length - (o + 4)) v.length)), ds⟩,
            4 + min (sb.length - (o + 4)) v.length)
        else .ok (⟨patch sb o (be32 v.length), ds ++ [(v, sb.length - o - 4)]⟩, 4)
      else .panic "index" := by
  unfold writeStringNocopy writeString put32 copyAt
  have a : ¬ o > sb.length := by omega
  by_cases c : o + 4 ≤ sb.length
  · have a2 : ¬ sb.length - o < 4 := by omega
    have l1 : (patch sb o (be32 v.length)).length = sb.length := patch_length _ _ _ (by simp; omega)
    have a3 : ¬ o + 4 > sb.length := by omega
    by_cases c2 : (!w || decide (v.length < thr)) = true
    · simp [a, a2, a3, c, l1, c2]
    · simp [a, a2, c, l1, c2]
  · have a2 : sb.length - o < 4 := by omega
    by_cases c2 : (!w || decide (v.length < thr)) = true
    · simp [a, a2, c, c2]
    · simp [a, a2, c, c2]

/-- the in-place string writer on the view, in normal form -/
theorem gWriteString_nf (pre sb : Bytes) (o : Nat) (v : Bytes) (h : o ≤ sb.length)
    (hlen : (pre ++ sb).length < 2 ^ 63) :
    Funcs.Binary_WriteString (pre ++ sb) ((pre.length + o : Nat) : Int) v =
      if o + 4 ≤ sb.length then
        .ok (pre ++ patch (patch sb o (be32 v.length)) (o + 4) (v.take (min (sb.length - (o + 4)) v.length)),
          ((4 + min (sb.length - (o + 4)) v.length : Nat) : Int))
      else .panic "index" := by
  have hl : sb.length ≤ (pre ++ sb).length := by simp
  unfold Funcs.Binary_WriteString
  by_cases c : o + 4 ≤ sb.length
  · have l1 : (patch sb o (be32 v.length)).length = sb.length := patch_length _ _ _ (by simp; omega)
    bsimp [c, vputU32_pre, vfrom_preK, vcopy_pre, l1, ← be32_len, wrap_i64_of_range, Int.reduceToNat]
    congr 3 <;> omega
  · bsimp [c, vputU32_pre]

theorem gWriteBinary_nf (pre sb : Bytes) (o : Nat) (v : Bytes) (h : o ≤ sb.length)
    (hlen : (pre ++ sb).length < 2 ^ 63) :
    Funcs.Binary_WriteBinary (pre ++ sb) ((pre.length + o : Nat) : Int) v =
      if o + 4 ≤ sb.length then
        .ok (pre ++ patch (patch sb o (be32 v.length)) (o + 4) (v.take (min (sb.length - (o + 4)) v.length)),
          ((4 + min (sb.length - (o + 4)) v.length : Nat) : Int))
      else .panic "index" := by
  have hl : sb.length ≤ (pre ++ sb).length := by simp
  unfold Funcs.Binary_WriteBinary
  by_cases c : o + 4 ≤ sb.length
  · have l1 : (patch sb o (be32 v.length)).length = sb.length := patch_length _ _ _ (by simp; omega)
    bsimp [c, vputU32_pre, vfrom_preK, vcopy_pre, l1, ← be32_len, wrap_i64_of_range, Int.reduceToNat]
    congr 3 <;> omega
  · bsimp [c, vputU32_pre]

/-! ### the no-copy writers on the view, in normal form

  Proved from the SEMANTIC case split (is the writer nil, is the value below the threshold, does the header fit): the
  generated guard may be `w == nil || len(v) < thr`, its negation with the branches swapped, the operands commuted,
  `len(v)` hoisted … — `bsimp` decides whatever form it has from the facts in the context. -/

theorem enc_none {ν : Type} {J : NocopyI ν} {enc : Directs → Option ν} (H : NCOK J false enc) (ds : Directs) :
    enc ds = none := by
  have := H.isNone ds
  cases h : enc ds with
  | none => rfl
  | some x => rw [h] at this; simp at this

/-- `WriteDirect` at the end of a no-copy writer: whatever expression the generated code passes as the remaining
    capacity, it records the value of that expression -/
theorem wd_close {ν : Type} {J : NocopyI ν} {enc : Directs → Option ν} {x : ν} {v : Bytes} {ds : Directs}
    (hstep : ∀ n : Int, ∃ er x', J.writeDirect x v n = .ok (er, x') ∧ enc (ds ++ [(v, n.toNat)]) = some x')
    (B : Bytes) (r : Int) (N : Int) (m : Nat) (hN : N.toNat = m) :
    (J.writeDirect x v N).bind (fun t => (.ok (B, some t.2, r) : GM (Bytes × Option ν × Int))) =
      .ok (B, enc (ds ++ [(v, m)]), r) := by
  obtain ⟨er, x', g1, g2⟩ := hstep N
  rw [g1, Out.bind_ok, ← hN, g2]

set_option hygiene false in
/-- the shared proof of the two no-copy writers: `F` is the generated function, `G` the copying writer it falls back to -/
macro "nocopy_nf" F:ident Gnf:ident : tactic => `(tactic| (
  have hl : len v = (v.length : Int) := rfl
  have hsl : sb.length ≤ (pre ++ sb).length := by simp
  by_cases c : o + 4 ≤ sb.length
  · cases w with
    | false =>
      have he := enc_none H ds
      have hg := $Gnf pre sb o v h hlen
      rw [if_pos c] at hg
      unfold $F
      rw [he]
      bsimp [hg, c, hl]
    | true =>
      obtain ⟨x, _, _, h1, _, _⟩ := H.step rfl ds v 0
      have hstep : ∀ n : Int, ∃ er x', J.writeDirect x v n = .ok (er, x') ∧ enc (ds ++ [(v, n.toNat)]) = some x' := by
        intro n
        obtain ⟨y, er, x', g1, g2, g3⟩ := H.step rfl ds v n
        rw [h1] at g1; cases g1
        exact ⟨er, x', g2, g3⟩
      by_cases c2 : v.length < 4096
      · have hg := $Gnf pre sb o v h hlen
        rw [if_pos c] at hg
        unfold $F
        rw [h1]
        bsimp [hg, c, c2, hl]
      · have l1 : (patch sb o (be32 v.length)).length = sb.length :=
          patch_length _ _ _ (by simp; omega)
        have e1 : be32 (ofInt 32 (wrap .u32 (v.length : Int))) = be32 v.length := by
          rw [ofInt_wrap 32 .u32 _ (by decide), be32_ofInt_nat]
        unfold $F
        rw [h1]
        bsimp [c, c2, hl, vputU32_pre, vfrom_preK, l1, derefP, vlen_pre, e1, Int.reduceToNat, Nat.add_zero]
        refine wd_close hstep _ _ _ _ (by (try simp (disch := omega) only [wrap_i64_of_range]); omega)
  · have hg := $Gnf pre sb o v h hlen
    rw [if_neg c] at hg
    cases w with
    | false =>
      have he := enc_none H ds
      unfold $F
      rw [he]
      bsimp [hg, c, hl]
    | true =>
      obtain ⟨x, er, x', h1, h2, h3⟩ := H.step rfl ds v 0
      by_cases c2 : v.length < 4096
      · unfold $F
        rw [h1]
        bsimp [hg, c, c2, hl]
      · unfold $F
        rw [h1]
        bsimp [c, c2, hl, vputU32_pre, vfrom_preK, Int.reduceToNat, Nat.add_zero]))

theorem gWriteStringNocopy_nf {ν : Type} (J : NocopyI ν) (w : Bool) (enc : Directs → Option ν) (H : NCOK J w enc)
    (pre sb : Bytes) (ds : Directs) (o : Nat) (v : Bytes) (h : o ≤ sb.length) (hlen : (pre ++ sb).length < 2 ^ 63) :
    Funcs.Binary_WriteStringNocopy J (pre ++ sb) ((pre.length + o : Nat) : Int) (enc ds) v =
      if o + 4 ≤ sb.length then
        if (!w || decide (v.length < 4096)) = true then
          .ok (pre ++ patch (patch sb o (be32 v.length)) (o + 4) (v.take (min (sb.length - (o + 4)) v.length)),
            enc ds, ((4 + min (sb.length - (o + 4)) v.length : Nat) : Int))
        else .ok (pre ++ patch sb o (be32 v.length), enc (ds ++ [(v, sb.length - o - 4)]), 4)
      else .panic "index" := by
  nocopy_nf Funcs.Binary_WriteStringNocopy gWriteString_nf

theorem gWriteBinaryNocopy_nf {ν : Type} (J : NocopyI ν) (w : Bool) (enc : Directs → Option ν) (H : NCOK J w enc)
    (pre sb : Bytes) (ds : Directs) (o : Nat) (v : Bytes) (h : o ≤ sb.length) (hlen : (pre ++ sb).length < 2 ^ 63) :
    Funcs.Binary_WriteBinaryNocopy J (pre ++ sb) ((pre.length + o : Nat) : Int) (enc ds) v =
      if o + 4 ≤ sb.length then
        if (!w || decide (v.length < 4096)) = true then
          .ok (pre ++ patch (patch sb o (be32 v.length)) (o + 4) (v.take (min (sb.length - (o + 4)) v.length)),
            enc ds, ((4 + min (sb.length - (o + 4)) v.length : Nat) : Int))
        else .ok (pre ++ patch sb o (be32 v.length), enc (ds ++ [(v, sb.length - o - 4)]), 4)
      else .panic "index" := by
  nocopy_nf Funcs.Binary_WriteBinaryNocopy gWriteBinary_nf

theorem wOpt_getD (w : Bool) (ds ds0 : Directs) (h : w = false → ds = ds0) : (wOpt w ds).getD ds0 = ds := by
  cases w
  · simp [wOpt, h rfl]
  · simp [wOpt]

/-- `Binary.WriteStringNocopy(buf[off:], w, v)` translated from the Go source IS the model `writeStringNocopy` at the
    threshold the extractor reads off the source, for a nil writer (`w = false`) and for a recording one -/
theorem Binary_WriteStringNocopy_eq (e : Directs → Bytes → Int → GoErr) (w : Bool) (buf : Bytes) (off : Nat)
    (ds : Directs) (v : Bytes) (h : off ≤ buf.length) (hlen : buf.length < 2 ^ 63) :
    liftWN ds (Funcs.Binary_WriteStringNocopy (recJ e) buf (off : Int) (wOpt w ds) v) =
      writeStringNocopy Facts.nocopyWriteThreshold w ⟨buf, ds⟩ off v := by
  have hg := gWriteStringNocopy_nf (recJ e) w (wOpt w) (recJ_ok e w) [] buf ds off v h (by simpa using hlen)
  simp only [List.nil_append, List.length_nil, Nat.zero_add] at hg
  rw [hg, writeStringNocopy_nf _ _ _ _ _ _ h]
  unfold Facts.nocopyWriteThreshold
  by_cases c : off + 4 ≤ buf.length
  · by_cases c2 : (!w || decide (v.length < 4096)) = true
    · simp only [if_pos c, if_pos c2, liftWN, wOpt_getD w ds ds (fun _ => rfl), Int.toNat_natCast]
    · have hw : w = true := by cases w <;> simp_all
      subst hw
      simp only [if_pos c, if_neg c2, liftWN, wOpt, if_true, Option.getD_some]; rfl
  · simp only [if_neg c, liftWN]

theorem Binary_WriteBinaryNocopy_eq (e : Directs → Bytes → Int → GoErr) (w : Bool) (buf : Bytes) (off : Nat)
    (ds : Directs) (v : Bytes) (h : off ≤ buf.length) (hlen : buf.length < 2 ^ 63) :
    liftWN ds (Funcs.Binary_WriteBinaryNocopy (recJ e) buf (off : Int) (wOpt w ds) v) =
      writeStringNocopy Facts.nocopyWriteThreshold w ⟨buf, ds⟩ off v := by
  have hg := gWriteBinaryNocopy_nf (recJ e) w (wOpt w) (recJ_ok e w) [] buf ds off v h (by simpa using hlen)
  simp only [List.nil_append, List.length_nil, Nat.zero_add] at hg
  rw [hg, writeStringNocopy_nf _ _ _ _ _ _ h]
  unfold Facts.nocopyWriteThreshold
  by_cases c : off + 4 ≤ buf.length
  · by_cases c2 : (!w || decide (v.length < 4096)) = true
    · simp only [if_pos c, if_pos c2, liftWN, wOpt_getD w ds ds (fun _ => rfl), Int.toNat_natCast]
    · have hw : w = true := by cases w <;> simp_all
      subst hw
      simp only [if_pos c, if_neg c2, liftWN, wOpt, if_true, Option.getD_some]; rfl
  · simp only [if_neg c, liftWN]

/-! ## the simulation (`WSim` and the step lemmas of Lemmas/Funcs/Fc), with a no-copy writer

  The result of a translated no-copy writer is `(b', w', n)`: `out` of `WSim` is `fun B ds k => (B, enc ds, k)`, `enc ds`
  being the `NocopyWriter` value that holds the model's recorder contents `ds`. -/

/-- `WriteStringNocopy(b[off:], w, v)` against the model `writeStringNocopy` -/
theorem sim_wsn {ν ρ : Type} {J : NocopyI ν} {enc : Directs → Option ν} {out : Bytes → Directs → Int → ρ} {pre : Bytes}
    {n : Nat} {w : Bool} {ds0 : Directs} (hn : pre.length + n < 2 ^ 62) (H : NCOK J w enc) {sb : Bytes}
    (hsb : sb.length = n) {ds : Directs} (hds : w = false → ds = ds0) {ob o : Nat} {oi : Int}
    (h : 0 ≤ oi ∧ (ob : Int) + oi = o) {v : Bytes} {K : Bytes × Option ν × Int → GM ρ}
    {Ky : WS × Nat → TOut (WS × Nat)}
    (hK : ∀ (sb' : Bytes) (ds' : Directs) (k : Nat), sb'.length = n → o + k ≤ n → (w = false → ds' = ds0) →
      oi = ((o - ob : Nat) : Int) → WSim out pre n w ds0 (K (pre ++ sb', enc ds', (k : Int))) (Ky (⟨sb', ds'⟩, k))) :
    WSim out pre n w ds0
      ((vfrom (pre ++ sb) ((pre.length + ob : Nat) : Int) oi).bind fun t =>
        (Funcs.Binary_WriteStringNocopy J (pre ++ sb) t (enc ds) v).bind K)
      ((writeStringNocopy Facts.nocopyWriteThreshold w ⟨sb, ds⟩ o v).bind Ky) := by
  rw [vfrom_sub h]
  by_cases c0 : o ≤ sb.length
  case neg =>
    unfold writeStringNocopy
    rw [if_neg c0, if_pos (by simp only; omega)]; rfl
  rw [if_pos c0, Out.bind_ok, gWriteStringNocopy_nf J w enc H pre sb ds o v c0 (by simp; omega),
    writeStringNocopy_nf _ _ _ _ _ _ c0]
  unfold Facts.nocopyWriteThreshold
  by_cases c : o + 4 ≤ sb.length
  · have l1 : (patch sb o (be32 v.length)).length = sb.length := patch_length _ _ _ (by simp; omega)
    by_cases c2 : (!w || decide (v.length < 4096)) = true
    · have l2 : (patch (patch sb o (be32 v.length)) (o + 4) (v.take (min (sb.length - (o + 4)) v.length))).length
          = sb.length := by
        rw [patch_length _ _ _ (by simp; omega), l1]
      simp only [if_pos c, if_pos c2, Out.bind_ok]
      exact hK _ ds _ (by rw [l2, hsb]) (by omega) hds (by omega)
    · have hw : w = true := by cases w <;> simp_all
      simp only [if_pos c, if_neg c2, Out.bind_ok]
      exact hK _ _ 4 (by rw [l1, hsb]) (by omega) (by intro h; rw [hw] at h; cases h) (by omega)
  · simp only [if_neg c, Out.bind_panic]; rfl

/-! ## `len(p.Extra)`: the translation's association list (newest first, keys may repeat) against the model's `SMap` -/

theorem set_keys (m : SMap) (k v : Bytes) (k' : Bytes) :
    k' ∈ (m.set k v).map Prod.fst ↔ k' = k ∨ k' ∈ m.map Prod.fst := by
  induction m with
  | nil => simp [SMap.set]
  | cons x r ih =>
    obtain ⟨a, b⟩ := x
    unfold SMap.set
    by_cases h : a = k
    · subst h; simp
    · simp only [h, if_false, List.map_cons, List.mem_cons, ih]
      constructor
      · rintro (h1 | h1 | h1) <;> simp [h1]
      · rintro (h1 | h1 | h1) <;> simp [h1]

theorem set_length (m : SMap) (k v : Bytes) :
    (m.set k v).length = if k ∈ m.map Prod.fst then m.length else m.length + 1 := by
  induction m with
  | nil => simp [SMap.set]
  | cons x r ih =>
    obtain ⟨a, b⟩ := x
    unfold SMap.set
    by_cases h : a = k
    · subst h; simp
    · have h' : ¬ k = a := fun e => h e.symm
      simp only [h, if_false, List.length_cons, ih, List.map_cons, List.mem_cons, h', false_or]
      split <;> rfl

theorem toSMap_keys (l : List (Bytes × Bytes)) (k : Bytes) :
    k ∈ (toSMap l).map Prod.fst ↔ k ∈ l.map Prod.fst := by
  induction l with
  | nil => simp [toSMap]
  | cons x r ih => simp [toSMap, set_keys, ih]

theorem mapEntriesL_keys (l : List (Bytes × Bytes)) (k : Bytes) :
    k ∈ (mapEntriesL l).map Prod.fst ↔ k ∈ l.map Prod.fst := by
  induction l with
  | nil => simp [mapEntriesL]
  | cons x r ih =>
    simp only [mapEntriesL, List.map_cons, List.mem_cons]
    constructor
    · rintro (h | h)
      · exact Or.inl h
      · right
        rw [← ih]
        simp only [List.mem_map, List.mem_filter] at h ⊢
        obtain ⟨y, ⟨hy, _⟩, rfl⟩ := h
        exact ⟨y, hy, rfl⟩
    · rintro (h | h)
      · exact Or.inl h
      · by_cases hk : k = x.1
        · exact Or.inl hk
        · right
          rw [← ih] at h
          simp only [List.mem_map, List.mem_filter] at h ⊢
          obtain ⟨y, hy, rfl⟩ := h
          exact ⟨y, ⟨hy, by simpa using hk⟩, rfl⟩

theorem filter_key_length (m : List (Bytes × Bytes)) (k : Bytes) (h : (m.map Prod.fst).Nodup) :
    (m.filter (fun x => !(x.1 == k))).length + (if k ∈ m.map Prod.fst then 1 else 0) = m.length := by
  induction m with
  | nil => simp
  | cons x r ih =>
    simp only [List.map_cons, List.nodup_cons] at h
    have ih' := ih h.2
    by_cases hx : x.1 = k
    · subst hx
      have hn : ¬ x.1 ∈ r.map Prod.fst := h.1
      have : r.filter (fun y => !(y.1 == x.1)) = r := by
        apply List.filter_eq_self.mpr
        intro y hy
        have : y.1 ≠ x.1 := fun e => hn (e ▸ List.mem_map_of_mem hy)
        simpa using this
      simp [this]
    · have hx' : ¬ k = x.1 := fun e => hx e.symm
      have hf : (x :: r).filter (fun y => !(y.1 == k)) = x :: r.filter (fun y => !(y.1 == k)) := by
        simp [hx]
      have hm : (k ∈ (x :: r).map Prod.fst) = (k ∈ r.map Prod.fst) := by simp [hx']
      simp only [hf, hm, List.length_cons]
      omega

theorem mapLen_toSMap (l : List (Bytes × Bytes)) : mapLen (some l) = ((toSMap l).length : Int) := by
  unfold mapLen mapEntries
  simp only
  congr 1
  induction l with
  | nil => rfl
  | cons x r ih =>
    have hf := filter_key_length (mapEntriesL r) x.1 (mapEntriesL_nodup r)
    simp only [mapEntriesL, List.length_cons, toSMap, set_length, toSMap_keys]
    simp only [mapEntriesL_keys] at hf
    split <;> simp_all <;> omega


/-! ### the `range` loop over the map -/

/-- The `for k, v := range p.Extra` loop, for ANY function `L` that returns `done` on the empty sequence (`hnil`) and
    whose round on `kv :: rest` simulates the model's two string statements followed by the loop on `rest` (`hcons`);
    `F` is whatever the enclosing function does with the loop's outcome. The generated loop function is found by
    unification and `hnil` / `hcons` are proved where the lemma is used, by unfolding it and walking its body. -/
theorem sim_kvLoop {ν : Type} {enc : Directs → Option ν} {out : Bytes → Directs → Int → Bytes × Option ν × Int}
    {pre : Bytes} {n : Nat} {w : Bool} {ds0 : Directs}
    {L : Nat → List (Bytes × Bytes) → Bytes → Option ν → Int →
      GM (LoopR (Bytes × Option ν × Int) (List (Bytes × Bytes) × Bytes × Option ν × Int))}
    {F : LoopR (Bytes × Option ν × Int) (List (Bytes × Bytes) × Bytes × Option ν × Int) → GM (Bytes × Option ν × Int)}
    {Ky : WS × Nat → TOut (WS × Nat)}
    (hnil : ∀ fuel b wv off, L (fuel + 1) [] b wv off = .ok (.done ([], b, wv, off)))
    (hcons : ∀ (fuel : Nat) (kv : Bytes × Bytes) (rest : List (Bytes × Bytes)) (sb : Bytes) (ds : Directs) (o : Nat)
      (oi : Int) (Ky' : WS × Nat → TOut (WS × Nat)), sb.length = n → o ≤ n → (w = false → ds = ds0) → oi = (o : Int) →
      (∀ (sb' : Bytes) (ds' : Directs) (o' : Nat) (oi' : Int), sb'.length = n → o' ≤ n → (w = false → ds' = ds0) →
        oi' = (o' : Int) → WSim out pre n w ds0 ((L fuel rest (pre ++ sb') (enc ds') oi').bind F) (Ky' (⟨sb', ds'⟩, o'))) →
      WSim out pre n w ds0 ((L (fuel + 1) (kv :: rest) (pre ++ sb) (enc ds) oi).bind F)
        ((stStr Facts.nocopyWriteThreshold w kv.1 (⟨sb, ds⟩, o)).bind fun s1 =>
          (stStr Facts.nocopyWriteThreshold w kv.2 s1).bind Ky')) :
    ∀ (it : List (Bytes × Bytes)) (fuel : Nat) (sb : Bytes) (ds : Directs) (o : Nat) (oi : Int),
      it.length < fuel → sb.length = n → o ≤ n → (w = false → ds = ds0) → oi = (o : Int) →
      (∀ (sb' : Bytes) (ds' : Directs) (o' : Nat) (oi' : Int), sb'.length = n → o' ≤ n →
        (w = false → ds' = ds0) → oi' = (o' : Int) →
        WSim out pre n w ds0 (F (.done ([], pre ++ sb', enc ds', oi'))) (Ky (⟨sb', ds'⟩, o'))) →
      WSim out pre n w ds0 ((L fuel it (pre ++ sb) (enc ds) oi).bind F)
        ((wAll (stKVs Facts.nocopyWriteThreshold w it) (⟨sb, ds⟩, o)).bind Ky) := by
  intro it
  induction it with
  | nil =>
    intro fuel sb ds o oi hf hsb ho hds hoi hK
    obtain ⟨fuel, rfl⟩ : ∃ k, fuel = k + 1 := ⟨fuel - 1, by simp at hf; omega⟩
    rw [hnil]
    exact hK sb ds o oi hsb ho hds hoi
  | cons kv rest ih =>
    intro fuel sb ds o oi hf hsb ho hds hoi hK
    obtain ⟨fuel, rfl⟩ : ∃ k, fuel = k + 1 := ⟨fuel - 1, by simp at hf; omega⟩
    have hs : stKVs Facts.nocopyWriteThreshold w (kv :: rest) =
        stStr Facts.nocopyWriteThreshold w kv.1 :: stStr Facts.nocopyWriteThreshold w kv.2 ::
          stKVs Facts.nocopyWriteThreshold w rest := by
      simp [stKVs]
    rw [hs, wAll_cons, Out.bind_assoc]
    have hw2 : (fun s1 => (wAll (stStr Facts.nocopyWriteThreshold w kv.2 ::
        stKVs Facts.nocopyWriteThreshold w rest) s1).bind Ky) =
        fun s1 => (stStr Facts.nocopyWriteThreshold w kv.2 s1).bind fun s2 =>
          (wAll (stKVs Facts.nocopyWriteThreshold w rest) s2).bind Ky := by
      funext s1; rw [wAll_cons, Out.bind_assoc]
    rw [hw2]
    refine hcons fuel kv rest sb ds o oi _ hsb ho hds hoi ?_
    intro sb' ds' o' oi' hsb' ho' hds' hoi'
    exact ih fuel sb' ds' o' oi' (by simp at hf; omega) hsb' ho' hds' hoi' hK

/-! ### walking a generated writer -/

theorem stHdr_base0 : stHdr Facts.fastWriteHeadersBase 0 = stFieldBegin 11 1 := rfl
theorem stHdr_base1 : stHdr Facts.fastWriteHeadersBase 1 = stFieldBegin 11 2 := rfl
theorem stHdr_base2 : stHdr Facts.fastWriteHeadersBase 2 = stFieldBegin 11 3 := rfl
theorem stHdr_base3 : stHdr Facts.fastWriteHeadersBase 3 = stFieldBegin 13 6 := rfl
theorem stHdr_resp0 : stHdr Facts.fastWriteHeadersBaseResp 0 = stFieldBegin 11 1 := rfl
theorem stHdr_resp1 : stHdr Facts.fastWriteHeadersBaseResp 1 = stFieldBegin 8 2 := rfl
theorem stHdr_resp2 : stHdr Facts.fastWriteHeadersBaseResp 2 = stFieldBegin 13 3 := rfl

theorem be32_mapLen (l : List (Bytes × Bytes)) :
    be32 (toSMap l).length = be32 (ofInt 32 (wrap .u32 (mapLen (some l)))) := by
  rw [mapLen_toSMap, ofInt_wrap 32 .u32 _ (by decide), be32_ofInt_nat]

macro_rules | `(tactic| fw_val) => `(tactic| exact be32_mapLen _)

/-- at the start of a struct writer also the `derefP` of the receiver and the guards on nil-ness, decided from the
    constructors that the case split has put in their place, whichever way round they are written -/
macro "fw_start" : tactic =>
  `(tactic| (try (rsimp [derefP, Option.isNone_none, Option.isNone_some, reduceCtorEq]); fw_norm))

set_option hygiene false in
macro_rules | `(tactic| fw_step) => `(tactic| (
  refine sim_wsn hn H hsb hds ?_ ?_
  · off_tac
  clear hsb hds; (try clear hbd); intro sb ds k hsb hbd hds hoff; (try rw [hoff]); clear hoff; fw_norm))

/-! # (*Base).FastWriteNocopy / FastWrite / BLength -/

/-- the receiver: `none` = the nil pointer -/
def toBaseO (p : Option Funcs.S_base_Base) : Option Base := p.map toBase
def toBaseRespO (p : Option Funcs.S_base_BaseResp) : Option BaseResp := p.map toBaseResp

-- the step lemmas are selected by unification with the head primitive of the goal: a mismatch must fail at once and not
-- by unfolding both primitives
attribute [local irreducible] vset vfrom vputU16 vputU32 putByte put16 put32 writeStringNocopy
  Funcs.Binary_WriteStringNocopy

set_option hygiene false in
/-- the loop's round (`hcons` of `sim_kvLoop`): unfold whichever generated loop function it is and walk its body -/
macro "fw_loop_round" : tactic => `(tactic| (
  intro fuel kv rest sb ds o oi Ky' hsb hbd hds hoi hrec
  subst hoi
  simp only [Funcs.Base_FastWriteNocopy_loop1, Funcs.BaseResp_FastWriteNocopy_loop1]
  fw_start
  fw_step
  fw_step
  refine hrec _ _ _ _ hsb (by omega) hds (by off_tac)))

set_option hygiene false in
/-- the `range` loop of the generated writer, then what follows it -/
macro "fw_loop" : tactic => `(tactic| (
  refine sim_kvLoop (by intros; rfl) (by clear hsb hds; (try clear hbd); fw_loop_round) _ _ _ _ _ _ hfuel hsb
    (by omega) hds (by off_tac) ?_
  clear hsb hds; (try clear hbd)
  intro sb ds o oi hsb hbd hds hoff
  subst hoff
  fw_norm))

section
-- … and a step lemma that does not apply must not be tried again with `bind` unfolded
attribute [local irreducible] Out.bind

theorem Base_FastWriteNocopy_sim {ν : Type} (J : NocopyI ν) (enc : Directs → Option ν) (w : Bool) (H : NCOK J w enc)
    (fuel : Nat) (it : List (Bytes × Bytes)) (p : Option Funcs.S_base_Base) (pre sb : Bytes) (hfuel : it.length < fuel)
    (hlen : (pre ++ sb).length < 2 ^ 62) :
    WSim (fun B ds k => (B, enc ds, k)) pre sb.length w []
      (Funcs.Base_FastWriteNocopy J fuel it p (pre ++ sb) ((pre.length + 0 : Nat) : Int) (enc []))
      (fastWriteNocopyBase Facts.nocopyWriteThreshold w (toBaseO p) it sb) := by
  have hn : pre.length + sb.length < 2 ^ 62 := by simpa using hlen
  have hds : w = false → ([] : Directs) = [] := fun _ => rfl
  clear hlen
  generalize hsb : sb.length = n at hn ⊢
  unfold Funcs.Base_FastWriteNocopy
  cases p with
  | none =>
    simp only [toBaseO, Option.map_none, fastWriteNocopyBase]
    fw_start
    repeat fw_step
  | some p =>
    obtain ⟨logID, caller, addr, extra⟩ := p
    simp only [toBaseO, Option.map_some, toBase, fastWriteNocopyBase, stHdr_base0, stHdr_base1, stHdr_base2]
    fw_start
    repeat fw_step
    -- the three strings are written; what follows depends on `p.Extra`
    cases extra with
    | none =>
      simp only [Option.map_none, stExtraH]
      fw_start
      repeat fw_step
    | some l =>
      simp only [Option.map_some, stExtraH, stHdr_base3]
      fw_start
      repeat fw_step
      fw_loop
      repeat fw_step

end

theorem bind_wAll_nil (x : TOut (WS × Nat)) : x.bind (wAll []) = x := by
  cases x <;> rfl

theorem WSim.lift {pre : Bytes} {n : Nat} {w : Bool} {ds0 : Directs} {x : GM (Bytes × Option Directs × Int)}
    {y : TOut (WS × Nat)} (h : WSim (fun B ds k => (B, wOpt w ds, k)) pre n w ds0 x y) :
    liftWN ds0 x = y.bind fun r => .ok (⟨pre ++ r.1.buf, r.1.ds⟩, r.2) := by
  cases y with
  | ok r =>
    obtain ⟨_, _, hds, rfl⟩ := h
    simp only [liftWN, Out.bind_ok, wOpt_getD w r.1.ds ds0 hds, Int.toNat_natCast]
  | panic s => subst h; rfl
  | err te => exact h.elim
  | oob => exact h.elim


/-- (*Base).FastWriteNocopy(b[off:], w) on the view `(pre ++ sb, pre.length)` IS the model `fastWriteNocopyBase` on
    `sb`, for every sequence `it` the `range` over `p.Extra` visits, a nil or non-nil receiver, a nil (`w = false`) or a
    recording (`w = true`) no-copy writer: same stores behind `pre`, same direct writes, same length, same panic -/
theorem Base_FastWriteNocopy_view (e : Directs → Bytes → Int → GoErr) (w : Bool) (fuel : Nat)
    (it : List (Bytes × Bytes)) (p : Option Funcs.S_base_Base) (pre sb : Bytes) (hfuel : it.length < fuel)
    (hlen : (pre ++ sb).length < 2 ^ 62) :
    liftWN [] (Funcs.Base_FastWriteNocopy (recJ e) fuel it p (pre ++ sb) (pre.length : Int) (wOpt w [])) =
      (fastWriteNocopyBase Facts.nocopyWriteThreshold w (toBaseO p) it sb).bind fun r =>
        .ok (⟨pre ++ r.1.buf, r.1.ds⟩, r.2) :=
  (Base_FastWriteNocopy_sim (recJ e) (wOpt w) w (recJ_ok e w) fuel it p pre sb hfuel hlen).lift

/-- `p.FastWriteNocopy(b, w)` translated from the Go source IS the model `fastWriteNocopyBase … p it b` -/
theorem Base_FastWriteNocopy_eq (e : Directs → Bytes → Int → GoErr) (w : Bool) (fuel : Nat)
    (it : List (Bytes × Bytes)) (p : Option Funcs.S_base_Base) (b : Bytes) (hfuel : it.length < fuel)
    (hlen : b.length < 2 ^ 62) :
    liftWN [] (Funcs.Base_FastWriteNocopy (recJ e) fuel it p b 0 (wOpt w [])) =
      fastWriteNocopyBase Facts.nocopyWriteThreshold w (toBaseO p) it b := by
  have h := Base_FastWriteNocopy_view e w fuel it p [] b hfuel (by simpa using hlen)
  rw [bind_id_ws] at h
  exact h

/-- outcome of a struct writer without a no-copy writer `(b', n)` from the simulation with the literal nil writer -/
theorem WSim.liftNil {pre : Bytes} {n : Nat} {x : GM (Bytes × Option Unit × Int)} {y : TOut (WS × Nat)}
    (h : WSim (fun B _ k => (B, (none : Option Unit), k)) pre n false [] x y) :
    liftWS (x.bind fun t => .ok (t.1, t.2.2)) = y.bind fun r => .ok (⟨pre ++ r.1.buf, r.1.ds⟩, r.2) := by
  cases y with
  | ok r =>
    obtain ⟨_, _, hds, rfl⟩ := h
    obtain ⟨⟨rb, rds⟩, rn⟩ := r
    have : rds = [] := hds rfl
    subst this
    simp only [liftWS, Out.bind_ok, Int.toNat_natCast]
  | panic s => subst h; rfl
  | err te => exact h.elim
  | oob => exact h.elim

/-- (*Base).FastWrite(b[off:]) on the view: `FastWriteNocopy(b, nil)` -/
theorem Base_FastWrite_view (fuel : Nat) (it : List (Bytes × Bytes)) (p : Option Funcs.S_base_Base) (pre sb : Bytes)
    (hfuel : it.length < fuel) (hlen : (pre ++ sb).length < 2 ^ 62) :
    liftWS (Funcs.Base_FastWrite fuel it p (pre ++ sb) (pre.length : Int)) =
      (fastWriteBase Facts.nocopyWriteThreshold (toBaseO p) it sb).bind fun r =>
        .ok (⟨pre ++ r.1.buf, r.1.ds⟩, r.2) := by
  unfold Funcs.Base_FastWrite
  simp only [Out.bind_eq, Out.pure_eq]
  exact (Base_FastWriteNocopy_sim nilNocopy (fun _ => none) false nilNocopy_ok fuel it p pre sb hfuel hlen).liftNil

/-- `p.FastWrite(b)` translated from the Go source IS the model `fastWriteBase … p it b` -/
theorem Base_FastWrite_eq (fuel : Nat) (it : List (Bytes × Bytes)) (p : Option Funcs.S_base_Base) (b : Bytes)
    (hfuel : it.length < fuel) (hlen : b.length < 2 ^ 62) :
    liftWS (Funcs.Base_FastWrite fuel it p b 0) = fastWriteBase Facts.nocopyWriteThreshold (toBaseO p) it b := by
  have h := Base_FastWrite_view fuel it p [] b hfuel (by simpa using hlen)
  rw [bind_id_ws] at h
  exact h

/-! # (*BaseResp).FastWriteNocopy / FastWrite -/

section
attribute [local irreducible] Out.bind

theorem BaseResp_FastWriteNocopy_sim {ν : Type} (J : NocopyI ν) (enc : Directs → Option ν) (w : Bool)
    (H : NCOK J w enc) (fuel : Nat) (it : List (Bytes × Bytes)) (p : Option Funcs.S_base_BaseResp) (pre sb : Bytes)
    (hfuel : it.length < fuel) (hlen : (pre ++ sb).length < 2 ^ 62) :
    WSim (fun B ds k => (B, enc ds, k)) pre sb.length w []
      (Funcs.BaseResp_FastWriteNocopy J fuel it p (pre ++ sb) ((pre.length + 0 : Nat) : Int) (enc []))
      (fastWriteNocopyBaseResp Facts.nocopyWriteThreshold w (toBaseRespO p) it sb) := by
  have hn : pre.length + sb.length < 2 ^ 62 := by simpa using hlen
  have hds : w = false → ([] : Directs) = [] := fun _ => rfl
  clear hlen
  generalize hsb : sb.length = n at hn ⊢
  unfold Funcs.BaseResp_FastWriteNocopy
  cases p with
  | none =>
    simp only [toBaseRespO, Option.map_none, fastWriteNocopyBaseResp]
    fw_start
    repeat fw_step
  | some p =>
    obtain ⟨msg, code, extra⟩ := p
    simp only [toBaseRespO, Option.map_some, toBaseResp, fastWriteNocopyBaseResp, stHdr_resp0, stHdr_resp1]
    fw_start
    repeat fw_step
    cases extra with
    | none =>
      simp only [Option.map_none, stExtraH]
      fw_start
      repeat fw_step
    | some l =>
      simp only [Option.map_some, stExtraH, stHdr_resp2]
      fw_start
      repeat fw_step
      fw_loop
      repeat fw_step

end

/-- (*BaseResp).FastWriteNocopy(b[off:], w) on the view `(pre ++ sb, pre.length)` IS the model on `sb` -/
theorem BaseResp_FastWriteNocopy_view (e : Directs → Bytes → Int → GoErr) (w : Bool) (fuel : Nat)
    (it : List (Bytes × Bytes)) (p : Option Funcs.S_base_BaseResp) (pre sb : Bytes) (hfuel : it.length < fuel)
    (hlen : (pre ++ sb).length < 2 ^ 62) :
    liftWN [] (Funcs.BaseResp_FastWriteNocopy (recJ e) fuel it p (pre ++ sb) (pre.length : Int) (wOpt w [])) =
      (fastWriteNocopyBaseResp Facts.nocopyWriteThreshold w (toBaseRespO p) it sb).bind fun r =>
        .ok (⟨pre ++ r.1.buf, r.1.ds⟩, r.2) :=
  (BaseResp_FastWriteNocopy_sim (recJ e) (wOpt w) w (recJ_ok e w) fuel it p pre sb hfuel hlen).lift

/-- `p.FastWriteNocopy(b, w)` translated from the Go source IS the model `fastWriteNocopyBaseResp … p it b` -/
theorem BaseResp_FastWriteNocopy_eq (e : Directs → Bytes → Int → GoErr) (w : Bool) (fuel : Nat)
    (it : List (Bytes × Bytes)) (p : Option Funcs.S_base_BaseResp) (b : Bytes) (hfuel : it.length < fuel)
    (hlen : b.length < 2 ^ 62) :
    liftWN [] (Funcs.BaseResp_FastWriteNocopy (recJ e) fuel it p b 0 (wOpt w [])) =
      fastWriteNocopyBaseResp Facts.nocopyWriteThreshold w (toBaseRespO p) it b := by
  have h := BaseResp_FastWriteNocopy_view e w fuel it p [] b hfuel (by simpa using hlen)
  rw [bind_id_ws] at h
  exact h

theorem BaseResp_FastWrite_view (fuel : Nat) (it : List (Bytes × Bytes)) (p : Option Funcs.S_base_BaseResp)
    (pre sb : Bytes) (hfuel : it.length < fuel) (hlen : (pre ++ sb).length < 2 ^ 62) :
    liftWS (Funcs.BaseResp_FastWrite fuel it p (pre ++ sb) (pre.length : Int)) =
      (fastWriteBaseResp Facts.nocopyWriteThreshold (toBaseRespO p) it sb).bind fun r =>
        .ok (⟨pre ++ r.1.buf, r.1.ds⟩, r.2) := by
  unfold Funcs.BaseResp_FastWrite
  simp only [Out.bind_eq, Out.pure_eq]
  exact (BaseResp_FastWriteNocopy_sim nilNocopy (fun _ => none) false nilNocopy_ok fuel it p pre sb hfuel
    hlen).liftNil

/-- `p.FastWrite(b)` translated from the Go source IS the model `fastWriteBaseResp … p it b` -/
theorem BaseResp_FastWrite_eq (fuel : Nat) (it : List (Bytes × Bytes)) (p : Option Funcs.S_base_BaseResp) (b : Bytes)
    (hfuel : it.length < fuel) (hlen : b.length < 2 ^ 62) :
    liftWS (Funcs.BaseResp_FastWrite fuel it p b 0) =
      fastWriteBaseResp Facts.nocopyWriteThreshold (toBaseRespO p) it b := by
  have h := BaseResp_FastWrite_view fuel it p [] b hfuel (by simpa using hlen)
  rw [bind_id_ws] at h
  exact h

/-! # BLength -/

theorem blenKVs_ge (it : SMap) (off : Nat) : off ≤ blenKVs it off := by
  induction it generalizing off with
  | nil => exact Nat.le_refl _
  | cons kv r ih =>
    obtain ⟨k, v⟩ := kv
    have := ih (off + (4 + k.length) + (4 + v.length))
    simp only [blenKVs]; omega

/-- what the entries add to a length, whatever it was before -/
def kvSum (it : SMap) : Nat := blenKVs it 0

theorem blenKVs_shift (it : SMap) (off : Nat) : blenKVs it off = off + kvSum it := by
  unfold kvSum
  induction it generalizing off with
  | nil => simp [blenKVs]
  | cons kv r ih =>
    obtain ⟨k, v⟩ := kv
    simp only [blenKVs]
    rw [ih (off + (4 + k.length) + (4 + v.length)), ih (0 + (4 + k.length) + (4 + v.length))]
    omega

/-- The BLength loop, for ANY function `L` that is done on the empty sequence and whose round on `kv :: rest` adds the two
    string lengths (`h1`, stated on natural numbers: however the generated code parenthesises or orders the sum), started
    at ANY length `oi` (whatever the enclosing function has counted so far, in whatever order); `F` is what the enclosing
    function does with the loop's outcome. `L` and `oi` are found by unification, `h0` / `h1` are proved at the use site by
    unfolding the generated loop function. -/
theorem blen_loop_bind {ρ : Type}
    {L : Nat → List (Bytes × Bytes) → Int → GM (LoopR Int (List (Bytes × Bytes) × Int))}
    {F : LoopR Int (List (Bytes × Bytes) × Int) → GM ρ} {R : GM ρ}
    (h0 : ∀ fuel off, L (fuel + 1) [] off = .ok (.done ([], off)))
    (h1 : ∀ fuel (kv : Bytes × Bytes) rest (off : Nat), off + (4 + kv.1.length) + (4 + kv.2.length) < 2 ^ 62 →
      L (fuel + 1) (kv :: rest) (off : Int) = L fuel rest ((off + (4 + kv.1.length) + (4 + kv.2.length) : Nat) : Int))
    (it : List (Bytes × Bytes)) (fuel : Nat) (oi : Int) (hf : it.length < fuel) (h0i : 0 ≤ oi)
    (hb : oi + (kvSum it : Int) < 2 ^ 62)
    (hF : F (.done ([], oi + (kvSum it : Int))) = R) :
    (L fuel it oi).bind F = R := by
  obtain ⟨off, rfl⟩ : ∃ off : Nat, oi = (off : Int) := ⟨oi.toNat, by omega⟩
  have key : ∀ (it : List (Bytes × Bytes)) (fuel off : Nat), it.length < fuel → blenKVs it off < 2 ^ 62 →
      L fuel it (off : Int) = .ok (.done ([], ((blenKVs it off : Nat) : Int))) := by
    intro it
    induction it with
    | nil =>
      intro fuel off hf _
      obtain ⟨fuel, rfl⟩ : ∃ k, fuel = k + 1 := ⟨fuel - 1, by simp at hf; omega⟩
      rw [h0]; rfl
    | cons kv rest ih =>
      intro fuel off hf hb
      obtain ⟨fuel, rfl⟩ : ∃ k, fuel = k + 1 := ⟨fuel - 1, by simp at hf; omega⟩
      obtain ⟨k, v⟩ := kv
      have hge := blenKVs_ge rest (off + (4 + k.length) + (4 + v.length))
      simp only [blenKVs] at hb ⊢
      rw [h1 _ _ _ _ (by simp only; omega), ih fuel _ (by simp at hf; omega) hb]
  rw [key it fuel off hf (by rw [blenKVs_shift]; omega), Out.bind_ok, blenKVs_shift, Int.natCast_add, hF]

/-- the round of the generated BLength loops: unfold whichever it is; the sum in `int` is the sum in `Nat` -/
macro "blen_round" : tactic => `(tactic| (
  intro fuel kv rest off hb
  simp only [Funcs.Base_BLength_loop1, Funcs.BaseResp_BLength_loop1, len]
  (try (simp (disch := omega) only [wrap_i64_of_range]))
  first | done | rfl | (congr 1; omega)))

/-- a generated BLength, the receiver and `p.Extra` being known to be nil or not: the guards are decided, then the
    `int` additions are the additions in `Nat`. The sums stay below the bound `hb` of the context, which is stated with
    the constants added up: `omega` is many times slower on two long sums than on a long and a short one. -/
macro "blen_arith" : tactic => `(tactic| (
  rsimp [derefP, Option.isNone_none, Option.isNone_some, reduceCtorEq, len]
  (try (simp (disch := omega) only [wrap_i64_of_range]))))

/-- `p.BLength()` translated from the Go source IS the model `bLengthBase p it`, for every visited sequence `it`
    (as long as the sum fits a Go `int` with room to spare) -/
theorem Base_BLength_eq (fuel : Nat) (it : List (Bytes × Bytes)) (p : Option Funcs.S_base_Base)
    (hfuel : it.length < fuel) (hb : bLengthBase (toBaseO p) it < 2 ^ 62) :
    Funcs.Base_BLength fuel it p = .ok ((bLengthBase (toBaseO p) it : Nat) : Int) := by
  unfold Funcs.Base_BLength
  cases p with
  | none =>
    simp only [toBaseO, Option.map_none, bLengthBase]
    blen_arith
    rfl
  | some p =>
    obtain ⟨logID, caller, addr, extra⟩ := p
    cases extra with
    | none =>
      simp only [toBaseO, Option.map_some, bLengthBase, toBase, blenExtra, Option.map_none] at hb ⊢
      replace hb : logID.length + caller.length + addr.length + 22 < 2 ^ 62 := by omega
      blen_arith
      congr 1 <;> omega
    | some l =>
      simp only [toBaseO, Option.map_some, bLengthBase, toBase, blenExtra, Nat.zero_add, blenKVs_shift] at hb ⊢
      replace hb : logID.length + caller.length + addr.length + kvSum it + 31 < 2 ^ 62 := by omega
      blen_arith
      refine blen_loop_bind (by intros; rfl) (by blen_round) it fuel _ hfuel (by omega) (by omega) ?_
      blen_arith
      congr 1 <;> omega

/-- `p.BLength()` of a `*BaseResp` IS the model `bLengthBaseResp p it` -/
theorem BaseResp_BLength_eq (fuel : Nat) (it : List (Bytes × Bytes)) (p : Option Funcs.S_base_BaseResp)
    (hfuel : it.length < fuel) (hb : bLengthBaseResp (toBaseRespO p) it < 2 ^ 62) :
    Funcs.BaseResp_BLength fuel it p = .ok ((bLengthBaseResp (toBaseRespO p) it : Nat) : Int) := by
  unfold Funcs.BaseResp_BLength
  cases p with
  | none =>
    simp only [toBaseRespO, Option.map_none, bLengthBaseResp]
    blen_arith
    rfl
  | some p =>
    obtain ⟨msg, code, extra⟩ := p
    cases extra with
    | none =>
      simp only [toBaseRespO, Option.map_some, bLengthBaseResp, toBaseResp, blenExtra, Option.map_none] at hb ⊢
      replace hb : msg.length + 15 < 2 ^ 62 := by omega
      blen_arith
      congr 1 <;> omega
    | some l =>
      simp only [toBaseRespO, Option.map_some, bLengthBaseResp, toBaseResp, blenExtra, Nat.zero_add,
        blenKVs_shift] at hb ⊢
      replace hb : msg.length + kvSum it + 24 < 2 ^ 62 := by omega
      blen_arith
      refine blen_loop_bind (by intros; rfl) (by blen_round) it fuel _ hfuel (by omega) (by omega) ?_
      blen_arith
      congr 1 <;> omega

/-! ## the generated functions compute (non-vacuity) -/

/-- a `Base` with a 2-entry `Extra`, written with the entries visited in either order (no no-copy writer) -/
example : Funcs.Base_FastWrite 5 [([107], [118]), ([75], [86, 86])]
    (some ⟨[65], [], [66, 67], some [([75], [86, 86]), ([107], [118])]⟩) (List.replicate 59 9) 0 =
    .ok ([11, 0, 1, 0, 0, 0, 1, 65,  11, 0, 2, 0, 0, 0, 0,  11, 0, 3, 0, 0, 0, 2, 66, 67,
          13, 0, 6, 11, 11, 0, 0, 0, 2,  0, 0, 0, 1, 107, 0, 0, 0, 1, 118,  0, 0, 0, 1, 75, 0, 0, 0, 2, 86, 86,  0,
          9, 9, 9, 9], 55) := by decide +kernel
example : Funcs.Base_FastWrite 5 [([75], [86, 86]), ([107], [118])]
    (some ⟨[65], [], [66, 67], some [([75], [86, 86]), ([107], [118])]⟩) (List.replicate 59 9) 0 =
    .ok ([11, 0, 1, 0, 0, 0, 1, 65,  11, 0, 2, 0, 0, 0, 0,  11, 0, 3, 0, 0, 0, 2, 66, 67,
          13, 0, 6, 11, 11, 0, 0, 0, 2,  0, 0, 0, 1, 75, 0, 0, 0, 2, 86, 86,  0, 0, 0, 1, 107, 0, 0, 0, 1, 118,  0,
          9, 9, 9, 9], 55) := by decide +kernel
-- the same through the model
example : (fastWriteBase Facts.nocopyWriteThreshold (some ⟨[65], [], [66, 67], some [([75], [86, 86]), ([107], [118])]⟩)
    [([107], [118]), ([75], [86, 86])] (List.replicate 59 9)).bind (fun r => .ok (r.1.buf.take 55, r.1.ds, r.2)) =
    .ok ([11, 0, 1, 0, 0, 0, 1, 65,  11, 0, 2, 0, 0, 0, 0,  11, 0, 3, 0, 0, 0, 2, 66, 67,
          13, 0, 6, 11, 11, 0, 0, 0, 2,  0, 0, 0, 1, 107, 0, 0, 0, 1, 118,  0, 0, 0, 1, 75, 0, 0, 0, 2, 86, 86,  0], [], 55) := by
  decide +kernel
example : Funcs.Base_BLength 5 [([107], [118]), ([75], [86, 86])]
    (some ⟨[65], [], [66, 67], some [([75], [86, 86]), ([107], [118])]⟩) = .ok 55 := by decide +kernel
-- a key stored twice in the association list counts once (`len(p.Extra)` = 1 in the map header)
example : Funcs.Base_FastWrite 5 [([75], [1])] (some ⟨[], [], [], some [([75], [1]), ([75], [2])]⟩)
    (List.replicate 41 9) 0 =
    .ok ([11, 0, 1, 0, 0, 0, 0,  11, 0, 2, 0, 0, 0, 0,  11, 0, 3, 0, 0, 0, 0,
          13, 0, 6, 11, 11, 0, 0, 0, 1,  0, 0, 0, 1, 75, 0, 0, 0, 1, 1,  0], 41) := by decide +kernel
-- a nil receiver: the empty struct
example : Funcs.Base_FastWrite 1 [] none [9, 9] 1 = .ok ([9, 0], 1) := by decide +kernel
example : Funcs.Base_BLength 1 [] none = .ok 1 := by decide +kernel
example : Funcs.BaseResp_FastWriteNocopy nilNocopy 1 [] none [9] 0 none = .ok ([0], none, 1) := by decide +kernel
-- a buffer that is too short: the index panic of the first store that does not fit
example : Funcs.Base_FastWrite 5 [] (some ⟨[65], [], [], none⟩) (List.replicate 21 9) 0 = .panic "index" := by
  decide +kernel
example : (fastWriteBase Facts.nocopyWriteThreshold (some ⟨[65], [], [], none⟩) [] (List.replicate 21 9)).bind
    (fun r => .ok r.2) = .panic "index" := by decide +kernel
-- the loop runs out of fuel (an artefact of the translation, excluded by `it.length < fuel`)
example : Funcs.Base_BLength 1 [([107], [118])] (some ⟨[], [], [], some [([107], [118])]⟩) = .panic "nofuel" := by
  decide +kernel
-- BaseResp with a status code, a real no-copy writer and a short string: everything inline, nothing recorded
example : Funcs.BaseResp_FastWriteNocopy (recJ fun _ _ _ => .named "ignored") 3 [([75], [86])]
    (some ⟨[79, 75], -2, some [([75], [86])]⟩) (List.replicate 36 9) 0 (some []) =
    .ok ([11, 0, 1, 0, 0, 0, 2, 79, 75,  8, 0, 2, 255, 255, 255, 254,
          13, 0, 3, 11, 11, 0, 0, 0, 1,  0, 0, 0, 1, 75, 0, 0, 0, 1, 86,  0], some [], 36) := by decide +kernel
-- WriteStringNocopy at the threshold: 4096 bytes go to the writer with remainCap = len(buf[4:]), 4095 are copied
example : (Funcs.Binary_WriteStringNocopy (recJ fun _ _ _ => .named "ignored") (List.replicate 10 9) 2 (some [])
    (List.replicate 4096 7)).bind (fun r => .ok (r.1, r.2.1.map (fun ds => ds.map (fun d => (d.1.length, d.2))), r.2.2)) =
    .ok ([9, 9, 0, 0, 16, 0, 9, 9, 9, 9], some [(4096, 4)], 4) := by decide +kernel
example : (Funcs.Binary_WriteBinaryNocopy (recJ fun _ _ _ => .nil) (List.replicate 10 9) 2 (some [])
    (List.replicate 4095 7)).bind (fun r => .ok (r.1, r.2.1, r.2.2)) =
    .ok ([9, 9, 0, 0, 15, 255, 7, 7, 7, 7], some [], 8) := by decide +kernel
-- a nil writer that the code would have to call cannot happen (w == nil takes the copying branch)
example : (Funcs.Binary_WriteStringNocopy nilNocopy (List.replicate 6 9) 0 none (List.replicate 4096 7)).bind
    (fun r => .ok (r.1, r.2.2)) = .ok ([0, 0, 16, 0, 7, 7], 6) := by decide +kernel

end Verif.FuncsEq
