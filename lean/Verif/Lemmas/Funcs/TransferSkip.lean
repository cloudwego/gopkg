/-
  Lemmas/Funcs/TransferSkip: helper lemmas for Props/Translated (undoing the result lifts); split per group so that a
  property's check only depends on the translated functions it is about.
-/
import Verif.Lemmas.Funcs.Skip
namespace Verif.FuncsEq
open Verif Verif.GoSem

/-- the canonical error `.pe k` with a non-zero type id is the image of exactly the Go values
    `NewProtocolException(k, _)`: `nil` and foreign error values go to `.pe 0` -/
theorem absErr_pe_inv {e : GoErr} {k : Int} (h : absErr e = .pe k) (hk : k ≠ 0) : ∃ msg, e = .pe k msg := by
  cases e with
  | nil => simp [absErr] at h; exact absurd h.symm hk
  | pe id msg => simp [absErr] at h; exact ⟨msg, by rw [h]⟩
  | named n => simp [absErr] at h; exact absurd h.symm hk

/-! ## `liftSkip` -/

theorem liftSkip_ok_inv {x : GM (Int × GoErr)} {n : Nat} (h : liftSkip x = .ok n) :
    ∃ m : Int, x = .ok (m, GoErr.nil) ∧ m.toNat = n := by
  cases x with
  | ok r =>
    obtain ⟨m, g⟩ := r
    by_cases hg : g = GoErr.nil
    · subst hg; simp [liftSkip] at h; exact ⟨m, rfl, h⟩
    · simp [liftSkip, hg] at h
  | err e => exact nomatch e
  | panic s => simp [liftSkip] at h
  | oob => simp [liftSkip] at h

theorem liftSkip_err_inv {x : GM (Int × GoErr)} {e : TErr} (h : liftSkip x = .err e) :
    ∃ (m : Int) (g : GoErr), x = .ok (m, g) ∧ g ≠ GoErr.nil ∧ absErr g = e := by
  cases x with
  | ok r =>
    obtain ⟨m, g⟩ := r
    by_cases hg : g = GoErr.nil
    · subst hg; simp [liftSkip] at h
    · simp [liftSkip, hg] at h; exact ⟨m, g, rfl, hg, h⟩
  | err e => exact nomatch e
  | panic s => simp [liftSkip] at h
  | oob => simp [liftSkip] at h

/-- a lifted outcome that is neither a panic nor `oob` comes from a translated function that returned normally -/
theorem liftSkip_returns {x : GM (Int × GoErr)} (h : (liftSkip x).Safe) : ∃ r, x = .ok r := by
  cases x with
  | ok r => exact ⟨r, rfl⟩
  | err e => exact nomatch e
  | panic s => exact absurd rfl (h.1 s)
  | oob => exact absurd rfl h.2

end Verif.FuncsEq
