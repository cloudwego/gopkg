/-
  Lemmas/Funcs/Append: the 16 appending writers (`Binary.Append*`, `appendUint32/64`) and the 16 length functions of
  protocol/thrift/binary.go, as TRANSLATED from the Go source (`Verif.Funcs.*`), are the hand-written model functions
  `Wire.a*` / `Wire.length` / `Wire.lenMessageBegin`.  None of these functions can panic or return an error: every
  statement is an exact `Out.ok …`.

  Argument images: a `TType` byte `t : UInt8` of the model is the Go `int8` value `toI8 t.toNat`; a `uint32`/`uint64`/
  `float64`-bit-pattern argument `n : Nat` is `(n : Int)`; Go signed integers are arbitrary `Int`s. The only hypotheses
  are the `len < 2^62` of the length functions over a byte string.
-/
import Verif.Lemmas.Funcs.Write
namespace Verif.FuncsEq
open Verif Verif.GoSem

/-! ## `wrap`, `shr` as plain `%` and `/` (what `omega` understands); `byteOf x` is determined by `x mod 256` -/

@[byte_simp] theorem wrap_u8_emod (x : Int) : wrap .u8 x = x % 256 := rfl
@[byte_simp] theorem wrap_u16_emod (x : Int) : wrap .u16 x = x % 65536 := rfl
@[byte_simp] theorem wrap_u32_emod (x : Int) : wrap .u32 x = x % 4294967296 := rfl
theorem wrap_u64_emod (x : Int) : wrap .u64 x = x % 18446744073709551616 := rfl

@[byte_simp] theorem ofInt8_cast (x : Int) : ((ofInt 8 x : Nat) : Int) = x % 256 := (toU_ofInt 8 x).symm
@[byte_simp] theorem ofInt16_cast (x : Int) : ((ofInt 16 x : Nat) : Int) = x % 65536 := (toU_ofInt 16 x).symm
theorem ofInt64_cast (x : Int) : ((ofInt 64 x : Nat) : Int) = x % 18446744073709551616 := (toU_ofInt 64 x).symm

@[byte_simp] theorem byteOf_eq_iff (x : Int) (t : UInt8) : byteOf x = t ↔ x % 256 = (t.toNat : Int) := by
  have ht := t.toNat_lt
  have hx := ofInt_lt 8 x
  rw [byteOf_eq, ← UInt8.toNat_inj, UInt8.toNat_ofNat', ← ofInt8_cast]
  omega

/-- `x` and `ofInt 32 x` have the same low 32 bits -/
theorem wrap_i32_ofInt (x : Int) : wrap .i32 x = toI32 (ofInt 32 x) := by
  rw [← wrap_i32_nat _ (ofInt_lt 32 x), ← toU_ofInt]
  exact (wrap_congr_toU .i32 _ _ (Int.emod_emod_of_dvd x (Int.dvd_refl _))).symm

theorem wrap_i32_len (n : Nat) : wrap .i32 (n : Int) = toI32 (n % 4294967296) := wrap_i32_ofInt n

/-- the Go `int8` value of a `TType`, converted back with `byte(t)` -/
@[byte_simp ↓] theorem byteOf_wrap_toI8 (t : UInt8) : byteOf (wrap .u8 (toI8 t.toNat)) = t := by
  rw [byteOf_wrap_u8, ofNat_toI8]

attribute [byte_simp] wrap_u64_emod ofInt64_cast shr UInt8.toNat_ofNat' Int.natCast_emod Int.natCast_ediv
  Int.cast_ofNat_Int Out.pure_eq appendInts List.map Out.ok.injEq List.append_cancel_left_eq List.cons.injEq and_true
  true_and

/-- `pure (appendInts buf [x1,…,xn]) = .ok (buf ++ [b1,…,bn])`: compare byte by byte, each one mod 256 -/
macro "append_bytes" : tactic =>
  `(tactic| (simp only [byte_simp, Nat.reducePow, Int.reducePow]; repeat' apply And.intro; all_goals omega))

/-! ## appendUint32 / appendUint64 -/

theorem byteOf_shr_nat (n k : Nat) : byteOf (wrap .u8 (shr (n : Int) k)) = UInt8.ofNat (n / 2 ^ k) := by
  rw [byteOf_wrap, byteOf_eq]
  apply ofNat_congr
  unfold shr ofInt
  rw [← Int.natCast_ediv, ← Int.natCast_emod, Int.toNat_natCast]
  exact Nat.mod_mod_of_dvd _ (by decide)

theorem byteOf_wrap_nat (n : Nat) : byteOf (wrap .u8 (n : Int)) = UInt8.ofNat n := by
  rw [byteOf_wrap, byteOf_eq]
  exact u8_ofNat_mod n 256 ⟨1, rfl⟩

theorem thrift_appendUint32_eq (buf : Bytes) (n : Nat) :
    Funcs.thrift_appendUint32 buf (n : Int) = .ok (Wire.aU32 buf n) := by
  simp only [Funcs.thrift_appendUint32, Wire.aU32, Out.pure_eq, appendInts, List.map, byteOf_shr_nat, byteOf_wrap_nat,
    Nat.reducePow]

theorem thrift_appendUint64_eq (buf : Bytes) (n : Nat) :
    Funcs.thrift_appendUint64 buf (n : Int) = .ok (Wire.aU64 buf n) := by
  simp only [Funcs.thrift_appendUint64, Wire.aU64, Out.pure_eq, appendInts, List.map, byteOf_shr_nat, byteOf_wrap_nat,
    Nat.reducePow]

/-! ## scalars -/

theorem Binary_AppendBool_eq (buf : Bytes) (v : Bool) :
    Funcs.Binary_AppendBool buf v = .ok (Wire.aBool buf v) := by
  unfold Funcs.Binary_AppendBool Wire.aBool
  cases v <;> simp [appendInts, byteOf_eq_iff]

theorem Binary_AppendByte_eq (buf : Bytes) (v : Int) :
    Funcs.Binary_AppendByte buf v = .ok (Wire.aByte buf v) := by
  unfold Funcs.Binary_AppendByte Wire.aByte
  append_bytes

theorem Binary_AppendI16_eq (buf : Bytes) (v : Int) :
    Funcs.Binary_AppendI16 buf v = .ok (Wire.aI16 buf v) := by
  unfold Funcs.Binary_AppendI16 Wire.aI16
  append_bytes

theorem Binary_AppendI32_eq (buf : Bytes) (v : Int) :
    Funcs.Binary_AppendI32 buf v = .ok (Wire.aI32 buf v) := by
  unfold Funcs.Binary_AppendI32 Wire.aI32
  simp [wrap_u32, thrift_appendUint32_eq]

theorem Binary_AppendI64_eq (buf : Bytes) (v : Int) :
    Funcs.Binary_AppendI64 buf v = .ok (Wire.aI64 buf v) := by
  unfold Funcs.Binary_AppendI64 Wire.aI64
  simp [wrap_u64, thrift_appendUint64_eq]

/-- a `float64` is its bit pattern on both sides (`math.Float64bits` is the identity in the translation) -/
theorem Binary_AppendDouble_eq (buf : Bytes) (bits : Nat) :
    Funcs.Binary_AppendDouble buf (bits : Int) = .ok (Wire.aDouble buf bits) := by
  unfold Funcs.Binary_AppendDouble Wire.aDouble
  simp [thrift_appendUint64_eq]

/-! ## binary / string: `int32(len(v))` wraps for `len(v) ≥ 2^31` exactly as the model's `toI32 (len % 2^32)` — no
    bound on the length is needed -/

theorem Binary_AppendBinary_eq (buf v : Bytes) :
    Funcs.Binary_AppendBinary buf v = .ok (Wire.aBinary buf v) := by
  unfold Funcs.Binary_AppendBinary Wire.aBinary
  simp [len, wrap_i32_len, Binary_AppendI32_eq]

theorem Binary_AppendString_eq (buf v : Bytes) :
    Funcs.Binary_AppendString buf v = .ok (Wire.aBinary buf v) := by
  unfold Funcs.Binary_AppendString Wire.aBinary
  simp [len, wrap_i32_len, Binary_AppendI32_eq]

/-! ## headers -/

theorem Binary_AppendFieldBegin_eq (buf : Bytes) (t : UInt8) (id : Int) :
    Funcs.Binary_AppendFieldBegin buf (toI8 t.toNat) id = .ok (Wire.aFieldBegin buf t id) := by
  unfold Funcs.Binary_AppendFieldBegin Wire.aFieldBegin
  append_bytes

theorem Binary_AppendFieldStop_eq (buf : Bytes) :
    Funcs.Binary_AppendFieldStop buf = .ok (Wire.aFieldStop buf) := by
  unfold Funcs.Binary_AppendFieldStop Wire.aFieldStop
  simp [appendInts, byteOf_eq_iff, T_STOP, Facts.tSTOP]

theorem Binary_AppendMapBegin_eq (buf : Bytes) (kt vt : UInt8) (size : Int) :
    Funcs.Binary_AppendMapBegin buf (toI8 kt.toNat) (toI8 vt.toNat) size = .ok (Wire.aMapBegin buf kt vt size) := by
  unfold Funcs.Binary_AppendMapBegin Wire.aMapBegin
  simp [appendInts, byteOf_wrap_toI8, wrap_i32_ofInt, Binary_AppendI32_eq]

theorem Binary_AppendListBegin_eq (buf : Bytes) (et : UInt8) (size : Int) :
    Funcs.Binary_AppendListBegin buf (toI8 et.toNat) size = .ok (Wire.aListBegin buf et size) := by
  unfold Funcs.Binary_AppendListBegin Wire.aListBegin
  simp [appendInts, byteOf_wrap_toI8, wrap_i32_ofInt, Binary_AppendI32_eq]

theorem Binary_AppendSetBegin_eq (buf : Bytes) (et : UInt8) (size : Int) :
    Funcs.Binary_AppendSetBegin buf (toI8 et.toNat) size = .ok (Wire.aSetBegin buf et size) := by
  unfold Funcs.Binary_AppendSetBegin Wire.aSetBegin
  simp [appendInts, byteOf_wrap_toI8, wrap_i32_ofInt, Binary_AppendI32_eq]

/-- `msgHeader_eq_a` with the operands of `|` swapped (Go's `|` commutes; a refactoring may swap them) -/
theorem msgHeader_eq_a' (typ : Int) :
    bor .u32 (wrap .u32 (band .i32 typ 65535)) 2147549184 = (Wire.msgHeader typ : Nat) := by
  rw [bor_comm]; exact msgHeader_eq_a typ

theorem Binary_AppendMessageBegin_eq (buf name : Bytes) (typ seq : Int) :
    Funcs.Binary_AppendMessageBegin buf name typ seq = .ok (Wire.aMessageBegin buf name typ seq) := by
  unfold Funcs.Binary_AppendMessageBegin Wire.aMessageBegin
  simp [msgHeader_eq_a, msgHeader_eq_a', thrift_appendUint32_eq, Binary_AppendString_eq, Binary_AppendI32_eq]

/-! ## length functions: against `Wire.length` / `Wire.lenMessageBegin`.  Go `int` is 64 bits: `4 + len(v)` is exact for
    `len(v) < 2^62` (any real slice) -/

/-- the length functions over a byte string: unfold (also a sibling `*Length` the Go source may delegate to), remove
    every `int` wrap-around by its range condition (`omega`, from `len < 2^62`), compare the sums with `omega` — the
    order of the operands and any hoisted local play no role -/
macro "length_omega" : tactic => `(tactic| (
  simp (disch := omega) only [writer_simp, Funcs.Binary_MessageBeginLength, Funcs.Binary_StringLength,
    Funcs.Binary_BinaryLength, Funcs.Binary_StringLengthNocopy, Funcs.Binary_BinaryLengthNocopy, Wire.length,
    Wire.lenMessageBegin, Out.ok.injEq]
  omega))

theorem Binary_MessageBeginLength_eq (name : Bytes) (h : name.length < 2 ^ 62) :
    Funcs.Binary_MessageBeginLength name = .ok ((Wire.lenMessageBegin name : Nat) : Int) := by
  length_omega

theorem Binary_FieldBeginLength_eq (t : UInt8) (id : Int) :
    Funcs.Binary_FieldBeginLength = .ok ((Wire.length (.fieldBegin t id) : Nat) : Int) := rfl
theorem Binary_FieldStopLength_eq :
    Funcs.Binary_FieldStopLength = .ok ((Wire.length .fieldStop : Nat) : Int) := rfl
theorem Binary_MapBeginLength_eq (kt vt : UInt8) (n : Nat) :
    Funcs.Binary_MapBeginLength = .ok ((Wire.length (.mapBegin kt vt n) : Nat) : Int) := rfl
theorem Binary_ListBeginLength_eq (et : UInt8) (n : Nat) :
    Funcs.Binary_ListBeginLength = .ok ((Wire.length (.listBegin et n) : Nat) : Int) := rfl
theorem Binary_SetBeginLength_eq (et : UInt8) (n : Nat) :
    Funcs.Binary_SetBeginLength = .ok ((Wire.length (.setBegin et n) : Nat) : Int) := rfl
theorem Binary_BoolLength_eq (v : Bool) :
    Funcs.Binary_BoolLength = .ok ((Wire.length (.bool v) : Nat) : Int) := rfl
theorem Binary_ByteLength_eq (v : Int) :
    Funcs.Binary_ByteLength = .ok ((Wire.length (.i8 v) : Nat) : Int) := rfl
theorem Binary_I16Length_eq (v : Int) :
    Funcs.Binary_I16Length = .ok ((Wire.length (.i16 v) : Nat) : Int) := rfl
theorem Binary_I32Length_eq (v : Int) :
    Funcs.Binary_I32Length = .ok ((Wire.length (.i32 v) : Nat) : Int) := rfl
theorem Binary_I64Length_eq (v : Int) :
    Funcs.Binary_I64Length = .ok ((Wire.length (.i64 v) : Nat) : Int) := rfl
theorem Binary_DoubleLength_eq (bits : Nat) :
    Funcs.Binary_DoubleLength = .ok ((Wire.length (.double bits) : Nat) : Int) := rfl

theorem wrap_len4 (s : Bytes) (h : s.length < 2 ^ 62) : wrap .i64 (4 + len s) = ((4 + s.length : Nat) : Int) := by
  unfold len
  rw [wrap_i64_of_range _ (by omega) (by omega)]
  omega

theorem Binary_StringLength_eq (s : Bytes) (h : s.length < 2 ^ 62) :
    Funcs.Binary_StringLength s = .ok ((Wire.length (.str s) : Nat) : Int) := by
  length_omega

theorem Binary_BinaryLength_eq (s : Bytes) (h : s.length < 2 ^ 62) :
    Funcs.Binary_BinaryLength s = .ok ((Wire.length (.binary s) : Nat) : Int) := by
  length_omega

theorem Binary_StringLengthNocopy_eq (s : Bytes) (h : s.length < 2 ^ 62) :
    Funcs.Binary_StringLengthNocopy s = .ok ((Wire.length (.str s) : Nat) : Int) := by
  length_omega

theorem Binary_BinaryLengthNocopy_eq (s : Bytes) (h : s.length < 2 ^ 62) :
    Funcs.Binary_BinaryLengthNocopy s = .ok ((Wire.length (.binary s) : Nat) : Int) := by
  length_omega

/-! ## the generated functions compute (closed instances).  No function of this group has an error result or a reachable
    panic (no indexing, slicing or division in their bodies), so there is no error/panic instance to exhibit: the
    corner cases are the two's-complement wrap-arounds below. -/

example : Funcs.thrift_appendUint32 [9] 0x01020304 = .ok [9, 1, 2, 3, 4] := by decide
example : Funcs.thrift_appendUint64 [] 0x0102030405060708 = .ok [1, 2, 3, 4, 5, 6, 7, 8] := by decide
example : Funcs.Binary_AppendBool [7] true = .ok [7, 1] := by decide
example : Funcs.Binary_AppendBool [7] false = .ok [7, 0] := by decide
example : Funcs.Binary_AppendByte [] (-128) = .ok [0x80] := by decide
example : Funcs.Binary_AppendI16 [] (-2) = .ok [0xff, 0xfe] := by decide
example : Funcs.Binary_AppendI32 [] (-2) = .ok [0xff, 0xff, 0xff, 0xfe] := by decide
example : Funcs.Binary_AppendI64 [] (-9223372036854775808) = .ok [0x80, 0, 0, 0, 0, 0, 0, 0] := by decide
example : Funcs.Binary_AppendDouble [] 0x7ff8000000000001 = .ok [0x7f, 0xf8, 0, 0, 0, 0, 0, 1] := by decide
example : Funcs.Binary_AppendString [] [0x68, 0x69, 0xff] = .ok [0, 0, 0, 3, 0x68, 0x69, 0xff] := by decide
example : Funcs.Binary_AppendBinary [1] [] = .ok [1, 0, 0, 0, 0] := by decide
example : Funcs.Binary_AppendFieldBegin [] 11 (-1) = .ok [11, 0xff, 0xff] := by decide
example : Funcs.Binary_AppendFieldBegin [] (-1) 0x0102 = .ok [0xff, 1, 2] := by decide   -- TType(-1) is the byte 0xff
example : Funcs.Binary_AppendFieldStop [5] = .ok [5, 0] := by decide
example : Funcs.Binary_AppendMapBegin [] 8 11 258 = .ok [8, 11, 0, 0, 1, 2] := by decide
example : Funcs.Binary_AppendMapBegin [] 8 11 4294967297 = .ok [8, 11, 0, 0, 0, 1] := by decide   -- int32(size) wraps
example : Funcs.Binary_AppendListBegin [] 12 (-1) = .ok [12, 0xff, 0xff, 0xff, 0xff] := by decide
example : Funcs.Binary_AppendSetBegin [] 10 3 = .ok [10, 0, 0, 0, 3] := by decide
example : Funcs.Binary_AppendMessageBegin [] [0x66] 1 7 = .ok [0x80, 0x01, 0, 1, 0, 0, 0, 1, 0x66, 0, 0, 0, 7] := by decide
example : Funcs.Binary_AppendMessageBegin [] [] 0x30002 (-1) = .ok [0x80, 0x01, 0, 2, 0, 0, 0, 0, 0xff, 0xff, 0xff, 0xff] := by
  decide   -- the message type is masked to 16 bits
example : Funcs.Binary_MessageBeginLength [0x66, 0x6f, 0x6f] = .ok 15 := by decide
example : Funcs.Binary_StringLength [1, 2, 3] = .ok 7 := by decide
example : Funcs.Binary_BinaryLengthNocopy [] = .ok 4 := by decide
example : Funcs.Binary_AppendMessageBegin [] [0x66] 1 7 = .ok (Wire.enc (.messageBegin [0x66] 1 7)) := by decide

end Verif.FuncsEq
