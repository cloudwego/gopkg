/-
  Lemmas/Funcs/BufioxR: the reader half of bufiox/defaultbuf.go — `(*DefaultReader).acquireSlow / acquire / Next / Peek /
  Skip / ReadBinary / ReadLen / Release`, `NewDefaultReader`, `fakeIOReader.Read`, `(*maxSizeStats).update / maxSize` — as
  TRANSLATED from the Go source on every run (`Verif.Gen.Bufiox`, namespace `Verif.BufioxGen`, over `Base/GoSemCap`:
  slices with capacity) against the hand-written model `Model/Reader.lean` (`Rd`, `Src`) that C04 is about.

  * `absRd` : generated receiver ↦ `Rd` (`buf` = the first `len` bytes of the slice's memory, `cap`, `ri`, `err`,
    `readOnly`, `stats`, `statsIdx`, `src`; `pendingBuf` and the non-nil flag are dropped — ownership is Model/Mem*).
    The `io.Reader` is the model's scripted source (`srcReader`), `mcache.Malloc`'s dirty contents an arbitrary oracle `O`.
  * representation invariant `GInv`: `0 ≤ ri ≤ len ≤ cap ≤ 2^45` (mcache has pools up to 2^45), the `io.Reader` is not nil,
    `statsBucketNum` recorded capacities in `[0, 2^45]`, `0 ≤ bucketIdx < statsBucketNum`. Per call: `cap ≤ 2^44` and
    `n + ri ≤ 2^44` (so that a growth stays inside mcache and int64 never wraps), fuel ≥ the model's own fuel
    `maxConsecutiveEmptyReads * (room + 1) + 1` (`needFuel`).
  * main theorems `DefaultReader_<F>_sim`: for every generated state `g` and model state `m` related by `Sim` (= `m` is
    `absRd g` up to the bytes below `ri`) the generated function returns normally, with the model's result, in states
    related again, invariant kept — this composes over call sequences. `…_eq_partial` are the instances at `m := absRd g`
    (results equal; states equal after `Rd.canon`); see the note in front of them for WHY partial (dirty bytes below `ri`
    after a growth: unobservable, the model says so itself). `Release`, `ReadLen`, the statistics, `NewDefaultReader`: exact.
-/
import Verif.Gen.Bufiox
import Verif.Lemmas.Reader
namespace Verif.BufioxEq
open Verif Verif.GoSemCap Verif.BufioxGen
open Verif.GoSem (GM wrap LoopR IT)
set_option linter.unusedSimpArgs false

/-- value and range as one arithmetic goal -/
theorem wrap_eq {x y : Int} (h : x = y ∧ -9223372036854775808 ≤ y ∧ y < 9223372036854775808) : wrap .i64 x = y := by
  rw [h.1]; exact wrap_i64_id y h.2.1 h.2.2

/-- a conditional assignment that sits in front of code which does not depend on the condition any more -/
theorem ite_bind {α β : Type} (c : Prop) [Decidable c] (x y : GM α) (f : α → GM β) :
    (if c then x else y).bind f = if c then x.bind f else y.bind f := by split <;> rfl

/-- Go error value ↔ the reader model's `Option RErr` -/
def errAbs : Err → Option RErr
  | .nil => none
  | .eof => some .eof
  | .noProgress => some .noProgress
  | .negCount => some .negCount
  | .src k => some (.src k)

def errCon : Option RErr → Err
  | none => .nil
  | some .eof => .eof
  | some .noProgress => .noProgress
  | some .negCount => .negCount
  | some (.src k) => .src k

@[simp] theorem errAbs_errCon (e : Option RErr) : errAbs (errCon e) = e := by
  cases e with
  | none => rfl
  | some e => cases e <;> rfl

@[simp] theorem errCon_errAbs (e : Err) : errCon (errAbs e) = e := by cases e <;> rfl

theorem errCon_nil_iff (e : Option RErr) : errCon e = Err.nil ↔ e = none := by
  cases e with
  | none => simp [errCon]
  | some e => cases e <;> simp [errCon]

theorem errAbs_none_iff (e : Err) : errAbs e = none ↔ e = Err.nil := by cases e <;> simp [errAbs]

/-- the scripted source of the model as an `io.Reader` -/
def srcReader : IoReader Src := ⟨fun s room => ((s.read room).1, errCon (s.read room).2.1, (s.read room).2.2)⟩

/-! ## maxSizeStats -/

/-- a `range` loop that keeps the maximum — ANY function with these two equations (the generated loop function is
    found by unification at the use site, never named in a statement) -/
theorem range_max_bind {β : Type} (L : List Int → Int → GM Int) (hnil : ∀ m, L [] m = .ok m)
    (hcons : ∀ x xs m, L (x :: xs) m = L xs (max m x)) (l : List Int) (m : Int) (K : Int → GM β) :
    (L l m).bind K = K (l.foldl max m) := by
  induction l generalizing m with
  | nil => simp [hnil]
  | cons x xs ih => rw [hcons, ih]; rfl

/-- the same as an ascending index loop `for i := 0; i < N; i++` over the array -/
theorem index_max_bind_aux {β : Type} (L : Nat → Int → Int → GM (Int × Int)) (b : List Int)
    (step : ∀ (f : Nat) (m : Int) (i : Nat), L (f + 1) m (i : Int) =
      if i < b.length then L f (max m (b.getD i 0)) ((i + 1 : Nat) : Int) else .ok (m, (i : Int)))
    (K : Int × Int → GM β) :
    ∀ (k i : Nat) (m : Int) (f : Nat), b.length - i = k → i ≤ b.length → k < f →
      (L f m (i : Int)).bind K = K ((b.drop i).foldl max m, (b.length : Int)) := by
  intro k
  induction k with
  | zero =>
    intro i m f hk hi hf
    obtain ⟨f, rfl⟩ : ∃ f', f = f' + 1 := ⟨f - 1, by omega⟩
    have : ¬ i < b.length := by omega
    have hi' : i = b.length := by omega
    rw [step, if_neg this, hi']; simp
  | succ k ih =>
    intro i m f hk hi hf
    obtain ⟨f, rfl⟩ : ∃ f', f = f' + 1 := ⟨f - 1, by omega⟩
    have hlt : i < b.length := by omega
    have hx : b.getD i 0 = b[i] := by simp [List.getD_eq_getElem?_getD, List.getElem?_eq_getElem hlt]
    rw [step, if_pos hlt, ih (i + 1) _ f (by omega) (by omega) (by omega), hx]
    conv => rhs; rw [List.drop_eq_getElem_cons hlt, List.foldl_cons]

theorem foldl_max_toNat (l : List Int) (m : Int) (hm : 0 ≤ m) (hl : ∀ x ∈ l, 0 ≤ x) :
    ((l.foldl max m).toNat) = (l.map Int.toNat).foldl max m.toNat ∧ 0 ≤ l.foldl max m := by
  induction l generalizing m with
  | nil => exact ⟨rfl, hm⟩
  | cons x xs ih =>
    have hx : 0 ≤ x := hl x (by simp)
    have := ih (max m x) (by omega) (fun y hy => hl y (by simp [hy]))
    simp only [List.foldl_cons, List.map_cons]
    have e : (max m x).toNat = max m.toNat x.toNat := by
      rcases Int.le_total m x with h | h
      · rw [Int.max_eq_right h, Nat.max_eq_right (Int.toNat_le_toNat h)]
      · rw [Int.max_eq_left h, Nat.max_eq_left (Int.toNat_le_toNat h)]
    rw [← e]; exact this

theorem index_max_bind {β : Type} (L : Nat → Int → Int → GM (Int × Int)) (b : List Int)
    (step : ∀ (f : Nat) (m : Int) (i : Nat), L (f + 1) m (i : Int) =
      if i < b.length then L f (max m (b.getD i 0)) ((i + 1 : Nat) : Int) else .ok (m, (i : Int)))
    (K : Int × Int → GM β) (m : Int) (f : Nat) (hf : b.length < f) :
    (L f m 0).bind K = K (b.foldl max m, (b.length : Int)) := by
  have := index_max_bind_aux L b step K b.length 0 m f (by omega) (by omega) hf
  simpa using this

/-- `(*maxSizeStats).maxSize` is the model's `statsMax` of the recorded capacities (`hl`: a Go `[statsBucketNum]int`
    has that many elements — needed when the source walks the array by index) -/
theorem maxSizeStats_maxSize_eq (s : S_maxSizeStats) (h : ∀ x ∈ s.buckets, 0 ≤ x)
    (hl : s.buckets.length = Facts.statsBucketNum) :
    maxSizeStats_maxSize s = .ok ((statsMax (s.buckets.map Int.toNat) : Nat) : Int) := by
  have hm := foldl_max_toNat s.buckets 0 (by omega) h
  simp at hm
  have hl10 : s.buckets.length = 10 := hl
  unfold maxSizeStats_maxSize statsMax
  simp only [Out.bind_eq, Out.pure_eq]
  first
  | -- `for _, size := range s.buckets`
    rw [range_max_bind (L := _) (hnil := ?nil) (hcons := ?cons)]
    case nil => intro m; rw [maxSizeStats_maxSize_loop1]; rfl
    case cons =>
      intro x xs m
      rw [maxSizeStats_maxSize_loop1]
      by_cases hc : m < x
      · have e : max m x = x := by omega
        have hc' : ¬ x ≤ m := by omega
        simp [hc, hc', e]
      · have e : max m x = m := by omega
        have hc' : x ≤ m := by omega
        simp [hc, hc', e]
    simp; omega
  | -- `for i := 0; i < statsBucketNum; i++`
    rw [index_max_bind (L := _) (b := s.buckets) (step := ?step) (hf := by omega)]
    case step =>
      intro f m i
      rw [maxSizeStats_maxSize_loop1]
      by_cases hi : i < s.buckets.length
      · have hi' : (i : Int) < 10 := by omega
        have hw : wrap .i64 ((i : Int) + 1) = ((i + 1 : Nat) : Int) := wrap_eq (by omega)
        have hg : arrGet s.buckets (i : Int) = .ok (s.buckets.getD i 0) := by
          simp [arrGet, List.getD_eq_getElem?_getD, List.getElem?_eq_getElem hi]
        generalize s.buckets.getD i 0 = x at *
        by_cases hc : m < x
        · have e : max m x = x := by omega
          have hc' : ¬ x ≤ m := by omega
          simp [hi, hi', hg, hw, hc, hc', e]
        · have e : max m x = m := by omega
          have hc' : x ≤ m := by omega
          simp [hi, hi', hg, hw, hc, hc', e]
      · have hi' : ¬ (i : Int) < 10 := by omega
        simp [hi, hi']
    simp; omega

/-- `(*maxSizeStats).update(size)` is the model's `listSet stats idx size` / `(idx + 1) % statsBucketNum` -/
theorem maxSizeStats_update_eq (s : S_maxSizeStats) (size : Int) (hl : s.buckets.length = Facts.statsBucketNum)
    (hi : 0 ≤ s.bucketIdx) (hi' : s.bucketIdx < 10) :
    maxSizeStats_update s size = .ok { buckets := s.buckets.set s.bucketIdx.toNat size,
                                       bucketIdx := ((s.bucketIdx.toNat + 1) % Facts.statsBucketNum : Nat) } := by
  unfold maxSizeStats_update
  have hl' : s.buckets.length = 10 := hl
  have h1 : ¬ (s.bucketIdx < 0 ∨ s.bucketIdx ≥ (s.buckets.length : Int)) := by omega
  have h2 : wrap .i64 (s.bucketIdx + 1) = s.bucketIdx + 1 := wrap_i64_id _ (by omega) (by omega)
  have h2c : wrap .i64 (1 + s.bucketIdx) = s.bucketIdx + 1 := wrap_eq (by omega)
  have h3 : (s.bucketIdx + 1).tmod 10 = (s.bucketIdx + 1) % 10 := Int.tmod_eq_emod_of_nonneg (by omega)
  simp [arrSet, h1, h2, h2c, h3, goMod, Facts.statsBucketNum]
  omega

/-! ## the doubling loops and mcache's capacity rounding -/

/-- a doubling loop `for ; x < T'; x *= 2 {}` — ANY function `L` whose one-step unfolding (`step`, proved by unfolding
    the generated loop function at the use site, where unification finds `L` with whatever parameters it takes) doubles
    while the counter is below the target `T` — is the model's `doubleUntil` (any fuel that suffices on both sides; with
    `T ≤ 2^60` the counter stays below 2^61, so `x * 2` never wraps). `acquireSlow` has two: towards `n` (first
    allocation) and towards `n + ri` (growth: `ncap-r.ri < n`). Stated for the loop call followed by its continuation, so
    that `rw` finds it. -/
theorem double_bind {β : Type} (L : Nat → Int → GM Int) (T : Nat) (hT : T ≤ 2 ^ 60)
    (step : ∀ (f m : Nat), 0 < m → m ≤ 2 ^ 61 → L (f + 1) (m : Int) = if m < T then L f ((m : Int) * 2) else .ok (m : Int))
    (f m g : Nat) (mi : Int) (hmi : mi = (m : Int)) (hm : 0 < m) (hm' : m ≤ 2 ^ 61) (hf : T ≤ m * 2 ^ f) (hg : T ≤ m * 2 ^ g)
    (K : Int → GM β) :
    (L (f + 1) mi).bind K = K ((doubleUntil g m T : Nat) : Int) := by
  subst hmi
  suffices h : L (f + 1) (m : Int) = .ok ((doubleUntil g m T : Nat) : Int) by rw [h]; rfl
  induction f generalizing m g with
  | zero =>
    have : ¬ m < T := by omega
    have e : doubleUntil g m T = m := by cases g <;> simp [doubleUntil, this]
    rw [step 0 m hm hm', if_neg this, e]
  | succ f ih =>
    rw [step (f + 1) m hm hm']
    by_cases h : m < T
    · cases g with
      | zero => simp at hg; omega
      | succ g =>
        have hf2 : T ≤ (m * 2) * 2 ^ f := by rw [Nat.pow_succ] at hf; rw [Nat.mul_assoc, Nat.mul_comm 2]; exact hf
        have hg2 : T ≤ (m * 2) * 2 ^ g := by rw [Nat.pow_succ] at hg; rw [Nat.mul_assoc, Nat.mul_comm 2]; exact hg
        have := ih (m * 2) g (by omega) (by omega) hf2 hg2
        simp only [Int.natCast_mul, Int.cast_ofNat_Int] at this
        simp [h, doubleUntil, this]
    · have e : doubleUntil g m T = m := by cases g <;> simp [doubleUntil, h]
      simp [h, e]

theorem le_mul_pow {T m f : Nat} (k : Nat) (hm : 0 < m) (hT : T ≤ 2 ^ k) (hk : k ≤ f) : T ≤ m * 2 ^ f :=
  Nat.le_trans hT (Nat.le_trans (Nat.pow_le_pow_right (by decide) hk) (Nat.le_mul_of_pos_left _ hm))

theorem wrap_double (c : Nat) (hc : c ≤ 2 ^ 61) :
    wrap .i64 ((c : Int) * 2) = (c : Int) * 2 ∧ wrap .i64 (2 * (c : Int)) = (c : Int) * 2 := by
  have h : wrap .i64 ((c : Int) * 2) = (c : Int) * 2 := wrap_i64_id _ (by omega) (by omega)
  exact ⟨h, by rw [Int.mul_comm]; exact h⟩

/-- doubling from a power of two stops at the least power of two that covers the target -/
theorem doubleUntil_pow (f j k c : Nat) (hjk : j ≤ k) (hf : k - j ≤ f) (hc : c ≤ 2 ^ k)
    (hlow : k = j ∨ 2 ^ (k - 1) < c) : doubleUntil f (2 ^ j) c = 2 ^ k := by
  induction f generalizing j with
  | zero =>
    have : j = k := by omega
    subst this; rfl
  | succ f ih =>
    unfold doubleUntil
    by_cases hj : j = k
    · subst hj
      have : ¬ 2 ^ j < c := by omega
      simp [this]
    · have hlt : 2 ^ j < c := by
        have : 2 ^ j ≤ 2 ^ (k - 1) := Nat.pow_le_pow_right (by omega) (by omega)
        omega
      have := ih (j + 1) (by omega) (by omega) (by omega)
      simpa [hlt, Nat.pow_succ] using this

/-- mcache's `1 << calcIndex(c)` is the model's `pow2ceil c` -/
theorem mcacheCap_eq (c : Nat) (hc : c ≤ 2 ^ 63) : mcacheCap c = pow2ceil c := by
  unfold mcacheCap pow2ceil
  rw [pow2ceilAux_eq]
  by_cases h0 : c = 0
  · subst h0; rfl
  · have hlo := Nat.log2_self_le h0
    have hhi := @Nat.lt_log2_self c
    have hk : c.log2 < 64 := by
      rw [Nat.log2_lt h0]
      calc c ≤ 2 ^ 63 := hc
        _ < 2 ^ 64 := by decide
    simp only [h0, if_false]
    by_cases hp : 2 ^ c.log2 = c
    · have := doubleUntil_pow 64 0 c.log2 c (by omega) (by omega) (by omega) (by
        by_cases hz : c.log2 = 0
        · left; exact hz
        · right
          have : 2 ^ (c.log2 - 1) < 2 ^ c.log2 := Nat.pow_lt_pow_right (by omega) (by omega)
          omega)
      simp only [hp, if_true]
      simpa [hp] using this.symm
    · have := doubleUntil_pow 64 0 (c.log2 + 1) c (by omega) (by omega) (by omega) (by
        right; simp; omega)
      simp only [hp, if_false]
      simpa using this.symm

/-! ## abstraction, representation invariant -/

def absRd (g : S_DefaultReader Src) : Rd :=
  { buf := g.buf.data, cap := g.buf.mem.length, ri := g.ri.toNat, err := errAbs g.err, readOnly := g.bufReadOnly,
    stats := g.maxSizeStats.buckets.map Int.toNat, statsIdx := g.maxSizeStats.bucketIdx.toNat,
    src := g.rd.getD ⟨[], []⟩ }

structure GInv (g : S_DefaultReader Src) : Prop where
  len_le : g.buf.len ≤ g.buf.mem.length
  ri_nonneg : 0 ≤ g.ri
  ri_le : g.ri ≤ g.buf.len
  cap_le : g.buf.mem.length ≤ 2 ^ 45
  rd_some : g.rd.isSome
  stats_len : g.maxSizeStats.buckets.length = Facts.statsBucketNum
  stats_rng : ∀ x ∈ g.maxSizeStats.buckets, 0 ≤ x ∧ x ≤ 2 ^ 45
  idx_rng : 0 ≤ g.maxSizeStats.bucketIdx ∧ g.maxSizeStats.bucketIdx < 10

/-- the buffer after `m, err := r.rd.Read(r.buf[len(r.buf):cap(r.buf)]); r.buf = r.buf[:len(r.buf)+m]` delivered `d` -/
def filled (b : Sl) (d : Bytes) : Sl :=
  { mem := b.mem.take b.len ++ d ++ b.mem.drop (b.len + d.length), len := b.len + d.length, nonnil := b.nonnil }

/-! ### slice-level facts: what `Read` into the spare capacity followed by the re-slice does -/

theorem sslice_ok (s : Sl) (lo hi : Int) (h0 : 0 ≤ lo) (h1 : lo ≤ hi) (h2 : hi ≤ scap s) :
    sslice s lo hi = .ok { s with mem := s.mem.drop lo.toNat, len := hi.toNat - lo.toNat } := by
  unfold sslice
  have a : ¬ (hi < 0 ∨ hi > scap s) := by omega
  have b : ¬ (lo < 0 ∨ lo > hi) := by omega
  simp [a, b]

/-- `copy(base[lo:lo+L], src)` written back to `base` -/
theorem putBack_copy (b src : Sl) (lo L : Nat) (hb : lo + L ≤ b.mem.length) (hsrc : src.len ≤ src.mem.length) :
    putBack b (lo : Int) (copySl { b with mem := b.mem.drop lo, len := L } src).1 =
      { b with mem := b.mem.take lo ++ src.mem.take (min L src.len) ++ b.mem.drop (lo + min L src.len) } ∧
    (copySl { b with mem := b.mem.drop lo, len := L } src).2 = ((min L src.len : Nat) : Int) ∧
    (b.mem.take lo ++ src.mem.take (min L src.len) ++ b.mem.drop (lo + min L src.len)).length = b.mem.length := by
  generalize hk : min L src.len = k
  have hk1 : k ≤ L := by omega
  have hk2 : k ≤ src.mem.length := by omega
  have l1 : (src.mem.take k).length = k := List.length_take_of_le hk2
  have l2 : (b.mem.take lo).length = lo := List.length_take_of_le (by omega)
  refine ⟨?_, by simp only [copySl, hk], ?_⟩
  · have e : lo + (k + (b.mem.length - (lo + k))) = b.mem.length := by omega
    simp only [putBack, copySl, hk, Int.toNat_natCast, List.drop_drop, List.length_append, l1, List.length_drop, e,
      List.drop_length, List.append_nil, List.append_assoc]
  · rw [List.length_append, List.length_append, l1, l2, List.length_drop]; omega
/-- `r.buf[len(r.buf):cap(r.buf)]` -/
theorem spare_ok (b : Sl) (hlen : b.len ≤ b.mem.length) :
    sslice b (slen b) (scap b) = .ok { b with mem := b.mem.drop b.len, len := b.mem.length - b.len } := by
  rw [sslice_ok b (slen b) (scap b) (by simp [slen]) (by simp [slen, scap]; omega) (by omega)]
  simp [slen, scap]

/-- `Read` on the spare capacity, written back, then `r.buf[:len(r.buf)+m]` -/
theorem refill_ok (b : Sl) (s : Src) (hlen : b.len ≤ b.mem.length) (hcap : b.mem.length ≤ 2 ^ 45) :
    let p : Sl := { b with mem := b.mem.drop b.len, len := b.mem.length - b.len }
    let r := ioRead srcReader s p
    let b2 := putBack b (slen b) r.1
    r.2.1 = ((s.read (b.mem.length - b.len)).1.length : Int) ∧
    r.2.2.1 = errCon (s.read (b.mem.length - b.len)).2.1 ∧
    r.2.2.2 = (s.read (b.mem.length - b.len)).2.2 ∧
    -- `r.buf[:hi]` for any way of writing `hi = len(r.buf) + m`
    (∀ hi : Int, hi = ((b.len + (s.read (b.mem.length - b.len)).1.length : Nat) : Int) →
      sslice b2 0 hi = .ok (filled b (s.read (b.mem.length - b.len)).1)) := by
  have hrl := Src.read_len s (b.mem.length - b.len)
  generalize hd : (s.read (b.mem.length - b.len)).1 = d at hrl
  simp only [ioRead, srcReader, putBack, slen, hd]
  refine ⟨trivial, trivial, trivial, ?_⟩
  intro hi hhi
  subst hhi
  have e1 : d.take (b.mem.length - b.len) = d := List.take_of_length_le hrl
  simp only [e1]
  rw [sslice_ok _ _ _ (by omega) (by omega) (by simp [scap]; omega)]
  simp [filled, List.drop_drop]
  omega

/-- the type of the read loop of acquireSlow: fuel, the variables it assigns (the receiver and the counter `i`) -/
abbrev ReadLoopT :=
  Nat → S_DefaultReader Src → Int → GM (LoopR (S_DefaultReader Src × Int) (S_DefaultReader Src × Int))

/-- one round of the read loop of acquireSlow, in normal form: what ANY function `L` must satisfy to be that loop (the
    generated loop function — whatever it is called with — is shown to satisfy it at the use site) -/
def ReadStep (L : ReadLoopT) (n : Int) : Prop :=
  (∀ (fuel : Nat) (g : S_DefaultReader Src) (i : Int) (s : Src), g.rd = some s → GInv g → i < 100 → -1 ≤ i →
    L (fuel + 1) g i =
      (let res := s.read (g.buf.mem.length - g.buf.len)
       let g1 : S_DefaultReader Src := { g with rd := some res.2.2, buf := filled g.buf res.1 }
       if res.2.1 ≠ none then .ok (.ret ({ g1 with err := errCon res.2.1 }, (g1.buf.len : Int) - g.ri))
       else if n ≤ (g1.buf.len : Int) - g.ri then .ok (.ret (g1, n))
       else L fuel g1 (if res.1.length > 0 then 0 else i + 1))) ∧
  (∀ (fuel : Nat) (g : S_DefaultReader Src) (i : Int), ¬ i < 100 → L (fuel + 1) g i = .ok (.done (g, i)))

/-! ## the simulation relation: the model state is the abstraction of the generated state, up to the bytes below `ri`
    (consumed: neither side ever reads them again; after a growth the Go buffer holds DIRTY bytes there, the model
    keeps the old ones) -/

structure Sim (g : S_DefaultReader Src) (m : Rd) : Prop where
  len : m.buf.length = g.buf.len
  live : m.buf.drop m.ri = g.buf.data.drop m.ri
  cap : m.cap = g.buf.mem.length
  ri : (m.ri : Int) = g.ri
  err : g.err = errCon m.err
  ro : m.readOnly = g.bufReadOnly
  stats : m.stats = g.maxSizeStats.buckets.map Int.toNat
  idx : (m.statsIdx : Int) = g.maxSizeStats.bucketIdx
  src : g.rd = some m.src

theorem GInv.withErr {g : S_DefaultReader Src} (hi : GInv g) (e : Err) : GInv { g with err := e } :=
  ⟨hi.len_le, hi.ri_nonneg, hi.ri_le, hi.cap_le, hi.rd_some, hi.stats_len, hi.stats_rng, hi.idx_rng⟩

theorem Sim.withErr {g : S_DefaultReader Src} {m : Rd} (hs : Sim g m) (e : Option RErr) :
    Sim { g with err := errCon e } { m with err := e } :=
  ⟨hs.len, hs.live, hs.cap, hs.ri, rfl, hs.ro, hs.stats, hs.idx, hs.src⟩

theorem filled_data (b : Sl) (d : Bytes) (h : b.len ≤ b.mem.length) : (filled b d).data = b.data ++ d := by
  simp [filled, Sl.data, List.take_append, List.take_take, Nat.min_eq_left h]

/-- one `Read` keeps the relation and the invariant -/
theorem sim_fill (g : S_DefaultReader Src) (m : Rd) (hs : Sim g m) (hi : GInv g) (res : Bytes × Option RErr × Src)
    (hrl : res.1.length ≤ m.cap - m.buf.length) :
    Sim { g with rd := some res.2.2, buf := filled g.buf res.1 } { m with buf := m.buf ++ res.1, src := res.2.2 } ∧
    GInv { g with rd := some res.2.2, buf := filled g.buf res.1 } := by
  have hlen := hi.len_le; have hri := hi.ri_le; have hri0 := hi.ri_nonneg; have hcap := hi.cap_le
  have h1 := hs.len; have h2 := hs.cap; have h3 := hs.ri
  have hmem : (filled g.buf res.1).mem.length = g.buf.mem.length := by
    simp [filled, Nat.min_eq_left hlen]; omega
  refine ⟨⟨?_, ?_, ?_, hs.ri, hs.err, hs.ro, hs.stats, hs.idx, rfl⟩,
    ⟨?_, hi.ri_nonneg, ?_, ?_, rfl, hi.stats_len, hi.stats_rng, hi.idx_rng⟩⟩
  · simp [filled, h1]
  · show (m.buf ++ res.1).drop m.ri = (filled g.buf res.1).data.drop m.ri
    rw [filled_data _ _ hlen, List.drop_append_of_le_length (by omega), List.drop_append_of_le_length (by
      simp [Sl.data, Nat.min_eq_left hlen]; omega), hs.live]
  · show m.cap = (filled g.buf res.1).mem.length
    omega
  · show (filled g.buf res.1).len ≤ (filled g.buf res.1).mem.length
    rw [hmem]; simp [filled]; omega
  · show g.ri ≤ ((filled g.buf res.1).len : Int)
    simp [filled]; omega
  · show (filled g.buf res.1).mem.length ≤ 2 ^ 45
    omega

/-- what the read loop hands back, against the model's answer `(k, m')` -/
def LoopOut (r : LoopR (S_DefaultReader Src × Int) (S_DefaultReader Src × Int)) (k : Nat) (m' : Rd) : Prop :=
  match r with
  | .ret (g', k') => k' = (k : Int) ∧ Sim g' m' ∧ GInv g'
  | .done (g', _) => (k : Int) = (g'.buf.len : Int) - g'.ri ∧
      Sim { g' with err := Err.noProgress } m' ∧ GInv { g' with err := Err.noProgress }

/-- the read loop of acquireSlow (with its `i = -1` reset) is the model's `Rd.readLoop`: any fuel at least the model's -/
theorem read_loop_sim (L : ReadLoopT) (n : Nat) (hL : ReadStep L (n : Int)) (f : Nat) :
    ∀ (i : Nat) (g : S_DefaultReader Src) (m : Rd) (k : Nat) (m' : Rd), Sim g m → GInv g →
      Rd.readLoop f i m n = some (k, m') → ∀ fuel, f ≤ fuel →
      ∃ r, L fuel g (i : Int) = .ok r ∧ LoopOut r k m' := by
  induction f with
  | zero => intro i g m k m' _ _ h; simp [Rd.readLoop] at h
  | succ f ih =>
    intro i g m k m' hs hi h fuel hfuel
    obtain ⟨fuel, rfl⟩ : ∃ f', fuel = f' + 1 := ⟨fuel - 1, by omega⟩
    have hlen := hi.len_le; have hri := hi.ri_le; have hri0 := hi.ri_nonneg
    have h1 := hs.len; have h2 := hs.cap; have h3 := hs.ri
    unfold Rd.readLoop at h
    by_cases hge : i ≥ Facts.maxConsecutiveEmptyReads
    · -- too many consecutive empty reads: the loop is left, the caller sets ErrNoProgress
      simp only [hge, if_true, Option.some.injEq, Prod.mk.injEq] at h
      obtain ⟨hk, hm⟩ := h
      have : ¬ (i : Int) < 100 := by simp [Facts.maxConsecutiveEmptyReads] at hge; omega
      refine ⟨.done (g, i), hL.2 fuel g i this, ?_⟩
      subst hm hk
      exact ⟨by omega, hs.withErr (some .noProgress), hi.withErr _⟩
    · have hlt : (i : Int) < 100 := by simp [Facts.maxConsecutiveEmptyReads] at hge; omega
      rw [hL.1 fuel g i m.src hs.src hi hlt (by omega)]
      obtain ⟨hs1, hi1⟩ := sim_fill g m hs hi _ (Src.read_len m.src (m.cap - m.buf.length))
      simp only [hge, if_false] at h
      rw [← h2, ← h1]
      generalize m.src.read (m.cap - m.buf.length) = res at *
      have hl1 : ((filled g.buf res.1).len : Int) - g.ri = (((m.buf ++ res.1).length - m.ri : Nat) : Int) := by
        have := hs1.len; simp only [] at this; simp [filled] at this ⊢; omega
      simp only [] at h ⊢
      cases he : res.2.1 with
      | some e =>
        -- the source returned an error (possibly with data)
        simp only [he, Option.some.injEq, Prod.mk.injEq] at h
        obtain ⟨hk, hm⟩ := h
        simp only [ne_eq, reduceCtorEq, not_false_eq_true, if_true]
        refine ⟨_, rfl, ?_⟩
        subst hm hk
        exact ⟨hl1, hs1.withErr (some e), hi1.withErr _⟩
      | none =>
        simp only [he] at h
        simp only [ne_eq, not_true, if_false, hl1]
        by_cases hn : n ≤ (m.buf ++ res.1).length - m.ri
        · simp only [hn, if_true, Option.some.injEq, Prod.mk.injEq] at h
          obtain ⟨hk, hm⟩ := h
          have hn' : (n : Int) ≤ (((m.buf ++ res.1).length - m.ri : Nat) : Int) := by omega
          simp only [hn', if_true]
          refine ⟨_, rfl, ?_⟩
          subst hm hk
          exact ⟨rfl, hs1, hi1⟩
        · simp only [hn, if_false] at h
          have hn' : ¬ (n : Int) ≤ (((m.buf ++ res.1).length - m.ri : Nat) : Int) := by omega
          have hcast : (if res.1.length > 0 then (0 : Int) else (i : Int) + 1)
              = ((if res.1.length > 0 then 0 else i + 1 : Nat) : Int) := by split <;> simp
          simp only [hn', if_false, hcast]
          split at h
          · rename_i hp; simp only [hp, if_true] ; exact ih _ _ _ _ _ hs1 hi1 h fuel (by omega)
          · rename_i hp; simp only [hp, if_false]; exact ih _ _ _ _ _ hs1 hi1 h fuel (by omega)

theorem bind_ok_nr {α β : Type} (a : α) (f : α → GM β) : (Out.ok a : GM α).bind f = f a := by
  cases h : f a <;> simp [h]

theorem bind_eq_of_ok {α β : Type} {x : GM α} {a : α} (h : x = .ok a) (f : α → GM β) : x.bind f = f a := by
  rw [h]; rfl

/-- a generated acquire-like call agrees with the model's: same count, related states, invariant kept -/
def AcqOK (x : GM (S_DefaultReader Src × Int)) (y : Option (Nat × Rd)) : Prop :=
  ∃ (g' : S_DefaultReader Src) (k : Nat) (m' : Rd), x = .ok (g', (k : Int)) ∧ y = some (k, m') ∧ Sim g' m' ∧ GInv g' ∧
    k ≤ m'.buf.length - m'.ri

/-- after the read loop: `r.err = io.ErrNoProgress; return len(r.buf) - r.ri`, or what the loop returned -/
theorem acquire_finish (L : ReadLoopT) (fuel n : Nat)
    (K : LoopR (S_DefaultReader Src × Int) (S_DefaultReader Src × Int) → GM (S_DefaultReader Src × Int))
    (hL : ReadStep L (n : Int))
    (hK1 : ∀ x, K (.ret x) = .ok x)
    (hK2 : ∀ g i, GInv g → K (.done (g, i)) = .ok ({ g with err := Err.noProgress }, (g.buf.len : Int) - g.ri))
    (g1 : S_DefaultReader Src) (m1 : Rd) (hs : Sim g1 m1) (hi : GInv g1)
    (hfuel : Facts.maxConsecutiveEmptyReads * (m1.cap - m1.buf.length + 1) + 1 ≤ fuel) :
    AcqOK ((L fuel g1 0).bind K)
      (Rd.readLoop (Facts.maxConsecutiveEmptyReads * (m1.cap - m1.buf.length + 1) + 1) 0 m1 n) := by
  have hsome := readLoop_fuel (Facts.maxConsecutiveEmptyReads * (m1.cap - m1.buf.length + 1) + 1) 0 m1 n (by
    rw [Nat.mul_add]; omega)
  obtain ⟨⟨k, m'⟩, hm⟩ := Option.isSome_iff_exists.mp hsome
  obtain ⟨r, hr, hout⟩ := read_loop_sim L n hL _ 0 g1 m1 k m' hs hi hm fuel hfuel
  have hr' : L fuel g1 0 = .ok r := by simpa using hr
  have hpost := (readLoop_post _ _ _ _ _ _ hm).outcome
  have hkle : k ≤ m'.buf.length - m'.ri := by omega
  rw [hr', hm]
  cases r with
  | ret x =>
    obtain ⟨g', k'⟩ := x
    obtain ⟨hk, hs', hi'⟩ := hout
    exact ⟨g', k, m', by simp [hK1, hk], rfl, hs', hi', hkle⟩
  | done x =>
    obtain ⟨g', i'⟩ := x
    obtain ⟨hk, hs', hi'⟩ := hout
    have hg' : GInv g' := hi'.withErr g'.err
    exact ⟨_, k, m', by simp [hK2 g' i' hg', hk], rfl, hs', hi', hkle⟩

theorem malloc0_ok (o : Nat → Bytes) (c : Nat) (hc : c ≤ 2 ^ 45) :
    mcacheMalloc o 0 (some (c : Int)) = .ok { mem := dirty o (mcacheCap c), len := 0, nonnil := true } := by
  unfold mcacheMalloc
  by_cases h : (c : Int) > 0
  · have : ¬ ((c : Int) < 0 ∨ (c : Int) > 35184372088832) := by omega
    have hc0 : 0 < c := by omega
    simp [hc0, this]
  · have : c = 0 := by omega
    subst this; simp

theorem malloc1_ok (o : Nat → Bytes) (c : Nat) (hc : c ≤ 2 ^ 45) :
    mcacheMalloc o (c : Int) none = .ok { mem := dirty o (mcacheCap c), len := c, nonnil := true } := by
  unfold mcacheMalloc
  have : ¬ ((c : Int) < 0 ∨ (c : Int) > 35184372088832) := by omega
  simp [this]

/-- the buffer after `cn := copy(nbuf[ri:], buf[ri:]); buf = nbuf[:ri+cn]` -/
def regrown (b nb : Sl) (ri : Nat) : Sl :=
  { mem := nb.mem.take ri ++ ((b.mem.drop ri).take (b.len - ri) ++ nb.mem.drop b.len), len := b.len, nonnil := nb.nonnil }

theorem regrow_ok (b nb : Sl) (ri : Nat) (hri : ri ≤ b.len) (hlen : b.len ≤ b.mem.length)
    (hnb : nb.len ≤ nb.mem.length) (hbig : b.len ≤ nb.len) (_hcap : nb.mem.length ≤ 2 ^ 46) :
    let nbs : Sl := { nb with mem := nb.mem.drop ri, len := nb.len - ri }
    let bs : Sl := { b with mem := b.mem.drop ri, len := b.len - ri }
    ssliceFrom nb (ri : Int) = .ok nbs ∧ ssliceFrom b (ri : Int) = .ok bs ∧
    (∀ hi : Int, hi = (b.len : Int) → sslice (putBack nb (ri : Int) (copySl nbs bs).1) 0 hi = .ok (regrown b nb ri)) ∧
    (copySl nbs bs).2 = ((b.len - ri : Nat) : Int) := by
  have hk : min (nb.len - ri) (b.len - ri) = b.len - ri := by omega
  refine ⟨?_, ?_, ?_, by simp [copySl, hk]⟩
  · unfold ssliceFrom; rw [sslice_ok _ _ _ (by omega) (by simp [slen]; omega) (by simp [slen, scap]; omega)]; simp [slen]
  · unfold ssliceFrom; rw [sslice_ok _ _ _ (by omega) (by simp [slen]; omega) (by simp [slen, scap]; omega)]; simp [slen]
  · intro hi hhi
    subst hhi
    obtain ⟨p1, _, p3⟩ := putBack_copy nb { b with mem := b.mem.drop ri, len := b.len - ri } ri (nb.len - ri) (by omega)
      (by simp only [List.length_drop]; omega)
    simp only [hk] at p1 p3
    have e1 : ri + (b.len - ri) = b.len := by omega
    rw [p1, sslice_ok _ _ _ (by omega) (by omega) (by simp only [scap, p3]; omega)]
    simp [regrown, e1]

theorem regrown_data (b nb : Sl) (ri : Nat) (hri : ri ≤ b.len) (hlen : b.len ≤ b.mem.length)
    (hbig : b.len ≤ nb.mem.length) :
    (regrown b nb ri).data.drop ri = b.data.drop ri ∧ (regrown b nb ri).mem.length = nb.mem.length := by
  constructor
  · have e : (regrown b nb ri).data = nb.mem.take ri ++ (b.mem.drop ri).take (b.len - ri) := by
      simp only [regrown, Sl.data]
      rw [← List.append_assoc, List.take_append_of_le_length (by simp; omega)]
      apply List.take_of_length_le; simp; omega
    rw [e, List.drop_append_of_le_length (by simp; omega)]
    have : ((nb.mem.take ri).drop ri) = [] := by apply List.drop_of_length_le; simp; omega
    rw [this]
    simp [Sl.data, List.drop_take]
  · simp only [regrown, List.length_append, List.length_drop, List.length_take_of_le (show ri ≤ nb.mem.length by omega),
      List.length_take_of_le (show b.len - ri ≤ (b.mem.drop ri).length by simp only [List.length_drop]; omega)]
    omega

theorem pow2ceil_le45 (x : Nat) (hx : x ≤ 2 ^ 45) : pow2ceil x ≤ 2 ^ 45 := by
  unfold pow2ceil; rw [pow2ceilAux_eq]
  exact doubleUntil_le 64 1 x 45 (2 ^ 45) (by omega) hx

/-- the size the first buffer starts from (before doubling): the largest recorded capacity, at least `defaultBufSize` -/
theorem firstSize_ok (stats : List Nat) (h : statsMax stats ≤ 2 ^ 45) :
    ∃ m1, (if statsMax stats < Facts.defaultBufSize then Facts.defaultBufSize else statsMax stats) = m1 ∧ 0 < m1 ∧
      m1 ≤ 2 ^ 45 ∧ (if ((statsMax stats : Nat) : Int) < 4096 then (Out.ok 4096 : GM Int)
        else Out.ok ((statsMax stats : Nat) : Int)) = Out.ok (m1 : Int) := by
  by_cases h0 : statsMax stats < 4096
  · have h0' : ((statsMax stats : Nat) : Int) < 4096 := by omega
    exact ⟨4096, by simp [Facts.defaultBufSize, h0], by omega, by omega, by simp [h0']⟩
  · have h0' : ¬ ((statsMax stats : Nat) : Int) < 4096 := by omega
    exact ⟨statsMax stats, by simp [Facts.defaultBufSize, h0], by omega, h, by simp [h0']⟩

/-- the fuel the model gives its read loop for this request -/
def needFuel (m : Rd) (n : Nat) : Nat :=
  Facts.maxConsecutiveEmptyReads * ((m.prepare n).cap - (m.prepare n).buf.length + 1) + 1

theorem DefaultReader_acquireSlow_sim (O : Nat → Nat → Bytes) (fuel : Nat) (g : S_DefaultReader Src) (m : Rd) (n : Nat)
    (hs : Sim g m) (hi : GInv g) (hcap : g.buf.mem.length ≤ 2 ^ 44) (hreq : n + m.ri ≤ 2 ^ 44)
    (hfuel : needFuel m n ≤ fuel) :
    AcqOK (DefaultReader_acquireSlow srcReader O fuel g (n : Int)) (m.acquireSlow n) := by
  have hlen := hi.len_le; have hri := hi.ri_le; have hri0 := hi.ri_nonneg
  have h1 := hs.len; have h2 := hs.cap; have h3 := hs.ri
  have hM : Facts.maxConsecutiveEmptyReads = 100 := rfl
  unfold Rd.acquireSlow
  by_cases he : m.err.isSome
  · -- sticky error
    have hge : g.err ≠ Err.nil := by
      rw [hs.err]; intro h; rw [errCon_nil_iff] at h; simp [h] at he
    have hw : wrap .i64 (slen g.buf - g.ri) = ((m.buf.length - m.ri : Nat) : Int) := by
      have := hi.cap_le
      rw [wrap_i64_id] <;> simp [slen] <;> omega
    exact ⟨g, m.buf.length - m.ri, m, by simp [DefaultReader_acquireSlow, hge, hw], by simp [he], hs, hi, Nat.le_refl _⟩
  · have hge : g.err = Err.nil := by
      rw [hs.err, errCon_nil_iff]; simpa using he
    simp only [he]
    unfold needFuel at hfuel
    have hf64 : 101 ≤ fuel := by rw [hM] at hfuel; omega
    obtain ⟨f0, rfl⟩ : ∃ f0, fuel = f0 + 1 := ⟨fuel - 1, by omega⟩
    unfold DefaultReader_acquireSlow
    -- The read loop `?L` and the statements after it `?K` are reached in three ways (first allocation, growth, neither):
    -- `tail` deals with them once; its first use finds `?L` and `?K` in the goal.
    have tail := acquire_finish ?L (f0 + 1) n ?K ?step ?ret ?done
    by_cases hc : g.buf.mem.length = 0
    · -- first allocation: max(stats, defaultBufSize) doubled up to n, from mcache
      have hc' : scap g.buf = 0 := by unfold scap; omega
      have hmc : m.cap = 0 := by omega
      have hri' : g.ri = 0 := by omega
      have hmri : m.ri = 0 := by omega
      have hmlen : m.buf = [] := List.eq_nil_of_length_eq_zero (by omega)
      have hst : ∀ x ∈ g.maxSizeStats.buckets, 0 ≤ x := fun x hx => (hi.stats_rng x hx).1
      have e1 := maxSizeStats_maxSize_eq g.maxSizeStats hst hi.stats_len
      rw [← hs.stats] at e1
      have hs45 : statsMax m.stats ≤ 2 ^ 45 := statsMax_le _ _ (by
        intro x hx; rw [hs.stats] at hx
        obtain ⟨y, hy, rfl⟩ := List.mem_map.mp hx
        have := hi.stats_rng y hy; omega)
      obtain ⟨m1, hm1, hm1pos, hm1le, hmax⟩ := firstSize_ok m.stats hs45
      have hf1 : n ≤ m1 * 2 ^ f0 := le_mul_pow 44 hm1pos (by omega) (by omega)
      have hg1 : n ≤ m1 * 2 ^ 64 := le_mul_pow 44 hm1pos (by omega) (by omega)
      have hd := doubleUntil_spec 64 m1 n hm1pos hg1
      generalize hm2 : doubleUntil 64 m1 n = m2 at *
      have hm2le : m2 ≤ 2 ^ 45 := by omega
      have e3 := malloc0_ok (O 1) m2 hm2le
      have hpc := pow2ceil_spec m2 (by omega)
      have hmc2 := mcacheCap_eq m2 (by omega)
      have hpc45 := pow2ceil_le45 m2 hm2le
      have hnil : g.buf.mem = [] := List.eq_nil_of_length_eq_zero hc
      have hp : m.prepare n = { m with buf := [], cap := pow2ceil m2, readOnly := false } := by
        have : ¬ n > pow2ceil m2 - m.ri := by omega
        simp [Rd.prepare, hmc, hm1, hm2, this]
      have hwA : wrap .i64 ((mcacheCap m2 : Int) - g.ri) = (mcacheCap m2 : Int) := wrap_eq (by omega)
      have hgA : n ≤ mcacheCap m2 := by omega
      simp [-Out.bind_ok, bind_ok_nr, eq_true hge, hc', e1, hmax, scap, hnil]
      -- the doubling loop, whatever the generated function is called with
      rw [double_bind (T := n) (f := f0) (m := m1) (g := 64) (mi := (m1 : Int)) (hT := by omega) (hmi := rfl)
        (hm := hm1pos) (hm' := by omega) (hf := hf1) (hg := hg1)]
      rotate_left
      · intro f c hc0 hc1
        obtain ⟨hw, hw'⟩ := wrap_double c hc1
        rw [DefaultReader_acquireSlow_loop1]
        simp [hw, hw']
      rw [hm2]
      simp [-Out.bind_ok, bind_ok_nr, e3, scap, hwA, hgA, Nat.not_lt.mpr hgA]
      refine tail _ _ ?_ ?_ hfuel
      · rw [hp]
        exact ⟨by simp, by simp [Sl.data], by simp [hmc2], hs.ri, hs.err, rfl, hs.stats, hs.idx, hs.src⟩
      · exact ⟨by simp, hi.ri_nonneg, by simp; omega, by simp; omega, hi.rd_some, hi.stats_len, hi.stats_rng, hi.idx_rng⟩
    · have hc' : ¬ scap g.buf = 0 := by unfold scap; omega
      have hmc : ¬ m.cap = 0 := by omega
      have hw : wrap .i64 (scap g.buf - g.ri) = ((m.cap - m.ri : Nat) : Int) :=
        wrap_eq (by simp [scap]; omega)
      by_cases hg : n > m.cap - m.ri
      · -- growth: capacity doubled until the request fits, fresh buffer from mcache, unread bytes copied over
        have hnpos : 0 < n := by omega
        have hwc : wrap .i64 (scap g.buf * 2) = (m.cap : Int) * 2 :=
        wrap_eq (by simp [scap]; omega)
        have hf1 : n + m.ri ≤ (m.cap * 2) * 2 ^ f0 := le_mul_pow 44 (by omega) (by omega) (by omega)
        have hg1 : n + m.ri ≤ (m.cap * 2) * 2 ^ 64 := le_mul_pow 44 (by omega) (by omega) (by omega)
        have hd := doubleUntil_spec 64 (m.cap * 2) (n + m.ri) (by omega) hg1
        have hgc := growCap_eq 64 (m.cap * 2) m.ri n hnpos
        generalize hN : doubleUntil 64 (m.cap * 2) (n + m.ri) = N at *
        have hNle : N ≤ 2 ^ 45 := by omega
        have e3 := malloc1_ok (O 2) N hNle
        have hpc := pow2ceil_spec N (by omega)
        have hmc2 := mcacheCap_eq N (by omega)
        have hpc45 := pow2ceil_le45 N hNle
        have hp : m.prepare n = { m with cap := pow2ceil N, readOnly := false } := by
          simp [Rd.prepare, hmc, hg, hgc]
        obtain ⟨r1, r2, r3, r4⟩ := regrow_ok g.buf { mem := dirty (O 2) (mcacheCap N), len := N, nonnil := true } m.ri
          (by omega) hlen (by simp; omega) (by simp; omega) (by simp; omega)
        rw [h3] at r1 r2 r3
        obtain ⟨d1, d2⟩ := regrown_data g.buf { mem := dirty (O 2) (mcacheCap N), len := N, nonnil := true } m.ri
          (by omega) hlen (by simp; omega)
        have hwc' : wrap .i64 (2 * scap g.buf) = (m.cap : Int) * 2 :=
        wrap_eq (by simp [scap]; omega)
        -- `r.pendingBuf` is not part of the relation: whether the old buffer is parked (`!r.bufReadOnly`) does not matter
        have hS : ∀ pb, Sim { g with pendingBuf := pb, bufReadOnly := false,
                                     buf := regrown g.buf ⟨dirty (O 2) (mcacheCap N), N, true⟩ m.ri } (m.prepare n) := by
          intro pb
          rw [hp]
          exact ⟨by simp [regrown, h1], by simpa [hs.live] using d1.symm, by simp only []; rw [d2]; simp [hmc2], hs.ri,
            hs.err, rfl, hs.stats, hs.idx, hs.src⟩
        have hI : ∀ pb, GInv { g with pendingBuf := pb, bufReadOnly := false,
                                      buf := regrown g.buf ⟨dirty (O 2) (mcacheCap N), N, true⟩ m.ri } := fun pb =>
          ⟨by simp [d2]; simp [regrown]; omega, hi.ri_nonneg, by simp [regrown]; omega, by simp [d2]; omega,
            hi.rd_some, hi.stats_len, hi.stats_rng, hi.idx_rng⟩
        simp [-Out.bind_ok, bind_ok_nr, eq_true hge, hc', hw, hg, Nat.not_le.mpr hg, hwc, hwc']
        rw [double_bind (T := n + m.ri) (f := f0) (m := m.cap * 2) (g := 64) (mi := (m.cap : Int) * 2) (hT := by omega)
          (hmi := by simp) (hm := by omega) (hm' := by omega) (hf := hf1) (hg := hg1)]
        rotate_left
        · intro f c hc0 hc1
          obtain ⟨hw, hw'⟩ := wrap_double c hc1
          have hwr : wrap .i64 ((c : Int) - g.ri) = (c : Int) - g.ri := wrap_eq (by omega)
          have hwr' : wrap .i64 (-g.ri + (c : Int)) = (c : Int) - g.ri := wrap_eq (by omega)
          have h : ((c : Int) - g.ri < (n : Int)) ↔ c < n + m.ri := by omega
          have h' : ((n : Int) ≤ (c : Int) - g.ri) ↔ ¬ c < n + m.ri := by omega
          rw [DefaultReader_acquireSlow_loop2]
          simp [h, h', hw, hw', hwr, hwr']
        rw [hN]
        cases hro : g.bufReadOnly <;>
        · simp [-Out.bind_ok, bind_ok_nr, e3, hro, r1, r2, r4]
          rw [r3]
          rotate_left
          · rw [wrap_i64_id] <;> omega
          simp [-Out.bind_ok, bind_ok_nr]
          exact tail _ _ (hS _) (hI _) hfuel
      · have hp : m.prepare n = m := by simp [Rd.prepare, hmc, hg]
        simp [eq_true hge, hc', hw, hg, Nat.le_of_not_gt hg]
        exact tail g _ (by rw [hp]; exact hs) hi hfuel
    case step =>
      refine ⟨?_, ?_⟩
      · intro fuel g i s hrd hi hlt hi0
        have h1 := spare_ok g.buf hi.len_le
        obtain ⟨h2, h3, h4, h5⟩ := refill_ok g.buf s hi.len_le hi.cap_le
        have hrl := Src.read_len s (g.buf.mem.length - g.buf.len)
        generalize hres : s.read (g.buf.mem.length - g.buf.len) = res at *
        have hri0 := hi.ri_nonneg; have hri := hi.ri_le; have hlen := hi.len_le; have hcap := hi.cap_le
        have hfl : (filled g.buf res.1).len = g.buf.len + res.1.length := rfl
        have hw : wrap .i64 (slen (filled g.buf res.1) - g.ri) = ((filled g.buf res.1).len : Int) - g.ri :=
        wrap_eq (by simp [slen, filled]; omega)
        have hw1 : wrap .i64 (-1 + 1) = 0 := by decide
        have hw0 : wrap .i64 0 = 0 := by decide
        have hw2 : wrap .i64 (i + 1) = i + 1 := wrap_eq (by omega)
        have hw3 : wrap .i64 (1 + i) = i + 1 := wrap_eq (by omega)
        have hge : ¬ (100 : Int) ≤ i := by omega
        rw [DefaultReader_acquireSlow_loop3]
        -- up to `r.buf = r.buf[:len(r.buf)+m]`, however the bound is written
        simp [hlt, hge, h1, hrd, ifaceGet, h2, h3, h4]
        rw [h5]
        rotate_left
        · simp only [slen, putBack]; rw [wrap_i64_id] <;> omega
        by_cases he : res.2.1 = none
        · by_cases hn : n ≤ ((filled g.buf res.1).len : Int) - g.ri
          · have hn' : ¬ ((filled g.buf res.1).len : Int) - g.ri < n := by omega
            simp [hlt, hge, h1, hrd, ifaceGet, h2, h3, h4, errCon_nil_iff, hw, he, hn, hn', ite_bind]
          · have hn' : ((filled g.buf res.1).len : Int) - g.ri < n := by omega
            -- first everything up to the count of the round, then (second pass) the `m > 0` reset, in either reading
            simp [hlt, hge, h1, hrd, ifaceGet, h2, h3, h4, errCon_nil_iff, hw, he, hn, hn']
            by_cases hp : 0 < res.1.length
            · have hp1 : res.1.length ≠ 0 := by omega
              have hp2 : res.1 ≠ [] := by intro h; simp [h] at hp
              simp [hp, hp1, hp2, hw1, hw0]
            · have hp1 : res.1.length = 0 := by omega
              have hp2 : res.1 = [] := List.eq_nil_of_length_eq_zero hp1
              simp [hp2, hw2, hw3]
        · simp [hlt, hge, h1, hrd, ifaceGet, h2, h3, h4, errCon_nil_iff, hw, he, ite_bind]
      · intro fuel g i hge
        have hge' : (100 : Int) ≤ i := by omega
        rw [DefaultReader_acquireSlow_loop3]
        simp [hge, hge']
    case ret => exact fun _ => rfl
    case done =>
      -- `r.err = io.ErrNoProgress; return len(r.buf) - r.ri`
      intro g i hg
      have := hg.len_le; have := hg.ri_nonneg; have := hg.ri_le; have := hg.cap_le
      have hw : wrap .i64 (slen g.buf - g.ri) = (g.buf.len : Int) - g.ri := wrap_eq (by simp [slen]; omega)
      have hw' : wrap .i64 (-g.ri + slen g.buf) = (g.buf.len : Int) - g.ri := wrap_eq (by simp [slen]; omega)
      simp [hw, hw']

theorem DefaultReader_acquire_sim (O : Nat → Nat → Bytes) (fuel : Nat) (g : S_DefaultReader Src) (m : Rd) (n : Nat)
    (hs : Sim g m) (hi : GInv g) (hcap : g.buf.mem.length ≤ 2 ^ 44) (hreq : n + m.ri ≤ 2 ^ 44)
    (hfuel : needFuel m n ≤ fuel) :
    AcqOK (DefaultReader_acquire srcReader O fuel g (n : Int)) (m.acquire n) := by
  have hlen := hi.len_le; have hri := hi.ri_le; have hri0 := hi.ri_nonneg; have hc := hi.cap_le
  have h1 := hs.len; have h3 := hs.ri
  have hw : wrap .i64 (slen g.buf - g.ri) = ((m.buf.length - m.ri : Nat) : Int) :=
        wrap_eq (by simp [slen]; omega)
  unfold DefaultReader_acquire Rd.acquire
  by_cases hn : n ≤ m.buf.length - m.ri
  · exact ⟨g, n, m, by simp [hw, hn, Nat.not_lt.mpr hn], by simp [hn], hs, hi, hn⟩
  · obtain ⟨g', k, m', hx, hy, hs', hi', hk⟩ := DefaultReader_acquireSlow_sim O fuel g m n hs hi hcap hreq hfuel
    exact ⟨g', k, m', by simp [hw, hn, Nat.lt_of_not_le hn, hx], by simp [hn, hy], hs', hi', hk⟩

/-! ## Next / Peek / Skip / ReadBinary / ReadLen / Release -/

/-- the result `(buf, err)` of a generated Next/Peek against the model's `RdRes` -/
def ResOK (b : Sl) (e : Err) : RdRes → Prop
  | .ok bs => b.data = bs ∧ e = Err.nil
  | .fail eo => b = Sl.nil ∧ e = errCon eo
  | .nofuel => False

def NextOK (x : GM (S_DefaultReader Src × Sl × Err)) (y : RdRes × Rd) : Prop :=
  ∃ (g' : S_DefaultReader Src) (b : Sl) (e : Err), x = .ok (g', b, e) ∧ ResOK b e y.1 ∧ Sim g' y.2 ∧ GInv g'

def SkipOK (x : GM (S_DefaultReader Src × Err)) (y : RdRes × Rd) : Prop :=
  ∃ (g' : S_DefaultReader Src) (e : Err), x = .ok (g', e) ∧ ResOK Sl.nil e y.1 ∧ Sim g' y.2 ∧ GInv g'

/-- `r.buf[r.ri : r.ri+n]` and `r.ri += n` on related states -/
theorem take_live (g : S_DefaultReader Src) (m : Rd) (n : Nat) (hs : Sim g m) (hi : GInv g)
    (hn : n ≤ m.buf.length - m.ri) :
    sslice g.buf g.ri ((m.ri : Int) + (n : Int)) =
        .ok { g.buf with mem := g.buf.mem.drop m.ri, len := n } ∧
      (wrap .i64 (g.ri + (n : Int)) = (m.ri : Int) + (n : Int) ∧ wrap .i64 ((n : Int) + g.ri) = (m.ri : Int) + (n : Int)) ∧
      ((g.buf.mem.drop m.ri).take n = (m.buf.drop m.ri).take n) ∧
      Sim { g with ri := ((m.ri + n : Nat) : Int) } { m with ri := m.ri + n } ∧
      GInv { g with ri := ((m.ri + n : Nat) : Int) } := by
  have hlen := hi.len_le; have hri := hi.ri_le; have hri0 := hi.ri_nonneg; have hc := hi.cap_le
  have h1 := hs.len; have h3 := hs.ri
  have hw : wrap .i64 (g.ri + (n : Int)) = (m.ri : Int) + (n : Int) := wrap_eq (by omega)
  have hwc : wrap .i64 ((n : Int) + g.ri) = (m.ri : Int) + (n : Int) := wrap_eq (by omega)
  refine ⟨?_, ⟨hw, hwc⟩, ?_, ⟨hs.len, ?_, hs.cap, rfl, hs.err, hs.ro, hs.stats, hs.idx, hs.src⟩,
    ⟨hi.len_le, by simp; omega, by simp; omega, hi.cap_le, hi.rd_some, hi.stats_len, hi.stats_rng, hi.idx_rng⟩⟩
  · rw [sslice_ok _ _ _ (by omega) (by omega) (by simp [scap]; omega), ← h3]
    simp
    omega
  · rw [hs.live]
    simp only [Sl.data, List.drop_take, List.take_take]
    rw [Nat.min_eq_left (by omega)]
  · show m.buf.drop (m.ri + n) = g.buf.data.drop (m.ri + n)
    rw [← List.drop_drop, ← List.drop_drop, hs.live]

theorem DefaultReader_Next_sim (O : Nat → Nat → Bytes) (fuel : Nat) (g : S_DefaultReader Src) (m : Rd) (n : Int)
    (hs : Sim g m) (hi : GInv g) (hcap : g.buf.mem.length ≤ 2 ^ 44) (hreq : n + m.ri ≤ 2 ^ 44)
    (hfuel : needFuel m n.toNat ≤ fuel) :
    NextOK (DefaultReader_Next srcReader O fuel g n) (m.next n) := by
  unfold DefaultReader_Next Rd.next
  by_cases hneg : n < 0
  · exact ⟨g, Sl.nil, Err.negCount, by simp [hneg], by simp [hneg, ResOK, errCon], by simpa [hneg] using hs, hi⟩
  · obtain ⟨k, rfl⟩ : ∃ k : Nat, n = (k : Int) := ⟨n.toNat, by omega⟩
    obtain ⟨g', j, m', hx, hy, hs', hi', hj⟩ :=
      DefaultReader_acquire_sim O fuel g m k hs hi hcap (by omega) (by simpa using hfuel)
    simp only [hneg, if_false, Int.toNat_natCast, hy]
    by_cases hgt : k > j
    · have hle := Nat.not_le.mpr hgt
      exact ⟨g', Sl.nil, g'.err, by simp [hneg, hx, hgt, hle], by simp [hgt, ResOK, hs'.err], by simpa [hgt] using hs', hi'⟩
    · have hle := Nat.le_of_not_gt hgt
      obtain ⟨t1, ⟨t2, t2c⟩, t3, t4, t5⟩ := take_live g' m' k hs' hi' (by omega)
      refine ⟨{ g' with ri := ((m'.ri + k : Nat) : Int) }, { g'.buf with mem := g'.buf.mem.drop m'.ri, len := k }, Err.nil,
        by simp [hneg, hx, hgt, hle, t1, t2, t2c], ?_, by simpa [hgt] using t4, t5⟩
      simp [hgt, ResOK, Sl.data, t3]

theorem DefaultReader_Peek_sim (O : Nat → Nat → Bytes) (fuel : Nat) (g : S_DefaultReader Src) (m : Rd) (n : Int)
    (hs : Sim g m) (hi : GInv g) (hcap : g.buf.mem.length ≤ 2 ^ 44) (hreq : n + m.ri ≤ 2 ^ 44)
    (hfuel : needFuel m n.toNat ≤ fuel) :
    NextOK (DefaultReader_Peek srcReader O fuel g n) (m.peek n) := by
  unfold DefaultReader_Peek Rd.peek
  by_cases hneg : n < 0
  · exact ⟨g, Sl.nil, Err.negCount, by simp [hneg], by simp [hneg, ResOK, errCon], by simpa [hneg] using hs, hi⟩
  · obtain ⟨k, rfl⟩ : ∃ k : Nat, n = (k : Int) := ⟨n.toNat, by omega⟩
    obtain ⟨g', j, m', hx, hy, hs', hi', hj⟩ :=
      DefaultReader_acquire_sim O fuel g m k hs hi hcap (by omega) (by simpa using hfuel)
    simp only [hneg, if_false, Int.toNat_natCast, hy]
    by_cases hgt : k > j
    · have hle := Nat.not_le.mpr hgt
      exact ⟨g', Sl.nil, g'.err, by simp [hneg, hx, hgt, hle], by simp [hgt, ResOK, hs'.err], by simpa [hgt] using hs', hi'⟩
    · have hle := Nat.le_of_not_gt hgt
      obtain ⟨t1, ⟨t2, t2c⟩, t3, t4, t5⟩ := take_live g' m' k hs' hi' (by omega)
      refine ⟨g', { g'.buf with mem := g'.buf.mem.drop m'.ri, len := k }, Err.nil,
        by simp [hneg, hx, hgt, hle, t1, t2, t2c], ?_, by simpa [hgt] using hs', hi'⟩
      simp [hgt, ResOK, Sl.data, t3]

theorem DefaultReader_Skip_sim (O : Nat → Nat → Bytes) (fuel : Nat) (g : S_DefaultReader Src) (m : Rd) (n : Int)
    (hs : Sim g m) (hi : GInv g) (hcap : g.buf.mem.length ≤ 2 ^ 44) (hreq : n + m.ri ≤ 2 ^ 44)
    (hfuel : needFuel m n.toNat ≤ fuel) :
    SkipOK (DefaultReader_Skip srcReader O fuel g n) (m.skip n) := by
  unfold DefaultReader_Skip Rd.skip
  by_cases hneg : n < 0
  · exact ⟨g, Err.negCount, by simp [hneg], by simp [hneg, ResOK, errCon], by simpa [hneg] using hs, hi⟩
  · obtain ⟨k, rfl⟩ : ∃ k : Nat, n = (k : Int) := ⟨n.toNat, by omega⟩
    obtain ⟨g', j, m', hx, hy, hs', hi', hj⟩ :=
      DefaultReader_acquire_sim O fuel g m k hs hi hcap (by omega) (by simpa using hfuel)
    simp only [hneg, if_false, Int.toNat_natCast, hy]
    by_cases hgt : k > j
    · have hle := Nat.not_le.mpr hgt
      exact ⟨g', g'.err, by simp [hneg, hx, hgt, hle], by simp [hgt, ResOK, hs'.err], by simpa [hgt] using hs', hi'⟩
    · have hle := Nat.le_of_not_gt hgt
      obtain ⟨t1, ⟨t2, t2c⟩, t3, t4, t5⟩ := take_live g' m' k hs' hi' (by omega)
      refine ⟨{ g' with ri := ((m'.ri + k : Nat) : Int) }, Err.nil, by simp [hneg, hx, hgt, hle, t2, t2c], ?_, by simpa [hgt] using t4, t5⟩
      simp [hgt, ResOK, Sl.data, Sl.nil]

/-- `ReadLen` is the model's `readLen` (exactly) -/
theorem DefaultReader_ReadLen_eq (g : S_DefaultReader Src) (m : Rd) (hs : Sim g m) :
    DefaultReader_ReadLen g = .ok (m.readLen : Int) := by
  simp [DefaultReader_ReadLen, Rd.readLen, hs.ri]

/-- `ReadBinary(bs)`: the bytes stored at the front of `bs`, the count and the error are the model's; `bs` keeps its
    length and the rest of its memory -/
def ReadBinaryOK (bs : Sl) (x : GM (S_DefaultReader Src × Sl × Int × Err))
    (y : Option (Bytes × Nat × Option RErr) × Rd) : Prop :=
  ∃ (g' : S_DefaultReader Src) (out : Bytes) (j : Nat) (e : Option RErr),
    x = .ok (g', { bs with mem := out ++ bs.mem.drop out.length }, (j : Int), errCon e) ∧
    y.1 = some (out, j, e) ∧ Sim g' y.2 ∧ GInv g'

theorem DefaultReader_ReadBinary_sim (O : Nat → Nat → Bytes) (fuel : Nat) (g : S_DefaultReader Src) (m : Rd) (bs : Sl)
    (hs : Sim g m) (hi : GInv g) (hcap : g.buf.mem.length ≤ 2 ^ 44) (hreq : bs.len + m.ri ≤ 2 ^ 44)
    (hfuel : needFuel m bs.len ≤ fuel) :
    ReadBinaryOK bs (DefaultReader_ReadBinary srcReader O fuel g bs) (m.readBinary bs.len) := by
  unfold DefaultReader_ReadBinary Rd.readBinary
  obtain ⟨g', j, m', hx, hy, hs', hi', hj⟩ := DefaultReader_acquire_sim O fuel g m bs.len hs hi hcap hreq hfuel
  simp only [hy]
  generalize hq : (if j > bs.len then bs.len else j) = q
  have hqle : q ≤ bs.len := by subst hq; split <;> omega
  have hqj : q ≤ m'.buf.length - m'.ri := by subst hq; split <;> omega
  obtain ⟨t1, ⟨t2, t2c⟩, t3, t4, t5⟩ := take_live g' m' q hs' hi' hqj
  have hlenq : ((m'.buf.drop m'.ri).take q).length = q := by simp; omega
  refine ⟨{ g' with ri := ((m'.ri + q : Nat) : Int) }, (m'.buf.drop m'.ri).take q, q,
    if bs.len > q then m'.err else none, ?_, rfl, t4, t5⟩
  have hmin : min bs.len q = q := by omega
  by_cases hjb : j > bs.len
  · have hqe : q = bs.len := by subst hq; simp [hjb]
    subst hqe
    simp [slen, hx, hjb, t1, t2, t2c, copySl, t3, hlenq, errCon]
  · have hqe : q = j := by subst hq; simp [hjb]
    subst hqe
    by_cases hgt : bs.len > q
    · simp [slen, hx, hjb, t1, t2, t2c, copySl, hmin, hgt, t3, hlenq, hs'.err]
    · simp [slen, hx, hjb, t1, t2, t2c, copySl, hmin, hgt, t3, hlenq, errCon]

/-! ### Release -/

/-- with nothing consumed (`ri = 0`) the relation is the abstraction function -/
theorem absRd_of_sim (g : S_DefaultReader Src) (m : Rd) (hs : Sim g m) (h0 : m.ri = 0) : absRd g = m := by
  obtain ⟨buf, cap, ri, err, ro, stats, idx, src⟩ := m
  obtain ⟨h1, h2, h3, h4, h5, h6, h7, h8, h9⟩ := hs
  simp only [] at h0 h1 h2 h3 h4 h5 h6 h7 h8 h9
  subst h0
  simp only [List.drop_zero] at h2
  have e4 : g.ri.toNat = 0 := by omega
  have e8 : g.maxSizeStats.bucketIdx.toNat = idx := by omega
  simp [absRd, h2, h3, e4, h5, h6, h7, e8, h9]

theorem release_loop (l : List Sl) : DefaultReader_Release_loop1 l = .ok () := by
  induction l with
  | nil => rfl
  | cons x xs ih => simp [DefaultReader_Release_loop1, ih]

/-- `Release` is the model's `release` — exactly: the abstraction of the state afterwards is the model state -/
def ReleaseOK (x : GM (S_DefaultReader Src × Err)) (m' : Rd) : Prop :=
  ∃ g' : S_DefaultReader Src, x = .ok (g', Err.nil) ∧ Sim g' m' ∧ GInv g' ∧ absRd g' = m'

theorem ReleaseOK.mk' (x : GM (S_DefaultReader Src × Err)) (g' : S_DefaultReader Src) (m' : Rd)
    (hx : x = .ok (g', Err.nil)) (hS : Sim g' m') (hI : GInv g') (h0 : m'.ri = 0) : ReleaseOK x m' :=
  ⟨g', hx, hS, hI, absRd_of_sim g' m' hS h0⟩

/-- the buffer after `n := copy(r.buf, r.buf[r.ri:]); r.buf = r.buf[:n]`: the unread bytes at the front -/
def compacted (b : Sl) (ri : Nat) : Sl :=
  ⟨(b.mem.drop ri).take (b.len - ri) ++ b.mem.drop (b.len - ri), b.len - ri, b.nonnil⟩

theorem compact_ok (b : Sl) (ri : Nat) (hri : ri ≤ b.len) (hlen : b.len ≤ b.mem.length) :
    let t : Sl := { b with mem := b.mem.drop ri, len := b.len - ri }
    sslice (copySl b t).1 0 (copySl b t).2 = .ok (compacted b ri) ∧
    (compacted b ri).data = b.data.drop ri ∧ (compacted b ri).mem.length = b.mem.length := by
  have hk : min b.len (b.len - ri) = b.len - ri := by omega
  refine ⟨?_, ?_, ?_⟩
  · simp only [copySl, hk]
    rw [sslice_ok _ _ _ (by omega) (by omega) (by simp [scap]; omega)]
    simp [compacted]
  · simp only [compacted, Sl.data]
    rw [List.take_append_of_le_length (by simp; omega), List.take_of_length_le (by simp; omega), List.drop_take]
  · simp [compacted]; omega

/-- `Release` with unread bytes: whichever way the buffer `b'` that holds them from its start was made -/
theorem sim_release (g : S_DefaultReader Src) (m : Rd) (hs : Sim g m) (hi : GInv g) (b' : Sl) (cap' : Nat)
    (hd : b'.data = g.buf.data.drop m.ri) (hl : b'.len = g.buf.len - m.ri) (hc : b'.mem.length = cap')
    (hle : g.buf.len - m.ri ≤ cap') (hc45 : cap' ≤ g.buf.mem.length) :
    Sim { g with pendingBuf := none, buf := b', ri := 0 } { m with buf := m.buf.drop m.ri, cap := cap', ri := 0 } ∧
    GInv { g with pendingBuf := none, buf := b', ri := 0 } := by
  have := hi.cap_le; have := hs.len
  refine ⟨⟨by simp [hl]; omega, ?_, hc.symm, rfl, hs.err, hs.ro, hs.stats, hs.idx, hs.src⟩,
    ⟨by simp only [hl, hc]; exact hle, Int.le_refl _, by simp, by simp only [hc]; omega, hi.rd_some, hi.stats_len,
      hi.stats_rng, hi.idx_rng⟩⟩
  simp only [List.drop_zero, hd, hs.live]

theorem DefaultReader_Release_sim (g : S_DefaultReader Src) (m : Rd) (e : Err) (hs : Sim g m) (hi : GInv g) :
    ReleaseOK (DefaultReader_Release g e) m.release := by
  have hlen := hi.len_le; have hri := hi.ri_le; have hri0 := hi.ri_nonneg; have hc := hi.cap_le
  have h1 := hs.len; have h2 := hs.cap; have h3 := hs.ri
  have hw : wrap .i64 (slen g.buf - g.ri) = ((m.buf.length - m.ri : Nat) : Int) :=
        wrap_eq (by simp [slen]; omega)
  unfold DefaultReader_Release Rd.release
  have eU := maxSizeStats_update_eq g.maxSizeStats (scap g.buf) hi.stats_len hi.idx_rng.1 hi.idx_rng.2
  by_cases hz : m.buf.length - m.ri = 0
  · have hz' : ((m.buf.length - m.ri : Nat) : Int) = 0 := by omega
    simp only [hz, if_true]
    refine ReleaseOK.mk' _ _ _ (by simp [-Out.bind_ok, bind_ok_nr, release_loop, hw, hz, hz', eU]; rfl) ?_ ?_ rfl
    · refine ⟨rfl, rfl, rfl, rfl, hs.err, hs.ro, ?_, ?_, hs.src⟩
      · show listSet m.stats m.statsIdx m.cap = _
        have : m.statsIdx = g.maxSizeStats.bucketIdx.toNat := by have := hs.idx; omega
        simp [listSet, hs.stats, List.map_set, this, scap, h2]
      · have := hs.idx; have := hi.idx_rng
        simp [Facts.statsBucketNum]; omega
    · refine ⟨Nat.le_refl _, Int.le_refl _, Int.le_refl _, by simp [Sl.nil], hi.rd_some, ?_, ?_, ?_⟩
      · simp [hi.stats_len]
      · intro x hx
        rcases List.mem_or_eq_of_mem_set hx with h | h
        · exact hi.stats_rng x h
        · subst h; simp [scap]; omega
      · have := hi.idx_rng; simp [Facts.statsBucketNum]; omega
  · have hz' : ¬ ((m.buf.length - m.ri : Nat) : Int) = 0 := by omega
    have hsl : ssliceFrom g.buf g.ri = .ok { g.buf with mem := g.buf.mem.drop m.ri, len := g.buf.len - m.ri } := by
      unfold ssliceFrom
      rw [sslice_ok _ _ _ hri0 (by simp [slen]; omega) (by simp [slen, scap]; omega), ← h3]
      simp [slen]
    simp only [hz, if_false]
    cases hro : g.bufReadOnly
    · -- own buffer: the unread bytes are moved to the front
      have hmro : m.readOnly = false := by rw [hs.ro, hro]
      obtain ⟨c1, c2, c3⟩ := compact_ok g.buf m.ri (by omega) hlen
      obtain ⟨hS, hI⟩ := sim_release g m hs hi (compacted g.buf m.ri) m.cap c2 rfl (by rw [c3, h2]) (by omega) (by omega)
      rw [if_neg (show ¬ m.readOnly = true by simp [hmro])]
      exact ReleaseOK.mk' _ _ _ (by
        simp [-Out.bind_ok, bind_ok_nr, release_loop, hw, hz, hz', hro, hsl, c1]) hS hI rfl
    · -- read-only buffer from outside: re-sliced
      have hmro : m.readOnly = true := by rw [hs.ro, hro]
      obtain ⟨hS, hI⟩ := sim_release g m hs hi { g.buf with mem := g.buf.mem.drop m.ri, len := g.buf.len - m.ri }
        (m.cap - m.ri) (by simp [Sl.data, List.drop_take]) rfl (by simp; omega) (by omega) (by omega)
      rw [if_pos (show m.readOnly = true from hmro)]
      exact ReleaseOK.mk' _ _ _ (by
        simp [-Out.bind_ok, bind_ok_nr, release_loop, hw, hz, hz', hro, hsl]) hS hI rfl

/-! ## the statements through the abstraction map

  `absRd` maps the generated receiver to the model state (`pendingBuf` and the non-nil flag of `buf` are dropped: memory
  ownership is Model/Mem*). On a growth with `ri > 0` the Go code leaves DIRTY bytes below `ri` in the new buffer
  (`copy(nbuf[r.ri:], r.buf[r.ri:])`), the model keeps the consumed bytes (Model/Reader.lean says so: "bytes below ri are
  dirty, modelled as kept"). The two states then differ — in bytes nobody reads again. Hence `_eq_partial`: results
  (bytes, counts, errors) are EQUAL, states are equal after `Rd.canon` (consumed bytes blanked). `Release`, `ReadLen` and
  the statistics are exact. Disagreeing input for the un-canonised statement: buf = [1,2,3] (cap 4, own buffer), ri = 1,
  acquireSlow(4) with a source that delivers: the model's buffer starts with 1, the translation's with the oracle byte. -/

/-- consumed bytes blanked -/
def _root_.Verif.Rd.canon (r : Rd) : Rd := { r with buf := List.replicate r.ri 0 ++ r.buf.drop r.ri }

theorem sim_abs (g : S_DefaultReader Src) (hi : GInv g) : Sim g (absRd g) := by
  have := hi.len_le; have := hi.ri_nonneg
  obtain ⟨s, hs⟩ := Option.isSome_iff_exists.mp hi.rd_some
  refine ⟨by simp [absRd, Sl.data]; omega, rfl, rfl, by simp [absRd]; omega, by simp [absRd], rfl, rfl,
    by have := hi.idx_rng.1; simp [absRd]; omega, by simp [absRd, hs]⟩

theorem sim_canon (g : S_DefaultReader Src) (m : Rd) (hs : Sim g m) : (absRd g).canon = m.canon := by
  obtain ⟨buf, cap, ri, err, ro, stats, idx, src⟩ := m
  obtain ⟨h1, h2, h3, h4, h5, h6, h7, h8, h9⟩ := hs
  simp only [] at h1 h2 h3 h4 h5 h6 h7 h8 h9
  have e4 : g.ri.toNat = ri := by omega
  have e8 : g.maxSizeStats.bucketIdx.toNat = idx := by omega
  simp [Rd.canon, absRd, h2, h3, e4, h5, h6, h7, e8, h9]

def viewAcq (x : GM (S_DefaultReader Src × Int)) : Option (Nat × Rd) :=
  match x with
  | .ok (g', k) => some (k.toNat, (absRd g').canon)
  | _ => none

def viewRes (x : GM (S_DefaultReader Src × Sl × Err)) : Option ((Bytes × Err) × Rd) :=
  match x with
  | .ok (g', b, e) => some ((b.data, e), (absRd g').canon)
  | _ => none

def viewSkip (x : GM (S_DefaultReader Src × Err)) : Option ((Bytes × Err) × Rd) :=
  match x with
  | .ok (g', e) => some (([], e), (absRd g').canon)
  | _ => none

/-- the model's Next/Peek/Skip result as Go renders it: `.ok b ↦ (b, nil)`, `.fail e ↦ (nil slice, e)` (the Go methods
    return `r.err`, which could be nil only if the model said `fail none`; C04 proves it does not), out of fuel ↦ nothing -/
def modelRes (y : RdRes × Rd) : Option ((Bytes × Err) × Rd) :=
  match y.1 with
  | .ok bs => some ((bs, Err.nil), y.2.canon)
  | .fail eo => some (([], errCon eo), y.2.canon)
  | .nofuel => none

theorem DefaultReader_acquireSlow_eq_partial (O : Nat → Nat → Bytes) (fuel : Nat) (g : S_DefaultReader Src) (n : Nat)
    (hi : GInv g) (hcap : g.buf.mem.length ≤ 2 ^ 44) (hreq : n + g.ri.toNat ≤ 2 ^ 44)
    (hfuel : needFuel (absRd g) n ≤ fuel) :
    viewAcq (DefaultReader_acquireSlow srcReader O fuel g (n : Int)) =
      ((absRd g).acquireSlow n).map (fun p => (p.1, p.2.canon)) := by
  obtain ⟨g', k, m', hx, hy, hs', _, _⟩ :=
    DefaultReader_acquireSlow_sim O fuel g (absRd g) n (sim_abs g hi) hi hcap hreq hfuel
  simp [hx, hy, viewAcq, sim_canon g' m' hs']

theorem viewRes_of_NextOK (x : GM (S_DefaultReader Src × Sl × Err)) (y : RdRes × Rd) (h : NextOK x y) :
    viewRes x = modelRes y := by
  obtain ⟨g', b, e, hx, hr, hs', _⟩ := h
  obtain ⟨y1, y2⟩ := y
  cases y1 with
  | ok bs => obtain ⟨hb, he⟩ := hr; simp [hx, viewRes, modelRes, hb, he, sim_canon g' y2 hs']
  | fail eo => obtain ⟨hb, he⟩ := hr; simp [hx, viewRes, modelRes, hb, he, Sl.data, Sl.nil, sim_canon g' y2 hs']
  | nofuel => exact hr.elim

theorem DefaultReader_Next_eq_partial (O : Nat → Nat → Bytes) (fuel : Nat) (g : S_DefaultReader Src) (n : Int)
    (hi : GInv g) (hcap : g.buf.mem.length ≤ 2 ^ 44) (hreq : n + g.ri ≤ 2 ^ 44)
    (hfuel : needFuel (absRd g) n.toNat ≤ fuel) :
    viewRes (DefaultReader_Next srcReader O fuel g n) = modelRes ((absRd g).next n) :=
  viewRes_of_NextOK _ _ (DefaultReader_Next_sim O fuel g (absRd g) n (sim_abs g hi) hi hcap (by
    have := hi.ri_nonneg; simp [absRd]; omega) hfuel)

theorem DefaultReader_Peek_eq_partial (O : Nat → Nat → Bytes) (fuel : Nat) (g : S_DefaultReader Src) (n : Int)
    (hi : GInv g) (hcap : g.buf.mem.length ≤ 2 ^ 44) (hreq : n + g.ri ≤ 2 ^ 44)
    (hfuel : needFuel (absRd g) n.toNat ≤ fuel) :
    viewRes (DefaultReader_Peek srcReader O fuel g n) = modelRes ((absRd g).peek n) :=
  viewRes_of_NextOK _ _ (DefaultReader_Peek_sim O fuel g (absRd g) n (sim_abs g hi) hi hcap (by
    have := hi.ri_nonneg; simp [absRd]; omega) hfuel)

theorem DefaultReader_Skip_eq_partial (O : Nat → Nat → Bytes) (fuel : Nat) (g : S_DefaultReader Src) (n : Int)
    (hi : GInv g) (hcap : g.buf.mem.length ≤ 2 ^ 44) (hreq : n + g.ri ≤ 2 ^ 44)
    (hfuel : needFuel (absRd g) n.toNat ≤ fuel) :
    viewSkip (DefaultReader_Skip srcReader O fuel g n) = modelRes ((absRd g).skip n) := by
  obtain ⟨g', e, hx, hr, hs', _⟩ := DefaultReader_Skip_sim O fuel g (absRd g) n (sim_abs g hi) hi hcap (by
    have := hi.ri_nonneg; simp [absRd]; omega) hfuel
  generalize (absRd g).skip n = y at *
  obtain ⟨y1, y2⟩ := y
  cases y1 with
  | ok bs =>
    obtain ⟨hb, he⟩ := hr
    simp [hx, viewSkip, modelRes, he, sim_canon g' y2 hs']
    simpa [Sl.data, Sl.nil] using hb
  | fail eo => obtain ⟨hb, he⟩ := hr; simp [hx, viewSkip, modelRes, he, sim_canon g' y2 hs']
  | nofuel => exact hr.elim

/-- `ReadBinary(bs)`: what is stored in `bs`, the count, the error — and the state up to consumed bytes -/
def viewRB (x : GM (S_DefaultReader Src × Sl × Int × Err)) : Option ((Sl × Int × Err) × Rd) :=
  match x with
  | .ok (g', b, k, e) => some ((b, k, e), (absRd g').canon)
  | _ => none

def modelRB (bs : Sl) (y : Option (Bytes × Nat × Option RErr) × Rd) : Option ((Sl × Int × Err) × Rd) :=
  match y.1 with
  | some (out, j, e) => some (({ bs with mem := out ++ bs.mem.drop out.length }, (j : Int), errCon e), y.2.canon)
  | none => none

theorem DefaultReader_ReadBinary_eq_partial (O : Nat → Nat → Bytes) (fuel : Nat) (g : S_DefaultReader Src) (bs : Sl)
    (hi : GInv g) (hcap : g.buf.mem.length ≤ 2 ^ 44) (hreq : bs.len + g.ri.toNat ≤ 2 ^ 44)
    (hfuel : needFuel (absRd g) bs.len ≤ fuel) :
    viewRB (DefaultReader_ReadBinary srcReader O fuel g bs) = modelRB bs ((absRd g).readBinary bs.len) := by
  obtain ⟨g', out, j, e, hx, hy, hs', _⟩ :=
    DefaultReader_ReadBinary_sim O fuel g (absRd g) bs (sim_abs g hi) hi hcap hreq hfuel
  simp [hx, viewRB, modelRB, hy, sim_canon g' _ hs']

/-- `Release(e)`: EXACT — the abstraction of the receiver afterwards is `Rd.release` of the abstraction before -/
theorem DefaultReader_Release_eq (g : S_DefaultReader Src) (e : Err) (hi : GInv g) :
    ∃ g', DefaultReader_Release g e = .ok (g', Err.nil) ∧ absRd g' = (absRd g).release ∧ GInv g' := by
  obtain ⟨g', hx, _, hi', ha⟩ := DefaultReader_Release_sim g (absRd g) e (sim_abs g hi) hi
  exact ⟨g', hx, ha, hi'⟩

/-- `ReadLen()`: EXACT -/
theorem DefaultReader_ReadLen_eq' (g : S_DefaultReader Src) (hi : GInv g) :
    DefaultReader_ReadLen g = .ok ((absRd g).readLen : Int) :=
  DefaultReader_ReadLen_eq g (absRd g) (sim_abs g hi)

/-! ## constructors, the fake reader -/

/-- `NewDefaultReader(rd)` is the model's `Rd.newDefault` and satisfies the invariant -/
theorem NewDefaultReader_eq (src : Src) :
    ∃ g0, NewDefaultReader (some src) = .ok g0 ∧ absRd g0 = Rd.newDefault src ∧ GInv g0 := by
  refine ⟨{ rd := some src }, by simp [NewDefaultReader, DefaultReader_reset, scap, Sl.nil], ?_, ?_⟩
  · simp [absRd, Rd.newDefault, Sl.data, Sl.nil, errAbs, Facts.statsBucketNum]
  · refine ⟨by simp [Sl.nil], by simp, by simp [Sl.nil], by simp [Sl.nil], rfl, by simp [Facts.statsBucketNum], ?_, by simp⟩
    intro x hx; simp at hx; omega

/-- `fakeIOReader.Read` is what the model's exhausted source answers: `(0, io.EOF)` -/
theorem fakeIOReader_Read_eq (p : Sl) :
    fakeIOReader_Read {} p = .ok ((((⟨[], []⟩ : Src).read p.len).1.length : Int), errCon ((⟨[], []⟩ : Src).read p.len).2.1) := by
  simp [fakeIOReader_Read, Src.read, errCon]

/-! ## the generated reader runs: chunked delivery, growth, EOF with data, 100 empty reads -/

/-- dirty memory: 0xA0 + the number of the allocation site -/
def exO : Nat → Nat → Bytes := fun site c => List.replicate c (UInt8.ofNat (0xA0 + site))

/-- `Next(n)` for every `n` of the list: the bytes and the error of each call, `ReadLen()` and the source afterwards -/
def exRun (g : S_DefaultReader Src) (fuel : Nat) (ns : List Int) : GM (List (Bytes × Err) × Int × Option Src) :=
  let rec go (g : S_DefaultReader Src) (acc : List (Bytes × Err)) : List Int → GM (List (Bytes × Err) × Int × Option Src)
    | [] => do pure (acc.reverse, (← DefaultReader_ReadLen g), g.rd)
    | n :: ns => do
      let r ← DefaultReader_Next srcReader exO fuel g n
      go r.1 ((r.2.1.data, r.2.2) :: acc) ns
  go g [] ns

/-- a reader that owns an empty 8-byte buffer (small, so that the kernel evaluates the examples quickly) -/
def exSmall (src : Src) : S_DefaultReader Src := { buf := ⟨List.replicate 8 0, 0, true⟩, rd := some src }

-- NewDefaultReader: the first allocation (4096 from mcache), one Read, Next(3)
example : (do let g ← NewDefaultReader (some (⟨[1, 2, 3, 4], [⟨4, none⟩]⟩ : Src)); exRun g 120 [3]) =
    .ok ([([1, 2, 3], Err.nil)], 3, some ⟨[], []⟩) := by decide +kernel

-- chunked delivery: 3 + 4 bytes arrive in two reads for Next(5); the rest is already buffered for Next(2)
example : exRun (exSmall ⟨[1, 2, 3, 4, 5, 6, 7, 8, 9, 10], [⟨3, none⟩, ⟨4, none⟩, ⟨10, none⟩]⟩) 120 [5, 2] =
    .ok ([([1, 2, 3, 4, 5], Err.nil), ([6, 7], Err.nil)], 7, some ⟨[8, 9, 10], [⟨10, none⟩]⟩) := by decide +kernel

-- growth: Next(3) consumes, Next(10) does not fit the 8-byte buffer — a 16-byte one from mcache, unread bytes copied
example : exRun (exSmall ⟨[1, 2, 3, 4, 5, 6, 7, 8, 9, 10, 11, 12, 13, 14], [⟨8, none⟩, ⟨100, none⟩]⟩) 120 [3, 10] =
    .ok ([([1, 2, 3], Err.nil), ([4, 5, 6, 7, 8, 9, 10, 11, 12, 13], Err.nil)], 13, some ⟨[], []⟩) := by decide +kernel

-- EOF together with data: Next(5) fails with io.EOF, the two delivered bytes stay readable, a negative count is refused
example : exRun (exSmall ⟨[1, 2], [⟨2, some .eof⟩]⟩) 120 [5, 2, -1] =
    .ok ([([], Err.eof), ([1, 2], Err.nil), ([], Err.negCount)], 2, some ⟨[], []⟩) := by decide +kernel

-- 100 consecutive empty reads: io.ErrNoProgress (the 101st scripted answer is never asked for)
example : exRun (exSmall ⟨[1, 2, 3], List.replicate 100 ⟨0, none⟩ ++ [⟨3, none⟩]⟩) 120 [1] =
    .ok ([([], Err.noProgress)], 0, some ⟨[1, 2, 3], [⟨3, none⟩]⟩) := by decide +kernel

-- 99 empty reads, one byte, two empty reads, the rest: progress resets the count (`i = -1`)
example : exRun (exSmall ⟨[1, 2, 3], List.replicate 99 ⟨0, none⟩ ++ [⟨1, none⟩, ⟨0, none⟩, ⟨0, none⟩, ⟨2, none⟩]⟩) 120 [3] =
    .ok ([([1, 2, 3], Err.nil)], 3, some ⟨[], []⟩) := by decide +kernel

-- a nil io.Reader panics at the first Read; too little fuel is reported, never guessed
example : exRun { buf := ⟨List.replicate 8 0, 0, true⟩ } 120 [1] = .panic "nilderef" := by decide +kernel
example : exRun (exSmall ⟨[1], List.replicate 9 ⟨0, none⟩⟩) 5 [1] = .panic "nofuel" := by decide +kernel

end Verif.BufioxEq
