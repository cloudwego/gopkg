/-
  Lemmas/Funcs/TTHEncode: the WRITE side of TTHeader, TRANSLATED from protocol/ttheader/{utils.go, encode.go}
  (`Verif.Funcs.tth_WriteByte`, `tth_WriteUint16`, `tth_WriteUint32`, `tth_WriteString`, `tth_WriteString2BLen`,
  `tth_writeKVInfo`, `tth_Encode`; generated, over an abstract `bufiox.Writer` = `WriterI ρ`), is the hand-written model
  of `Model/TTHeader` (`TTH.writeByte`, `writeU16`, `writeU32`, `writeStr4`, `writeStr2`, `writeKVInfo`, `encode`) over the
  writer log `TTH.W`.

  * `twI ew : WriterI W` is the model's writer seen as the abstract Go interface: `malloc` appends a region with the
    model's arbitrary initial content (`w.dirt <region id>`) and hands out the region id as the handle; `commit w h bs`
    stores `bs` as the content of region `h` (what the translated function wrote through the slice `Malloc` returned —
    committed when the function returns, also when later `Malloc`s came in between: `Encode` keeps the header-meta region
    and fills its size field last); `writeBinary` appends the bytes. A broken writer (`w.broken`, the sticky error) returns
    the error `ew ≠ nil` and nothing else happens.
  * Go's map iteration order: the translated `writeKVInfo` / `Encode` take the two visited sequences as explicit
    parameters `ord1` (strKVMap) and `ord2` (intKVMap); the model takes the maps as the lists it iterates. The theorems hold
    for every pair of sequences and every pair of Go maps whose `len` and `[GDPRToken]` agree with the string sequence
    (`KVArgs`), which is what Go guarantees when the sequences are iteration orders of the maps (`kvArgs_of_order`).
  * lifts: a nil error is `.ok`, any other error is the model's `.writer` (or `.size` for Encode's own error); panics are
    carried over.

  Method: with the concrete instance every callee has a closed form (`if w.broken then (w, ew) else (w.push …, nil)`), so
  has every model function; the theorems split on `w.broken`, on the presence of the GDPR token and on the two sizes —
  semantic conditions. The generated `writeKVInfo` / `Encode` are then WALKED from the head, one call after the other
  (`bind_eq_of` with the call's closed form; `brk_step` on a broken writer): the shape of the generated code is never
  written down (no generated loop function, parameter list or statement order appears in a lemma statement; the three
  loops are handled by lemmas about ANY function with the loop's round, `strLoop_gen`, `intLoop_bind`, `padLoop_gen`), so
  a behaviour-preserving refactoring of the Go source (hoisted locals, commuted operands, inverted guards, un-nested
  returns, other loop forms) leaves the proofs standing.
-/
import Verif.Lemmas.Funcs.TTH2
import Verif.Lemmas.Funcs.Write
import Verif.Lemmas.Funcs.Fc
-- the simp sets below cover every way the generated code may write a guard or a constant: at any one place part of them is unused
set_option linter.unusedSimpArgs false
namespace Verif.FuncsEq
open Verif Verif.GoSem Verif.TTH

/-! ## the model's writer as a `WriterI` -/

/-- fresh memory of the next region -/
def _root_.Verif.TTH.W.fresh (w : W) (k : Nat) : Bytes := (List.range k).map (w.dirt w.n)

def _root_.Verif.TTH.W.push (w : W) (r : Bytes) : W := { w with items := r :: w.items, n := w.n + 1 }

/-- the content of region `id` replaced -/
def _root_.Verif.TTH.W.setRegion (w : W) (id : Nat) (bs : Bytes) : W :=
  if id < w.n then { w with items := w.items.set (w.n - 1 - id) bs } else w

def twI (ew : GoErr) : WriterI W where
  malloc w n :=
    if w.broken then .ok (([], w.n, ew), w)
    else if n < 0 then .ok (([], w.n, ew), w)
    else .ok ((w.fresh n.toNat, w.n, GoErr.nil), w.push (w.fresh n.toNat))
  commit w h bs := w.setRegion h bs
  writeBinary w v :=
    if w.broken then .ok ((0, ew), w) else .ok (((v.length : Int), GoErr.nil), w.push v)
  writtenLen w := (w.bytes.length : Int)

@[simp] theorem _root_.Verif.TTH.W.fresh_length (w : W) (k : Nat) : (w.fresh k).length = k := by simp [W.fresh]
@[simp] theorem _root_.Verif.TTH.W.push_broken (w : W) (r : Bytes) : (w.push r).broken = w.broken := rfl
@[simp] theorem _root_.Verif.TTH.W.push_n (w : W) (r : Bytes) : (w.push r).n = w.n + 1 := rfl

theorem twI_malloc_ok (ew : GoErr) (w : W) (n : Int) (hb : w.broken = false) (hn : 0 ≤ n) :
    (twI ew).malloc w n = .ok ((w.fresh n.toNat, w.n, GoErr.nil), w.push (w.fresh n.toNat)) := by
  have : ¬ n < 0 := by omega
  simp [twI, hb, this]

theorem twI_malloc_broken (ew : GoErr) (w : W) (n : Int) (hb : w.broken = true) :
    (twI ew).malloc w n = .ok (([], w.n, ew), w) := by
  simp [twI, hb]

theorem twI_writeBinary_ok (ew : GoErr) (w : W) (v : Bytes) (hb : w.broken = false) :
    (twI ew).writeBinary w v = .ok (((v.length : Int), GoErr.nil), w.push v) := by
  simp [twI, hb]

theorem twI_writeBinary_broken (ew : GoErr) (w : W) (v : Bytes) (hb : w.broken = true) :
    (twI ew).writeBinary w v = .ok ((0, ew), w) := by
  simp [twI, hb]

/-- the region handed out last receives its final contents -/
theorem twI_commit_top (ew : GoErr) (w : W) (r r' : Bytes) : (twI ew).commit (w.push r) w.n r' = w.push r' := by
  simp [twI, W.setRegion, W.push]

/-- the handle returned next to an error names no region -/
theorem twI_commit_none (ew : GoErr) (w : W) (bs : Bytes) : (twI ew).commit w w.n bs = w := by
  simp [twI, W.setRegion]

/-! ## closed forms of the model's writers -/

theorem malloc_put (w : W) (k : Nat) (v : Bytes) (hv : v.length = k) :
    (w.malloc k).bind (fun r => r.2.put r.1 0 v) = if w.broken then .err .writer else .ok (w.push v) := by
  subst hv
  cases hb : w.broken
  · have h1 : ¬ (w.n + 1 ≤ w.n) := by omega
    have h2 : List.drop v.length (List.map (w.dirt w.n) (List.range v.length)) = [] := by simp
    simp [W.malloc, W.put, hb, W.push, h1, h2]
  · simp [W.malloc, hb]

theorem writeByte_cf (w : W) (v : Nat) :
    writeByte w v = if w.broken then .err .writer else .ok (w.push [UInt8.ofNat v]) :=
  malloc_put w 1 _ rfl

theorem writeU16_cf (w : W) (v : Nat) :
    writeU16 w v = if w.broken then .err .writer else .ok (w.push (be16 v)) :=
  malloc_put w 2 _ rfl

theorem writeU32_cf (w : W) (v : Nat) :
    writeU32 w v = if w.broken then .err .writer else .ok (w.push (be32 v)) :=
  malloc_put w 4 _ rfl

/-- a length prefix `pre` written first, then the bytes with `WriteBinary`; `k` is the width of the prefix -/
theorem writeStr_cf (w : W) (s pre : Bytes) (k : Nat) :
    (if w.broken then (.err .writer : Out EErr W) else .ok (w.push pre)).bind
        (fun w1 => (w1.writeBinary s).bind fun r => .ok (r.1 + k, r.2)) =
      if w.broken then .err .writer else .ok (s.length + k, (w.push pre).push s) := by
  cases hb : w.broken
  · simp [W.writeBinary, hb, W.push]
  · simp

theorem writeStr2_cf (w : W) (s : Bytes) :
    writeStr2 w s = if w.broken then .err .writer
      else .ok (s.length + 2, (w.push (be16 (s.length % 65536))).push s) := by
  unfold writeStr2
  rw [writeU16_cf]
  exact writeStr_cf w s _ 2

theorem writeStr4_cf (w : W) (s : Bytes) :
    writeStr4 w s = if w.broken then .err .writer
      else .ok (s.length + 4, (w.push (be32 (s.length % 4294967296))).push s) := by
  unfold writeStr4
  rw [writeU32_cf]
  exact writeStr_cf w s _ 4

/-! ## lifts -/

/-- `(writer, err)` of a translated writer as the model's outcome -/
def liftE (x : GM (W × GoErr)) : Out EErr W :=
  match x with
  | .ok r => if r.2 = .nil then .ok r.1 else .err .writer
  | .panic s => .panic s
  | .oob => .oob
  | .err e => nomatch e

/-- `(writer, n, err)` as the model's `(n, writer)` -/
def liftEN (x : GM (W × Int × GoErr)) : Out EErr (Nat × W) :=
  match x with
  | .ok r => if r.2.2 = .nil then .ok (r.2.1.toNat, r.1) else .err .writer
  | .panic s => .panic s
  | .oob => .oob
  | .err e => nomatch e

theorem be16_mod (n : Nat) : be16 (n % 65536) = be16 n := by
  unfold be16
  congr 1
  · apply ofNat_congr; omega
  congr 1
  · apply ofNat_congr; omega

theorem be16_ofInt_nat (n : Nat) : be16 (ofInt 16 (n : Int)) = be16 n := by
  have : ofInt 16 (n : Int) = n % 65536 := by unfold ofInt; omega
  rw [this, be16_mod]

theorem be16_toU (x : Int) : be16 (toU 16 x).toNat = be16 (ofInt 16 x) := by
  rw [toU_ofInt]; simp
theorem be32_toU (x : Int) : be32 (toU 32 x).toNat = be32 (ofInt 32 x) := by
  rw [toU_ofInt]; simp

/-! ## utils.go: closed forms of the translated writers over `twI` -/

theorem putAt_whole (b bs : Bytes) (h : bs.length = b.length) : putAt b 0 bs = bs := by
  simp [putAt, h]

theorem vset_fresh1 (w : W) (x : Int) : vset (w.fresh 1) 0 0 x = .ok [byteOf x] := by
  simp [vset, vlen, len, putAt_whole]
theorem vputU16_fresh2 (w : W) (x : Int) : vputU16 (w.fresh 2) 0 x = .ok (be16 (ofInt 16 x)) := by
  rw [← be16_toU]; simp [vputU16, vlen, len, putAt_whole, be16]
theorem vputU32_fresh4 (w : W) (x : Int) : vputU32 (w.fresh 4) 0 x = .ok (be32 (ofInt 32 x)) := by
  rw [← be32_toU]; simp [vputU32, vlen, len, putAt_whole, be32]

theorem ok_of {α : Type} {w : W} {x a b : α} (h : x = if w.broken then a else b) (hb : w.broken = false) : x = b := by
  rw [h, hb]; rfl
theorem brk_of {α : Type} {w : W} {x a b : α} (h : x = if w.broken then a else b) (hb : w.broken = true) : x = a := by
  rw [h, hb]; rfl

section writers
variable (ew : GoErr) (hew : ew ≠ GoErr.nil)
include hew

theorem tth_WriteByte_cf (w : W) (v : Int) :
    Funcs.tth_WriteByte (twI ew) v w =
      if w.broken then .ok (w, ew) else .ok (w.push [byteOf v], GoErr.nil) := by
  unfold Funcs.tth_WriteByte
  cases hb : w.broken
  · bsimp [twI_malloc_ok ew w 1 hb (by omega), vset_fresh1, Int.reduceToNat, twI_commit_top]
  · bsimp [twI_malloc_broken ew w 1 hb, hew, twI_commit_none]

theorem tth_WriteUint16_cf (w : W) (v : Int) :
    Funcs.tth_WriteUint16 (twI ew) v w =
      if w.broken then .ok (w, ew) else .ok (w.push (be16 (ofInt 16 v)), GoErr.nil) := by
  unfold Funcs.tth_WriteUint16
  cases hb : w.broken
  · bsimp [twI_malloc_ok ew w 2 hb (by omega), vputU16_fresh2, Int.reduceToNat, twI_commit_top]
  · bsimp [twI_malloc_broken ew w 2 hb, hew, twI_commit_none]

theorem tth_WriteUint32_cf (w : W) (v : Int) :
    Funcs.tth_WriteUint32 (twI ew) v w =
      if w.broken then .ok (w, ew) else .ok (w.push (be32 (ofInt 32 v)), GoErr.nil) := by
  unfold Funcs.tth_WriteUint32
  cases hb : w.broken
  · bsimp [twI_malloc_ok ew w 4 hb (by omega), vputU32_fresh4, Int.reduceToNat, twI_commit_top]
  · bsimp [twI_malloc_broken ew w 4 hb, hew, twI_commit_none]

theorem tth_WriteString2BLen_cf (w : W) (s : Bytes) (hs : s.length < 2 ^ 62) :
    Funcs.tth_WriteString2BLen (twI ew) s w =
      if w.broken then .ok (w, 0, ew)
      else .ok ((w.push (be16 (s.length % 65536))).push s, ((s.length + 2 : Nat) : Int), GoErr.nil) := by
  have hl : len s = (s.length : Int) := rfl
  unfold Funcs.tth_WriteString2BLen
  cases hb : w.broken
  · have e1 : be16 (ofInt 16 (wrap .u16 (s.length : Int))) = be16 (s.length % 65536) := by
      rw [ofInt_wrap 16 .u16 _ (by decide), be16_ofInt_nat, be16_mod]
    have hb' : (w.push (be16 (s.length % 65536))).broken = false := by simp [hb]
    bsimp [hl, tth_WriteUint16_cf ew hew, hb, e1, twI_writeBinary_ok ew (w.push (be16 (s.length % 65536))) s hb',
      wrap_i64_of_range]
    congr_omega
  · bsimp [hl, tth_WriteUint16_cf ew hew, hb, hew]

theorem tth_WriteString_cf (w : W) (s : Bytes) (hs : s.length < 2 ^ 62) :
    Funcs.tth_WriteString (twI ew) s w =
      if w.broken then .ok (w, 0, ew)
      else .ok ((w.push (be32 (s.length % 4294967296))).push s, ((s.length + 4 : Nat) : Int), GoErr.nil) := by
  have hl : len s = (s.length : Int) := rfl
  unfold Funcs.tth_WriteString
  cases hb : w.broken
  · have e1 : be32 (ofInt 32 (wrap .u32 (s.length : Int))) = be32 (s.length % 4294967296) := by
      rw [ofInt_wrap 32 .u32 _ (by decide), be32_ofInt_nat, be32_mod]
    have hb' : (w.push (be32 (s.length % 4294967296))).broken = false := by simp [hb]
    bsimp [hl, tth_WriteUint32_cf ew hew, hb, e1, twI_writeBinary_ok ew (w.push (be32 (s.length % 4294967296))) s hb',
      wrap_i64_of_range]
    congr_omega
  · bsimp [hl, tth_WriteUint32_cf ew hew, hb, hew]

/-! ### the five writers of utils.go ARE the model's writers -/

omit hew in
theorem byteOf_nat (v : Nat) : byteOf (v : Int) = UInt8.ofNat v := by
  rw [byteOf_eq]; apply ofNat_congr; unfold ofInt; omega

theorem liftE_cf {x : GM (W × GoErr)} {w w' : W}
    (h : x = if w.broken then .ok (w, ew) else .ok (w', GoErr.nil)) :
    liftE x = if w.broken then .err .writer else .ok w' := by
  rw [h]; cases w.broken <;> simp [liftE, hew]

theorem liftEN_cf {x : GM (W × Int × GoErr)} {w w' : W} {n : Nat}
    (h : x = if w.broken then .ok (w, 0, ew) else .ok (w', (n : Int), GoErr.nil)) :
    liftEN x = if w.broken then .err .writer else .ok (n, w') := by
  rw [h]; cases w.broken <;> simp [liftEN, hew]

theorem tth_WriteByte_eq (w : W) (v : Nat) : liftE (Funcs.tth_WriteByte (twI ew) (v : Int) w) = writeByte w v := by
  rw [liftE_cf ew hew (tth_WriteByte_cf ew hew w v), writeByte_cf, byteOf_nat]

theorem tth_WriteUint16_eq (w : W) (v : Nat) : liftE (Funcs.tth_WriteUint16 (twI ew) (v : Int) w) = writeU16 w v := by
  rw [liftE_cf ew hew (tth_WriteUint16_cf ew hew w v), writeU16_cf, be16_ofInt_nat]

theorem tth_WriteUint32_eq (w : W) (v : Nat) : liftE (Funcs.tth_WriteUint32 (twI ew) (v : Int) w) = writeU32 w v := by
  rw [liftE_cf ew hew (tth_WriteUint32_cf ew hew w v), writeU32_cf, be32_ofInt_nat]

theorem tth_WriteString2BLen_eq (w : W) (s : Bytes) (hs : s.length < 2 ^ 62) :
    liftEN (Funcs.tth_WriteString2BLen (twI ew) s w) = writeStr2 w s := by
  rw [liftEN_cf ew hew (tth_WriteString2BLen_cf ew hew w s hs), writeStr2_cf]

theorem tth_WriteString_eq (w : W) (s : Bytes) (hs : s.length < 2 ^ 62) :
    liftEN (Funcs.tth_WriteString (twI ew) s w) = writeStr4 w s := by
  rw [liftEN_cf ew hew (tth_WriteString_cf ew hew w s hs), writeStr4_cf]

end writers

/-! ## encode.go: writeKVInfo -/

/-- bytes the string / int key-value sections can take (an upper bound; used to keep Go's `int` arithmetic exact) -/
def strSz (it : List (Bytes × Bytes)) : Nat := (it.map fun kv => kv.1.length + kv.2.length + 4).sum
def intSz (it : List (Nat × Bytes)) : Nat := (it.map fun kv => kv.2.length + 4).sum

theorem strSz_cons (kv : Bytes × Bytes) (r : List (Bytes × Bytes)) :
    strSz (kv :: r) = kv.1.length + kv.2.length + 4 + strSz r := by simp [strSz]
theorem intSz_cons (kv : Nat × Bytes) (r : List (Nat × Bytes)) :
    intSz (kv :: r) = kv.2.length + 4 + intSz r := by simp [intSz]

/-- a writer that works: what the two key-value loops append, and how many bytes they count -/
def _root_.Verif.TTH.W.pushAll (w : W) (items : List Bytes) : W := items.foldl W.push w

@[simp] theorem _root_.Verif.TTH.W.pushAll_nil (w : W) : w.pushAll [] = w := rfl
@[simp] theorem _root_.Verif.TTH.W.pushAll_cons (w : W) (x : Bytes) (r : List Bytes) :
    w.pushAll (x :: r) = (w.push x).pushAll r := rfl
@[simp] theorem _root_.Verif.TTH.W.pushAll_broken (w : W) (items : List Bytes) : (w.pushAll items).broken = w.broken := by
  induction items generalizing w with
  | nil => rfl
  | cons x r ih => simp [ih]

def strItems : List (Bytes × Bytes) → List Bytes
  | [] => []
  | kv :: r =>
    if kv.1 = gdprKey then strItems r
    else be16 (kv.1.length % 65536) :: kv.1 :: be16 (kv.2.length % 65536) :: kv.2 :: strItems r

def strBytes : List (Bytes × Bytes) → Nat
  | [] => 0
  | kv :: r => if kv.1 = gdprKey then strBytes r else (kv.1.length + 2) + (kv.2.length + 2) + strBytes r

def intItems : IntMap → List Bytes
  | [] => []
  | kv :: r => be16 kv.1 :: be16 (kv.2.length % 65536) :: kv.2 :: intItems r

def intBytes : IntMap → Nat
  | [] => 0
  | kv :: r => 2 + (kv.2.length + 2) + intBytes r

theorem strBytes_le (it : List (Bytes × Bytes)) : strBytes it ≤ strSz it := by
  induction it with
  | nil => simp [strBytes, strSz]
  | cons kv r ih => rw [strSz_cons]; simp only [strBytes]; split <;> omega

/-- the token's entry is not counted by the loop -/
theorem lookup_strBytes (it : List (Bytes × Bytes)) (v : Bytes) (h : it.lookup gdprKey = some v) :
    strBytes it + v.length + 4 ≤ strSz it := by
  induction it with
  | nil => simp at h
  | cons kv r ih =>
    obtain ⟨a, b⟩ := kv
    rw [strSz_cons]
    simp only [List.lookup_cons] at h
    by_cases hk : a = gdprKey
    · have hk' : (gdprKey == a) = true := by simp [hk]
      simp only [hk', Option.some.injEq] at h
      subst h
      have hle := strBytes_le r
      simp only [strBytes, hk, if_true]; omega
    · have hk' : (gdprKey == a) = false := by simp; exact fun e => hk e.symm
      simp only [hk'] at h
      have := ih h
      simp only [strBytes, hk, if_false]; omega

theorem strSz_ge_len (it : List (Bytes × Bytes)) : 4 * it.length ≤ strSz it := by
  induction it with
  | nil => simp [strSz]
  | cons kv r ih => rw [strSz_cons]; simp only [List.length_cons]; omega

theorem intBytes_le (it : IntMap) : intBytes it ≤ intSz it := by
  induction it with
  | nil => simp [intBytes, intSz]
  | cons kv r ih => rw [intSz_cons]; simp only [intBytes]; omega

theorem writeStrKVs_cf (it : List (Bytes × Bytes)) (sz : Nat) (w : W) (hb : w.broken = false) :
    writeStrKVs it sz w = .ok (sz + strBytes it, w.pushAll (strItems it)) := by
  induction it generalizing sz w with
  | nil => rfl
  | cons kv r ih =>
    by_cases hk : kv.1 = gdprKey
    · simp only [writeStrKVs, strBytes, strItems, hk, if_true, ih sz w hb]
    · have hb1 : ((w.push (be16 (kv.1.length % 65536))).push kv.1).broken = false := by simp [hb]
      simp only [writeStrKVs, strBytes, strItems, hk, if_false, writeStr2_cf, hb, hb1, Bool.false_eq_true,
        Out.bind_ok, W.pushAll_cons]
      rw [ih _ _ (by simp [hb])]
      congr 2; omega

theorem writeIntKVs_cf (it : IntMap) (sz : Nat) (w : W) (hb : w.broken = false) :
    writeIntKVs it sz w = .ok (sz + intBytes it, w.pushAll (intItems it)) := by
  induction it generalizing sz w with
  | nil => rfl
  | cons kv r ih =>
    have hb1 : (w.push (be16 kv.1)).broken = false := by simp [hb]
    simp only [writeIntKVs, intBytes, intItems, writeU16_cf, writeStr2_cf, hb, hb1, Bool.false_eq_true, if_false,
      Out.bind_ok, W.pushAll_cons]
    rw [ih _ _ (by simp [hb])]
    congr 2; omega

/-- the visited sequence of `map[uint16]string` as the translation takes it -/
def intOrd (it : IntMap) : List (Int × Bytes) := it.map fun kv => ((kv.1 : Int), kv.2)

theorem vset_local (b : Bytes) (i : Nat) (x : Int) (h : i < b.length) :
    vset b 0 (i : Int) x = .ok (b.take i ++ byteOf x :: b.drop (i + 1)) := by
  have := vset_nf b 0 (i : Int) x (by omega)
  simp only [Int.natCast_zero, Nat.zero_add, Int.toNat_natCast, if_pos h] at this
  rw [this]; simp [Wire.putAt]

/-- what `writeKVInfo` reads of its two Go maps, in terms of the sequences the two `range` loops visit: `len(strKVMap)`,
    `strKVMap[GDPRToken]`, `len(intKVMap)` -/
structure KVArgs (mS : GoMap Bytes Bytes) (mI : GoMap Int Bytes) (strKV : StrMap) (intKV : IntMap) : Prop where
  lenS : mapLen mS = (strKV.length : Int)
  getS : mapGet mS gdprKey = strKV.lookup gdprKey
  lenI : mapLen mI = (intKV.length : Int)

theorem u16OfInt_eq (x : Int) : u16OfInt x = ofInt 16 x := rfl

theorem byteOf_kv : byteOf 1 = UInt8.ofNat Facts.ttInfoKeyValue := by decide
theorem byteOf_intkv : byteOf 16 = UInt8.ofNat Facts.ttInfoIntKeyValue := by decide
theorem byteOf_acl : byteOf 17 = UInt8.ofNat Facts.ttInfoACLToken := by decide

/-! ### the three loops of `writeKVInfo`, for ANY function with the loop's step behaviour

  The generated loop functions are never named in a statement: a lemma speaks of any `L` whose round (on a writer that
  works) appends the items and adds the byte counts the model's round does; the generated function is found by
  unification where the lemma is used, and the round is proved there by unfolding it. -/

theorem strLoop_gen {R : Type} {L : Nat → List (Bytes × Bytes) → W → Int → GM (LoopR R (List (Bytes × Bytes) × W × Int))}
    (hnil : ∀ f w szi, L (f + 1) [] w szi = .ok (.done ([], w, szi)))
    (hskip : ∀ f (kv : Bytes × Bytes) rest w szi, kv.1 = gdprKey → L (f + 1) (kv :: rest) w szi = L f rest w szi)
    (hcons : ∀ f (kv : Bytes × Bytes) rest (w : W) (szi : Int), kv.1 ≠ gdprKey → w.broken = false → 0 ≤ szi →
      szi + (kv.1.length + 2) + (kv.2.length + 2) < 2 ^ 62 →
      L (f + 1) (kv :: rest) w szi =
        L f rest ((((w.push (be16 (kv.1.length % 65536))).push kv.1).push (be16 (kv.2.length % 65536))).push kv.2)
          (szi + ((kv.1.length + 2 + (kv.2.length + 2) : Nat) : Int))) :
    ∀ (it : List (Bytes × Bytes)) (fuel : Nat) (w : W) (szi : Int), it.length < fuel → w.broken = false →
      0 ≤ szi → szi + strBytes it < 2 ^ 62 →
      L fuel it w szi = .ok (.done ([], w.pushAll (strItems it), szi + (strBytes it : Int))) := by
  intro it
  induction it with
  | nil =>
    intro fuel w szi hf hb _ _
    obtain ⟨fuel, rfl⟩ : ∃ k, fuel = k + 1 := ⟨fuel - 1, by simp at hf; omega⟩
    rw [hnil]; simp [strItems, strBytes]
  | cons kv rest ih =>
    intro fuel w szi hf hb h0 hsz
    obtain ⟨fuel, rfl⟩ : ∃ k, fuel = k + 1 := ⟨fuel - 1, by simp at hf; omega⟩
    by_cases hk : kv.1 = gdprKey
    · simp only [strBytes, strItems, hk, if_true] at hsz ⊢
      rw [hskip _ _ _ _ _ hk]
      exact ih fuel w szi (by simp at hf; omega) hb h0 hsz
    · simp only [strBytes, strItems, hk, if_false, W.pushAll_cons] at hsz ⊢
      rw [hcons _ _ _ _ _ hk hb h0 (by omega), ih fuel _ _ (by simp at hf; omega) (by simp [hb]) (by omega) (by omega)]
      congr 4; omega

/-- the loop over the int pairs, with what follows it (`F`): the generated loop carries one more local (`e`, the `err`
    of the enclosing function), whose value after a round does not matter -/
theorem intLoop_bind {R σ β : Type}
    {L : Nat → List (Int × Bytes) → W → Int → σ → GM (LoopR R (List (Int × Bytes) × W × Int × σ))}
    {F : LoopR R (List (Int × Bytes) × W × Int × σ) → GM β} {Res : GM β}
    (hnil : ∀ f w szi e, L (f + 1) [] w szi e = .ok (.done ([], w, szi, e)))
    (hcons : ∀ f (kv : Nat × Bytes) (rest : List (Int × Bytes)) (w : W) (szi : Int) e, w.broken = false → 0 ≤ szi →
      szi + 2 + (kv.2.length + 2) < 2 ^ 62 →
      ∃ e', L (f + 1) (((kv.1 : Int), kv.2) :: rest) w szi e =
        L f rest (((w.push (be16 kv.1)).push (be16 (kv.2.length % 65536))).push kv.2)
          (szi + ((2 + (kv.2.length + 2) : Nat) : Int)) e') :
    ∀ (it : IntMap) (fuel : Nat) (w : W) (szi : Int) (e : σ), it.length < fuel → w.broken = false →
      0 ≤ szi → szi + intBytes it < 2 ^ 62 →
      (∀ e', F (.done ([], w.pushAll (intItems it), szi + (intBytes it : Int), e')) = Res) →
      (L fuel (intOrd it) w szi e).bind F = Res := by
  intro it
  induction it with
  | nil =>
    intro fuel w szi e hf hb _ _ hF
    obtain ⟨fuel, rfl⟩ : ∃ k, fuel = k + 1 := ⟨fuel - 1, by simp at hf; omega⟩
    rw [intOrd, List.map_nil, hnil, Out.bind_ok]
    simpa [intItems, intBytes] using hF e
  | cons kv rest ih =>
    intro fuel w szi e hf hb h0 hsz hF
    obtain ⟨fuel, rfl⟩ : ∃ k, fuel = k + 1 := ⟨fuel - 1, by simp at hf; omega⟩
    simp only [intBytes, intItems, W.pushAll_cons] at hsz hF
    obtain ⟨e1, h1⟩ := hcons fuel kv (intOrd rest) w szi e hb h0 (by omega)
    rw [intOrd, List.map_cons, ← intOrd, h1]
    refine ih fuel _ _ e1 (by simp at hf; omega) (by simp [hb]) (by omega) (by omega) fun e' => ?_
    rw [← hF e']
    congr 5; omega

/-- the padding loop from index 0: every byte of the region is set to 0 (`hstep`: one round below the length, `hdone`:
    done at the length; both about any buffer of the region's length) -/
theorem padLoop_gen {R : Type} {L : Nat → Bytes → Int → GM (LoopR R (Bytes × Int))} (b0 : Bytes)
    (hstep : ∀ f (b : Bytes) (i : Nat), b.length = b0.length → i < b0.length →
      L (f + 1) b (i : Int) = L f (b.take i ++ 0 :: b.drop (i + 1)) ((i + 1 : Nat) : Int))
    (hdone : ∀ f (b : Bytes), b.length = b0.length → L (f + 1) b (b0.length : Int) = .ok (.done (b, (b0.length : Int))))
    (fuel : Nat) (hf : b0.length < fuel) :
    L fuel b0 ((0 : Nat) : Int) = .ok (.done (List.replicate b0.length 0, (b0.length : Int))) := by
  have key : ∀ (k fuel : Nat) (b : Bytes) (i : Nat), b.length = b0.length → i + k = b0.length → k < fuel →
      L fuel b (i : Int) = .ok (.done (b.take i ++ List.replicate k 0, (b0.length : Int))) := by
    intro k
    induction k with
    | zero =>
      intro fuel b i hb hi hf
      obtain ⟨fuel, rfl⟩ : ∃ k, fuel = k + 1 := ⟨fuel - 1, by omega⟩
      have : i = b0.length := by omega
      subst this
      rw [hdone _ _ hb]
      simp [← hb]
    | succ k ih =>
      intro fuel b i hb hi hf
      obtain ⟨fuel, rfl⟩ : ∃ k, fuel = k + 1 := ⟨fuel - 1, by omega⟩
      rw [hstep _ _ _ hb (by omega)]
      have hlen : (b.take i ++ 0 :: b.drop (i + 1)).length = b0.length := by simp; omega
      rw [ih fuel _ (i + 1) hlen (by omega) (by omega)]
      have hA : (b.take i).length = i := by simp; omega
      have ht : (b.take i ++ 0 :: b.drop (i + 1)).take (i + 1) = b.take i ++ [0] := by
        rw [List.take_append, hA, List.take_of_length_le (by omega)]
        simp
      rw [ht, List.append_assoc]
      simp [List.replicate_succ]
  have := key b0.length fuel b0 0 rfl (by omega) hf
  simpa using this

theorem bind_eq_of {α β : Type} {x : GM α} {v : α} {K : α → GM β} {R : GM β} (h : x = .ok v) (hK : K v = R) :
    x.bind K = R := by
  rw [h]; exact hK

/-! ### the model's sections in closed form

  What a part of `writeKVInfo` does on a writer that works does not depend on the writer: from the size so far it gives
  the size afterwards and the items appended (`padRun`, `intRun`, `strRun`, `aclRun`; `andThen` runs two parts in a row). -/

def padRun (m : Nat) : Nat × List Bytes := (m + (4 - m % 4) % 4, [List.replicate ((4 - m % 4) % 4) 0])

def intRun (intKV : IntMap) (m : Nat) : Nat × List Bytes :=
  if 0 < intKV.length then
    (m + 3 + intBytes intKV,
      [UInt8.ofNat Facts.ttInfoIntKeyValue] :: be16 (ofInt 16 (intKV.length : Int)) :: intItems intKV)
  else (m, [])

/-- `n` is `strKVSize`: the number of string pairs without the token -/
def strRun (strKV : StrMap) (n : Int) (m : Nat) : Nat × List Bytes :=
  if n > 0 then (m + 3 + strBytes strKV, [UInt8.ofNat Facts.ttInfoKeyValue] :: be16 (ofInt 16 n) :: strItems strKV)
  else (m, [])

def aclRun (tok : Bytes) (m : Nat) : Nat × List Bytes :=
  (m + 1 + (tok.length + 2), [[UInt8.ofNat Facts.ttInfoACLToken], be16 (tok.length % 65536), tok])

def andThen (a b : Nat → Nat × List Bytes) (m : Nat) : Nat × List Bytes := ((b (a m).1).1, (a m).2 ++ (b (a m).1).2)

def kvRun (sz : Nat) (intKV : IntMap) (strKV : StrMap) : Nat × List Bytes :=
  match strKV.lookup gdprKey with
  | some tok =>
    andThen (aclRun tok) (andThen (strRun strKV ((strKV.length : Int) - 1)) (andThen (intRun intKV) padRun)) sz
  | none => andThen (strRun strKV strKV.length) (andThen (intRun intKV) padRun) sz

theorem writePadding_cf (sz : Nat) (w : W) (hb : w.broken = false) :
    writePadding sz w = .ok ((padRun sz).1, w.pushAll (padRun sz).2) := by
  unfold writePadding
  simp only [← Out.bind_assoc, malloc_put w _ _ (List.length_replicate ..), hb]
  rfl

theorem writeIntSection_cf (sz : Nat) (intKV : IntMap) (w : W) (hb : w.broken = false) :
    writeIntSection sz intKV w = .ok ((intRun intKV sz).1, w.pushAll (intRun intKV sz).2) := by
  unfold writeIntSection intRun
  by_cases c : 0 < intKV.length
  · have c' : ((intKV.length : Int) > 0) := by omega
    simp only [c, c', if_true, writeByte_cf, writeU16_cf, hb, W.push_broken, Bool.false_eq_true, if_false, Out.bind_ok,
      u16OfInt_eq]
    rw [writeIntKVs_cf _ _ _ (by simp [hb])]
    rfl
  · have c' : ¬ ((intKV.length : Int) > 0) := by omega
    simp only [c, c', if_false]
    rfl

theorem writeStrSection_cf (n : Int) (sz : Nat) (strKV : StrMap) (w : W) (hb : w.broken = false) :
    writeStrSection n sz strKV w = .ok ((strRun strKV n sz).1, w.pushAll (strRun strKV n sz).2) := by
  unfold writeStrSection strRun
  by_cases c : n > 0
  · simp only [c, if_true, writeByte_cf, writeU16_cf, hb, W.push_broken, Bool.false_eq_true, if_false, Out.bind_ok,
      u16OfInt_eq]
    rw [writeStrKVs_cf _ _ _ (by simp [hb])]
    rfl
  · simp only [c, if_false]
    rfl

theorem writeACL_cf (sz : Nat) (strKV : StrMap) (w : W) (hb : w.broken = false) :
    writeACL sz strKV w =
      match strKV.lookup gdprKey with
      | some tok => .ok ((strKV.length : Int) - 1, (aclRun tok sz).1, w.pushAll (aclRun tok sz).2)
      | none => .ok ((strKV.length : Int), sz, w) := by
  unfold writeACL
  cases strKV.lookup gdprKey with
  | none => rfl
  | some tok =>
    simp only [writeByte_cf, writeStr2_cf, hb, W.push_broken, Bool.false_eq_true, if_false, Out.bind_ok]
    rfl

theorem _root_.Verif.TTH.W.pushAll_append (w : W) (a b : List Bytes) : w.pushAll (a ++ b) = (w.pushAll a).pushAll b := by
  simp [W.pushAll, List.foldl_append]

/-- the model in closed form -/
theorem writeKVInfo_cf (sz : Nat) (intKV : IntMap) (strKV : StrMap) (w : W) (hb : w.broken = false) :
    TTH.writeKVInfo sz intKV strKV w = .ok ((kvRun sz intKV strKV).1, w.pushAll (kvRun sz intKV strKV).2) := by
  unfold TTH.writeKVInfo kvRun
  rw [writeACL_cf sz strKV w hb]
  cases strKV.lookup gdprKey <;>
    simp only [Out.bind_ok, writeStrSection_cf, writeIntSection_cf, writePadding_cf, hb, W.pushAll_broken, andThen,
      W.pushAll_append]


theorem writeKVInfo_broken (sz : Nat) (intKV : IntMap) (strKV : StrMap) (w : W) (hb : w.broken = true) :
    TTH.writeKVInfo sz intKV strKV w = .err .writer := by
  unfold TTH.writeKVInfo writeACL writeStrSection writeIntSection writePadding
  cases hl : strKV.lookup gdprKey with
  | some tok => simp [writeByte_cf, hb]
  | none =>
    by_cases c1 : 0 < strKV.length
    · simp [writeByte_cf, hb, c1]
    · by_cases c2 : 0 < intKV.length
      · simp [writeByte_cf, hb, c1, c2]
      · simp [c1, c2, W.malloc, hb]

/-! ### the generated `writeKVInfo` on a writer that works

  The translator lays the rest of the function out again behind every early return: once at the end of a guarded section
  and once in the branch that skips the section. `with_rest` gives that rest a name, as a function `K` of the locals it
  reads (the writer, `writeSize`, `strKVSize`): `K` is whatever the skipping branch is (found by unification), so the
  rest is walked once, from any state, and the copy behind the section is recognised as `K` at the state the section
  leaves. Each section is walked from the head: the call at the head has a closed form (`ok_of` a `tth_*_cf`, `twI_malloc_ok`, the
  loop lemmas), `bind_eq_of` applies the continuation to its value, the error test that follows is decided. -/

theorem with_rest {β : Type} {X K R : W → Int → Int → GM β} {P S : W → Int → Int → Prop}
    (hskip : ∀ w z n, S w z n → X w z n = K w z n)
    (hnext : ∀ K' : W → Int → Int → GM β, (∀ w z n, K' w z n = K w z n) → (∀ w z n, S w z n → X w z n = K' w z n) →
      ∀ w z n, P w z n → X w z n = R w z n) :
    ∀ w z n, P w z n → X w z n = R w z n :=
  hnext K (fun _ _ _ => rfl) hskip

theorem rest_of {β : Type} {K' K R : W → Int → Int → GM β} {P : W → Int → Int → Prop}
    (hK : ∀ w z n, K' w z n = K w z n) (h : ∀ w z n, P w z n → K w z n = R w z n) :
    ∀ w z n, P w z n → K' w z n = R w z n :=
  fun w z n hp => (hK w z n).trans (h w z n hp)

/-- `z` is the local `writeSize` -/
def Good (slack : Nat) (w : W) (z : Int) : Prop := w.broken = false ∧ 0 ≤ z ∧ z + slack < 2 ^ 62

def Ran (run : Nat → Nat × List Bytes) (w : W) (z : Int) : GM (W × Int × GoErr) :=
  .ok (w.pushAll (run z.toNat).2, ((run z.toNat).1 : Int), GoErr.nil)

theorem Ran_of {run : Nat → Nat × List Bytes} {w : W} {z : Int} (m : Nat) (h : z = (m : Int)) :
    Ran run w z = .ok (w.pushAll (run m).2, ((run m).1 : Int), GoErr.nil) := by
  subst h; simp only [Ran, Int.toNat_natCast]

theorem nil_ne_nil : ¬ decide (GoErr.nil ≠ GoErr.nil) = true := by decide
theorem nil_eq_nil : decide (GoErr.nil = GoErr.nil) = true := by decide

/-- a call at the head with the closed form `h`, which reports no error: the continuation is applied to its value and
    the error test that follows (written either way up) is passed -/
macro "tth_do " h:term : tactic => `(tactic| (
  refine bind_eq_of $h ?_
  first | refine Eq.trans (if_neg nil_ne_nil) ?_ | refine Eq.trans (if_pos nil_eq_nil) ?_))

/-- the guard at the head is decided by the given facts and arithmetic: whichever way up the generated code has it, the
    branch taken is the one whose condition can be proved -/
macro "take_branch " "[" hs:Lean.Parser.Tactic.simpLemma,* "]" : tactic => `(tactic| first
  | refine Eq.trans (if_pos (by (try bsimp [$hs,*]); first | done | omega)) ?_
  | refine Eq.trans (if_neg (by (try bsimp [$hs,*]); first | done | omega)) ?_)

/-- a size expression of the generated code is in range: `wrap`s and `%` removed, then arithmetic -/
macro "rng_tac" : tactic => `(tactic| first
  | omega
  | (simp (disch := omega) only [wrap_i64_of_range, Int.tmod_eq_emod_of_nonneg]; omega))

macro "loop_unfold" : tactic => `(tactic| simp only [Funcs.tth_writeKVInfo_loop1, Funcs.tth_writeKVInfo_loop2,
  Funcs.tth_writeKVInfo_loop3, Out.pure_eq, Out.bind_eq])

section kv
variable (ew : GoErr) (hew : ew ≠ GoErr.nil)
include hew

-- a closed form must not be unified with another call by unfolding
attribute [local irreducible] Funcs.tth_WriteByte Funcs.tth_WriteUint16 Funcs.tth_WriteUint32
  Funcs.tth_WriteString2BLen Funcs.tth_WriteString Funcs.tth_writeKVInfo Funcs.tth_writeKVInfo_loop1
  Funcs.tth_writeKVInfo_loop2 Funcs.tth_writeKVInfo_loop3 Funcs.tth_Encode_loop1

/-- the translation in closed form: the same size and the same items as the model, on every writer that works -/
theorem tth_writeKVInfo_cf (fuel : Nat) (sz : Nat) (mI : GoMap Int Bytes) (mS : GoMap Bytes Bytes) (intKV : IntMap)
    (strKV : StrMap) (w : W) (H : KVArgs mS mI strKV intKV) (hf1 : strKV.length < fuel) (hf2 : intKV.length < fuel)
    (hf3 : 4 ≤ fuel) (hsz : sz + strSz strKV + intSz intKV + 32 < 2 ^ 62) (hb : w.broken = false) :
    Funcs.tth_writeKVInfo (twI ew) fuel strKV (intOrd intKV) (sz : Int) mI mS w =
      .ok (w.pushAll (kvRun sz intKV strKV).2, ((kvRun sz intKV strKV).1 : Int), GoErr.nil) := by
  obtain ⟨hS, hG, hI⟩ := H
  have hle1 := strBytes_le strKV
  have hle2 := intBytes_le intKV
  unfold Funcs.tth_writeKVInfo
  simp only [Out.bind_eq, Out.pure_eq, gdprKey_utf8, hG, hI]
  -- the locals as variables, the statement for every state
  refine Eq.trans ?_ (Ran_of (run := fun m => kvRun m intKV strKV) sz rfl)
  generalize hz : (sz : Int) = z
  generalize hn : mapLen mS = n
  have hP : Good (strSz strKV + intSz intKV + 32) w z ∧ n = strKV.length := ⟨⟨hb, by omega, by omega⟩, by omega⟩
  clear hb hz hn
  revert w z n
  refine with_rest (S := fun _ _ _ => strKV.lookup gdprKey = none)
    (fun w z n hs => by take_branch [hs]; rfl)
    (fun K1 hK1 skip1 => ?_)
  have str : ∀ w z n, Good (strBytes strKV + intBytes intKV + 16) w z →
      K1 w z n = Ran (andThen (strRun strKV n) (andThen (intRun intKV) padRun)) w z := by
    refine rest_of hK1 ?_
    refine with_rest (S := fun _ _ n => ¬ n > 0)
      (fun w z n hs => by take_branch [hs]; rfl) (fun K2 hK2 skip2 => ?_)
    have int : ∀ w z n, Good (intBytes intKV + 12) w z → K2 w z n = Ran (andThen (intRun intKV) padRun) w z := by
      refine rest_of hK2 ?_
      refine with_rest (S := fun _ _ _ => ¬ 0 < intKV.length)
        (fun w z n hs => by take_branch [hs]; rfl) (fun K3 hK3 skip3 => ?_)
      have pad : ∀ w z n, Good 8 w z → K3 w z n = Ran padRun w z := by
        refine rest_of hK3 ?_
        intro w z n ⟨hb, h0, hm⟩
        obtain ⟨m, rfl⟩ := Int.eq_ofNat_of_zero_le h0
        simp (disch := omega) only [wrap_i64_of_range, Int.tmod_eq_emod_of_nonneg]
        tth_do (twI_malloc_ok ew w _ hb (by omega))
        dsimp only
        refine bind_eq_of (padLoop_gen (w.fresh _) ?step ?done fuel (by simp only [W.fresh_length]; omega)) ?_
        case step =>
          intro f b i hl hi
          simp only [W.fresh_length] at hl hi
          loop_unfold
          unfold len
          bsimp [vset_local, byteOf_zero, wrap_i64_of_range, Int.natCast_add, Int.natCast_one, hl, W.fresh_length]
        case done =>
          intro f b hl
          simp only [W.fresh_length] at hl ⊢
          loop_unfold
          unfold len
          bsimp [hl, W.fresh_length]
        have e : ((4 - (m : Int) % 4) % 4) = (((4 - m % 4) % 4 : Nat) : Int) := by omega
        simp only [Ran, padRun, twI_commit_top, W.pushAll_cons, W.pushAll_nil, W.fresh_length, e, Int.toNat_natCast,
          Int.natCast_add]
      intro w z n ⟨hb, h0, hm⟩
      by_cases hc : 0 < intKV.length
      · take_branch [hc]
        tth_do (ok_of (tth_WriteByte_cf ew hew w _) hb)
        tth_do (ok_of (tth_WriteUint16_cf ew hew _ _) hb)
        obtain ⟨m, rfl⟩ := Int.eq_ofNat_of_zero_le h0
        refine intLoop_bind (by intros; loop_unfold) (by
          intro f kv rest w szi e hb h0 hs
          apply Exists.intro
          loop_unfold
          tth_do (ok_of (tth_WriteUint16_cf ew hew w _) hb)
          tth_do (ok_of (tth_WriteString2BLen_cf ew hew _ _ (by omega)) hb)
          simp (disch := omega) only [wrap_i64_of_range, be16_ofInt_nat]
          congr_omega) intKV fuel _ _ _ hf2 hb (by rng_tac) (by rng_tac) (fun e' => ?_)
        refine ((hK3 _ _ _).symm.trans (pad _ _ n ⟨by exact (W.pushAll_broken _ _).trans hb, by rng_tac, by rng_tac⟩)).trans ?_
        rw [Ran_of (m + 3 + intBytes intKV) (by rng_tac), Ran_of m rfl]
        simp only [andThen, intRun, if_pos hc, W.pushAll_append, W.pushAll_cons, byteOf_intkv,
          ofInt_wrap 16 .u16 _ (by decide)]
      · refine (skip3 w z n hc).trans ((pad w z n ⟨hb, h0, by omega⟩).trans ?_)
        simp only [Ran, andThen, intRun, if_neg hc, List.nil_append]
    intro w z n ⟨hb, h0, hm⟩
    by_cases hc : n > 0
    · take_branch [hc]
      tth_do (ok_of (tth_WriteByte_cf ew hew w _) hb)
      tth_do (ok_of (tth_WriteUint16_cf ew hew _ _) hb)
      obtain ⟨m, rfl⟩ := Int.eq_ofNat_of_zero_le h0
      refine bind_eq_of (strLoop_gen (by intros; loop_unfold)
        (by
          intro f kv rest w szi hk
          loop_unfold
          take_branch [gdprKey_utf8, hk]
          rfl)
        (by
          intro f kv rest w szi hk hb h0 hs
          loop_unfold
          -- the key comparison may be written either way round, the guard either way up
          have hk' := Ne.symm hk
          take_branch [gdprKey_utf8, hk, hk']
          tth_do (ok_of (tth_WriteString2BLen_cf ew hew w _ (by omega)) hb)
          tth_do (ok_of (tth_WriteString2BLen_cf ew hew _ _ (by omega)) hb)
          simp (disch := omega) only [wrap_i64_of_range]
          congr_omega) strKV fuel _ _ hf1 hb (by rng_tac) (by rng_tac)) ?_
      refine ((hK2 _ _ _).symm.trans (int _ _ n ⟨by exact (W.pushAll_broken _ _).trans hb, by rng_tac, by rng_tac⟩)).trans ?_
      rw [Ran_of (m + 3 + strBytes strKV) (by rng_tac), Ran_of m rfl]
      simp only [andThen, strRun, if_pos hc, W.pushAll_append, W.pushAll_cons, byteOf_kv,
        ofInt_wrap 16 .u16 _ (by decide)]
    · refine (skip2 w z n hc).trans ((int w z n ⟨hb, h0, by omega⟩).trans ?_)
      simp only [Ran, andThen, strRun, if_neg hc, List.nil_append]
  intro w z n ⟨⟨hb, h0, hm⟩, hn⟩
  obtain ⟨m, rfl⟩ := Int.eq_ofNat_of_zero_le h0
  by_cases hl : strKV.lookup gdprKey = none
  · refine (skip1 w _ n hl).trans ((str w _ n ⟨hb, h0, by omega⟩).trans ?_)
    simp only [kvRun, hl, hn]
  · obtain ⟨tok, hl⟩ := Option.ne_none_iff_exists'.mp hl
    have htok := lookup_strBytes strKV tok hl
    have hlen := strSz_ge_len strKV
    rw [hl]
    take_branch [hl]
    tth_do (ok_of (tth_WriteByte_cf ew hew w _) hb)
    tth_do (ok_of (tth_WriteString2BLen_cf ew hew _ tok (by omega)) hb)
    refine ((hK1 _ _ _).symm.trans (str _ _ _ ⟨by exact hb, by rng_tac, by rng_tac⟩)).trans ?_
    rw [Ran_of (m + 1 + (tok.length + 2)) (by rng_tac), Ran_of m rfl]
    simp (disch := omega) only [kvRun, hl, hn, andThen, aclRun, W.pushAll_append, W.pushAll_cons, W.pushAll_nil,
      byteOf_acl, wrap_i64_of_range]

/-! ### … and on a broken writer: whichever call comes first fails, the error is returned at once -/

/-- stops with the writer's error, the writer unchanged -/
def Brk (w : W) (x : GM (W × Int × GoErr)) : Prop := ∃ n, x = .ok (w, n, ew)

omit hew in
theorem brk_ret (w : W) (n : Int) : Brk ew w (.ok (w, n, ew)) := ⟨n, rfl⟩

omit hew in
theorem brk_ite (w : W) {c : Prop} [Decidable c] {A B : GM (W × Int × GoErr)} (hA : c → Brk ew w A)
    (hB : ¬ c → Brk ew w B) : Brk ew w (if c then A else B) := by
  by_cases h : c
  · rw [if_pos h]; exact hA h
  · rw [if_neg h]; exact hB h

omit hew in
theorem brk_bind (w : W) {α : Type} {x : GM α} {v : α} {K : α → GM (W × Int × GoErr)} (h : x = .ok v)
    (hK : Brk ew w (K v)) : Brk ew w (x.bind K) := by
  rw [h]; exact hK

theorem tth_WriteUint16_brk (w : W) (v : Int) (hb : w.broken = true) :
    Funcs.tth_WriteUint16 (twI ew) v w = .ok (w, ew) :=
  brk_of (tth_WriteUint16_cf ew hew w v) hb

set_option hygiene false in
/-- the error test after a call that failed is decided -/
macro "brk_norm" : tactic => `(tactic| try (simp only [Out.bind_ok, Out.pure_eq, hew, ne_eq, not_true_eq_false,
  not_false_eq_true, eq_self, decide_true, decide_false, Bool.false_eq_true, Bool.not_true, Bool.not_false, if_true,
  if_false, twI_commit_none, reduceCtorEq]))

set_option hygiene false in
/-- one step on a broken writer: the error returned, a guard (both ways), or the first call, which fails -/
macro "brk_step" : tactic => `(tactic| (first
  | exact brk_ret ew _ _
  | refine brk_ite ew _ (fun _ => ?_) (fun _ => ?_)
  | (first
      | refine brk_bind ew _ (brk_of (tth_WriteByte_cf ew hew _ _) hb) ?_
      | refine brk_bind ew _ (brk_of (tth_WriteUint16_cf ew hew _ _) hb) ?_
      | refine brk_bind ew _ (twI_malloc_broken ew _ _ hb) ?_
     brk_norm)))

theorem tth_writeKVInfo_broken (fuel : Nat) (szi : Int) (mI : GoMap Int Bytes) (mS : GoMap Bytes Bytes)
    (o1 : List (Bytes × Bytes)) (o2 : List (Int × Bytes)) (w : W) (hb : w.broken = true) :
    ∃ n, Funcs.tth_writeKVInfo (twI ew) fuel o1 o2 szi mI mS w = .ok (w, n, ew) := by
  show Brk ew w _
  unfold Funcs.tth_writeKVInfo
  simp only [Out.bind_eq, Out.pure_eq]
  repeat' brk_step

/-- `writeKVInfo` translated from the Go source IS the model `TTH.writeKVInfo`: for every pair of visited sequences
    `strKV` / `intKV` (the iteration orders) and every pair of Go maps that agree with them in `len` and `[GDPRToken]`, on
    a writer that works or is broken; `fuel` above the lengths of the sequences (and 4, for the padding loop), sizes far
    below 2^62 so that Go's `int` arithmetic is exact -/
theorem tth_writeKVInfo_eq (fuel : Nat) (sz : Nat) (mI : GoMap Int Bytes) (mS : GoMap Bytes Bytes) (intKV : IntMap)
    (strKV : StrMap) (w : W) (H : KVArgs mS mI strKV intKV) (hf1 : strKV.length < fuel) (hf2 : intKV.length < fuel)
    (hf3 : 4 ≤ fuel) (hsz : sz + strSz strKV + intSz intKV + 32 < 2 ^ 62) :
    liftEN (Funcs.tth_writeKVInfo (twI ew) fuel strKV (intOrd intKV) (sz : Int) mI mS w) =
      TTH.writeKVInfo sz intKV strKV w := by
  cases hb : w.broken with
  | true =>
    obtain ⟨n, hn⟩ := tth_writeKVInfo_broken ew hew fuel sz mI mS strKV (intOrd intKV) w hb
    rw [hn, writeKVInfo_broken sz intKV strKV w hb]
    simp [liftEN, hew]
  | false =>
    rw [tth_writeKVInfo_cf ew hew fuel sz mI mS intKV strKV w H hf1 hf2 hf3 hsz hb,
      writeKVInfo_cf sz intKV strKV w hb]
    simp [liftEN]

end kv

/-! ## encode.go: Encode -/

theorem W.eq_of {a b : W} (h1 : a.items = b.items) (h2 : a.n = b.n) (h3 : a.broken = b.broken)
    (h4 : a.dirt = b.dirt) : a = b := by
  cases a; cases b; simp_all

theorem pushAll_items (w : W) (L : List Bytes) : (w.pushAll L).items = L.reverse ++ w.items := by
  induction L generalizing w with
  | nil => rfl
  | cons x r ih => simp [ih, W.push]

theorem pushAll_n (w : W) (L : List Bytes) : (w.pushAll L).n = w.n + L.length := by
  induction L generalizing w with
  | nil => rfl
  | cons x r ih => simp [ih, W.push]; omega

theorem pushAll_dirt (w : W) (L : List Bytes) : (w.pushAll L).dirt = w.dirt := by
  induction L generalizing w with
  | nil => rfl
  | cons x r ih => simp [ih, W.push]

theorem get_mid (l : List Bytes) (x : Bytes) (rest : List Bytes) : (l ++ x :: rest)[l.length]? = some x := by
  induction l with
  | nil => rfl
  | cons a l ih => simp [ih]

/-! A region handed out earlier, with later items `L` on top of it: where it sits among the items, and what replacing
  its contents gives. -/

theorem deep_n (w : W) (r : Bytes) (L : List Bytes) : ((w.push r).pushAll L).n = w.n + 1 + L.length := by
  rw [pushAll_n]; rfl

theorem deep_idx (w : W) (r : Bytes) (L : List Bytes) : ((w.push r).pushAll L).n - 1 - w.n = L.reverse.length := by
  rw [deep_n]; simp

theorem deep_items (w : W) (r : Bytes) (L : List Bytes) : ((w.push r).pushAll L).items = L.reverse ++ r :: w.items := by
  rw [pushAll_items]; rfl

theorem deep_get (w : W) (r : Bytes) (L : List Bytes) :
    ((w.push r).pushAll L).items[((w.push r).pushAll L).n - 1 - w.n]? = some r := by
  rw [deep_idx, deep_items, get_mid]

theorem deep_set (w : W) (r bs : Bytes) (L : List Bytes) :
    { (w.push r).pushAll L with
        items := ((w.push r).pushAll L).items.set (((w.push r).pushAll L).n - 1 - w.n) bs } = (w.push bs).pushAll L := by
  rw [deep_idx, deep_items]
  apply W.eq_of
  · simp only [set_at_length, pushAll_items]; rfl
  · simp only [pushAll_n]; rfl
  · simp
  · simp only [pushAll_dirt]; rfl

theorem put_deep (w : W) (r : Bytes) (L : List Bytes) (off : Nat) (v : Bytes) (h : off + v.length ≤ r.length) :
    ((w.push r).pushAll L).put w.n off v = .ok ((w.push (putAt r off v)).pushAll L) := by
  unfold W.put
  rw [if_neg (by rw [deep_n]; omega), deep_get]
  simp only
  rw [if_neg (by omega), deep_set]
  rfl

theorem put_top (w : W) (r : Bytes) (off : Nat) (v : Bytes) (h : off + v.length ≤ r.length) :
    (w.push r).put w.n off v = .ok (w.push (putAt r off v)) :=
  put_deep w r [] off v h

theorem setRegion_deep (w : W) (r bs : Bytes) (L : List Bytes) :
    ((w.push r).pushAll L).setRegion w.n bs = (w.push bs).pushAll L := by
  unfold W.setRegion
  rw [if_pos (by rw [deep_n]; omega)]
  exact deep_set w r bs L

/-- the `EncodeParam` the translation takes, from the model's parameter and the two Go maps -/
def toEncParam (p : EncParam) (mI : GoMap Int Bytes) (mS : GoMap Bytes Bytes) : Funcs.S_ttheader_EncodeParam :=
  { Flags := (p.flags : Int), SeqID := p.seq, ProtocolID := (p.proto : Int), IntInfo := mI, StrInfo := mS }

theorem toEncParam_Flags (p : EncParam) (mI mS) : (toEncParam p mI mS).Flags = (p.flags : Int) := rfl
theorem toEncParam_SeqID (p : EncParam) (mI mS) : (toEncParam p mI mS).SeqID = p.seq := rfl
theorem toEncParam_ProtocolID (p : EncParam) (mI mS) : (toEncParam p mI mS).ProtocolID = (p.proto : Int) := rfl
theorem toEncParam_IntInfo (p : EncParam) (mI mS) : (toEncParam p mI mS).IntInfo = mI := rfl
theorem toEncParam_StrInfo (p : EncParam) (mI mS) : (toEncParam p mI mS).StrInfo = mS := rfl

/-- the 14 bytes of the header-meta region when `Encode` returns: fresh memory with the magic/flags word, the sequence
    id and — last — the size field stored (`[0:4]`, the total length, belongs to the caller) -/
def metaBytes (p : EncParam) (w : W) (size : Nat) : Bytes :=
  putAt (putAt (putAt (w.fresh 14) 4 (be32 ((Facts.ttMagic + p.flags) % 4294967296))) 8 (be32 (ofInt 32 p.seq))) 12
    (be16 ((size / 4) % 65536))

/-- result `(writer, totalLenField, err)` of the translated `Encode` as the model's outcome `(region id, writer)`: the
    returned slice must hold what bytes `[0:4]` of the meta region hold; Encode's own error is `.size`, any other error
    comes from the writer -/
def liftEnc (w0 : W) (x : GM (W × Bytes × GoErr)) : Out EErr (Nat × W) :=
  match x with
  | .ok r =>
    if r.2.2 = .nil then
      if (r.1.items[r.1.n - 1 - w0.n]?).map (fun m => m.take 4) = some r.2.1 then .ok (w0.n, r.1)
      else .panic "liftEnc: totalLenField is not meta[0:4]"
    else if r.2.2 = .named "fmt.Errorf:invalid header length[%d]" then .err .size
    else .err .writer
  | .panic s => .panic s
  | .oob => .oob
  | .err e => nomatch e

theorem bput32_ok (b : Bytes) (off n : Int) (x : Int) (hn : 4 ≤ n) :
    bputU32 b off n x = .ok (putAt b off.toNat (be32 (ofInt 32 x))) := by
  have : ¬ n < 4 := by omega
  simp [bputU32, be32_toU, this]

theorem bput16_ok (b : Bytes) (off n : Int) (x : Int) (hn : 2 ≤ n) :
    bputU16 b off n x = .ok (putAt b off.toNat (be16 (ofInt 16 x))) := by
  have : ¬ n < 2 := by omega
  simp [bputU16, be16_toU, this]

theorem putAt_len (b : Bytes) (o : Nat) (bs : Bytes) (h : o + bs.length ≤ b.length) :
    (putAt b o bs).length = b.length :=
  putAt_length b o bs h

theorem bchk_ok (n lo hi : Int) (h1 : 0 ≤ lo) (h2 : lo ≤ hi) (h3 : hi ≤ n) : bchk n lo hi = .ok () := by
  unfold bchk
  rw [if_neg (by omega), if_neg (by omega)]

/-- the model's `Encode` on a writer that works, in closed form -/
theorem encode_cf (p : EncParam) (w : W) (hb : w.broken = false) :
    encode p w =
      if (kvRun 2 p.intKV p.strKV).1 % 2 ^ Facts.ttEncodeSizeCheckBits > Facts.ttMaxHeaderSize then .err .size
      else .ok (w.n, (((w.push (metaBytes p w (kvRun 2 p.intKV p.strKV).1)).push [UInt8.ofNat p.proto]).push
        [UInt8.ofNat 0]).pushAll (kvRun 2 p.intKV p.strKV).2) := by
  unfold encode
  have hm : w.malloc Facts.ttMetaSize = .ok (w.n, w.push (w.fresh 14)) := by
    simp [W.malloc, hb, W.push, W.fresh, Facts.ttMetaSize]
  rw [hm, Out.bind_ok, put_top w _ 4 _ (by simp), Out.bind_ok, put_top w _ 8 _ (by simp [putAt]), Out.bind_ok]
  simp only [Out.bind_ok, writeByte_cf, hb, W.push_broken, Bool.false_eq_true, if_false]
  rw [writeKVInfo_cf 2 p.intKV p.strKV _ (by simp [hb])]
  simp only [Out.bind_ok]
  split
  · rfl
  · -- the size field is stored last, below the items appended since
    exact (bind_congr_arg _ (put_deep w _ (_ :: _ :: _) 12 _ (by simp [putAt]))).trans rfl

/-! ### walking the generated `Encode` -/

theorem twI_commit (ew : GoErr) (w : W) (h : Nat) (bs : Bytes) : (twI ew).commit w h bs = w.setRegion h bs := rfl

/-- the magic/flags word, whichever way round the sum is written -/
theorem be32_magic (f : Nat) :
    be32 (ofInt 32 (268435456 + (f : Int))) = be32 ((Facts.ttMagic + f) % 4294967296) := by
  have : (268435456 : Int) + (f : Int) = ((Facts.ttMagic + f : Nat) : Int) := by simp [Facts.ttMagic]
  rw [this, be32_ofInt_nat, be32_mod]

theorem be32_magic' (f : Nat) :
    be32 (ofInt 32 ((f : Int) + 268435456)) = be32 ((Facts.ttMagic + f) % 4294967296) := by
  rw [Int.add_comm, be32_magic]

/-- the size field: `uint16(size / 4)` -/
theorem be16_size (N : Nat) (h : N < 2 ^ 62) :
    be16 (ofInt 16 (wrap .i64 (Int.tdiv (N : Int) 4))) = be16 ((N / 4) % 65536) := by
  rw [Int.tdiv_eq_ediv_of_nonneg (by omega), wrap_i64_of_range _ (by omega) (by omega), be16_mod]
  have : (N : Int) / 4 = ((N / 4 : Nat) : Int) := by omega
  rw [this, be16_ofInt_nat]

/-- `writeKVInfo` called with a size expression that IS the number `sz` -/
theorem tth_writeKVInfo_call (ew : GoErr) (hew : ew ≠ GoErr.nil) (fuel : Nat) (szi : Int) (sz : Nat)
    (hszi : szi = (sz : Int)) (mI : GoMap Int Bytes) (mS : GoMap Bytes Bytes) (intKV : IntMap)
    (strKV : StrMap) (w : W) (H : KVArgs mS mI strKV intKV) (hf1 : strKV.length < fuel) (hf2 : intKV.length < fuel)
    (hf3 : 4 ≤ fuel) (hsz : sz + strSz strKV + intSz intKV + 32 < 2 ^ 62) (hb : w.broken = false) :
    Funcs.tth_writeKVInfo (twI ew) fuel strKV (intOrd intKV) szi mI mS w =
      .ok (w.pushAll (kvRun sz intKV strKV).2, ((kvRun sz intKV strKV).1 : Int), GoErr.nil) := by
  subst hszi
  exact tth_writeKVInfo_cf ew hew fuel sz mI mS intKV strKV w H hf1 hf2 hf3 hsz hb

theorem kvRun_bound (sz : Nat) (intKV : IntMap) (strKV : StrMap) :
    (kvRun sz intKV strKV).1 ≤ sz + strSz strKV + intSz intKV + 16 := by
  have hle1 := strBytes_le strKV
  have hle2 := intBytes_le intKV
  unfold kvRun
  cases hl : strKV.lookup gdprKey with
  | none => simp only [andThen, strRun, intRun, padRun]; split <;> split <;> simp only <;> omega
  | some tok =>
    have htok := lookup_strBytes strKV tok hl
    simp only [andThen, aclRun, strRun, intRun, padRun]; split <;> split <;> simp only <;> omega


section enc
variable (ew : GoErr) (hew : ew ≠ GoErr.nil)
include hew

attribute [local irreducible] Funcs.tth_WriteByte Funcs.tth_WriteUint16 Funcs.tth_WriteUint32
  Funcs.tth_WriteString2BLen Funcs.tth_WriteString Funcs.tth_writeKVInfo Funcs.tth_writeKVInfo_loop1
  Funcs.tth_writeKVInfo_loop2 Funcs.tth_writeKVInfo_loop3 Funcs.tth_Encode_loop1 bchk bputU16 bputU32

/-- the bounds checks of slice expressions on the header-meta buffer that stand at the head -/
macro "enc_chks" : tactic => `(tactic| repeat
  (refine bind_eq_of (bchk_ok _ _ _ (by omega) (by omega) (by first | omega | (simp [len, putAt]; done) | (simp [len, putAt]; omega))) ?_))

theorem tth_Encode_cf (fuel : Nat) (p : EncParam) (mI : GoMap Int Bytes) (mS : GoMap Bytes Bytes) (w : W)
    (H : KVArgs mS mI p.strKV p.intKV) (hf1 : p.strKV.length < fuel) (hf2 : p.intKV.length < fuel) (hf3 : 4 ≤ fuel)
    (hsz : strSz p.strKV + intSz p.intKV + 64 < 2 ^ 62) (hb : w.broken = false) :
    Funcs.tth_Encode (twI ew) fuel p.strKV (intOrd p.intKV) (toEncParam p mI mS) w =
      if ((kvRun 2 p.intKV p.strKV).1 : Int) > 65536 then
        .ok ((((w.push (putAt (putAt (w.fresh 14) 4 (be32 ((Facts.ttMagic + p.flags) % 4294967296))) 8
            (be32 (ofInt 32 p.seq)))).push [UInt8.ofNat p.proto]).push [UInt8.ofNat 0]).pushAll
            (kvRun 2 p.intKV p.strKV).2, [], GoErr.named "fmt.Errorf:invalid header length[%d]")
      else
        .ok ((((w.push (metaBytes p w (kvRun 2 p.intKV p.strKV).1)).push [UInt8.ofNat p.proto]).push
            [UInt8.ofNat 0]).pushAll (kvRun 2 p.intKV p.strKV).2,
          (metaBytes p w (kvRun 2 p.intKV p.strKV).1).take 4, GoErr.nil) := by
  obtain ⟨k, rfl⟩ : ∃ k, fuel = k + 1 := ⟨fuel - 1, by omega⟩
  have hbd := kvRun_bound 2 p.intKV p.strKV
  unfold Funcs.tth_Encode
  simp only [Out.bind_eq, Out.pure_eq, toEncParam_Flags, toEncParam_SeqID, toEncParam_ProtocolID, toEncParam_IntInfo,
    toEncParam_StrInfo]
  -- the header-meta region and the two stores into it
  tth_do (twI_malloc_ok ew w _ hb (by omega))
  enc_chks
  refine bind_eq_of (bput32_ok _ _ _ _ (by omega)) ?_
  enc_chks
  refine bind_eq_of (bput32_ok _ _ _ _ (by omega)) ?_
  enc_chks
  -- protocol id, number of transform ids, the (empty) loop over them
  tth_do (ok_of (tth_WriteByte_cf ew hew _ _) hb)
  tth_do (ok_of (tth_WriteByte_cf ew hew _ _) hb)
  refine bind_eq_of (by
    simp only [Funcs.tth_Encode_loop1, len, List.length_nil, Int.natCast_zero, Int.lt_irrefl, decide_false,
      Bool.false_eq_true, if_false, Out.pure_eq]
    rfl) ?_
  refine bind_eq_of (tth_writeKVInfo_call ew hew _ _ 2 (by first | rfl | decide) _ _ _ _ _ H hf1 hf2 hf3 (by omega)
    hb) ?_
  refine Eq.trans (if_neg nil_ne_nil) ?_
  -- the header-meta region — handed out first — is committed last
  have hs := fun bs => setRegion_deep w (w.fresh 14) bs
    ([UInt8.ofNat p.proto] :: [UInt8.ofNat 0] :: (kvRun 2 p.intKV p.strKV).2)
  simp only [W.pushAll_cons] at hs
  simp (disch := omega) only [twI_commit, byteOf_nat,
    show byteOf (wrap .u8 (len ([] : Bytes))) = UInt8.ofNat 0 from by decide,
    show byteOf (wrap .u8 0) = UInt8.ofNat 0 from by decide,
    ofInt_wrap 32 .u32 _ (by decide), be32_magic, be32_magic', hs, Int.reduceToNat]
  by_cases c : ((kvRun 2 p.intKV p.strKV).1 : Int) > 65536
  · rw [if_pos c]
    take_branch [c]
    rfl
  · rw [if_neg c]
    take_branch [c]
    enc_chks
    refine bind_eq_of (bput16_ok _ _ _ _ (by omega)) ?_
    simp (disch := omega) only [ofInt_wrap 16 .u16 _ (by decide), be16_size, metaBytes, Int.reduceToNat]
    first | done | rfl | (simp [bsub]; done)

omit hew in
theorem encode_broken (p : EncParam) (w : W) (hb : w.broken = true) : encode p w = .err .writer := by
  simp [encode, W.malloc, hb]

/-- `Encode` translated from the Go source IS the model `TTH.encode`: for every pair of visited sequences (the iteration
    orders of `param.StrInfo` and `param.IntInfo`) and every pair of Go maps that agree with them, on a writer that works
    or is broken. The header-meta region is kept across the later `Malloc`s and its size field is filled last (`commit`
    of region `w.n` after everything else was appended); the returned `totalLenField` holds bytes `[0:4]` of that region -/
theorem tth_Encode_eq (fuel : Nat) (p : EncParam) (mI : GoMap Int Bytes) (mS : GoMap Bytes Bytes) (w : W)
    (H : KVArgs mS mI p.strKV p.intKV) (hf1 : p.strKV.length < fuel) (hf2 : p.intKV.length < fuel) (hf3 : 4 ≤ fuel)
    (hsz : strSz p.strKV + intSz p.intKV + 64 < 2 ^ 62) :
    liftEnc w (Funcs.tth_Encode (twI ew) fuel p.strKV (intOrd p.intKV) (toEncParam p mI mS) w) = encode p w := by
  cases hb : w.broken with
  | true =>
    obtain ⟨r, hr, h1, h2⟩ : ∃ r, Funcs.tth_Encode (twI ew) fuel p.strKV (intOrd p.intKV) (toEncParam p mI mS) w = .ok r ∧
        r.2.2 ≠ GoErr.nil ∧ r.2.2 ≠ GoErr.named "fmt.Errorf:invalid header length[%d]" := by
      unfold Funcs.tth_Encode
      simp only [Out.bind_eq, Out.pure_eq]
      refine ⟨?r, ?h1, ?h2, ?h3⟩
      case h1 => exact bind_eq_of (twI_malloc_broken ew w _ hb) (by brk_norm; rfl)
      case h2 => simp
      case h3 => simp
    rw [encode_broken p w hb, hr]
    simp [liftEnc, h1, h2]
  | false =>
    have hbd := kvRun_bound 2 p.intKV p.strKV
    rw [tth_Encode_cf ew hew fuel p mI mS w H hf1 hf2 hf3 hsz hb, encode_cf p w hb]
    have hmod : (kvRun 2 p.intKV p.strKV).1 % 2 ^ Facts.ttEncodeSizeCheckBits = (kvRun 2 p.intKV p.strKV).1 := by
      apply Nat.mod_eq_of_lt
      have : (2 : Nat) ^ 62 < 2 ^ Facts.ttEncodeSizeCheckBits := by decide
      omega
    rw [hmod]
    by_cases c : (kvRun 2 p.intKV p.strKV).1 > Facts.ttMaxHeaderSize
    · have c' : ((kvRun 2 p.intKV p.strKV).1 : Int) > 65536 := by
        have : Facts.ttMaxHeaderSize = 65536 := rfl
        omega
      rw [if_pos c, if_pos c']
      simp [liftEnc]
    · have c' : ¬ ((kvRun 2 p.intKV p.strKV).1 : Int) > 65536 := by
        have : Facts.ttMaxHeaderSize = 65536 := rfl
        omega
      rw [if_neg c, if_neg c']
      -- the returned slice is bytes [0:4] of region `w.n`
      have hget := deep_get w (metaBytes p w (kvRun 2 p.intKV p.strKV).1)
        ([UInt8.ofNat p.proto] :: [UInt8.ofNat 0] :: (kvRun 2 p.intKV p.strKV).2)
      simp only [W.pushAll_cons] at hget
      simp only [liftEnc, if_true, hget, Option.map_some]

end enc

/-! ## what Go guarantees about the two visited sequences gives `KVArgs` -/

theorem lookup_cons_eq (k : Bytes) (e : Bytes × Bytes) (r : List (Bytes × Bytes)) :
    (e :: r).lookup k = if k = e.1 then some e.2 else r.lookup k := by
  obtain ⟨a, b⟩ := e
  by_cases h : k = a
  · subst h; simp [List.lookup]
  · have : (k == a) = false := by simp [h]
    simp [List.lookup, this, h]

theorem lookup_filter_ne (l : List (Bytes × Bytes)) (k a : Bytes) (h : k ≠ a) :
    (l.filter (fun x => !(x.1 == a))).lookup k = l.lookup k := by
  induction l with
  | nil => rfl
  | cons e r ih =>
    by_cases he : e.1 = a
    · have hf : (e :: r).filter (fun x => !(x.1 == a)) = r.filter (fun x => !(x.1 == a)) := by
        simp [List.filter_cons, he]
      have hk : ¬ k = e.1 := by rw [he]; exact h
      rw [hf, ih, lookup_cons_eq, if_neg hk]
    · have hf : (e :: r).filter (fun x => !(x.1 == a)) = e :: r.filter (fun x => !(x.1 == a)) := by
        simp [List.filter_cons, he]
      rw [hf, lookup_cons_eq, lookup_cons_eq, ih]

theorem lookup_mapEntriesL (l : List (Bytes × Bytes)) (k : Bytes) : (mapEntriesL l).lookup k = l.lookup k := by
  induction l with
  | nil => rfl
  | cons e r ih =>
    simp only [mapEntriesL]
    rw [lookup_cons_eq, lookup_cons_eq]
    by_cases hk : k = e.1
    · rw [if_pos hk, if_pos hk]
    · rw [if_neg hk, if_neg hk, lookup_filter_ne _ _ _ hk, ih]

theorem perm_lookup {l1 l2 : List (Bytes × Bytes)} (h : l1.Perm l2) (hn : (l1.map Prod.fst).Nodup) (k : Bytes) :
    l1.lookup k = l2.lookup k := by
  induction h with
  | nil => rfl
  | cons x _ ih =>
    simp only [List.map_cons, List.nodup_cons] at hn
    rw [lookup_cons_eq, lookup_cons_eq, ih hn.2]
  | swap x y l =>
    simp only [List.map_cons, List.nodup_cons, List.mem_cons, not_or] at hn
    rw [lookup_cons_eq, lookup_cons_eq, lookup_cons_eq, lookup_cons_eq]
    by_cases h1 : k = y.1
    · have h2 : ¬ k = x.1 := by rw [h1]; exact hn.1.1
      rw [if_pos h1, if_neg h2, if_pos h1]
    · rw [if_neg h1, if_neg h1]
  | trans h1 _ ih1 ih2 =>
    rw [ih1 hn, ih2 ((h1.map Prod.fst).nodup_iff.mp hn)]

/-- when `strKV` is an iteration order of the Go map `mS` and `intOrd intKV` one of `mI` (`GoSem.MapOrder`: a permutation
    of the map's entries — what Go guarantees), the hypotheses of the theorems above hold -/
theorem kvArgs_of_order (mS : GoMap Bytes Bytes) (mI : GoMap Int Bytes) (strKV : StrMap) (intKV : IntMap)
    (h1 : MapOrder mS strKV) (h2 : MapOrder mI (intOrd intKV)) : KVArgs mS mI strKV intKV where
  lenS := by unfold mapLen; rw [← h1.length_eq]
  lenI := by unfold mapLen; rw [← h2.length_eq]; simp [intOrd]
  getS := by
    cases mS with
    | none =>
      have : strKV = [] := by simpa [MapOrder, mapEntries] using h1
      subst this; rfl
    | some l =>
      have hp : strKV.Perm (mapEntriesL l) := h1
      rw [perm_lookup hp ((hp.map Prod.fst).nodup_iff.mpr (mapEntriesL_nodup l)), lookup_mapEntriesL]
      rfl

/-! ## the generated functions compute (non-vacuity) -/

/-- a fresh writer whose memory is filled with 0xAA -/
def exW : W := ⟨[], 0, false, fun _ _ => 170⟩
def exErr : GoErr := .named "sink"

-- WriteByte / WriteUint16 / WriteString2BLen: what Flush would hand to the sink
example : (Funcs.tth_WriteByte (twI exErr) 7 exW).bind (fun r => .ok (r.1.bytes, r.2)) = .ok ([7], .nil) := by
  decide +kernel
example : (Funcs.tth_WriteString2BLen (twI exErr) [104, 105] exW).bind (fun r => .ok (r.1.bytes, r.2)) =
    .ok ([0, 2, 104, 105], 4, .nil) := by decide +kernel
example : (Funcs.tth_WriteString (twI exErr) [104, 105] exW).bind (fun r => .ok (r.1.bytes, r.2)) =
    .ok ([0, 0, 0, 2, 104, 105], 6, .nil) := by decide +kernel
-- an error from the writer (the sticky error): nothing is appended
example : (Funcs.tth_WriteUint16 (twI exErr) 513 { exW with broken := true }).bind (fun r => .ok (r.1.bytes, r.2)) =
    .ok ([], exErr) := by decide +kernel

-- Encode: flags 2, seq 9, protocol 0, one int KV (7 ↦ "x"), three string KVs ("k" ↦ "v", the GDPR token ↦ "t",
-- "a" ↦ "b"), the same string map visited in two orders. The translated constant `GDPRToken` (`"…".toUTF8.toList`) does not evaluate in the
-- kernel, so these go through the theorem and evaluate the model:
--   meta = [4 dirty bytes | 0x1000 0002 | seq 9 | size/4 = 8], info = proto 0, 0 transforms, 11 0001 "t" (ACL),
--   01 0002 <the two pairs in the visited order>, 10 0001 0007 "x", padding to a multiple of 4
def exP (strKV : StrMap) : EncParam := ⟨2, 9, 0, [(7, [120])], strKV⟩
def exStr1 : StrMap := [([107], [118]), (gdprKey, [116]), ([97], [98])]
def exStr2 : StrMap := [([97], [98]), (gdprKey, [116]), ([107], [118])]

theorem exArgs (strKV : StrMap) (h : strKV = exStr1 ∨ strKV = exStr2) :
    KVArgs (some exStr1) (some [(7, [120])]) strKV [(7, [120])] := by
  rcases h with rfl | rfl
  · exact ⟨by decide, by decide, by decide⟩
  · exact ⟨by decide, by decide, by decide⟩

example : (liftEnc exW (Funcs.tth_Encode (twI exErr) 5 (exP exStr1).strKV (intOrd (exP exStr1).intKV)
      (toEncParam (exP exStr1) (some [(7, [120])]) (some exStr1)) exW)).bind (fun r => .ok (r.1, r.2.bytes)) =
    .ok (0, [170, 170, 170, 170, 16, 0, 0, 2, 0, 0, 0, 9, 0, 8,
             0, 0,  17, 0, 1, 116,  1, 0, 2, 0, 1, 107, 0, 1, 118, 0, 1, 97, 0, 1, 98,
             16, 0, 1, 0, 7, 0, 1, 120,  0, 0, 0]) := by
  rw [tth_Encode_eq exErr (by decide) 5 (exP exStr1) _ _ exW (exArgs _ (Or.inl rfl)) (by decide) (by decide)
    (by decide) (by decide)]
  decide +kernel
example : (liftEnc exW (Funcs.tth_Encode (twI exErr) 5 (exP exStr2).strKV (intOrd (exP exStr2).intKV)
      (toEncParam (exP exStr2) (some [(7, [120])]) (some exStr1)) exW)).bind (fun r => .ok (r.1, r.2.bytes)) =
    .ok (0, [170, 170, 170, 170, 16, 0, 0, 2, 0, 0, 0, 9, 0, 8,
             0, 0,  17, 0, 1, 116,  1, 0, 2, 0, 1, 97, 0, 1, 98, 0, 1, 107, 0, 1, 118,
             16, 0, 1, 0, 7, 0, 1, 120,  0, 0, 0]) := by
  rw [tth_Encode_eq exErr (by decide) 5 (exP exStr2) _ _ exW (exArgs _ (Or.inr rfl)) (by decide) (by decide)
    (by decide) (by decide)]
  decide +kernel
-- the first Malloc fails: Encode returns its own error, nothing is appended (no map is touched: this evaluates directly)
example : (liftEnc { exW with broken := true } (Funcs.tth_Encode (twI exErr) 5 exStr1 (intOrd [(7, [120])])
      (toEncParam (exP exStr1) (some [(7, [120])]) (some exStr1)) { exW with broken := true })).bind
        (fun r => .ok r.1) = .err .writer := by decide +kernel
example : (Funcs.tth_Encode (twI exErr) 5 exStr1 (intOrd [(7, [120])])
      (toEncParam (exP exStr1) (some [(7, [120])]) (some exStr1)) { exW with broken := true }).bind
        (fun r => .ok (r.1.bytes, r.2)) =
    .ok ([], [], .named "fmt.Errorf:ttHeader malloc header meta failed, %s") := by decide +kernel
-- the loops run out of fuel (an artefact of the translation, excluded by the `fuel` hypotheses)
example : (Funcs.tth_writeKVInfo_loop2 (twI exErr) 1 [(7, [120])] exW 0 .nil).bind (fun _ => .ok ()) =
    .panic "nofuel" := by decide +kernel

end Verif.FuncsEq
