/-
  Lemmas/Funcs/BufioxW: the writer half of bufiox/defaultbuf.go — `(*DefaultWriter).acquireSlow / acquire / Malloc /
  WriteBinary / WrittenLen / Flush`, `NewDefaultWriter` — as TRANSLATED from the Go source on every run
  (`Verif.Gen.Bufiox`, over `Base/GoSemCap`) against the hand-written model `Model/Writer.lean` (`Wr`: a heap of buffer
  objects, `WView` slices, parked buffers, a scripted sink) that C05 is about.

  * the translation has VALUE slices, the model a heap. `WSim g m`: the writer's buffer is the content of its object
    (`g.buf = ⟨m.heap v.obj, v.len, true⟩`, nil ↔ `m.buf = none`), every parked slice is the content of its parked object
    with its parked length, `err`, `disableCache`, the statistics and the sink agree. `regions`, `nextRegion`, `target`
    and the object ids are bookkeeping of the model with no counterpart in the Go state.
  * the allocator: the model's `WAlloc` with `poolCap = mcacheCap` (mcache's rounding) — the oracle of the translation
    is the content the model gives its next fresh object (`fun _ c => a.fresh m.next c`); at most one allocation happens
    per call. The `io.Writer` is the model's scripted sink (`sinkWriter`; a BytesWriter's fake writer never fails).
  * hypotheses: the model invariant `WInv` (Lemmas/WriterOps: it is what makes parked objects distinct from the current
    one), `cap ≤ 2^44`, `n + len ≤ 2^44`, recorded capacities `≤ 2^45` (mcache pools, no int64 wrap), fuel ≥ 64.
  * theorems `DefaultWriter_<F>_sim`: the generated function returns what the model returns (count / region length and
    capacity / error), in states related again; `Flush` agrees with the model's `stitch` INCLUDING its slice panics.
    `WInv` of the state afterwards is the model's own lemma (acquire_spec, malloc_spec, …).
  * NOT covered: `fakeIOWriter.Write` and `NewBytesWriter` (refused by the translator: a pointer to the enclosing
    BytesWriter / `*flushBytes = p`), and the caller's later stores into a region handed out by `Malloc` (`Wr.fill`): with
    value slices they have no counterpart in a single translated function — the aliasing of `Malloc`'s result with
    `w.buf` is the model's, tied by Tie B.
-/
import Verif.Lemmas.Funcs.BufioxR
import Verif.Lemmas.WriterOps
namespace Verif.BufioxEq
open Verif Verif.GoSemCap Verif.BufioxGen
open Verif.GoSem (GM wrap LoopR IT)
set_option linter.unusedSimpArgs false

/-! ## the sink, the relation -/

/-- the model's scripted sink as an `io.Writer` (`dc` = the writer is a BytesWriter: its fake io.Writer never fails) -/
def sinkWriter (dc : Bool) : IoWriter WSink :=
  ⟨fun s data =>
    let e := if dc then none else s.fail (s.calls.length + 1)
    ((data.length : Int), errCon e, { s with calls := s.calls ++ [(data, e)] })⟩

/-- generated writer state vs the model state (a heap of buffer objects): a slice is the content of its object -/
structure WSim (g : S_DefaultWriter WSink) (m : Wr) : Prop where
  buf_none : m.buf = none → g.buf = Sl.nil
  buf_some : ∀ v, m.buf = some v → g.buf = ⟨m.heap v.obj, v.len, true⟩
  pend : (rangeSl g.pendingBuf).map (fun p => (p.len, p.mem)) = m.pending.map (fun ol => (ol.2, m.heap ol.1))
  err : g.err = errCon m.err
  dc : g.disableCache = m.disableCache
  stats : m.stats = g.maxSizeStats.buckets.map Int.toNat
  stats_nonneg : ∀ x ∈ g.maxSizeStats.buckets, 0 ≤ x
  idx : (m.statsIdx : Int) = g.maxSizeStats.bucketIdx
  sink : g.wd = some m.sink


theorem dirty_fresh (a : WAlloc) (id c : Nat) : dirty (fun c => a.fresh id c) c = a.fresh id c := by
  simp [dirty, length_fresh]

theorem dirtmake_ok (o : Nat → Bytes) (l c : Nat) (h : l ≤ c) :
    dirtmakeBytes o (l : Int) (c : Int) = .ok { mem := dirty o c, len := l, nonnil := true } := by
  unfold dirtmakeBytes
  have : ¬ ((l : Int) < 0 ∨ (l : Int) > (c : Int)) := by omega
  have h' : ¬ c < l := by omega
  simp [this, h']

theorem le_mul_two_pow (n m : Nat) (hm : 0 < m) : n ≤ m * 2 ^ n := by
  have := @Nat.lt_two_pow_self n
  calc n ≤ 1 * 2 ^ n := by omega
    _ ≤ m * 2 ^ n := Nat.mul_le_mul_right _ hm

/-- growth keeps the relation: the old buffer is parked as it is, the new object is fresh -/
theorem grow_wsim (a : WAlloc) (g : S_DefaultWriter WSink) (m : Wr) (v : WView) (n N c : Nat) (hs : WSim g m)
    (hb : m.buf = some v) (hok : BufOK m.heap m.next v m.pending m.regions)
    (hN : growCap n (v.cap * 2) v.len n = N) (hc : (if m.disableCache then N else a.poolCap N) = c) :
    WSim { g with pendingBuf := appendSl g.pendingBuf g.buf, buf := ⟨a.fresh m.next c, v.len, true⟩ } (m.grow a v n) := by
  have hgb := hs.buf_some v hb
  have hold : ∀ o, o < m.next → (if o = m.next then a.fresh m.next c else m.heap o) = m.heap o := by
    intro o ho; have : o ≠ m.next := by omega
    simp [this]
  refine ⟨by simp [Wr.grow, Wr.allocBuf], ?_, ?_, by simpa [Wr.grow, Wr.allocBuf] using hs.err,
    by simpa [Wr.grow, Wr.allocBuf] using hs.dc, by simpa [Wr.grow, Wr.allocBuf] using hs.stats, hs.stats_nonneg,
    by simpa [Wr.grow, Wr.allocBuf] using hs.idx, by simpa [Wr.grow, Wr.allocBuf] using hs.sink⟩
  · intro v' hv'
    simp [Wr.grow, Wr.allocBuf, hN, hc] at hv'
    subst hv'
    simp [Wr.grow, Wr.allocBuf, hN, hc]
  · simp only [Wr.grow, Wr.allocBuf, hN, hc, appendSl, rangeSl, Option.getD_some, List.map_append, List.map_cons,
      List.map_nil]
    have h1 : m.pending.map (fun ol => (ol.2, if ol.1 = m.next then a.fresh m.next c else m.heap ol.1))
        = m.pending.map (fun ol => (ol.2, m.heap ol.1)) := by
      apply List.map_congr_left
      intro ol hol
      rw [hold _ (hok.pend_lt ol hol)]
    have hp := hs.pend
    simp only [rangeSl] at hp
    rw [h1, ← hp, hold _ hok.obj_lt, hgb]

/-- the first allocation keeps the relation -/
theorem alloc_wsim (a : WAlloc) (g : S_DefaultWriter WSink) (m : Wr) (c : Nat) (hs : WSim g m)
    (hpl : ∀ p ∈ m.pending, p.1 < m.next) :
    WSim { g with buf := ⟨a.fresh m.next c, 0, true⟩ }
      { m with heap := fun i => if i = m.next then a.fresh m.next c else m.heap i, next := m.next + 1,
               buf := some ⟨m.next, 0, c⟩ } := by
  refine ⟨by simp, ?_, ?_, hs.err, hs.dc, hs.stats, hs.stats_nonneg, hs.idx, hs.sink⟩
  · intro v' hv'
    simp at hv'
    subst hv'
    simp
  · have h1 : m.pending.map (fun ol => (ol.2, if ol.1 = m.next then a.fresh m.next c else m.heap ol.1))
        = m.pending.map (fun ol => (ol.2, m.heap ol.1)) := by
      apply List.map_congr_left
      intro ol hol
      have : ol.1 ≠ m.next := by have := hpl ol hol; omega
      simp [this]
    simp only [h1]
    exact hs.pend

theorem DefaultWriter_acquireSlow_sim (a : WAlloc) (ha : ∀ c, a.poolCap c = mcacheCap c) (fuel : Nat)
    (g : S_DefaultWriter WSink) (m : Wr) (n : Nat) (hs : WSim g m) (hw : WInv m)
    (hcap : m.bufCap ≤ 2 ^ 44) (hreq : n + m.bufLen ≤ 2 ^ 44) (hst : ∀ x ∈ m.stats, x ≤ 2 ^ 45) (hfuel : 64 ≤ fuel) :
    ∃ g' m', DefaultWriter_acquireSlow (fun _ c => a.fresh m.next c) fuel g (n : Int) = .ok g' ∧
      m.acquireSlow a n = some m' ∧ WSim g' m' ∧ m'.bufCap ≤ 2 ^ 45 := by
  obtain ⟨f0, rfl⟩ : ∃ f0, fuel = f0 + 1 := ⟨fuel - 1, by omega⟩
  unfold DefaultWriter_acquireSlow Wr.acquireSlow
  by_cases hc : m.bufCap = 0
  · -- first allocation
    have hsc : scap g.buf = 0 := by
      cases hb : m.buf with
      | none => simp [hs.buf_none hb, scap, Sl.nil]
      | some v =>
        have := (hw.buf_ok v hb).heap_len
        simp [Wr.bufCap, hb] at hc
        simp [hs.buf_some v hb, scap, this, hc]
    have hsl : slen g.buf = 0 := by
      cases hb : m.buf with
      | none => simp [hs.buf_none hb, slen, Sl.nil]
      | some v =>
        have := (hw.buf_ok v hb).len_le_cap
        simp [Wr.bufCap, hb] at hc
        simp [hs.buf_some v hb, slen]; omega
    have hnil : g.buf.mem = [] := List.eq_nil_of_length_eq_zero (by simpa [scap] using hsc)
    have hpl : ∀ p ∈ m.pending, p.1 < m.next := by
      cases hb : m.buf with
      | none => simp [(hw.nil_buf hb).1]
      | some v => exact (hw.buf_ok v hb).pend_lt
    have hbl : g.maxSizeStats.buckets.length = Facts.statsBucketNum := by
      have := congrArg List.length hs.stats; simp at this; rw [← this]; exact hw.stats_len
    have e1 := maxSizeStats_maxSize_eq g.maxSizeStats hs.stats_nonneg hbl
    rw [← hs.stats] at e1
    have hs45 : statsMax m.stats ≤ 2 ^ 45 := statsMax_le _ _ hst
    obtain ⟨m1, hm1, hm1pos, hm1le, hmax⟩ := firstSize_ok m.stats hs45
    have hn : n ≤ 2 ^ 44 := by omega
    have hf1 : n ≤ m1 * 2 ^ f0 := le_mul_pow 44 hm1pos hn (by omega)
    have hg1 := le_mul_two_pow n m1 hm1pos
    have hd := doubleUntil_spec n m1 n hm1pos hg1
    generalize hm2 : doubleUntil n m1 n = m2 at *
    have hm2le : m2 ≤ 2 ^ 45 := by omega
    have e3 := malloc0_ok (fun c => a.fresh m.next c) m2 hm2le
    have e4 := dirtmake_ok (fun c => a.fresh m.next c) 0 m2 (Nat.zero_le _)
    rw [dirty_fresh] at e3 e4
    simp only [Int.natCast_zero] at e4
    -- the capacity of the new buffer: exact for a BytesWriter (`dirtmake.Bytes`), mcache's rounding otherwise
    generalize hcd : (if m.disableCache then m2 else a.poolCap m2) = c
    have hcr : m2 ≤ c ∧ c ≤ 2 ^ 45 := by
      subst hcd; split
      · omega
      · rw [ha, mcacheCap_eq m2 (by omega)]; exact ⟨(pow2ceil_spec m2 (by omega)).1, pow2ceil_le45 m2 hm2le⟩
    have hgM : ¬ c < n := by omega
    refine ⟨{ g with buf := ⟨a.fresh m.next c, 0, true⟩ }, _, ?_,
      by simp [hc, Wr.firstAlloc, Wr.allocBuf, hm1, hm2, hcd, hgM], alloc_wsim a g m c hs hpl,
      by simpa [Wr.bufCap] using hcr.2⟩
    simp [-Out.bind_ok, bind_ok_nr, hsc, hnil, e1, hmax, scap, slen]
    rw [double_bind (T := n) (f := f0) (m := m1) (g := n) (mi := (m1 : Int)) (hT := by omega) (hmi := rfl)
      (hm := hm1pos) (hm' := by omega) (hf := hf1) (hg := hg1)]
    rotate_left
    · intro f k hk0 hk1
      obtain ⟨hw, hw'⟩ := wrap_double k hk1
      rw [DefaultWriter_acquireSlow_loop1]
      simp [hw, hw']
    rw [hm2]
    have hwA : wrap .i64 ((c : Int) - 0) = (c : Int) := wrap_eq (by omega)
    have hwA' : wrap .i64 (c : Int) = (c : Int) := wrap_eq (by omega)
    cases hdc : g.disableCache
    · have hcm : c = mcacheCap m2 := by rw [← hcd, ← hs.dc, hdc, ← ha]; rfl
      subst hcm
      simp [-Out.bind_ok, bind_ok_nr, hdc, e3, scap, slen, length_fresh, hwA, hwA', hgM]
    · have hcm : c = m2 := by rw [← hcd, ← hs.dc, hdc]; rfl
      subst hcm
      simp [-Out.bind_ok, bind_ok_nr, hdc, e4, scap, slen, length_fresh, hwA, hwA', hgM]
  · -- a buffer exists
    obtain ⟨v, hb⟩ : ∃ v, m.buf = some v := by
      cases hb : m.buf with
      | none => simp [Wr.bufCap, hb] at hc
      | some v => exact ⟨v, rfl⟩
    have hgb := hs.buf_some v hb
    have hok := hw.buf_ok v hb
    have hvc : v.cap ≠ 0 := by simpa [Wr.bufCap, hb] using hc
    have hcap' : v.cap ≤ 2 ^ 44 := by simpa [Wr.bufCap, hb] using hcap
    have hreq' : n + v.len ≤ 2 ^ 44 := by simpa [Wr.bufLen, hb] using hreq
    have hll := hok.len_le_cap; have hhl := hok.heap_len
    have hsc : scap g.buf = (v.cap : Int) := by simp [scap, hgb, hhl]
    have hsl : slen g.buf = (v.len : Int) := by simp [slen, hgb]
    have hc' : ¬ (v.cap : Int) = 0 := by omega
    have hw1 : wrap .i64 ((v.cap : Int) - (v.len : Int)) = ((v.cap - v.len : Nat) : Int) := wrap_eq (by omega)
    simp only [hc, if_false, hb]
    by_cases hg : n > v.cap - v.len
    · -- growth: the old buffer is parked, nothing is copied
      have hnpos : 0 < n := by omega
      have hwc : wrap .i64 ((v.cap : Int) * 2) = (v.cap : Int) * 2 := wrap_eq (by omega)
      have hf1 : n + v.len ≤ (v.cap * 2) * 2 ^ f0 := le_mul_pow 44 (by omega) hreq' (by omega)
      have hg1 : n + v.len ≤ (v.cap * 2) * 2 ^ n := by
        have h1 := le_mul_two_pow n v.cap (by omega)
        have h2 : v.cap * 1 ≤ v.cap * 2 ^ n := Nat.mul_le_mul_left _ (Nat.two_pow_pos n)
        have h3 : v.cap * 2 * 2 ^ n = v.cap * 2 ^ n + v.cap * 2 ^ n := by
          rw [Nat.mul_assoc, Nat.mul_comm 2, ← Nat.mul_assoc]; omega
        omega
      have hwc' : wrap .i64 (2 * (v.cap : Int)) = (v.cap : Int) * 2 := wrap_eq (by omega)
      have hd := doubleUntil_spec n (v.cap * 2) (n + v.len) (by omega) hg1
      have hgc := growCap_eq n (v.cap * 2) v.len n hnpos
      generalize hN : doubleUntil n (v.cap * 2) (n + v.len) = N at *
      have hNle : N ≤ 2 ^ 45 := by omega
      have e3 := malloc1_ok (fun c => a.fresh m.next c) N hNle
      have e4 := dirtmake_ok (fun c => a.fresh m.next c) N N (Nat.le_refl _)
      rw [dirty_fresh] at e3 e4
      generalize hcd : (if m.disableCache then N else a.poolCap N) = c
      have hcr : N ≤ c ∧ c ≤ 2 ^ 45 := by
        subst hcd; split
        · omega
        · rw [ha, mcacheCap_eq N (by omega)]; exact ⟨(pow2ceil_spec N (by omega)).1, pow2ceil_le45 N hNle⟩
      have hsl2 : sslice ⟨a.fresh m.next c, N, true⟩ 0 (v.len : Int) = .ok ⟨a.fresh m.next c, v.len, true⟩ := by
        rw [sslice_ok _ _ _ (by omega) (by omega) (by simp [scap, length_fresh]; omega)]; simp
      refine ⟨{ g with pendingBuf := appendSl g.pendingBuf g.buf, buf := ⟨a.fresh m.next c, v.len, true⟩ },
        m.grow a v n, ?_, by simp [hg, hvc], grow_wsim a g m v n N c hs hb hok hgc hcd,
        by simpa [Wr.bufCap, Wr.grow, Wr.allocBuf, hgc, hcd] using hcr.2⟩
      simp [-Out.bind_ok, bind_ok_nr, hsc, hsl, hc', hvc, hw1, hg, Nat.not_le.mpr hg, hwc, hwc']
      rw [double_bind (T := n + v.len) (f := f0) (m := v.cap * 2) (g := n) (mi := (v.cap : Int) * 2) (hT := by omega)
        (hmi := by simp) (hm := by omega) (hm' := by omega) (hf := hf1) (hg := hg1)]
      rotate_left
      · intro f k hk0 hk1
        obtain ⟨hw, hw'⟩ := wrap_double k hk1
        have hwr : wrap .i64 ((k : Int) - (v.len : Int)) = (k : Int) - (v.len : Int) := wrap_eq (by omega)
        have hwr' : wrap .i64 (-(v.len : Int) + (k : Int)) = (k : Int) - (v.len : Int) := wrap_eq (by omega)
        have h : ((k : Int) - (v.len : Int) < (n : Int)) ↔ k < n + v.len := by omega
        have h' : ((n : Int) ≤ (k : Int) - (v.len : Int)) ↔ ¬ k < n + v.len := by omega
        rw [DefaultWriter_acquireSlow_loop2]
        simp [h, h', hw, hw', hwr, hwr', hsl]
      rw [hN]
      cases hdc : g.disableCache
      · have hcm : c = mcacheCap N := by rw [← hcd, ← hs.dc, hdc, ← ha]; rfl
        subst hcm
        simp [-Out.bind_ok, bind_ok_nr, hsl, hdc, e3, hsl2]
      · have hcm : c = N := by rw [← hcd, ← hs.dc, hdc]; rfl
        subst hcm
        simp [-Out.bind_ok, bind_ok_nr, hsl, hdc, e4, hsl2]
    · refine ⟨g, m, ?_, by simp [hg], hs, by omega⟩
      simp [-Out.bind_ok, bind_ok_nr, hsc, hsl, hc', hvc, hw1, hg, Nat.le_of_not_gt hg]

/-- `len(w.buf)`, `cap(w.buf)` are the model's -/
theorem wsim_len_cap (g : S_DefaultWriter WSink) (m : Wr) (hs : WSim g m) (hw : WInv m) :
    slen g.buf = (m.bufLen : Int) ∧ scap g.buf = (m.bufCap : Int) := by
  cases hb : m.buf with
  | none => simp [hs.buf_none hb, slen, scap, Sl.nil, Wr.bufLen, Wr.bufCap, hb]
  | some v => simp [hs.buf_some v hb, slen, scap, Wr.bufLen, Wr.bufCap, hb, (hw.buf_ok v hb).heap_len]

theorem DefaultWriter_WrittenLen_eq (g : S_DefaultWriter WSink) (m : Wr) (hs : WSim g m) (hw : WInv m) :
    DefaultWriter_WrittenLen g = .ok (m.writtenLen : Int) := by
  simp [DefaultWriter_WrittenLen, Wr.writtenLen, (wsim_len_cap g m hs hw).1]

theorem DefaultWriter_acquire_sim (a : WAlloc) (ha : ∀ c, a.poolCap c = mcacheCap c) (fuel : Nat)
    (g : S_DefaultWriter WSink) (m : Wr) (n : Nat) (hs : WSim g m) (hw : WInv m)
    (hcap : m.bufCap ≤ 2 ^ 44) (hreq : n + m.bufLen ≤ 2 ^ 44) (hst : ∀ x ∈ m.stats, x ≤ 2 ^ 45) (hfuel : 64 ≤ fuel) :
    ∃ g' m', DefaultWriter_acquire (fun _ c => a.fresh m.next c) fuel g (n : Int) = .ok g' ∧
      m.acquire a n = some m' ∧ WSim g' m' ∧ m'.bufCap ≤ 2 ^ 45 := by
  obtain ⟨h1, h2⟩ := wsim_len_cap g m hs hw
  have hwr : wrap .i64 ((m.bufLen : Int) + (n : Int)) = (m.bufLen : Int) + (n : Int) := wrap_eq (by omega)
  have hwrc : wrap .i64 ((n : Int) + (m.bufLen : Int)) = (m.bufLen : Int) + (n : Int) := wrap_eq (by omega)
  unfold DefaultWriter_acquire Wr.acquire
  by_cases hf : m.bufLen + n ≤ m.bufCap
  · have hf' : (m.bufLen : Int) + (n : Int) ≤ (m.bufCap : Int) := by omega
    have hf'' : ¬ (m.bufCap : Int) < (m.bufLen : Int) + (n : Int) := by omega
    exact ⟨g, m, by simp [h1, h2, hwr, hwrc, hf', hf''], by simp [hf], hs, by omega⟩
  · have hf' : ¬ (m.bufLen : Int) + (n : Int) ≤ (m.bufCap : Int) := by omega
    have hf'' : (m.bufCap : Int) < (m.bufLen : Int) + (n : Int) := by omega
    obtain ⟨g', m', hx, hy, hs', hc'⟩ := DefaultWriter_acquireSlow_sim a ha fuel g m n hs hw hcap hreq hst hfuel
    exact ⟨g', m', by simp [h1, h2, hwr, hwrc, hf', hf'', hx], by simp [hf, hy], hs', hc'⟩

theorem mcacheCap_ge (c : Nat) : c ≤ mcacheCap c := by
  unfold mcacheCap
  split
  · omega
  · split
    · omega
    · exact Nat.le_of_lt Nat.lt_log2_self

theorem sound_of_mcache (a : WAlloc) (ha : ∀ c, a.poolCap c = mcacheCap c) : a.Sound := by
  intro c; rw [ha]; exact mcacheCap_ge c

/-- the result `(buf, err)` of a generated `Malloc` against the model's `(region id, len, cap)` -/
def MallocOK (x : GM (S_DefaultWriter WSink × Sl × Err)) (y : Out RErr (Nat × Nat × Nat) × Wr) : Prop :=
  match y.1 with
  | .ok r => ∃ g' b, x = .ok (g', b, Err.nil) ∧ b.len = r.2.1 ∧ b.mem.length = r.2.2 ∧ WSim g' y.2
  | .err e => ∃ g', x = .ok (g', Sl.nil, errCon (some e)) ∧ WSim g' y.2
  | .panic _ => False
  | .oob => False

theorem DefaultWriter_Malloc_sim (a : WAlloc) (ha : ∀ c, a.poolCap c = mcacheCap c) (fuel : Nat)
    (g : S_DefaultWriter WSink) (m : Wr) (n : Int) (hs : WSim g m) (hw : WInv m)
    (hcap : m.bufCap ≤ 2 ^ 44) (hreq : n + m.bufLen ≤ 2 ^ 44) (hst : ∀ x ∈ m.stats, x ≤ 2 ^ 45) (hfuel : 64 ≤ fuel) :
    MallocOK (DefaultWriter_Malloc (fun _ c => a.fresh m.next c) fuel g n) (m.malloc a n) := by
  unfold DefaultWriter_Malloc Wr.malloc MallocOK
  cases he : m.err with
  | some e =>
    have hge : errCon (some e) ≠ Err.nil := by cases e <;> simp [errCon]
    simp only [he]
    exact ⟨g, by simp [hge, hs.err, he], hs⟩
  | none =>
    have hge : g.err = Err.nil := by rw [hs.err, he]; rfl
    simp only [he]
    by_cases hneg : n < 0
    · simp only [hneg, if_true]
      exact ⟨g, by simp [hge, hneg, errCon], hs⟩
    · obtain ⟨k, rfl⟩ : ∃ k : Nat, n = (k : Int) := ⟨n.toNat, by omega⟩
      obtain ⟨g1, m1, hx, hy, hs1, _⟩ := DefaultWriter_acquire_sim a ha fuel g m k hs hw hcap (by omega) hst hfuel
      obtain ⟨m1', hy', hpost⟩ := acquire_spec a (sound_of_mcache a ha) m hw k
      rw [hy] at hy'; cases hy'
      simp only [hneg, if_false, Int.toNat_natCast, hy]
      rcases hpost.room with ⟨v, hb, hroom⟩ | ⟨hb, hk0⟩
      · have hok := hpost.inv.buf_ok v hb
        have hgb := hs1.buf_some v hb
        have hhl := hok.heap_len
        have hvl : v.len = m.bufLen := by have := hpost.len; simpa [Wr.bufLen, hb] using this
        have hgt : ¬ v.len + k > v.cap := by omega
        have hw1 : wrap .i64 ((v.len : Int) + (k : Int)) = (v.len : Int) + (k : Int) := wrap_eq (by omega)
        have hw1c : wrap .i64 ((k : Int) + (v.len : Int)) = (v.len : Int) + (k : Int) := wrap_eq (by omega)
        have s1 : sslice g1.buf (v.len : Int) ((v.len : Int) + (k : Int)) = .ok ⟨(m1.heap v.obj).drop v.len, k, true⟩ := by
          rw [sslice_ok _ _ _ (by omega) (by omega) (by simp [scap, hgb, hhl]; omega)]
          simp [hgb]; omega
        have s2 : sslice g1.buf 0 ((v.len : Int) + (k : Int)) = .ok ⟨m1.heap v.obj, v.len + k, true⟩ := by
          rw [sslice_ok _ _ _ (by omega) (by omega) (by simp [scap, hgb, hhl]; omega)]
          simp [hgb]; omega
        have hsl : slen g1.buf = (v.len : Int) := by simp [slen, hgb]
        simp only [hb, hgt, if_false]
        refine ⟨{ g1 with buf := ⟨m1.heap v.obj, v.len + k, true⟩ }, ⟨(m1.heap v.obj).drop v.len, k, true⟩, ?_, rfl,
          by simp [hhl], ?_⟩
        · simp [hge, hneg, hx, hsl, hw1, hw1c, s1, s2]
        · refine ⟨by simp, ?_, hs1.pend, hs1.err, hs1.dc, hs1.stats, hs1.stats_nonneg, hs1.idx, hs1.sink⟩
          intro v' hv'; simp at hv'; subst hv'; rfl
      · -- no buffer and nothing asked for: `nil[0:0]`
        subst hk0
        have hgb := hs1.buf_none hb
        simp only [hb, Nat.lt_irrefl, if_false]
        refine ⟨g1, Sl.nil, ?_, rfl, rfl, ?_⟩
        · have hw0 : wrap .i64 0 = 0 := by decide
          simp only [Int.natCast_zero] at hx
          obtain ⟨b1, p1, w1, e1, st1, d1⟩ := g1
          simp only [] at hgb
          subst hgb
          simp [hge, hx, slen, sslice, scap, Sl.nil, hw0]
        · exact ⟨fun _ => hgb, by intro v' hv'; simp [hb] at hv', hs1.pend, hs1.err, hs1.dc, hs1.stats, hs1.stats_nonneg,
            hs1.idx, hs1.sink⟩

/-- `n = copy(w.buf[len(w.buf):cap(w.buf)], bs); w.buf = w.buf[:len(w.buf)+n]` -/
theorem wb_ok (b bs : Sl) (hlen : b.len ≤ b.mem.length) (hbs : bs.len ≤ bs.mem.length) :
    let p : Sl := { b with mem := b.mem.drop b.len, len := b.mem.length - b.len }
    let k := min (b.mem.length - b.len) bs.len
    let b2 := putBack b (slen b) (copySl p bs).1
    (copySl p bs).2 = (k : Int) ∧
    -- `w.buf[:hi]` for any way of writing `hi = len(w.buf) + n`
    (∀ hi : Int, hi = ((b.len + k : Nat) : Int) → sslice b2 0 hi =
      .ok ⟨b.mem.take b.len ++ bs.data.take k ++ b.mem.drop (b.len + k), b.len + k, b.nonnil⟩) := by
  intro p k b2
  have hk2 : k ≤ bs.len := Nat.min_le_right _ _
  obtain ⟨p1, p2, p3⟩ := putBack_copy b bs b.len (b.mem.length - b.len) (by omega) hbs
  refine ⟨p2, ?_⟩
  intro hi hhi
  subst hhi
  have e2 : bs.data.take k = bs.mem.take k := by simp [Sl.data, List.take_take, Nat.min_eq_left hk2]
  simp only [b2, p, slen]
  rw [p1, sslice_ok _ _ _ (by omega) (by omega) (by simp only [scap, p3]; omega), e2]
  simp
  exact ⟨rfl, by omega⟩

def WriteOK (x : GM (S_DefaultWriter WSink × Int × Err)) (y : Out RErr Nat × Wr) : Prop :=
  match y.1 with
  | .ok k => ∃ g', x = .ok (g', (k : Int), Err.nil) ∧ WSim g' y.2
  | .err e => ∃ g', x = .ok (g', 0, errCon (some e)) ∧ WSim g' y.2
  | .panic _ => False
  | .oob => False

theorem DefaultWriter_WriteBinary_sim (a : WAlloc) (ha : ∀ c, a.poolCap c = mcacheCap c) (fuel : Nat)
    (g : S_DefaultWriter WSink) (m : Wr) (bs : Sl) (hbs : bs.len ≤ bs.mem.length) (hs : WSim g m) (hw : WInv m)
    (hcap : m.bufCap ≤ 2 ^ 44) (hreq : bs.len + m.bufLen ≤ 2 ^ 44) (hst : ∀ x ∈ m.stats, x ≤ 2 ^ 45) (hfuel : 64 ≤ fuel) :
    WriteOK (DefaultWriter_WriteBinary (fun _ c => a.fresh m.next c) fuel g bs) (m.writeBinary a bs.data) := by
  have hdl : bs.data.length = bs.len := by simp [Sl.data, Nat.min_eq_left hbs]
  unfold DefaultWriter_WriteBinary Wr.writeBinary WriteOK
  cases he : m.err with
  | some e =>
    have hge : errCon (some e) ≠ Err.nil := by cases e <;> simp [errCon]
    simp only [he]
    exact ⟨g, by simp [hge, hs.err, he], hs⟩
  | none =>
    have hge : g.err = Err.nil := by rw [hs.err, he]; rfl
    simp only [he, hdl]
    obtain ⟨g1, m1, hx, hy, hs1, hc1⟩ := DefaultWriter_acquire_sim a ha fuel g m bs.len hs hw hcap hreq hst hfuel
    obtain ⟨m1', hy', hpost⟩ := acquire_spec a (sound_of_mcache a ha) m hw bs.len
    rw [hy] at hy'; cases hy'
    simp only [hy]
    rcases hpost.room with ⟨v, hb, hroom⟩ | ⟨hb, hk0⟩
    · have hok := hpost.inv.buf_ok v hb
      have hgb := hs1.buf_some v hb
      have hhl := hok.heap_len
      have hvl : v.len = m.bufLen := by have := hpost.len; simpa [Wr.bufLen, hb] using this
      have hvc : v.cap ≤ 2 ^ 45 := by simpa [Wr.bufCap, hb] using hc1
      have hml : g1.buf.mem.length = v.cap := by simp [hgb, hhl]
      have hgl : g1.buf.len = v.len := by simp [hgb]
      have hk : min (g1.buf.mem.length - g1.buf.len) bs.len = bs.len := by omega
      have hk' : min (v.cap - v.len) bs.len = bs.len := by omega
      obtain ⟨c1, c2⟩ := wb_ok g1.buf bs (by have := hok.len_le_cap; omega) hbs
      have hsp := spare_ok g1.buf (by have := hok.len_le_cap; omega)
      simp only [hk] at c1 c2
      simp only [hb, hk']
      refine ⟨{ g1 with buf := ⟨g1.buf.mem.take g1.buf.len ++ bs.data.take bs.len ++ g1.buf.mem.drop (g1.buf.len + bs.len),
          g1.buf.len + bs.len, g1.buf.nonnil⟩ }, ?_, ?_⟩
      · have hx' : DefaultWriter_acquire (fun _ c => a.fresh m.next c) fuel g (slen bs) = .ok g1 := hx
        simp [-Out.bind_ok, bind_ok_nr, hge, hx', hsp, c1]
        rw [c2]
        rotate_left
        · simp only [slen, putBack]; rw [wrap_i64_id] <;> omega
        simp [-Out.bind_ok, bind_ok_nr]
      · refine ⟨by simp, ?_, ?_, hs1.err, hs1.dc, hs1.stats, hs1.stats_nonneg, hs1.idx, hs1.sink⟩
        · intro v' hv'; simp at hv'; subst hv'
          simp [hwrite, hdl, hgb]
        · have h1 : m1.pending.map (fun ol => (ol.2, hwrite m1.heap v.obj v.len (bs.data.take bs.len) ol.1))
              = m1.pending.map (fun ol => (ol.2, m1.heap ol.1)) := by
            apply List.map_congr_left
            intro ol hol
            rw [hwrite_other _ _ _ _ _ (hok.pend_ne ol hol)]
          simp only [h1]
          exact hs1.pend
    · -- no buffer and nothing to write: `copy(nil[0:0], bs)`
      have hgb := hs1.buf_none hb
      have hk : min (g1.buf.mem.length - g1.buf.len) bs.len = 0 := by simp [hgb, Sl.nil]
      simp only [hb]
      have hx' : DefaultWriter_acquire (fun _ c => a.fresh m.next c) fuel g (slen bs) = .ok g1 := hx
      refine ⟨g1, ?_, hs1⟩
      have hw0 : wrap .i64 0 = 0 := by decide
      have hb0 : bs.len = 0 := hk0
      have hx0 := hx
      rw [hb0] at hx0
      simp only [Int.natCast_zero] at hx0
      obtain ⟨b1, p1, w1, e1, st1, d1⟩ := g1
      simp only [] at hgb
      subst hgb
      simp [-Out.bind_ok, bind_ok_nr, hge, hx0, sslice, putBack, copySl, slen, scap, Sl.nil, hw0, hb0]

/-! ## Flush -/

/-- one round of the stitching loop `offset += copy(w.buf[offset:], oldBuf[offset:])` on slices -/
theorem stitch_step (b old : Sl) (off : Nat) (hlen : b.len ≤ b.mem.length) (hcap : b.mem.length ≤ 2 ^ 45)
    (hoff : off ≤ b.len) (hol : off ≤ old.len) (hold : old.len ≤ old.mem.length) :
    let k := min (b.len - off) (old.len - off)
    let t2 : Sl := { b with mem := b.mem.drop off, len := b.len - off }
    let t4 : Sl := { old with mem := old.mem.drop off, len := old.len - off }
    ssliceFrom b (off : Int) = .ok t2 ∧ ssliceFrom old (off : Int) = .ok t4 ∧
    putBack b (off : Int) (copySl t2 t4).1 = ⟨b.mem.take off ++ (old.mem.drop off).take k ++ b.mem.drop (off + k), b.len, b.nonnil⟩ ∧
    wrap .i64 ((off : Int) + (copySl t2 t4).2) = ((off + k : Nat) : Int) := by
  intro k t2 t4
  have hk1 : k ≤ b.len - off := Nat.min_le_left _ _
  have hk2 : k ≤ old.len - off := Nat.min_le_right _ _
  refine ⟨?_, ?_, ?_, ?_⟩
  · unfold ssliceFrom; rw [sslice_ok _ _ _ (by omega) (by simp [slen]; omega) (by simp [slen, scap]; omega)]; simp [slen, t2]
  · unfold ssliceFrom; rw [sslice_ok _ _ _ (by omega) (by simp [slen]; omega) (by simp [slen, scap]; omega)]; simp [slen, t4]
  · exact (putBack_copy b t4 off (b.len - off) (by omega) (by simp only [t4, List.length_drop]; omega)).1
  · simp only [copySl, t2, t4]
    exact wrap_eq (by omega)

/-- the type of the stitching loop of Flush: the parked slices, the variables it assigns (the receiver, `offset`) -/
abbrev FlushLoopT := List Sl → S_DefaultWriter WSink → Int → GM (S_DefaultWriter WSink × Int)

/-- one round of the stitching loop `offset += copy(w.buf[offset:], oldBuf[offset:])` in normal form: what ANY function
    must satisfy to be that loop (shown for the generated loop function at the use site) -/
def FlushStep (L : FlushLoopT) : Prop :=
  (∀ g off, L [] g off = .ok (g, off)) ∧
  (∀ (p : Sl) (ps : List Sl) (g : S_DefaultWriter WSink) (off : Nat), g.buf.len ≤ g.buf.mem.length →
    g.buf.mem.length ≤ 2 ^ 45 → off ≤ g.buf.len → p.len ≤ p.mem.length →
    L (p :: ps) g (off : Int) =
      if off > p.len then .panic "slice"
      else L ps { g with buf := ⟨g.buf.mem.take off ++ (p.mem.drop off).take (min (g.buf.len - off) (p.len - off)) ++
                                  g.buf.mem.drop (off + min (g.buf.len - off) (p.len - off)), g.buf.len, g.buf.nonnil⟩ }
             ((off + min (g.buf.len - off) (p.len - off) : Nat) : Int))

/-- the stitching loop of Flush is the model's `stitch` on the heap (panics included) -/
theorem flush_loop (L : FlushLoopT) (hL : FlushStep L) (v : WView) (hvc : v.cap ≤ 2 ^ 45) (hvl : v.len ≤ v.cap) :
    ∀ (ps : List Sl) (mp : List (Nat × Nat)) (heap : Nat → Bytes) (g : S_DefaultWriter WSink) (off : Nat),
      ps.map (fun p => (p.len, p.mem)) = mp.map (fun ol => (ol.2, heap ol.1)) →
      g.buf = ⟨heap v.obj, v.len, true⟩ → (heap v.obj).length = v.cap → off ≤ v.len →
      (∀ ol ∈ mp, ol.1 ≠ v.obj ∧ ol.2 ≤ (heap ol.1).length) →
      match stitch v heap mp off with
      | .ok (heap1, off1) =>
          L ps g (off : Int) = .ok ({ g with buf := ⟨heap1 v.obj, v.len, true⟩ }, (off1 : Int)) ∧
          (heap1 v.obj).length = v.cap ∧ (∀ o, o ≠ v.obj → heap1 o = heap o)
      | .panic s => L ps g (off : Int) = .panic s
      | _ => True := by
  intro ps
  induction ps with
  | nil =>
    intro mp heap g off hmap hgb hhl hoff hmp
    have : mp = [] := by cases mp with
      | nil => rfl
      | cons a as => simp at hmap
    subst this
    simp only [stitch]
    refine ⟨?_, hhl, by simp⟩
    rw [hL.1, ← hgb]
  | cons p ps ih =>
    intro mp heap g off hmap hgb hhl hoff hmp
    cases mp with
    | nil => simp at hmap
    | cons ol mp =>
      obtain ⟨o, l⟩ := ol
      simp only [List.map_cons, List.cons.injEq, Prod.mk.injEq] at hmap
      obtain ⟨⟨hpl, hpm⟩, hrest⟩ := hmap
      obtain ⟨hne, hll⟩ := hmp (o, l) (by simp)
      simp only [] at hne hll hpl hpm
      have hoff' : ¬ off > v.len := by omega
      have hstep := hL.2 p ps g off (by simp [hgb, hhl]; omega) (by simp [hgb, hhl]; omega) (by simp [hgb]; omega)
        (by rw [hpl, hpm]; omega)
      simp only [hgb, hpl, hpm] at hstep
      unfold stitch
      simp only [hoff', if_false]
      by_cases hol : off > l
      · -- `oldBuf[offset:]` panics
        simp only [hol, if_true] at hstep ⊢
        exact hstep
      · simp only [hol, if_false] at hstep ⊢
        generalize hk : min (v.len - off) (l - off) = k at *
        have hk1 : k ≤ v.len - off := by subst hk; exact Nat.min_le_left _ _
        have hk2 : k ≤ l - off := by subst hk; exact Nat.min_le_right _ _
        -- the bytes the model stores are the bytes `copy` moves
        have hbs : (gslice (heap o) off l).take k = ((heap o).drop off).take k := by
          simp [gslice, List.drop_take, List.take_take, Nat.min_eq_left hk2]
        have hbl : (((heap o).drop off).take k).length = k := by simp; omega
        have hnew : hwrite heap v.obj off ((gslice (heap o) off l).take k) v.obj
            = (heap v.obj).take off ++ ((heap o).drop off).take k ++ (heap v.obj).drop (off + k) := by
          rw [hwrite_apply]; simp [WLog.overwrite, hbs, hbl]
        have hih := ih mp (hwrite heap v.obj off ((gslice (heap o) off l).take k))
          { g with buf := ⟨(heap v.obj).take off ++ ((heap o).drop off).take k ++ (heap v.obj).drop (off + k), v.len, true⟩ }
          (off + k) (by
            rw [hrest]
            apply List.map_congr_left
            intro ol hol'
            rw [hwrite_other _ _ _ _ _ (hmp ol (by simp [hol'])).1]) (by rw [hnew]) (by
            rw [hnew, List.length_append, List.length_append, hbl, List.length_take_of_le (by omega), List.length_drop]
            omega) (by omega) (by
            intro ol hol'
            have := hmp ol (by simp [hol'])
            rw [hwrite_other _ _ _ _ _ this.1]; exact this)
        rw [hstep]
        generalize stitch v (hwrite heap v.obj off ((gslice (heap o) off l).take k)) mp (off + k) = res at hih ⊢
        cases res with
        | ok r =>
          obtain ⟨h1, o1⟩ := r
          obtain ⟨q1, q2, q3⟩ := hih
          exact ⟨by simpa using q1, q2, fun o' ho' => by rw [q3 o' ho', hwrite_other _ _ _ _ _ ho']⟩
        | panic s => simpa using hih
        | err e => trivial
        | oob => trivial

theorem stitch_ok_or_panic (v : WView) : ∀ (mp : List (Nat × Nat)) (heap : Nat → Bytes) (off : Nat),
    (∃ r, stitch v heap mp off = .ok r) ∨ (∃ s, stitch v heap mp off = .panic s) := by
  intro mp
  induction mp with
  | nil => intro heap off; exact Or.inl ⟨_, rfl⟩
  | cons ol mp ih =>
    intro heap off
    obtain ⟨o, l⟩ := ol
    unfold stitch
    split
    · exact Or.inr ⟨_, rfl⟩
    · split
      · exact Or.inr ⟨_, rfl⟩
      · exact ih _ _

/-- the stitching loop followed by the rest of Flush: what holds of the rest after the model's `stitch`, and of its
    panics, holds of the whole (`L` and `K` are found by unification with the goal) -/
theorem flush_loop_bind {β : Type} (P : GM β → Prop) (L : FlushLoopT) (hL : FlushStep L) (v : WView)
    (hvc : v.cap ≤ 2 ^ 45) (hvl : v.len ≤ v.cap) (ps : List Sl) (mp : List (Nat × Nat)) (heap : Nat → Bytes)
    (g : S_DefaultWriter WSink) (hmap : ps.map (fun p => (p.len, p.mem)) = mp.map (fun ol => (ol.2, heap ol.1)))
    (hgb : g.buf = ⟨heap v.obj, v.len, true⟩) (hhl : (heap v.obj).length = v.cap)
    (hmp : ∀ ol ∈ mp, ol.1 ≠ v.obj ∧ ol.2 ≤ (heap ol.1).length) (K : S_DefaultWriter WSink × Int → GM β)
    (hok : ∀ heap1 off1, stitch v heap mp 0 = .ok (heap1, off1) → (heap1 v.obj).length = v.cap →
      (∀ o, o ≠ v.obj → heap1 o = heap o) → P (K ({ g with buf := ⟨heap1 v.obj, v.len, true⟩ }, (off1 : Int))))
    (hpanic : ∀ s, stitch v heap mp 0 = .panic s → P (.panic s)) : P ((L ps g 0).bind K) := by
  have h := flush_loop L hL v hvc hvl ps mp heap g 0 hmap hgb hhl (Nat.zero_le _) hmp
  simp only [Int.natCast_zero] at h
  rcases stitch_ok_or_panic v mp heap 0 with ⟨⟨heap1, off1⟩, hst⟩ | ⟨s, hst⟩
  · rw [hst] at h
    rw [bind_eq_of_ok h.1]
    exact hok heap1 off1 hst h.2.1 h.2.2
  · rw [hst] at h
    rw [h]
    exact hpanic s hst

theorem flush_free_loop (W : IoWriter WSink) (l : List Sl) : DefaultWriter_Flush_loop2 W l = .ok () := by
  induction l with
  | nil => rfl
  | cons x xs ih => simp [DefaultWriter_Flush_loop2, ih]

/-- the state after a successful Flush: statistics updated, everything released -/
theorem flush_done_wsim (g : S_DefaultWriter WSink) (m m' : Wr) (c : Nat) (sink' : WSink) (hs : WSim g m)
    (_hi : m.statsIdx < Facts.statsBucketNum) (he : m.err = none)
    (h1 : m'.buf = none) (h2 : m'.pending = []) (h3 : m'.err = none) (h4 : m'.disableCache = m.disableCache)
    (h5 : m'.stats = listSet m.stats m.statsIdx c) (h6 : m'.statsIdx = (m.statsIdx + 1) % Facts.statsBucketNum)
    (h7 : m'.sink = sink') :
    WSim { g with wd := some sink', buf := Sl.nil, pendingBuf := none,
                  maxSizeStats := { buckets := g.maxSizeStats.buckets.set g.maxSizeStats.bucketIdx.toNat (c : Int),
                                    bucketIdx := ((g.maxSizeStats.bucketIdx.toNat + 1) % Facts.statsBucketNum : Nat) } } m' := by
  have hidx := hs.idx
  have hid : m.statsIdx = g.maxSizeStats.bucketIdx.toNat := by omega
  refine ⟨fun _ => rfl, by intro v hv; simp [h1] at hv, by simp [h2, rangeSl], by rw [h3, ← he]; exact hs.err,
    by rw [h4]; exact hs.dc, ?_, ?_, ?_, by rw [h7]⟩
  · simp [h5, listSet, hs.stats, List.map_set, hid]
  · intro x hx
    rcases List.mem_or_eq_of_mem_set hx with h | h
    · exact hs.stats_nonneg x h
    · subst h; omega
  · simp [h6, hid]

/-- the result of a generated `Flush` against the model's -/
def FlushOK (x : GM (S_DefaultWriter WSink × Err)) (y : Out RErr Unit × Wr) : Prop :=
  match y.1 with
  | .ok _ => ∃ g', x = .ok (g', Err.nil) ∧ WSim g' y.2
  | .err e => ∃ g', x = .ok (g', errCon (some e)) ∧ WSim g' y.2
  | .panic s => x = .panic s
  | .oob => True

theorem DefaultWriter_Flush_sim (g : S_DefaultWriter WSink) (m : Wr) (hs : WSim g m) (hw : WInv m)
    (hcap : m.bufCap ≤ 2 ^ 45) :
    FlushOK (DefaultWriter_Flush (sinkWriter m.disableCache) g) m.flush := by
  cases he : m.err with
  | some e =>
    have hge : errCon (some e) ≠ Err.nil := by cases e <;> simp [errCon]
    unfold DefaultWriter_Flush Wr.flush FlushOK
    simp only [he]
    exact ⟨g, by simp [hge, hs.err, he], hs⟩
  | none =>
    have hge : g.err = Err.nil := by rw [hs.err, he]; rfl
    cases hb : m.buf with
    | none =>
      have hgb := hs.buf_none hb
      unfold DefaultWriter_Flush Wr.flush FlushOK
      simp only [he, hb]
      exact ⟨g, by simp [hge, hgb, Sl.isNil, Sl.nil], ⟨fun _ => hgb, by intro v hv; simp at hv, hs.pend, by rw [hs.err, he], hs.dc,
        hs.stats, hs.stats_nonneg, hs.idx, hs.sink⟩⟩
    | some v =>
      have hgb := hs.buf_some v hb
      have hok := hw.buf_ok v hb
      have hvc : v.cap ≤ 2 ^ 45 := by simpa [Wr.bufCap, hb] using hcap
      have hnn : Sl.isNil g.buf = false := by simp [hgb, Sl.isNil]
      have hbl : g.maxSizeStats.buckets.length = Facts.statsBucketNum := by
        have := congrArg List.length hs.stats; simp at this; rw [← this]; exact hw.stats_len
      have hidx := hs.idx
      have hidx2 := hw.stats_idx
      have eU := maxSizeStats_update_eq g.maxSizeStats (v.cap : Int) hbl (by omega)
        (by simp [Facts.statsBucketNum] at hidx2; omega)
      unfold DefaultWriter_Flush
      simp [-Out.bind_ok, bind_ok_nr, hge, hnn]
      refine flush_loop_bind (fun x => FlushOK x m.flush) _ ?step v hvc hok.len_le_cap _ m.pending m.heap g
        hs.pend hgb hok.heap_len (fun ol hol => ⟨hok.pend_ne ol hol, hok.pend_len ol hol⟩) _ ?_ ?_
      rotate_left
      · intro heap1 off1 hst l2 l3
        unfold Wr.flush FlushOK
        simp only [he, hb, hst]
        have hdata : gslice (heap1 v.obj) 0 v.len = (heap1 v.obj).take v.len := by simp [gslice]
        have hpend1 : (rangeSl g.pendingBuf).map (fun p => (p.len, p.mem)) = m.pending.map (fun ol => (ol.2, heap1 ol.1)) := by
          rw [hs.pend]
          apply List.map_congr_left
          intro ol hol
          rw [l3 _ (hok.pend_ne ol hol)]
        simp only [Wr.sinkWrite, hdata]
        cases hdc : m.disableCache
        · -- a real sink: its k-th call may fail
          simp only [Bool.false_eq_true, if_false]
          cases hf : m.sink.fail (m.sink.calls.length + 1) with
          | some e =>
            have hge' : errCon (some e) ≠ Err.nil := by cases e <;> simp [errCon]
            simp only []
            refine ⟨_, by
              simp [-Out.bind_ok, bind_ok_nr, hge, hs.sink, ifaceGet, ioWrite, sinkWriter, Sl.data, hf, hge']; rfl, ?_⟩
            exact ⟨by simp [hb], by intro v' hv'; simp [hb] at hv'; subst hv'; rfl, hpend1, rfl, by simpa [hdc] using hs.dc,
              hs.stats, hs.stats_nonneg, hs.idx, rfl⟩
          | none =>
            simp only []
            refine ⟨{ g with wd := some ⟨m.sink.calls ++ [((heap1 v.obj).take v.len, none)], m.sink.fail⟩, buf := Sl.nil, pendingBuf := none, maxSizeStats := ⟨g.maxSizeStats.buckets.set g.maxSizeStats.bucketIdx.toNat (v.cap : Int), ((g.maxSizeStats.bucketIdx.toNat + 1) % Facts.statsBucketNum : Nat)⟩ }, by
              simp [-Out.bind_ok, bind_ok_nr, hge, hs.sink, ifaceGet, ioWrite, sinkWriter, Sl.data, hf, errCon, scap, l2, eU,
                flush_free_loop], ?_⟩
            refine flush_done_wsim g m _ v.cap _ hs hw.stats_idx he ?_ ?_ ?_ ?_ ?_ ?_ ?_ <;> first | rfl | exact hdc.symm
        · -- a BytesWriter: the fake io.Writer records the slice and never fails
          simp only [if_true]
          refine ⟨{ g with wd := some ⟨m.sink.calls ++ [((heap1 v.obj).take v.len, none)], m.sink.fail⟩, buf := Sl.nil, pendingBuf := none, maxSizeStats := ⟨g.maxSizeStats.buckets.set g.maxSizeStats.bucketIdx.toNat (v.cap : Int), ((g.maxSizeStats.bucketIdx.toNat + 1) % Facts.statsBucketNum : Nat)⟩ }, by
            simp [-Out.bind_ok, bind_ok_nr, hge, hs.sink, ifaceGet, ioWrite, sinkWriter, Sl.data, errCon, scap, l2, eU,
              flush_free_loop], ?_⟩
          refine flush_done_wsim g m _ v.cap _ hs hw.stats_idx he ?_ ?_ ?_ ?_ ?_ ?_ ?_ <;> first | rfl | exact hdc.symm
      · intro s hst
        unfold Wr.flush FlushOK
        simp only [he, hb, hst]
      case step =>
        refine ⟨fun g off => by rw [DefaultWriter_Flush_loop1]; rfl, ?_⟩
        intro p ps g off hlen hcap hoff hpl
        rw [DefaultWriter_Flush_loop1]
        by_cases hol : off > p.len
        · have h1 : ssliceFrom g.buf (off : Int) = .ok { g.buf with mem := g.buf.mem.drop off, len := g.buf.len - off } := by
            unfold ssliceFrom
            rw [sslice_ok _ _ _ (by omega) (by simp [slen]; omega) (by simp [slen, scap]; omega)]
            simp [slen]
          have h2 : ssliceFrom p (off : Int) = .panic "slice" := by
            unfold ssliceFrom sslice
            have c1 : ¬ (slen p < 0 ∨ slen p > scap p) := by simp [slen, scap]; omega
            have c2 : ((off : Int) < 0 ∨ (off : Int) > slen p) := by right; simp [slen]; omega
            simp [c1, c2]
          simp [hol, h1, h2]
        · obtain ⟨s1, s2, s3, s4⟩ := stitch_step g.buf p off hlen hcap hoff (by omega) hpl
          have s4' : wrap .i64 ((copySl { g.buf with mem := g.buf.mem.drop off, len := g.buf.len - off }
              { p with mem := p.mem.drop off, len := p.len - off }).2 + (off : Int))
              = ((off + min (g.buf.len - off) (p.len - off) : Nat) : Int) := by
            rw [Int.add_comm]; exact s4
          simp [-Out.bind_ok, bind_ok_nr, hol, s1, s2, s3, s4, s4']

/-- `NewDefaultWriter(wd)` is the model's `Wr.newDefault` -/
theorem NewDefaultWriter_eq (fail : Nat → Option RErr) :
    ∃ g0, NewDefaultWriter (some (⟨[], fail⟩ : WSink)) = .ok g0 ∧ WSim g0 (Wr.newDefault fail) := by
  refine ⟨{ wd := some ⟨[], fail⟩ }, by simp [NewDefaultWriter, DefaultWriter_reset, Sl.nil], ?_⟩
  refine ⟨fun _ => rfl, by intro v hv; simp [Wr.newDefault] at hv, by simp [Wr.newDefault, rangeSl], rfl, rfl, ?_, ?_, rfl, rfl⟩
  · simp [Wr.newDefault, emptyStats, Facts.statsBucketNum]
  · intro x hx; simp at hx; omega

/-! ## the generated writer runs: growth with delayed copy, a failing sink -/

/-- a writer that owns an empty 4-byte buffer -/
def exW (fail : Nat → Option RErr) : S_DefaultWriter WSink := { buf := ⟨List.replicate 4 0, 0, true⟩, wd := some ⟨[], fail⟩ }

/-- what `exWrite` reports (a structure: instance search for a five-fold product is too deep) -/
structure ExW where
  n1 : Int
  n2 : Int
  err : Err
  calls : List (Bytes × Err)
  bufNil : Bool
deriving DecidableEq

/-- WriteBinary(b1), WriteBinary(b2), Flush: the two counts, the error, what the sink saw, `w.buf == nil` afterwards -/
def exWrite (fail : Nat → Option RErr) (b1 b2 : Bytes) : GM ExW := do
  let r1 ← DefaultWriter_WriteBinary exO 100 (exW fail) (Sl.ofBytes b1)
  let r2 ← DefaultWriter_WriteBinary exO 100 r1.1 (Sl.ofBytes b2)
  let r3 ← DefaultWriter_Flush (sinkWriter false) r2.1
  pure ⟨r1.2.1, r2.2.1, r3.2, ((r3.1.wd.map (·.calls)).getD []).map (fun c => (c.1, errCon c.2)), r3.1.buf.isNil⟩

-- the second write does not fit: a new 8-byte buffer, the old one is parked and stitched in by Flush; ONE Write
example : exWrite (fun _ => none) [1, 2] [3, 4, 5, 6, 7] =
    .ok ⟨2, 5, Err.nil, [([1, 2, 3, 4, 5, 6, 7], Err.nil)], true⟩ := by decide +kernel

-- the sink fails: Flush returns its error and keeps the buffer
example : exWrite (fun k => if k = 1 then some (.src 7) else none) [1, 2] [3] =
    .ok ⟨2, 1, Err.src 7, [([1, 2, 3], Err.src 7)], false⟩ := by decide +kernel

-- Malloc: a negative count is refused; Malloc(3) hands out 3 bytes of the 4-byte buffer (cap 4)
example : (do let r ← DefaultWriter_Malloc exO 100 (exW (fun _ => none)) (-1); pure (r.2.1.len, r.2.2)) =
    .ok (0, Err.negCount) := by decide +kernel
example : (do let r ← DefaultWriter_Malloc exO 100 (exW (fun _ => none)) 3
              pure (r.2.1.len, scap r.2.1, r.2.2, slen r.1.buf)) = .ok (3, 4, Err.nil, 3) := by decide +kernel

end Verif.BufioxEq
