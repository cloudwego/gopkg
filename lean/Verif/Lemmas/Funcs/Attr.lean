/-
  Lemmas/Funcs/Attr: the simp sets of the writer equivalences (`Write.lean`, `StreamW.lean`, `Append.lean`).  Lemmas are
  tagged where they are stated; an attribute has to be declared in a module of its own.
-/
import Lean.Meta.Tactic.Simp.RegisterCommand

/-- normal forms of the view / slice primitives, the value lemmas and the monad laws through which `wsimp`, `bw_ok` and
    `bw_err` run a translated writer and its model side by side -/
register_simp_attr writer_simp

/-- `byteOf x = t` as `x % 256 = t.toNat`, with `wrap`, `shr`, `ofInt` as plain `%` and `/`: what `omega` understands -/
register_simp_attr byte_simp
