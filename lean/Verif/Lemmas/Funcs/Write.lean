/-
  Lemmas/Funcs/Write: the 14 in-place writers `Binary.Write*` TRANSLATED from protocol/thrift/binary.go
  (`Verif.Funcs.Binary_Write*`, generated) are the hand-written model writers `Wire.w*`.

  Shape of every theorem: `liftW (Funcs.Binary_WriteX buf (off : Int) args) = Wire.wX buf off args'` under
  `off ≤ buf.length` (the view `buf[off:]` exists: in Go the caller's slicing would have panicked otherwise),
  including the KIND of panic.  `Binary_WriteBinary/String/MessageBegin` also need `buf.length < 2^63`
  (`len` is a Go `int`): the returned count `4 + copy(…)` is computed in `int`.

  Method: every view primitive of `GoSem` and every slice primitive of `Model/Wire` has a normal form
  `if <arithmetic on Nat> then ok (store …) else panic …` (`*_store`); a theorem splits on the semantic conditions
  (`off + k ≤ buf.length`) and calls `wsimp`, which unfolds both sides and decides every `if` with `omega` from those
  hypotheses — whatever syntactic shape the generated conditions have.
-/
import Verif.Lemmas.Funcs.Base
namespace Verif.FuncsEq
open Verif Verif.GoSem

/-! ## stores that keep the length

  A writer checks the bounds before every store, so the buffer it works on never changes its length.  `store` is
  `Wire.putAt` made total with that property: the normal forms below produce `store`s, every later bounds check is then
  a comparison with the length of the caller's buffer. -/

theorem putAt_eq (b : Bytes) (o : Nat) (bs : Bytes) : GoSem.putAt b o bs = Wire.putAt b o bs := rfl

theorem putAt_len_any (b : Bytes) (o : Nat) (bs : Bytes) :
    (Wire.putAt b o bs).length = min o b.length + bs.length + (b.length - (o + bs.length)) := by
  simp [Wire.putAt]; omega

theorem putAt_length (b : Bytes) (o : Nat) (bs : Bytes) (h : o + bs.length ≤ b.length) :
    (Wire.putAt b o bs).length = b.length := by
  rw [putAt_len_any]; omega

def store (b : Bytes) (o : Nat) (bs : Bytes) : Bytes := if o + bs.length ≤ b.length then Wire.putAt b o bs else b

@[writer_simp] theorem store_length (b : Bytes) (o : Nat) (bs : Bytes) : (store b o bs).length = b.length := by
  unfold store; split
  · exact putAt_length b o bs ‹_›
  · rfl

theorem store_of_le (b : Bytes) (o : Nat) (bs : Bytes) (h : o + bs.length ≤ b.length) :
    store b o bs = Wire.putAt b o bs := if_pos h

theorem ite_ok_store {ε : Type} (c : Prop) [Decidable c] (b : Bytes) (o : Nat) (bs : Bytes) (e : Out ε Bytes)
    (h : c → o + bs.length ≤ b.length) :
    (if c then .ok (store b o bs) else e) = if c then .ok (Wire.putAt b o bs) else e := by
  split
  · rw [store_of_le b o bs (h ‹_›)]
  · rfl

@[writer_simp] theorem vset_store (whole : Bytes) (off : Nat) (i x : Int) :
    vset whole (off : Int) i x =
      if 0 ≤ i ∧ off + i.toNat < whole.length then .ok (store whole (off + i.toNat) [byteOf x])
      else .panic "index" := by
  unfold vset vlen len
  by_cases c : 0 ≤ i ∧ off + i.toNat < whole.length
  · have e : ((off : Int) + i).toNat = off + i.toNat := by omega
    rw [if_neg (by omega), if_pos c, e, putAt_eq, store_of_le _ _ _ c.2]
  · rw [if_pos (by omega), if_neg c]

theorem vset_nf (whole : Bytes) (off : Nat) (i x : Int) (hi : 0 ≤ i) :
    vset whole (off : Int) i x =
      if off + i.toNat < whole.length then .ok (Wire.putAt whole (off + i.toNat) [byteOf x]) else .panic "index" := by
  rw [vset_store, ite_ok_store _ _ _ _ _ fun h => h.2]
  simp only [hi, true_and]

@[writer_simp] theorem vfrom_nat (whole : Bytes) (off : Nat) (lo : Int) :
    vfrom whole (off : Int) lo =
      if 0 ≤ lo ∧ off + lo.toNat ≤ whole.length then .ok ((off + lo.toNat : Nat) : Int) else .panic "slice" := by
  unfold vfrom vlen len
  by_cases c : 0 ≤ lo ∧ off + lo.toNat ≤ whole.length
  · rw [if_neg (by omega), if_pos c]; congr 1; omega
  · rw [if_pos (by omega), if_neg c]

theorem vfrom_nf (whole : Bytes) (off : Nat) (lo : Int) (hlo : 0 ≤ lo) :
    vfrom whole (off : Int) lo =
      if off + lo.toNat ≤ whole.length then .ok ((off + lo.toNat : Nat) : Int) else .panic "slice" := by
  rw [vfrom_nat]; simp only [hlo, true_and]

/-- `binary.BigEndian.PutUintNN` through a view, for any width: the index check `_ = v[k-1]`, then the store -/
theorem vput_store (whole : Bytes) (off : Nat) (bs : Bytes) :
    (if vlen whole off < bs.length then .panic "index" else .ok (GoSem.putAt whole (off : Int).toNat bs) : GM Bytes) =
      if off + bs.length ≤ whole.length then .ok (store whole off bs) else .panic "index" := by
  unfold vlen len
  by_cases c : off + bs.length ≤ whole.length
  · rw [if_neg (by omega), if_pos c, putAt_eq, store_of_le _ _ _ c, Int.toNat_natCast]
  · rw [if_pos (by omega), if_neg c]

@[writer_simp] theorem vputU16_store (whole : Bytes) (off : Nat) (x : Int) :
    vputU16 whole (off : Int) x =
      if off + 2 ≤ whole.length then .ok (store whole off (be16 (ofInt 16 x))) else .panic "index" :=
  vput_store whole off (be16 (ofInt 16 x))

@[writer_simp] theorem vputU32_store (whole : Bytes) (off : Nat) (x : Int) :
    vputU32 whole (off : Int) x =
      if off + 4 ≤ whole.length then .ok (store whole off (be32 (ofInt 32 x))) else .panic "index" :=
  vput_store whole off (be32 (ofInt 32 x))

@[writer_simp] theorem vputU64_store (whole : Bytes) (off : Nat) (x : Int) :
    vputU64 whole (off : Int) x =
      if off + 8 ≤ whole.length then .ok (store whole off (be64 (ofInt 64 x))) else .panic "index" :=
  vput_store whole off (be64 (ofInt 64 x))

theorem vputU16_nf (whole : Bytes) (off : Nat) (x : Int) :
    vputU16 whole (off : Int) x =
      if off + 2 ≤ whole.length then .ok (Wire.putAt whole off (be16 (ofInt 16 x))) else .panic "index" :=
  (vputU16_store whole off x).trans (ite_ok_store _ _ _ _ _ fun h => h)

theorem vputU32_nf (whole : Bytes) (off : Nat) (x : Int) :
    vputU32 whole (off : Int) x =
      if off + 4 ≤ whole.length then .ok (Wire.putAt whole off (be32 (ofInt 32 x))) else .panic "index" :=
  (vputU32_store whole off x).trans (ite_ok_store _ _ _ _ _ fun h => h)

/-- `copy` into a view that does not exist (`off > len`) copies nothing: the empty store leaves the buffer as it is -/
@[writer_simp] theorem vcopy_store (whole : Bytes) (off : Nat) (src : Bytes) :
    vcopy whole (off : Int) src =
      (store whole off (src.take (min (whole.length - off) src.length)),
       ((min (whole.length - off) src.length : Nat) : Int)) := by
  have e : ((whole.length : Int) - (off : Int)).toNat = whole.length - off := by omega
  simp only [vcopy, vlen, len, e, putAt_eq, Int.toNat_natCast]
  by_cases c : off ≤ whole.length
  · rw [store_of_le]; simp only [List.length_take]; omega
  · have z : min (whole.length - off) src.length = 0 := by omega
    simp [z, store, Wire.putAt]

@[writer_simp] theorem setB_store (buf : Bytes) (off i : Nat) (x : UInt8) :
    Wire.setB buf off i x =
      if off + i < buf.length then .ok (store buf (off + i) [x])
      else if off ≤ buf.length then .panic "index" else .panic "slice" := by
  unfold Wire.setB
  by_cases c : off + i < buf.length
  · rw [if_neg (by omega), if_pos (by omega), if_pos c, store_of_le _ _ _ c]
  · by_cases c1 : off ≤ buf.length
    · rw [if_neg (by omega), if_neg (by omega), if_neg c, if_pos c1]
    · rw [if_pos (by omega), if_neg c, if_neg c1]

/-- `binary.BigEndian.PutUintNN(buf[off:], …)`, for any width: the slice check, the index check, the store -/
theorem put_store (buf : Bytes) (off : Nat) (bs : Bytes) :
    (if off > buf.length then .panic "slice" else if buf.length - off < bs.length then .panic "index"
      else .ok (Wire.putAt buf off bs) : TOut Bytes) =
      if off + bs.length ≤ buf.length then .ok (store buf off bs)
      else if off ≤ buf.length then .panic "index" else .panic "slice" := by
  by_cases c : off + bs.length ≤ buf.length
  · rw [if_neg (by omega), if_neg (by omega), if_pos c, store_of_le _ _ _ c]
  · by_cases c1 : off ≤ buf.length
    · rw [if_neg (by omega), if_pos (by omega), if_neg c, if_pos c1]
    · rw [if_pos (by omega), if_neg c, if_neg c1]

@[writer_simp] theorem putU16_store (buf : Bytes) (off n : Nat) :
    Wire.putU16 buf off n =
      if off + 2 ≤ buf.length then .ok (store buf off (be16 n))
      else if off ≤ buf.length then .panic "index" else .panic "slice" :=
  put_store buf off (be16 n)

@[writer_simp] theorem putU32_store (buf : Bytes) (off n : Nat) :
    Wire.putU32 buf off n =
      if off + 4 ≤ buf.length then .ok (store buf off (be32 n))
      else if off ≤ buf.length then .panic "index" else .panic "slice" :=
  put_store buf off (be32 n)

@[writer_simp] theorem putU64_store (buf : Bytes) (off n : Nat) :
    Wire.putU64 buf off n =
      if off + 8 ≤ buf.length then .ok (store buf off (be64 n))
      else if off ≤ buf.length then .panic "index" else .panic "slice" :=
  put_store buf off (be64 n)

@[writer_simp] theorem copyAt_store (buf : Bytes) (off : Nat) (src : Bytes) :
    Wire.copyAt buf off src =
      if off ≤ buf.length then
        .ok (store buf off (src.take (min (buf.length - off) src.length)), min (buf.length - off) src.length)
      else .panic "slice" := by
  unfold Wire.copyAt
  by_cases c : off ≤ buf.length
  · rw [if_neg (by omega), if_pos c, store_of_le]; simp only [List.length_take]; omega
  · rw [if_pos (by omega), if_neg c]

/-! ## the primitive correspondences themselves (under `off ≤ len`, the view exists) -/

theorem vset_eq (buf : Bytes) (off : Nat) (i x : Int) (hi : 0 ≤ i) (h : off ≤ buf.length) :
    liftP (vset buf (off : Int) i x) = Wire.setB buf off i.toNat (byteOf x) := by
  rw [vset_store, setB_store]; simp only [hi, h, true_and, if_true]; split <;> rfl

theorem vputU16_eq (buf : Bytes) (off : Nat) (x : Int) (h : off ≤ buf.length) :
    liftP (vputU16 buf (off : Int) x) = Wire.putU16 buf off (ofInt 16 x) := by
  rw [vputU16_store, putU16_store]; simp only [h, if_true]; split <;> rfl

theorem vputU32_eq (buf : Bytes) (off : Nat) (x : Int) (h : off ≤ buf.length) :
    liftP (vputU32 buf (off : Int) x) = Wire.putU32 buf off (ofInt 32 x) := by
  rw [vputU32_store, putU32_store]; simp only [h, if_true]; split <;> rfl

theorem vputU64_eq (buf : Bytes) (off : Nat) (x : Int) (h : off ≤ buf.length) :
    liftP (vputU64 buf (off : Int) x) = Wire.putU64 buf off (ofInt 64 x) := by
  rw [vputU64_store, putU64_store]; simp only [h, if_true]; split <;> rfl

theorem vcopy_eq (buf : Bytes) (off : Nat) (src : Bytes) (h : off ≤ buf.length) :
    (.ok ((vcopy buf (off : Int) src).1, (vcopy buf (off : Int) src).2.toNat) : TOut (Bytes × Nat)) =
      Wire.copyAt buf off src := by
  rw [vcopy_store, copyAt_store, if_pos h, Int.toNat_natCast]


/-! ## values -/

theorem ofInt_wrap_u16 (x : Int) : ofInt 16 (wrap .u16 x) = ofInt 16 x := ofInt_wrap 16 .u16 x (Nat.le_refl 16)
@[writer_simp] theorem ofInt_wrap_u32 (x : Int) : ofInt 32 (wrap .u32 x) = ofInt 32 x := ofInt_wrap 32 .u32 x (Nat.le_refl 32)
theorem ofInt_wrap_u64 (x : Int) : ofInt 64 (wrap .u64 x) = ofInt 64 x := ofInt_wrap 64 .u64 x (Nat.le_refl 64)

@[writer_simp] theorem byteOf_wrap_u8 (x : Int) : byteOf (wrap .u8 x) = UInt8.ofNat (ofInt 8 x) := by
  rw [byteOf_wrap, byteOf_eq]

@[writer_simp] theorem ofNat_toI8 (t : UInt8) : UInt8.ofNat (ofInt 8 (toI8 t.toNat)) = t := by
  rw [← wrap_i8_nat _ t.toNat_lt, ofInt_wrap 8 .i8 _ (Nat.le_refl 8)]
  show UInt8.ofNat (t.toNat % 256) = t
  rw [Nat.mod_eq_of_lt t.toNat_lt, UInt8.ofNat_toNat]

@[writer_simp] theorem byteOf_zero : byteOf 0 = 0 := by decide
@[writer_simp] theorem byteOf_one : byteOf 1 = 1 := by decide

theorem ofNat_congr (a b : Nat) (h : a % 256 = b % 256) : UInt8.ofNat a = UInt8.ofNat b := by
  apply UInt8.toNat_inj.mp; simp [UInt8.toNat_ofNat']; exact h

@[writer_simp] theorem be32_ofInt_nat (n : Nat) : be32 (ofInt 32 (n : Int)) = be32 n := be32_mod n

@[writer_simp] theorem be64_ofInt_nat (n : Nat) : be64 (ofInt 64 (n : Int)) = be64 n := by
  show be64 (n % (4294967296 * 4294967296)) = be64 n
  unfold be64
  rw [Nat.mod_mul_right_div_self, be32_mod, ← be32_mod (n % _), Nat.mod_mod_of_dvd _ ⟨4294967296, rfl⟩, be32_mod]

theorem ofInt_nat_small (n : Nat) (h : n < 4294967296) : ofInt 32 (n : Int) = n := Nat.mod_eq_of_lt h

/-- `uint32(msgVersion1) | uint32(typeID & msgTypeMask)` as a `uint32` value (typeID an `int32`; true for every
    integer) -/
theorem msgHeader_eq_a (typ : Int) :
    bor .u32 2147549184 (wrap .u32 (band .i32 typ 65535)) = (Wire.msgHeader typ : Nat) := by
  have e1 : (toU 32 typ).toNat = ofInt 32 typ := rfl
  have e2 : (toU 32 65535).toNat = 65535 := by decide
  have e3 : (toU 32 2147549184).toNat = 2147549184 := by decide
  have ha : ofInt 32 typ &&& 65535 ≤ 65535 := Nat.and_le_right
  unfold Wire.msgHeader Facts.msgVersion1 Facts.msgTypeMask
  generalize hA : ofInt 32 typ &&& 65535 = A at ha
  have hb : band .i32 typ 65535 = (A : Int) := by
    unfold band; simp only [IT.bits, e1, e2, Int.ofNat_eq_natCast, hA]
    apply wrap_i32_of_range <;> omega
  have hc : wrap .u32 (A : Int) = (A : Int) := by
    rw [wrap_u32, ofInt_nat_small]; omega
  have hd : (toU 32 (A : Int)).toNat = A := by
    rw [toU_ofInt, Int.toNat_natCast, ofInt_nat_small]; omega
  have hlt : 2147549184 ||| A < 2 ^ 32 := Nat.or_lt_two_pow (by omega) (by omega)
  rw [hb, hc]; unfold bor; simp only [IT.bits, e3, hd, Int.ofNat_eq_natCast]
  rw [wrap_u32, ofInt_nat_small _ hlt]

theorem msgHeader_lt (typ : Int) : Wire.msgHeader typ < 4294967296 := by
  have ha : ofInt 32 typ &&& 65535 ≤ 65535 := Nat.and_le_right
  exact Nat.or_lt_two_pow (n := 32) (by decide) (by unfold Facts.msgTypeMask; omega)

theorem msgHeader_eq (typ : Int) :
    ofInt 32 (bor .u32 2147549184 (wrap .u32 (band .i32 typ 65535))) = Wire.msgHeader typ := by
  rw [msgHeader_eq_a, ofInt_nat_small _ (msgHeader_lt typ)]

/-- `msgHeader_eq` with the operands of `|` swapped -/
theorem msgHeader_eq' (typ : Int) :
    ofInt 32 (bor .u32 (wrap .u32 (band .i32 typ 65535)) 2147549184) = Wire.msgHeader typ := by
  rw [bor_comm]; exact msgHeader_eq typ

theorem liftW_ok (b : Bytes) (n : Int) : liftW (.ok (b, n)) = .ok (b, n.toNat) := rfl
theorem liftW_panic (s : String) : liftW (.panic s) = .panic s := rfl

attribute [writer_simp] ofInt_wrap_u16 ofInt_wrap_u64 msgHeader_eq msgHeader_eq' liftW_ok liftW_panic

theorem putAt_len_be16 (b : Bytes) (o n : Nat) :
    (Wire.putAt b o (be16 n)).length = min o b.length + 2 + (b.length - (o + 2)) := putAt_len_any b o (be16 n)
theorem putAt_len_be64 (b : Bytes) (o n : Nat) :
    (Wire.putAt b o (be64 n)).length = min o b.length + 8 + (b.length - (o + 8)) := putAt_len_any b o (be64 n)

/-- `len` for `simp`.  Not by `rfl`: a definitional step inside the first argument of a `bind` makes `simp` leave the
    congruence rule `bind_congr_arg` for the default one. -/
@[writer_simp] theorem len_eq (b : Bytes) : len b = (b.length : Int) := by unfold len; exact Eq.refl _

@[writer_simp] theorem T_STOP_eq : T_STOP = 0 := by decide

/-! ## the writers

  Both sides are straight-line programs over one buffer.  With the congruence rules `bind_congr_arg`, `ite_congr_cond`
  `simp` runs them in execution order, so every bounds check it meets is a closed comparison with `buf.length`. -/

section
attribute [local congr] bind_congr_arg ite_congr_cond

attribute [writer_simp] Funcs.Binary_WriteMessageBegin Funcs.Binary_WriteFieldBegin Funcs.Binary_WriteFieldStop
  Funcs.Binary_WriteMapBegin Funcs.Binary_WriteListBegin Funcs.Binary_WriteSetBegin Funcs.Binary_WriteBool
  Funcs.Binary_WriteByte Funcs.Binary_WriteI16 Funcs.Binary_WriteI32 Funcs.Binary_WriteI64 Funcs.Binary_WriteDouble
  Funcs.Binary_WriteBinary Funcs.Binary_WriteString
  Wire.wMessageBegin Wire.wFieldBegin Wire.wFieldStop Wire.wMapBegin Wire.wListBegin Wire.wSetBegin Wire.wBool
  Wire.wByte Wire.wI16 Wire.wI32 Wire.wI64 Wire.wDouble Wire.wBinary

/-- `writer_simp` opens both sides down to the primitives (a writer that the Go source makes delegate to a sibling
    included, whoever calls whom) and brings the primitives to their normal forms; every `if` is decided by `omega`
    from the semantic case hypotheses in the context, whatever arithmetic shape the conditions have; what is left is an
    equation between two `store` towers whose offsets / counts are arithmetically equal (`congr_omega`).
    A bounds check that is literally one of the case hypotheses is rewritten by it (`*`). -/
macro "wsimp" : tactic => `(tactic| (
  simp (disch := go_disch) only [writer_simp, *, Int.reduceToNat, Int.reduceLE, Nat.reduceAdd]
  <;> congr_omega))

theorem Binary_WriteFieldStop_eq (buf : Bytes) (off : Nat) (h : off ≤ buf.length) :
    liftW (Funcs.Binary_WriteFieldStop buf (off : Int)) = Wire.wFieldStop buf off := by
  by_cases h1 : off + 1 ≤ buf.length
  · wsimp
  · wsimp

theorem Binary_WriteFieldBegin_eq (buf : Bytes) (off : Nat) (t : UInt8) (id : Int) (h : off ≤ buf.length) :
    liftW (Funcs.Binary_WriteFieldBegin buf (off : Int) (toI8 t.toNat) id) = Wire.wFieldBegin buf off t id := by
  by_cases h1 : off + 1 ≤ buf.length
  · by_cases h3 : off + 3 ≤ buf.length
    · wsimp
    · wsimp
  · wsimp

theorem Binary_WriteMapBegin_eq (buf : Bytes) (off : Nat) (kt vt : UInt8) (size : Int) (h : off ≤ buf.length) :
    liftW (Funcs.Binary_WriteMapBegin buf (off : Int) (toI8 kt.toNat) (toI8 vt.toNat) size) =
      Wire.wMapBegin buf off kt vt size := by
  by_cases h1 : off + 1 ≤ buf.length
  · by_cases h2 : off + 2 ≤ buf.length
    · by_cases h6 : off + 6 ≤ buf.length
      · wsimp
      · wsimp
    · wsimp
  · wsimp

theorem Binary_WriteListBegin_eq (buf : Bytes) (off : Nat) (et : UInt8) (size : Int) (h : off ≤ buf.length) :
    liftW (Funcs.Binary_WriteListBegin buf (off : Int) (toI8 et.toNat) size) = Wire.wListBegin buf off et size := by
  by_cases h1 : off + 1 ≤ buf.length
  · by_cases h5 : off + 5 ≤ buf.length
    · wsimp
    · wsimp
  · wsimp

theorem Binary_WriteSetBegin_eq (buf : Bytes) (off : Nat) (et : UInt8) (size : Int) (h : off ≤ buf.length) :
    liftW (Funcs.Binary_WriteSetBegin buf (off : Int) (toI8 et.toNat) size) = Wire.wSetBegin buf off et size := by
  by_cases h1 : off + 1 ≤ buf.length
  · by_cases h5 : off + 5 ≤ buf.length
    · wsimp
    · wsimp
  · wsimp

theorem Binary_WriteBool_eq (buf : Bytes) (off : Nat) (v : Bool) (h : off ≤ buf.length) :
    liftW (Funcs.Binary_WriteBool buf (off : Int) v) = Wire.wBool buf off v := by
  by_cases h1 : off + 1 ≤ buf.length <;> cases v
  all_goals wsimp

theorem Binary_WriteByte_eq (buf : Bytes) (off : Nat) (v : Int) (h : off ≤ buf.length) :
    liftW (Funcs.Binary_WriteByte buf (off : Int) v) = Wire.wByte buf off v := by
  by_cases h1 : off + 1 ≤ buf.length
  · wsimp
  · wsimp

theorem Binary_WriteI16_eq (buf : Bytes) (off : Nat) (v : Int) (h : off ≤ buf.length) :
    liftW (Funcs.Binary_WriteI16 buf (off : Int) v) = Wire.wI16 buf off v := by
  by_cases h1 : off + 2 ≤ buf.length
  · wsimp
  · wsimp

theorem Binary_WriteI32_eq (buf : Bytes) (off : Nat) (v : Int) (h : off ≤ buf.length) :
    liftW (Funcs.Binary_WriteI32 buf (off : Int) v) = Wire.wI32 buf off v := by
  by_cases h1 : off + 4 ≤ buf.length
  · wsimp
  · wsimp

theorem Binary_WriteI64_eq (buf : Bytes) (off : Nat) (v : Int) (h : off ≤ buf.length) :
    liftW (Funcs.Binary_WriteI64 buf (off : Int) v) = Wire.wI64 buf off v := by
  by_cases h1 : off + 8 ≤ buf.length
  · wsimp
  · wsimp

theorem Binary_WriteDouble_eq (buf : Bytes) (off : Nat) (bits : Nat) (h : off ≤ buf.length) :
    liftW (Funcs.Binary_WriteDouble buf (off : Int) (bits : Int)) = Wire.wDouble buf off bits := by
  by_cases h1 : off + 8 ≤ buf.length
  · wsimp
  · wsimp


theorem Binary_WriteBinary_eq (buf : Bytes) (off : Nat) (v : Bytes) (h : off ≤ buf.length)
    (hlen : buf.length < 2 ^ 63) :
    liftW (Funcs.Binary_WriteBinary buf (off : Int) v) = Wire.wBinary buf off v := by
  by_cases h4 : off + 4 ≤ buf.length
  · wsimp
  · wsimp

theorem Binary_WriteString_eq (buf : Bytes) (off : Nat) (v : Bytes) (h : off ≤ buf.length)
    (hlen : buf.length < 2 ^ 63) :
    liftW (Funcs.Binary_WriteString buf (off : Int) v) = Wire.wBinary buf off v := by
  by_cases h4 : off + 4 ≤ buf.length
  · wsimp
  · wsimp

theorem Binary_WriteMessageBegin_eq (buf : Bytes) (off : Nat) (name : Bytes) (typ seq : Int)
    (h : off ≤ buf.length) (hlen : buf.length < 2 ^ 63) :
    liftW (Funcs.Binary_WriteMessageBegin buf (off : Int) name typ seq) =
      Wire.wMessageBegin buf off name typ seq := by
  by_cases h4 : off + 4 ≤ buf.length
  · by_cases h8 : off + 8 ≤ buf.length
    · by_cases h12 : off + 8 + min (buf.length - (off + 8)) name.length + 4 ≤ buf.length
      · wsimp
      · wsimp
    · wsimp
  · wsimp


end

/-! ## the generated functions compute (non-vacuity) -/

example : Funcs.Binary_WriteI32 [9, 9, 9, 9, 9, 9] 1 258 = .ok ([9, 0, 0, 1, 2, 9], 4) := by decide
example : Funcs.Binary_WriteI16 [9, 9, 9] 1 (-2) = .ok ([9, 255, 254], 2) := by decide
example : Funcs.Binary_WriteFieldBegin [7, 7, 7, 7] 1 8 258 = .ok ([7, 8, 1, 2], 3) := by decide
example : Funcs.Binary_WriteBool [7] 0 true = .ok ([1], 1) := by decide
/-- `copy` truncates silently: 2 of the 3 bytes fit, the length prefix still says 3, the result is 4 + 2 -/
example : Funcs.Binary_WriteBinary [7, 7, 7, 7, 7, 7] 0 [1, 2, 3] = .ok ([0, 0, 0, 3, 1, 2], 6) := by decide
example : liftW (Funcs.Binary_WriteBinary [7, 7, 7, 7, 7, 7] 0 [1, 2, 3]) = Wire.wBinary [7, 7, 7, 7, 7, 7] 0 [1, 2, 3] := by
  decide
/-- panics: a short slice is an index panic of `PutUint32` / of `buf[0] = …` -/
example : Funcs.Binary_WriteI32 [9, 9, 9, 9] 1 5 = .panic "index" := by decide
example : Funcs.Binary_WriteFieldStop [9] 1 = .panic "index" := by decide
example : Funcs.Binary_WriteMessageBegin [0, 0, 0, 0, 0, 0, 0, 0, 0, 0, 0] 0 [97, 98, 99, 100] 1 7 = .panic "index" := by
  decide
/-- outside the hypothesis `off ≤ buf.length` (no such view exists in Go: the caller's `buf[off:]` panics first) the
    two sides are different objects: the model reports the caller's slice panic, the translation an index panic -/
example : liftW (Funcs.Binary_WriteByte [] 1 0) = .panic "index" ∧ Wire.wByte [] 1 0 = .panic "slice" := by decide

end Verif.FuncsEq
