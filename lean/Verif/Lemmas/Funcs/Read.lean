/-
  Lemmas/Funcs/Read: the 13 buffer readers `Binary.Read*` TRANSLATED from protocol/thrift/binary.go
  (`Verif.Funcs.Binary_Read*`, generated) are the hand-written model readers `Wire.binRead*`, for every byte list
  (no length hypothesis) and, for ReadBinary / ReadString / ReadMessageBegin, for both values of `spanCacheEnable`.

  Where the model's result type is the Go result type up to `liftRd` (Bool, Byte, I16, I32, I64, Binary, String) the
  statement is `liftRd (gen b) = model b`.  Elsewhere an explicit result lift built from `liftRdG` maps the Go result
  into the model's type: a `TType` (Go int8) to the model's type byte (`tyByte`), a container size (Go `int`, from
  `int(uint32)`, so non-negative) and the bit pattern of a double to `Nat` (`Int.toNat`).
-/
import Verif.Lemmas.Funcs.Base
set_option linter.unusedSimpArgs false
namespace Verif.FuncsEq
open Verif Verif.GoSem

/-! ## result lifts for readers whose model result type differs from the Go result type -/

/-- generic form of `liftRd`: `l`/`e` select the returned length and error of the Go result `ρ`, `v` builds the
    model's result from the Go result and the length -/
def liftRdG {ρ β : Type} (l : ρ → Int) (e : ρ → GoErr) (v : ρ → Nat → β) (x : GM ρ) : Wire.BOut β :=
  match x with
  | .ok r => if e r = .nil then .ok (v r (l r).toNat) else .err (absErr (e r), (l r).toNat)
  | .panic s => .panic s
  | .oob => .oob
  | .err e => nomatch e

/-- a Go `TType` (int8) as the model's type byte -/
def tyByte (t : Int) : UInt8 := UInt8.ofNat (ofInt 8 t)

/-- ReadDouble: `(bits, l, err)`, the model has the bit pattern as a `Nat` -/
def liftRdDouble (x : GM (Int × Int × GoErr)) : Wire.BOut (Nat × Nat) :=
  liftRdG (fun r => r.2.1) (fun r => r.2.2) (fun r n => (r.1.toNat, n)) x

/-- ReadFieldBegin: `(typeID, id, l, err)` -/
def liftRdField (x : GM (Int × Int × Int × GoErr)) : Wire.BOut (UInt8 × Int × Nat) :=
  liftRdG (fun r => r.2.2.1) (fun r => r.2.2.2) (fun r n => (tyByte r.1, r.2.1, n)) x

/-- ReadListBegin / ReadSetBegin: `(et, size, l, err)` (Go `size` is a non-negative `int`) -/
def liftRdList (x : GM (Int × Int × Int × GoErr)) : Wire.BOut (UInt8 × Nat × Nat) :=
  liftRdG (fun r => r.2.2.1) (fun r => r.2.2.2) (fun r n => (tyByte r.1, r.2.1.toNat, n)) x

/-- ReadMapBegin: `(kt, vt, size, l, err)` -/
def liftRdMap (x : GM (Int × Int × Int × Int × GoErr)) : Wire.BOut (UInt8 × UInt8 × Nat × Nat) :=
  liftRdG (fun r => r.2.2.2.1) (fun r => r.2.2.2.2) (fun r n => (tyByte r.1, tyByte r.2.1, r.2.2.1.toNat, n)) x

/-- ReadMessageBegin: `(name, typeID, seq, l, err)` -/
def liftRdMsg (x : GM (Bytes × Int × Int × Int × GoErr)) : Wire.BOut (Bytes × Int × Int × Nat) :=
  liftRdG (fun r => r.2.2.2.1) (fun r => r.2.2.2.2) (fun r n => (r.1, r.2.1, r.2.2.1, n)) x

/-! ## primitives -/

theorem idx_zero (b : Bytes) (h : 0 < b.length) : GoSem.idx b 0 = .ok ((b[0]'h).toNat : Int) := by
  simp [GoSem.idx, h]

theorem idx_one (b : Bytes) (h : 1 < b.length) : GoSem.idx b 1 = .ok ((b[1]'h).toNat : Int) := by
  simp [GoSem.idx, h]

/-- `b[lo:]` at an offset arithmetically equal to the natural `m` (whatever expression computes it) -/
theorem rd_sliceFrom_at (b : Bytes) (m : Nat) (hm : m ≤ b.length) (lo : Int) (h : lo = (m : Int)) :
    sliceFrom b lo = .ok (b.drop m) := by
  subst h; rw [sliceFrom_ok b _ (by omega) (by omega)]; simp

theorem rd_slice_ok (b : Bytes) (lo hi : Int) (h0 : 0 ≤ lo) (h1 : lo ≤ hi) (h2 : hi ≤ (b.length : Int)) :
    slice b lo hi = .ok ((b.drop lo.toNat).take (hi.toNat - lo.toNat)) :=
  slice_ok b lo hi h0 h1 h2

theorem rd_take_drop_congr (b : Bytes) (m m' k k' : Nat) (hm : m = m') (hk : k = k') :
    (b.drop m).take k = (b.drop m').take k' := by subst hm; subst hk; rfl

theorem rd_slice_at (b : Bytes) (m k : Nat) (hmk : m + k ≤ b.length) (lo hi : Int) (hlo : lo = (m : Int))
    (hhi : hi = (m : Int) + (k : Int)) : slice b lo hi = .ok ((b.drop m).take k) := by
  subst hlo hhi
  rw [slice_ok b _ _ (by omega) (by omega) (by omega)]
  exact congrArg _ (rd_take_drop_congr b _ _ _ _ (by omega) (by omega))

theorem slice_four (b : Bytes) (k : Nat) (h : 4 + k ≤ b.length) :
    slice b 4 (4 + (k : Int)) = .ok ((b.drop 4).take k) :=
  rd_slice_at b 4 k h _ _ rfl rfl

theorem getU16_ok (b : Bytes) (h : 2 ≤ b.length) : Wire.getU16 b = .ok (rd16 b) := if_neg (by omega)
theorem getU32_ok (b : Bytes) (h : 4 ≤ b.length) : Wire.getU32 b = .ok (rd32 b) := if_neg (by omega)
theorem getU64_ok (b : Bytes) (h : 8 ≤ b.length) : Wire.getU64 b = .ok (rd64 b) := if_neg (by omega)

theorem bAt_ok (b : Bytes) (i : Nat) (h : i < b.length) : Wire.bAt b i = .ok b[i] := by
  simp [Wire.bAt, h]

theorem bFrom_ok (b : Bytes) (lo : Nat) (h : lo ≤ b.length) : Wire.bFrom b lo = .ok (b.drop lo) := if_neg (by omega)

/- the models' canonical errors as Go values (the message is not part of the model) -/

theorem absErr_short (msg : String) : absErr (.pe 1 msg) = errShort := rfl
theorem absErr_neg (msg : String) : absErr (.pe 2 msg) = errNeg := rfl
theorem absErr_badVersion (msg : String) : absErr (.pe 4 msg) = Wire.errBadVersion := rfl

theorem u8_int_eq_one (x : UInt8) : ((x.toNat : Int) = 1) ↔ x = 1 := by
  constructor
  · intro h
    have : x.toNat = (1 : UInt8).toNat := by simp; omega
    exact UInt8.toNat_inj.mp this
  · intro h; subst h; simp

theorem tyByte_toI8 (x : UInt8) : tyByte (toI8 x.toNat) = x := by
  have := x.toNat_lt
  have h : ofInt 8 (toI8 x.toNat) = x.toNat := by
    unfold ofInt toI8; split <;> omega
  simp [tyByte, h]

theorem tyByte_wrap (x : UInt8) : tyByte (wrap .i8 (x.toNat : Int)) = x := by
  rw [wrap_i8_nat _ x.toNat_lt, tyByte_toI8]

attribute [local simp] liftRd liftRdG liftRdDouble liftRdField liftRdList liftRdMap liftRdMsg absErr_short absErr_neg
  absErr_badVersion

/-! ## scalar readers

  Every proof below: unfold both sides, split on the SEMANTIC condition (`b.length < n`), `go_simp` — which decides each
  `if` of either side with `omega` from that hypothesis, whatever its polarity or arithmetic shape — with the outcome of
  every call on the path as a `↓Out.bind_of_ok` rule. -/

theorem Binary_ReadBool_eq (b : Bytes) : liftRd (Funcs.Binary_ReadBool b) = Wire.binReadBool b := by
  unfold Funcs.Binary_ReadBool Wire.binReadBool
  by_cases h : b.length < 1
  · go_simp [h]
  · have h0 : 0 < b.length := by omega
    by_cases hx : b[0] = 1 <;>
    go_simp [↓Out.bind_of_ok (idx_zero b h0), h, h0, hx, u8_int_eq_one]

theorem Binary_ReadByte_eq (b : Bytes) : liftRd (Funcs.Binary_ReadByte b) = Wire.binReadByte b := by
  unfold Funcs.Binary_ReadByte Wire.binReadByte
  by_cases h : b.length < 1
  · go_simp [h]
  · have h0 : 0 < b.length := by omega
    go_simp [↓Out.bind_of_ok (idx_zero b h0), h, h0, wrap_i8_nat _ (b[0]'h0).toNat_lt]

theorem Binary_ReadI16_eq (b : Bytes) : liftRd (Funcs.Binary_ReadI16 b) = Wire.binReadI16 b := by
  unfold Funcs.Binary_ReadI16 Wire.binReadI16
  by_cases h : b.length < 2
  · go_simp
  · go_simp [↓Out.bind_of_ok (beU16_ok b (by omega)), ↓Out.bind_of_ok (getU16_ok b (by omega)),
      wrap_i16_nat _ (rd16_lt b)]

theorem Binary_ReadI32_eq (b : Bytes) : liftRd (Funcs.Binary_ReadI32 b) = Wire.binReadI32 b := by
  unfold Funcs.Binary_ReadI32 Wire.binReadI32
  by_cases h : b.length < 4
  · go_simp
  · go_simp [↓Out.bind_of_ok (beU32_ok b (by omega)), ↓Out.bind_of_ok (getU32_ok b (by omega)),
      wrap_i32_nat _ (rd32_lt b)]

theorem Binary_ReadI64_eq (b : Bytes) : liftRd (Funcs.Binary_ReadI64 b) = Wire.binReadI64 b := by
  unfold Funcs.Binary_ReadI64 Wire.binReadI64
  by_cases h : b.length < 8
  · go_simp
  · go_simp [↓Out.bind_of_ok (beU64_ok b (by omega)), ↓Out.bind_of_ok (getU64_ok b (by omega)),
      wrap_i64_nat _ (rd64_lt b)]

theorem Binary_ReadDouble_eq (b : Bytes) : liftRdDouble (Funcs.Binary_ReadDouble b) = Wire.binReadDouble b := by
  unfold Funcs.Binary_ReadDouble Wire.binReadDouble
  by_cases h : b.length < 8
  · go_simp
  · go_simp [↓Out.bind_of_ok (beU64_ok b (by omega)), ↓Out.bind_of_ok (getU64_ok b (by omega))]

/-! ## container headers -/

theorem Binary_ReadFieldBegin_eq (b : Bytes) :
    liftRdField (Funcs.Binary_ReadFieldBegin b) = Wire.binReadFieldBegin b := by
  unfold Funcs.Binary_ReadFieldBegin Wire.binReadFieldBegin
  by_cases h : b.length < 1
  · go_simp [h]
  · have h0 : 0 < b.length := by omega
    have hne : b ≠ [] := List.ne_nil_of_length_pos h0
    have e0 := idx_zero b h0
    have m0 := bAt_ok b 0 h0
    have hw := wrap_i8_nat _ (b[0]'h0).toNat_lt
    by_cases hs : b[0] = T_STOP
    · have hz : wrap .i8 (T_STOP.toNat : Int) = 0 := by decide
      have ht : tyByte 0 = T_STOP := by decide
      go_simp [↓Out.bind_of_ok e0, ↓Out.bind_of_ok m0, hne, hs, hz, ht]
    · have hz : ¬ toI8 (b[0]'h0).toNat = 0 := fun hc => hs ((toI8_eq_zero _).mp hc)
      by_cases h3 : b.length < 3
      · go_simp [↓Out.bind_of_ok e0, ↓Out.bind_of_ok m0, hne, hs, hw, hz]
      · have e1 := rd_sliceFrom_at b 1 (by omega) 1 rfl
        have m1 := bFrom_ok b 1 (by omega)
        have e2 := beU16_ok (b.drop 1) (by simp; omega)
        have m2 := getU16_ok (b.drop 1) (by simp; omega)
        go_simp [↓Out.bind_of_ok e0, ↓Out.bind_of_ok m0, ↓Out.bind_of_ok e1, ↓Out.bind_of_ok m1, ↓Out.bind_of_ok e2, ↓Out.bind_of_ok m2, hne, hs,
          hw, hz, wrap_i16_nat _ (rd16_lt _), tyByte_toI8]

theorem Binary_ReadMapBegin_eq (b : Bytes) :
    liftRdMap (Funcs.Binary_ReadMapBegin b) = Wire.binReadMapBegin b := by
  unfold Funcs.Binary_ReadMapBegin Wire.binReadMapBegin
  by_cases h : b.length < 6
  · go_simp
  · have h0 : 0 < b.length := by omega
    have h1 : 1 < b.length := by omega
    go_simp [↓Out.bind_of_ok (idx_zero b h0), ↓Out.bind_of_ok (idx_one b h1),
      ↓Out.bind_of_ok (rd_sliceFrom_at b 2 (by omega) 2 rfl),
      ↓Out.bind_of_ok (beU32_ok (b.drop 2) (by simp; omega)), ↓Out.bind_of_ok (bAt_ok b 0 h0), ↓Out.bind_of_ok (bAt_ok b 1 h1),
      ↓Out.bind_of_ok (bFrom_ok b 2 (by omega)), ↓Out.bind_of_ok (getU32_ok (b.drop 2) (by simp; omega)), tyByte_wrap]

theorem Binary_ReadListBegin_eq (b : Bytes) :
    liftRdList (Funcs.Binary_ReadListBegin b) = Wire.binReadListBegin b := by
  unfold Funcs.Binary_ReadListBegin Wire.binReadListBegin
  by_cases h : b.length < 5
  · go_simp
  · have h0 : 0 < b.length := by omega
    go_simp [↓Out.bind_of_ok (idx_zero b h0), ↓Out.bind_of_ok (rd_sliceFrom_at b 1 (by omega) 1 rfl),
      ↓Out.bind_of_ok (beU32_ok (b.drop 1) (by simp; omega)), ↓Out.bind_of_ok (bAt_ok b 0 h0),
      ↓Out.bind_of_ok (bFrom_ok b 1 (by omega)), ↓Out.bind_of_ok (getU32_ok (b.drop 1) (by simp; omega)), tyByte_wrap]

theorem Binary_ReadSetBegin_eq (b : Bytes) :
    liftRdList (Funcs.Binary_ReadSetBegin b) = Wire.binReadSetBegin b := by
  unfold Funcs.Binary_ReadSetBegin Wire.binReadSetBegin
  by_cases h : b.length < 5
  · go_simp
  · have h0 : 0 < b.length := by omega
    go_simp [↓Out.bind_of_ok (idx_zero b h0), ↓Out.bind_of_ok (rd_sliceFrom_at b 1 (by omega) 1 rfl),
      ↓Out.bind_of_ok (beU32_ok (b.drop 1) (by simp; omega)), ↓Out.bind_of_ok (bAt_ok b 0 h0),
      ↓Out.bind_of_ok (bFrom_ok b 1 (by omega)), ↓Out.bind_of_ok (getU32_ok (b.drop 1) (by simp; omega)), tyByte_wrap]

/-! ## ReadBinary / ReadString -/

theorem binReadI32_short (b : Bytes) (h : b.length < 4) : Wire.binReadI32 b = .err (errShort, 0) := by
  simp [Wire.binReadI32, h]

theorem binReadI32_long (b : Bytes) (h : ¬ b.length < 4) : Wire.binReadI32 b = .ok (toI32 (rd32 b), 4) := by
  simp [Wire.binReadI32, h, Wire.getU32]

/-! what `ReadI32` returns, in the Go result type (used where a caller inspects the result) -/

theorem Binary_ReadI32_short (b : Bytes) (h : b.length < 4) :
    ∃ r, Funcs.Binary_ReadI32 b = .ok r ∧ r.2.2 ≠ GoErr.nil := by
  unfold Funcs.Binary_ReadI32
  go_simp

theorem Binary_ReadI32_long (b : Bytes) (h : ¬ b.length < 4) :
    Funcs.Binary_ReadI32 b = .ok (toI32 (rd32 b), 4, GoErr.nil) := by
  unfold Funcs.Binary_ReadI32
  go_simp [↓Out.bind_of_ok (beU32_ok b (by omega)), wrap_i32_nat _ (rd32_lt b)]

theorem Binary_ReadI32_cases (b : Bytes) :
    (b.length < 4 ∧ ∃ r, Funcs.Binary_ReadI32 b = .ok r ∧ r.2.2 ≠ GoErr.nil) ∨
    (¬ b.length < 4 ∧ Funcs.Binary_ReadI32 b = .ok (toI32 (rd32 b), 4, GoErr.nil)) := by
  by_cases h : b.length < 4
  · exact .inl ⟨h, Binary_ReadI32_short b h⟩
  · exact .inr ⟨h, Binary_ReadI32_long b h⟩

/-- split by the four exits of the Go code -/
theorem binReadBinary_cases (b : Bytes) :
    (b.length < 4 ∧ Wire.binReadBinary b = .err (errShort, 0)) ∨
    (¬ b.length < 4 ∧ toI32 (rd32 b) < 0 ∧ Wire.binReadBinary b = .err (errNeg, 0)) ∨
    (∃ k : Nat, ¬ b.length < 4 ∧ toI32 (rd32 b) = (k : Int) ∧ k < 2147483648 ∧
      ((b.length < 4 + k ∧ Wire.binReadBinary b = .err (errShort, 4)) ∨
       (¬ b.length < 4 + k ∧ Wire.binReadBinary b = .ok ((b.drop 4).take k, 4 + k)))) := by
  unfold Wire.binReadBinary
  by_cases h : b.length < 4
  · left; exact ⟨h, by rw [binReadI32_short b h]⟩
  · right
    rw [binReadI32_long b h]
    have hhi := (toI32_range _ (rd32_lt b)).2
    by_cases hneg : toI32 (rd32 b) < 0
    · left; exact ⟨h, hneg, by simp [hneg]⟩
    · right
      obtain ⟨k, hk⟩ : ∃ k : Nat, toI32 (rd32 b) = (k : Int) := ⟨(toI32 (rd32 b)).toNat, by omega⟩
      refine ⟨k, h, hk, by omega, ?_⟩
      by_cases hl : b.length < 4 + k
      · left; exact ⟨hl, by simp [hk, hl]⟩
      · right; exact ⟨hl, by simp [hk, hl]⟩

theorem Binary_ReadBinary_cases (g : Bool) (b : Bytes) :
    (∃ r, Funcs.Binary_ReadBinary g b = .ok r ∧ r.2.2 ≠ GoErr.nil ∧
        Wire.binReadBinary b = .err (absErr r.2.2, r.2.1.toNat)) ∨
    (∃ (s : Bytes) (n : Nat), Funcs.Binary_ReadBinary g b = .ok (s, (n : Int), GoErr.nil) ∧
        Wire.binReadBinary b = .ok (s, n) ∧ 4 ≤ n ∧ n ≤ b.length ∧ n < 4294967296) := by
  unfold Funcs.Binary_ReadBinary
  rcases binReadBinary_cases b with ⟨h, hm⟩ | ⟨h, hneg, hm⟩ | ⟨k, h, hk, hk31, ⟨hl, hm⟩ | ⟨hl, hm⟩⟩
  · obtain ⟨r, hr, he⟩ := Binary_ReadI32_short b h
    left; go_simp [↓Out.bind_of_ok hr, he, hm]
  · left; go_simp [↓Out.bind_of_ok (Binary_ReadI32_long b h), hneg, hm]
  · left; go_simp [↓Out.bind_of_ok (Binary_ReadI32_long b h), hk, hm, wrap_i64_of_range]
  · right
    refine ⟨(b.drop 4).take k, 4 + k, ?_, hm, by omega, by omega, by omega⟩
    go_simp [↓Out.bind_of_ok (Binary_ReadI32_long b h), hk, wrap_i64_of_range, rd_slice_at b 4 k (by omega)]

theorem Binary_ReadString_cases (g : Bool) (b : Bytes) :
    (∃ r, Funcs.Binary_ReadString g b = .ok r ∧ r.2.2 ≠ GoErr.nil ∧
        Wire.binReadBinary b = .err (absErr r.2.2, r.2.1.toNat)) ∨
    (∃ (s : Bytes) (n : Nat), Funcs.Binary_ReadString g b = .ok (s, (n : Int), GoErr.nil) ∧
        Wire.binReadBinary b = .ok (s, n) ∧ 4 ≤ n ∧ n ≤ b.length ∧ n < 4294967296) := by
  unfold Funcs.Binary_ReadString
  rcases binReadBinary_cases b with ⟨h, hm⟩ | ⟨h, hneg, hm⟩ | ⟨k, h, hk, hk31, ⟨hl, hm⟩ | ⟨hl, hm⟩⟩
  · obtain ⟨r, hr, he⟩ := Binary_ReadI32_short b h
    left; go_simp [↓Out.bind_of_ok hr, he, hm]
  · left; go_simp [↓Out.bind_of_ok (Binary_ReadI32_long b h), hneg, hm]
  · left; go_simp [↓Out.bind_of_ok (Binary_ReadI32_long b h), hk, hm, wrap_i64_of_range]
  · right
    refine ⟨(b.drop 4).take k, 4 + k, ?_, hm, by omega, by omega, by omega⟩
    go_simp [↓Out.bind_of_ok (Binary_ReadI32_long b h), hk, wrap_i64_of_range, rd_slice_at b 4 k (by omega)]

theorem Binary_ReadBinary_eq (g : Bool) (b : Bytes) :
    liftRd (Funcs.Binary_ReadBinary g b) = Wire.binReadBinary b := by
  rcases Binary_ReadBinary_cases g b with ⟨r, hr, he, hm⟩ | ⟨s, n, hr, hm, _⟩
  · simp [hr, hm, he]
  · simp [hr, hm]

theorem Binary_ReadString_eq (g : Bool) (b : Bytes) :
    liftRd (Funcs.Binary_ReadString g b) = Wire.binReadBinary b := by
  rcases Binary_ReadString_cases g b with ⟨r, hr, he, hm⟩ | ⟨s, n, hr, hm, _⟩
  · simp [hr, hm, he]
  · simp [hr, hm]

/-! ## ReadMessageBegin -/

theorem band_u32_nat (a m : Nat) (ha : a < 4294967296) (hm : m < 4294967296) :
    band .u32 (a : Int) (m : Int) = ((a &&& m : Nat) : Int) := by
  have h1 : toU 32 (a : Int) = (a : Int) := toU_of_range (by omega) (by simpa using (by omega : (a : Int) < 4294967296))
  have h2 : toU 32 (m : Int) = (m : Int) := toU_of_range (by omega) (by simpa using (by omega : (m : Int) < 4294967296))
  have h3 : a &&& m < 4294967296 := Nat.lt_of_le_of_lt Nat.and_le_left ha
  unfold band
  simp only [IT.bits, h1, h2, Int.toNat_natCast, Int.ofNat_eq_natCast]
  rw [wrap_u32]
  unfold ofInt
  omega

theorem Binary_ReadMessageBegin_eq (g : Bool) (b : Bytes) :
    liftRdMsg (Funcs.Binary_ReadMessageBegin g b) = Wire.binReadMessageBegin b := by
  unfold Funcs.Binary_ReadMessageBegin Wire.binReadMessageBegin
  by_cases h : b.length < 4
  · go_simp
  · have eH := beU32_ok b (by omega)
    have mH := getU32_ok b (by omega)
    have hv : band .u32 (rd32 b : Int) 4294901760 = ((rd32 b &&& 4294901760 : Nat) : Int) := by
      simpa using band_u32_nat (rd32 b) 4294901760 (rd32_lt b) (by omega)
    by_cases hver : rd32 b &&& 4294901760 = 2147549184
    · have ht : band .u32 (rd32 b : Int) 65535 = ((rd32 b &&& 65535 : Nat) : Int) := by
        simpa using band_u32_nat (rd32 b) 65535 (rd32_lt b) (by omega)
      have htl : rd32 b &&& 65535 ≤ 65535 := Nat.and_le_right
      have e4 := rd_sliceFrom_at b 4 (by omega) 4 rfl
      have m4 := bFrom_ok b 4 (by omega)
      rcases Binary_ReadString_cases g (b.drop 4) with ⟨r, hr, he, hm⟩ | ⟨s, n, hr, hm, hn4, hnl, hnu⟩
      · go_simp [↓Out.bind_of_ok eH, ↓Out.bind_of_ok mH, ↓Out.bind_of_ok e4, ↓Out.bind_of_ok m4, ↓Out.bind_of_ok hr, hv, hver, he, hm,
          Wire.orErr, Facts.msgVersionMask, Facts.msgVersion1]
      · have hdl : (b.drop 4).length = b.length - 4 := by simp
        have e5 := rd_sliceFrom_at b (4 + n) (by omega)
        have m5 := bFrom_ok b (4 + n) (by omega)
        rcases Binary_ReadI32_cases (b.drop (4 + n)) with ⟨h2, r2, hr2, he2⟩ | ⟨h2, hr2⟩
        · have hm2 := binReadI32_short _ h2
          go_simp [↓Out.bind_of_ok eH, ↓Out.bind_of_ok mH, ↓Out.bind_of_ok e4, ↓Out.bind_of_ok m4, ↓Out.bind_of_ok hr, hv, hver, hm, e5, m5,
            hr2, he2, hm2, wrap_i64_of_range, Wire.orErr, Facts.msgVersionMask, Facts.msgVersion1]
        · have hm2 := binReadI32_long _ h2
          go_simp [↓Out.bind_of_ok eH, ↓Out.bind_of_ok mH, ↓Out.bind_of_ok e4, ↓Out.bind_of_ok m4, ↓Out.bind_of_ok hr, hv, ht, hver, hm, e5,
            m5, hr2, hm2, wrap_i32_of_range, wrap_i64_of_range, Wire.orErr, Facts.msgVersionMask,
            Facts.msgVersion1, Facts.msgTypeMask]
          all_goals omega   -- the returned length, whatever expression computes it
    · go_simp [↓Out.bind_of_ok eH, ↓Out.bind_of_ok mH, hv, hver, Facts.msgVersionMask, Facts.msgVersion1]

/-! ## the generated functions compute (non-vacuity) -/

example : Funcs.Binary_ReadI32 [0xff, 0xff, 0xff, 0xfe] = .ok (-2, 4, .nil) := by decide +kernel
example : Funcs.Binary_ReadBool [1, 7] = .ok (true, 1, .nil) := by decide +kernel
example : Funcs.Binary_ReadByte [0x80] = .ok (-128, 1, .nil) := by decide +kernel
example : Funcs.Binary_ReadI16 [0x80, 0x01] = .ok (-32767, 2, .nil) := by decide +kernel
example : Funcs.Binary_ReadFieldBegin [8, 0xff, 0xff] = .ok (8, -1, 3, .nil) := by decide +kernel
example : Funcs.Binary_ReadFieldBegin [0] = .ok (0, 0, 1, .nil) := by decide +kernel
example : Funcs.Binary_ReadMapBegin [11, 12, 0, 0, 1, 0] = .ok (11, 12, 256, 6, .nil) := by decide +kernel
example : Funcs.Binary_ReadListBegin [0x8b, 0xff, 0xff, 0xff, 0xff] = .ok (-117, 4294967295, 5, .nil) := by decide +kernel
example : liftRdList (Funcs.Binary_ReadListBegin [0x8b, 0xff, 0xff, 0xff, 0xff]) = .ok (0x8b, 4294967295, 5) := by decide +kernel
example : Funcs.Binary_ReadBinary true [0, 0, 0, 2, 0x68, 0x69, 0x21] = .ok ([0x68, 0x69], 6, .nil) := by decide +kernel
example : Funcs.Binary_ReadString false [0, 0, 0, 2, 0x68, 0x69, 0x21] = .ok ([0x68, 0x69], 6, .nil) := by decide +kernel
example : Funcs.Binary_ReadMessageBegin false [0x80, 1, 0, 1, 0, 0, 0, 1, 0x66, 0, 0, 0, 7] =
    .ok ([0x66], 1, 7, 13, .nil) := by decide +kernel
-- error values
example : Funcs.Binary_ReadI32 [1, 2, 3] = .ok (0, 0, .pe 1 "ReadI32: len(buf) < 4") := by decide +kernel
example : liftRd (Funcs.Binary_ReadString true [0xff, 0xff, 0xff, 0xff]) = .err (errNeg, 0) := by decide +kernel
example : liftRd (Funcs.Binary_ReadBinary false [0, 0, 0, 2, 0x68]) = .err (errShort, 4) := by decide +kernel
example : liftRdMsg (Funcs.Binary_ReadMessageBegin true [0x80, 2, 0, 1, 0, 0, 0, 0, 0, 0, 0, 7]) =
    .err (Wire.errBadVersion, 0) := by decide +kernel
-- panics: no reader panics on any input (every access is guarded, which is what the `_eq` theorems transport);
-- the primitives they are built from do
example : beU32 [1, 2, 3] = .panic "index" := by decide +kernel
example : GoSem.idx [] 0 = .panic "index" := by decide +kernel
example : slice [1, 2, 3, 4, 5] 4 3 = .panic "slice" := by decide +kernel
example : liftRd (do let t ← beU32 [1, 2, 3]; pure (wrap .i32 t, 4, GoErr.nil)) = (.panic "index" : Wire.BOut (Int × Nat)) := by
  decide +kernel

end Verif.FuncsEq
