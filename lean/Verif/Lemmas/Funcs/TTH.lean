/-
  Lemmas/Funcs/TTH: the seven functions of protocol/ttheader {utils.go, decode.go} that the translator
  (`extract/funcs.go`) turns into `Verif.Funcs.tth_*` on every run ARE the hand-written model functions of
  `Verif.Model.TTHeader` (`TTH.bytes2Uint8` …) that the decode property theorems are about.

  Lifts (defined here, the TTH models use `DOut = Out DErr` and `Nat` values):
  * `liftN`   : `GM Int → DOut Nat`               — a Go unsigned result as a `Nat`;
  * `liftB`   : `GM Bool → DOut Bool`             — `liftP`;
  * `liftEof` : `GM (Int × GoErr) → DOut (Option Nat)` — `err == nil` ↦ `some v`, `err == io.EOF` ↦ `none`;
  * `liftEofS`: `GM (Bytes × Int × GoErr) → DOut (Option (Bytes × Nat))` — the same for `(buf, n, err)`.
  Any OTHER Go error value is sent to `.err .nofuel`, an outcome none of the seven model functions can produce:
  the equalities therefore also say that io.EOF is the only error these functions return.
  Panics are carried over with their kind.

  Size hypothesis of the three offset functions (`Bytes2Uint8`, `Bytes2Uint16`, `ReadString2BLen`): `b.length < 2^63`
  and `off < 2^63` (the offset is a Go `int` and a slice length fits an `int`: a typing invariant, needed because the
  translation computes `len(bytes) - off` in wrapped int64 while the model computes it in ℤ).

  Every function is first given its explicit output, once for the translation (`g_…`) and once for the model (`m_…`);
  the equivalence is the two side by side, and the callers of these functions (the section readers, Decode) rewrite
  with the explicit outputs instead of unfolding them again.
-/
import Verif.Lemmas.Funcs.Base
import Verif.Model.TTHeader
namespace Verif.FuncsEq
open Verif Verif.GoSem

/-! ## lifts -/

/-- a translated function returning a Go unsigned integer, as a `DOut Nat` -/
def liftN (x : GM Int) : TTH.DOut Nat :=
  match x with
  | .ok r => .ok r.toNat
  | .panic s => .panic s
  | .oob => .oob
  | .err e => nomatch e

/-- a translated predicate, as a `DOut Bool` -/
def liftB (x : GM Bool) : TTH.DOut Bool := liftP x

/-- the Go error values of the ttheader utils: `nil` ↦ `some a`, `io.EOF` ↦ `none`; anything else is sent to an
    outcome the models never produce -/
def eofOut {α : Type} (a : α) : GoErr → TTH.DOut (Option α)
  | .nil => .ok (some a)
  | .named n => if n = "io.EOF" then .ok none else .err .nofuel
  | .pe _ _ => .err .nofuel

/-- `(v, err)` of `Bytes2Uint8` / `Bytes2Uint16` as the models' `DOut (Option Nat)` -/
def liftEof (x : GM (Int × GoErr)) : TTH.DOut (Option Nat) :=
  match x with
  | .ok r => eofOut r.1.toNat r.2
  | .panic s => .panic s
  | .oob => .oob
  | .err e => nomatch e

/-- `(buf, n, err)` of `ReadString2BLen` as the models' `DOut (Option (Bytes × Nat))` -/
def liftEofS (x : GM (Bytes × Int × GoErr)) : TTH.DOut (Option (Bytes × Nat)) :=
  match x with
  | .ok r => eofOut (r.1, r.2.1.toNat) r.2.2
  | .panic s => .panic s
  | .oob => .oob
  | .err e => nomatch e

/-! ## the GoSem primitives in range (conditional rewrite rules, side conditions by `omega`) -/

theorem idx_ok (b : Bytes) (i : Int) (h0 : 0 ≤ i) (h1 : i < (b.length : Int)) :
    GoSem.idx b i = .ok ((b.getD i.toNat 0).toNat : Int) := by
  have hlt : i.toNat < b.length := by omega
  simp [GoSem.idx, Int.not_lt.mpr h0, List.getD_eq_getElem?_getD, List.getElem?_eq_getElem hlt]

theorem idx_panic (b : Bytes) (i : Int) (h : (b.length : Int) ≤ i) : GoSem.idx b i = .panic "index" := by
  have hn : ¬ i < 0 := by omega
  have : b[i.toNat]? = none := List.getElem?_eq_none (by omega)
  simp [GoSem.idx, hn, this]

theorem tth_sliceFrom_panic (b : Bytes) (lo : Int) (h : lo < 0 ∨ lo > (b.length : Int)) :
    GoSem.sliceFrom b lo = .panic "slice" := by
  simp [GoSem.sliceFrom, len, h]

theorem sliceTo_ok (b : Bytes) (hi : Int) (h0 : 0 ≤ hi) (h1 : hi ≤ (b.length : Int)) :
    GoSem.sliceTo b hi = .ok (b.take hi.toNat) := by
  have hn : ¬ (hi < 0 ∨ hi > (b.length : Int)) := by omega
  simp [GoSem.sliceTo, len, hn]

theorem slice_panic_hi (b : Bytes) (lo hi : Int) (h : hi > (b.length : Int)) : GoSem.slice b lo hi = .panic "slice" := by
  simp [GoSem.slice, len, h]

/-- `go_step [facts]` is `simp only` with `facts` and the rules that run a translated `do` block as far as `facts`
    decide it: `bind`/`pure` of a call whose outcome is known, a guard whose condition has become `True`/`False`, `x ≠ nil`
    for a known error value. The rules for `bind` and `if` fire before `simp` enters the continuation or the dead
    branch, where nothing is known yet. -/
macro "go_step" " [" ls:Lean.Parser.Tactic.simpLemma,* "]" loc:(Lean.Parser.Tactic.location)? : tactic =>
  `(tactic| simp only [↓Out.bind_eq, ↓Out.pure_eq, ↓Out.bind_ok, ↓Out.bind_panic, Out.bind_ok, Out.bind_panic,
      ↓reduceIte, ne_eq, not_true_eq_false, not_false_eq_true, decide_true, decide_false, Bool.false_eq_true,
      reduceCtorEq, $ls,*] $[$loc]?)

theorem band_nat (t : IT) (ht : t.signed = false) (x y : Nat) (hx : x < 2 ^ t.bits) (hy : y < 2 ^ t.bits) :
    band t (x : Int) (y : Int) = ((x &&& y : Nat) : Int) := by
  have hx' : toU t.bits (x : Int) = x := toU_of_range (by omega) (Int.ofNat_lt.mpr hx)
  have hy' : toU t.bits (y : Int) = y := toU_of_range (by omega) (Int.ofNat_lt.mpr hy)
  have hle : x &&& y ≤ x := Nat.and_le_left
  simp only [band, hx', hy', Int.toNat_natCast, wrap, ht, Bool.false_and, Int.ofNat_eq_natCast]
  exact toU_of_range (by omega) (Int.ofNat_lt.mpr (by omega))

/-! ## the unchecked readers -/

theorem g_u32nc (b : Bytes) : Funcs.tth_Bytes2Uint32NoCheck b = beU32 b := by
  unfold Funcs.tth_Bytes2Uint32NoCheck
  cases beU32 b <;> rfl

theorem g_u16nc (b : Bytes) : Funcs.tth_Bytes2Uint16NoCheck b = beU16 b := by
  unfold Funcs.tth_Bytes2Uint16NoCheck
  cases beU16 b <;> rfl

theorem tth_Bytes2Uint32NoCheck_eq (b : Bytes) :
    liftN (Funcs.tth_Bytes2Uint32NoCheck b) = TTH.bytes2Uint32NoCheck b := by
  rw [g_u32nc]
  unfold beU32 TTH.bytes2Uint32NoCheck TTH.beU32
  split <;> simp [liftN]

theorem tth_Bytes2Uint16NoCheck_eq (b : Bytes) :
    liftN (Funcs.tth_Bytes2Uint16NoCheck b) = TTH.bytes2Uint16NoCheck b := by
  rw [g_u16nc]
  unfold beU16 TTH.bytes2Uint16NoCheck TTH.beU16
  split <;> simp [liftN]

/-! ## the checked readers (offset a Go `int`, length of a slice fits an `int`)

  Case splits are on the semantic conditions (`off < b.length`, `off + 2 ≤ b.length` …) as `Nat` facts; `go_simp`
  decides every guard of the translation (in wrapped int64, whatever its polarity or the side the constant is on)
  with `omega` from them. -/

theorem liftEof_ite (c : Prop) [Decidable c] (v : Int) :
    liftEof (.ok (if c then (v, GoErr.nil) else (0, GoErr.named "io.EOF"))) = .ok (if c then some v.toNat else none) := by
  split <;> simp [liftEof, eofOut]

theorem liftEofS_ite (c : Prop) [Decidable c] (s : Bytes) (n : Int) :
    liftEofS (.ok (if c then (s, n, GoErr.nil) else ([], 0, GoErr.named "io.EOF")))
      = .ok (if c then some (s, n.toNat) else none) := by
  split <;> simp [liftEofS, eofOut]

theorem g_u8 (b : Bytes) (off : Nat) (hb : b.length < 9223372036854775808) (ho : off < 9223372036854775808) :
    Funcs.tth_Bytes2Uint8 b (off : Int)
      = .ok (if off < b.length then (((b.getD off 0).toNat : Int), GoErr.nil) else (0, GoErr.named "io.EOF")) := by
  unfold Funcs.tth_Bytes2Uint8
  by_cases h : off < b.length
  · go_simp [wrap_i64_of_range, idx_ok, h]
  · go_simp [wrap_i64_of_range, h]

theorem m_u8 (b : Bytes) (off : Nat) :
    TTH.bytes2Uint8 b off = .ok (if off < b.length then some (b.getD off 0).toNat else none) := by
  unfold TTH.bytes2Uint8 TTH.index
  by_cases h : off < b.length
  · have h' : ¬ (b.length : Int) - (off : Int) < 1 := by omega
    simp [h, h', List.getD_eq_getElem?_getD]
  · have h' : (b.length : Int) - (off : Int) < 1 := by omega
    simp [h, h']

theorem tth_Bytes2Uint8_eq (b : Bytes) (off : Nat)
    (hb : b.length < 9223372036854775808) (ho : off < 9223372036854775808) :
    liftEof (Funcs.tth_Bytes2Uint8 b (off : Int)) = TTH.bytes2Uint8 b off := by
  rw [g_u8 b off hb ho, m_u8, liftEof_ite, Int.toNat_natCast]

theorem g_u16 (b : Bytes) (off : Nat) (hb : b.length < 9223372036854775808) (ho : off < 9223372036854775808) :
    Funcs.tth_Bytes2Uint16 b (off : Int)
      = .ok (if off + 2 ≤ b.length then ((rd16 (b.drop off) : Int), GoErr.nil) else (0, GoErr.named "io.EOF")) := by
  unfold Funcs.tth_Bytes2Uint16
  by_cases h : off + 2 ≤ b.length
  · have q : GoSem.sliceFrom b (off : Int) = .ok (b.drop off) := by
      rw [sliceFrom_ok b off (by omega) (by omega), Int.toNat_natCast]
    have r := beU16_ok (b.drop off) (by rw [List.length_drop]; omega)
    go_simp [wrap_i64_of_range, ↓Out.bind_of_ok q, ↓Out.bind_of_ok r, h]
  · go_simp [wrap_i64_of_range, h]

theorem m_u16 (b : Bytes) (off : Nat) :
    TTH.bytes2Uint16 b off = .ok (if off + 2 ≤ b.length then some (rd16 (b.drop off)) else none) := by
  unfold TTH.bytes2Uint16 TTH.sliceFrom TTH.beU16
  by_cases h : off + 2 ≤ b.length
  · have h' : ¬ (b.length : Int) - (off : Int) < 2 := by omega
    have h1 : ¬ off > b.length := by omega
    have h2 : ¬ b.length - off < 2 := by omega
    simp [h, h', h1, h2]
  · have h' : (b.length : Int) - (off : Int) < 2 := by omega
    simp [h, h']

theorem tth_Bytes2Uint16_eq (b : Bytes) (off : Nat)
    (hb : b.length < 9223372036854775808) (ho : off < 9223372036854775808) :
    liftEof (Funcs.tth_Bytes2Uint16 b (off : Int)) = TTH.bytes2Uint16 b off := by
  rw [g_u16 b off hb ho, m_u16, liftEof_ite, Int.toNat_natCast]

def strAt (b : Bytes) (off : Nat) : Bytes := (b.drop (off + 2)).take (rd16 (b.drop off))
def strFits (b : Bytes) (off : Nat) : Prop := off + 2 + rd16 (b.drop off) ≤ b.length
instance (b : Bytes) (off : Nat) : Decidable (strFits b off) :=
  inferInstanceAs (Decidable (off + 2 + rd16 (b.drop off) ≤ b.length))

theorem g_s2 (b : Bytes) (off : Nat) (hb : b.length < 9223372036854775808) (ho : off < 9223372036854775808) :
    Funcs.tth_ReadString2BLen b (off : Int)
      = .ok (if strFits b off then (strAt b off, ((rd16 (b.drop off) + 2 : Nat) : Int), GoErr.nil)
             else (([] : Bytes), 0, GoErr.named "io.EOF")) := by
  unfold Funcs.tth_ReadString2BLen strFits strAt
  have r := g_u16 b off hb ho
  have hr := rd16_lt (b.drop off)
  by_cases h : off + 2 ≤ b.length
  · rw [if_pos h] at r
    by_cases hs : off + 2 + rd16 (b.drop off) ≤ b.length
    · go_simp [↓Out.bind_of_ok r, wrap_i64_of_range, slice_ok, hs]
      congr 1 <;> omega
    · go_simp [↓Out.bind_of_ok r, wrap_i64_of_range, hs]
  · have hs : ¬ off + 2 + rd16 (b.drop off) ≤ b.length := by omega
    rw [if_neg h] at r
    go_simp [↓Out.bind_of_ok r, hs]

theorem m_s2 (b : Bytes) (off : Nat) :
    TTH.readString2BLen b off
      = .ok (if strFits b off then some (strAt b off, rd16 (b.drop off) + 2) else none) := by
  unfold TTH.readString2BLen TTH.slice strFits strAt
  rw [m_u16]
  by_cases h : off + 2 ≤ b.length
  · by_cases hs : off + 2 + rd16 (b.drop off) ≤ b.length
    · have h' : ¬ (b.length : Int) - ((off : Int) + 2) < (rd16 (b.drop off) : Int) := by omega
      have h1 : ¬ off + 2 + rd16 (b.drop off) > b.length := by omega
      have h2 : ¬ off + 2 > off + 2 + rd16 (b.drop off) := by omega
      simp [h, hs, h', h1, h2]
    · have h' : (b.length : Int) - ((off : Int) + 2) < (rd16 (b.drop off) : Int) := by omega
      simp [h, hs, h']
  · have hs : ¬ off + 2 + rd16 (b.drop off) ≤ b.length := by omega
    simp [h, hs]

theorem tth_ReadString2BLen_eq (b : Bytes) (off : Nat)
    (hb : b.length < 9223372036854775808) (ho : off < 9223372036854775808) :
    liftEofS (Funcs.tth_ReadString2BLen b (off : Int)) = TTH.readString2BLen b off := by
  rw [g_s2 b off hb ho, m_s2, liftEofS_ite, Int.toNat_natCast]

/-! ## the header predicates -/

theorem g_isStreaming (b : Bytes) :
    Funcs.tth_IsStreaming b
      = .ok (decide (8 ≤ b.length ∧ rd16 (b.drop 4) = 4096 ∧ rd16 (b.drop 6) &&& 2 ≠ 0)) := by
  unfold Funcs.tth_IsStreaming
  by_cases h : 8 ≤ b.length
  · have q4 : GoSem.sliceFrom b 4 = .ok (b.drop 4) := sliceFrom_ok b 4 (by omega) (by omega)
    have r4 := beU16_ok (b.drop 4) (by rw [List.length_drop]; omega)
    have q6 : GoSem.sliceFrom b 6 = .ok (b.drop 6) := sliceFrom_ok b 6 (by omega) (by omega)
    have r6 := beU16_ok (b.drop 6) (by rw [List.length_drop]; omega)
    have hb : band .u16 ((rd16 (b.drop 6) : Nat) : Int) 2 = ((rd16 (b.drop 6) &&& 2 : Nat) : Int) :=
      band_nat .u16 rfl (rd16 (b.drop 6)) 2 (rd16_lt _) (by decide)
    by_cases hm : rd16 (b.drop 4) = 4096
    · by_cases hz : rd16 (b.drop 6) &&& 2 = 0 <;>
      go_simp [h, hm, hb, hz, ↓Out.bind_of_ok q4, ↓Out.bind_of_ok r4, ↓Out.bind_of_ok q6, ↓Out.bind_of_ok r6]
    · go_simp [h, hm, ↓Out.bind_of_ok q4, ↓Out.bind_of_ok r4]
  · go_simp [h]

theorem m_isStreaming (b : Bytes) :
    TTH.isStreaming b = .ok (decide (8 ≤ b.length ∧ rd16 (b.drop 4) = 4096 ∧ rd16 (b.drop 6) &&& 2 ≠ 0)) := by
  unfold TTH.isStreaming TTH.sliceFrom TTH.beU16
  simp only [Facts.ttSize32, Facts.ttSize16, Facts.ttMagic, Facts.ttFlagsStreaming]
  by_cases h : 8 ≤ b.length
  · have h1 : ¬ b.length < 8 := by omega
    have h2 : ¬ 4 > b.length := by omega
    have h3 : ¬ b.length - 4 < 2 := by omega
    have h4 : ¬ 4 + 2 > b.length := by omega
    have h5 : ¬ b.length - (4 + 2) < 2 := by omega
    by_cases hm : rd16 (b.drop 4) = 4096
    · by_cases hz : rd16 (b.drop 6) &&& 2 = 0 <;> simp [h, h1, h2, h3, h4, h5, hm, hz]
    · simp [h, h1, h2, h3, hm]
  · have h1 : b.length < 8 := by omega
    simp [h, h1]

theorem tth_IsStreaming_eq (b : Bytes) :
    liftB (Funcs.tth_IsStreaming b) = TTH.isStreaming b := by
  rw [g_isStreaming, m_isStreaming]
  rfl

/-- IsTTHeader on any buffer: `flagBuf[4:]` panics below 4 bytes, `Uint32` of it below 8 -/
theorem g_isTTH (b : Bytes) :
    Funcs.tth_IsTTHeader b =
      if b.length < 4 then .panic "slice" else if b.length < 8 then .panic "index"
      else .ok (decide (rd32 (b.drop 4) &&& 4294901760 = 268435456)) := by
  unfold Funcs.tth_IsTTHeader
  by_cases h : b.length < 4
  · go_simp [tth_sliceFrom_panic, h]
  · by_cases k : b.length < 8
    · go_simp [sliceFrom_ok, beU32, h, k]
    · have hb : band .u32 ((rd32 (b.drop 4) : Nat) : Int) 4294901760
          = ((rd32 (b.drop 4) &&& 4294901760 : Nat) : Int) :=
        band_nat .u32 rfl (rd32 (b.drop 4)) 4294901760 (rd32_lt _) (by decide)
      have hc : (((rd32 (b.drop 4) &&& 4294901760 : Nat) : Int) = 268435456)
          = (rd32 (b.drop 4) &&& 4294901760 = 268435456) := by simp only [eq_iff_iff]; omega
      go_simp [sliceFrom_ok, beU32, h, k, hb, hc]

theorem m_isTTH (b : Bytes) :
    TTH.isTTHeader b =
      if b.length < 4 then .panic "slice" else if b.length < 8 then .panic "index"
      else .ok (decide (rd32 (b.drop 4) &&& 4294901760 = 268435456)) := by
  unfold TTH.isTTHeader TTH.sliceFrom TTH.beU32
  simp only [Facts.ttSize32, Facts.ttMagicMask, Facts.ttMagic]
  by_cases h : b.length < 4
  · simp [h]
  · by_cases k : b.length < 8
    · have k' : b.length - 4 < 4 := by omega
      simp [h, k, k']
    · have k' : ¬ b.length - 4 < 4 := by omega
      simp only [h, k, k', List.length_drop, if_false, Out.bind_ok]
      rfl

theorem tth_IsTTHeader_eq (b : Bytes) :
    liftB (Funcs.tth_IsTTHeader b) = TTH.isTTHeader b := by
  rw [g_isTTH, m_isTTH]
  split
  · rfl
  · split <;> rfl

/-! ## the generated functions compute (non-vacuity) -/

example : Funcs.tth_Bytes2Uint32NoCheck [1, 2, 3, 4] = .ok 16909060 := by decide +kernel
example : Funcs.tth_Bytes2Uint16NoCheck [1] = .panic "index" := by decide +kernel
example : Funcs.tth_Bytes2Uint8 [7, 9] 1 = .ok (9, GoErr.nil) := by decide +kernel
example : Funcs.tth_Bytes2Uint8 [7, 9] 2 = .ok (0, GoErr.named "io.EOF") := by decide +kernel
example : Funcs.tth_Bytes2Uint16 [0, 1, 2] 1 = .ok (258, GoErr.nil) := by decide +kernel
example : Funcs.tth_ReadString2BLen [0, 3, 104, 105] 0 = .ok ([], 0, GoErr.named "io.EOF") := by decide +kernel
example : Funcs.tth_ReadString2BLen [0, 3, 104, 105] 0 = .ok (([] : Bytes), 0, GoErr.named "io.EOF") := by decide +kernel
example : Funcs.tth_ReadString2BLen [0] 0 = .ok (([] : Bytes), 0, GoErr.named "io.EOF") := by decide +kernel
example : Funcs.tth_IsStreaming [0, 0, 0, 0, 16, 0, 0, 2] = .ok true := by decide +kernel
example : Funcs.tth_IsStreaming [0, 0, 0, 0, 16, 0, 0, 1] = .ok false := by decide +kernel
example : Funcs.tth_IsTTHeader [0, 0, 0, 0, 16, 0, 0, 2] = .ok true := by decide +kernel
example : Funcs.tth_IsTTHeader [0, 0, 0] = .panic "slice" := by decide +kernel
example : Funcs.tth_IsTTHeader [0, 0, 0, 0, 16, 0] = .panic "index" := by decide +kernel

end Verif.FuncsEq
