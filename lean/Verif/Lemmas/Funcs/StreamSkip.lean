/-
  Lemmas/Funcs/StreamSkip: `(*BufferReader).Skip` / `skipType` (self-recursive, three `for` loops) / `skipstr` / `skipn` / `next`
  TRANSLATED from protocol/thrift/bufferreader.go (`Verif.Funcs.BR_Skip`, `BR_skipType[_loop1/2/3]`, `BR_skipstr`, `BR_skipn`,
  `BR_next` over an abstract `bufiox.Reader` `ReaderI ρ`: generated) instantiated at the reader MODEL `iOfRd … : ReaderI Rd`
  (Lemmas/Funcs/RdI.lean) ARE the hand-written stream skipper of Model/SkipStream.lean (`skipBR`, `skipBRAt`, `brSkipStr`,
  `brSkipn`, `brNext`; loops `brMapLoop`, `brListLoop`, `brStructLoop`).

    BR_Skip_eq : Inv r → |remaining r| + ri + 2^35 ≤ 2^63 → |remaining r| + 66 ≤ fuel →
        liftBR N.absE (Funcs.BR_Skip (iOfRd (fun e => N.errOf (.raw e))) fuel r (toI8 t.toNat)) = skipBR t r

  * the lift `liftBR` carries the final reader state, sends a returned Go error to the model error (`N.absE`) — the model
    drops the reader state next to an error, so does the lift — and carries panics / oob over with their kind.
  * errors: an `ErrNaming` `N` (Lemmas/Funcs/TplG.lean) that names a WRAPPED reader error as `GoSem.wrapErr` does
    (`hw : wrapErr (N.errOf (.raw e)) = N.errOf (.wrap e)`); `stdNaming` is one (`BR_Skip_eq_std`).
  * `BR_next`, `BR_skipn`, `BR_skipstr` need NO hypothesis on the reader: the model mirrors the Go methods case by case
    (`fail none` = `(nil, nil)` goes on with a nil slice on both sides, the reader model's `nofuel` is `panic "nofuel"` on both).
  * fuel: the translation has ONE fuel for the recursion and for its three loops; the model's STRUCT loop has its own
    (`r.avail + 1`) and its counted loops run `sz < 2^31` times.  The two sides agree because every successful step CONSUMES:
    under the reader invariant `Inv` and with requests in the range `Rd.Small` in which the reader model is well behaved, a
    successful `Next(n)` / `Skip(n)` (n ≤ 2^35, the largest request `skipType` makes: `(2^31 - 1) * 16`) lowers
    `|remaining|` by exactly n and never returns `(nil, nil)`  (`rd_meas`, from `next_cases` / `skip_cases` of
    Lemmas/ReaderOps).  Then every successful `skipBRAt` consumes ≥ 1 (`skipBRAt_dec`), every loop runs at most `|remaining|`
    times, and `|remaining| + depth + 2` is enough fuel (the proof is over an abstract measure `RMeas μ P`).

  Theorems: `BR_skipstr_eq`, `BR_skipType_eq` (every depth), `BR_Skip_eq`, `BR_Skip_eq_std` at top level; `SSkip.BR_next_eq`,
  `SSkip.BR_skipn_eq` (`BR_next_eq` / `BR_skipn_eq` of Lemmas/Funcs/StreamR.lean state the same through that file's lifts); every helper
  lives in the namespace `Verif.FuncsEq.SSkip`.

  The outcome relations `BSim` / `VSim` / `FSim` / `LSim` / `LSim3` are instances of `OSim` (Lemmas/Funcs/TplG.lean) and
  every call is taken with its continuation by `OSim.bind`; "the model consumes" is `Tpl.SUses`.  The loop lemmas
  (`cloop_sim`, `sloop_sim`) are about ANY function satisfying the loop's step equation (see "the generated loops,
  abstractly" below); the container headers are rules with the rest of the function as a variable (`mapBegin_bind`,
  `listBegin_bind`); the if-chains are resolved by semantic case splits, the Go tests on the `int8` type turned into the
  model's tests on the byte (any clause order); size products up to commutativity.
-/
import Verif.Lemmas.Funcs.Tpl
import Verif.Lemmas.Funcs.RdI
set_option linter.unusedSimpArgs false
set_option linter.unusedVariables false
namespace Verif.FuncsEq
open Verif Verif.GoSem

/-- result `(r, err)` of a translated `BufferReader` method without a value, as the model's `RM Unit` outcome: the reader
    state is carried, a non-nil Go error is the model error `absE err` (the model keeps no state next to an error) -/
def liftBR (absE : GoErr → TErr) (x : GM (Rd × GoErr)) : TOut (Unit × Rd) :=
  match x with
  | .ok r => if r.2 = GoErr.nil then .ok ((), r.1) else .err (absE r.2)
  | .panic s => .panic s
  | .oob => .oob
  | .err e => nomatch e

namespace SSkip

/-- result `(r, v, err)` of a translated `BufferReader` method with a value, as the model's `RM α` outcome -/
def liftBRv {α : Type} (absE : GoErr → TErr) (x : GM (Rd × α × GoErr)) : TOut (α × Rd) :=
  match x with
  | .ok r => if r.2.2 = GoErr.nil then .ok (r.2.1, r.1) else .err (absE r.2.2)
  | .panic s => .panic s
  | .oob => .oob
  | .err e => nomatch e

/-- the reader interface value the theorems are about: a raw reader error `e` is the Go value `N.errOf (.raw e)` -/
abbrev rdI (N : ErrNaming) : ReaderI Rd := iOfRd (fun e => N.errOf (.raw e))

/-- `N` names a wrapped reader error as `NewProtocolExceptionWithErr` (`GoSem.wrapErr`) renders it -/
def WrapOK (N : ErrNaming) : Prop := ∀ e : RErr, wrapErr (N.errOf (.raw e)) = N.errOf (.wrap e)

theorem wrapOK_std : WrapOK stdNaming := fun _ => rfl

abbrev BSim (N : ErrNaming) : GM (Rd × GoErr) → TOut (Unit × Rd) → Prop :=
  OSim N (fun t => t.2) (fun t b => b = ((), t.1))

abbrev VSim {α : Type} (N : ErrNaming) : GM (Rd × α × GoErr) → TOut (α × Rd) → Prop :=
  OSim N (fun t => t.2.2) (fun t b => b = (t.2.1, t.1))

theorem BSim.lift {N : ErrNaming} {x : GM (Rd × GoErr)} {y : TOut (Unit × Rd)} (h : BSim N x y) :
    liftBR N.absE x = y := by
  cases h <;> simp_all [liftBR]

theorem VSim.lift {α : Type} {N : ErrNaming} {x : GM (Rd × α × GoErr)} {y : TOut (α × Rd)} (h : VSim N x y) :
    liftBRv N.absE x = y := by
  cases h <;> simp_all [liftBRv]

/-! ## `next`, `skipn`, `ReadI32`, `skipstr`: no hypothesis on the reader -/

theorem next_sim (N : ErrNaming) (hw : WrapOK N) (r : Rd) (n : Int) :
    VSim N (Funcs.BR_next (rdI N) r n) (brNext n r) := by
  unfold Funcs.BR_next brNext
  simp only [rdI, iOfRd]
  generalize r.next n = x
  obtain ⟨res, r'⟩ := x
  cases res with
  | ok b => simp [resI]; exact .ok _ _ rfl rfl
  | fail e =>
    cases e with
    | none => simp [resI]; exact .ok _ _ rfl rfl
    | some e =>
      simp [resI, N.ne_nil, hw e]
      exact .named _ _ rfl
  | nofuel => exact .panic _

theorem skipn_sim (N : ErrNaming) (hw : WrapOK N) (r : Rd) (n : Int) :
    BSim N (Funcs.BR_skipn (rdI N) r n) (brSkipn n r) := by
  unfold Funcs.BR_skipn brSkipn
  by_cases hn : n < 0
  · simp only [hn, decide_true, if_true, Out.pure_eq]
    exact .perr _ _ _ rfl
  · simp only [hn, decide_false, if_false, Bool.false_eq_true, rdI, iOfRd]
    generalize r.skip n = x
    obtain ⟨res, r'⟩ := x
    cases res with
    | ok b => simp; exact .ok _ _ rfl rfl
    | fail e =>
      cases e with
      | none => simp; exact .ok _ _ rfl rfl
      | some e =>
        simp [N.ne_nil, hw e]
        exact .named _ _ rfl
    | nofuel => exact .panic _

theorem readI32_sim (N : ErrNaming) (hw : WrapOK N) (r : Rd) :
    VSim N (Funcs.BR_ReadI32 (rdI N) r) (brReadI32 r) := by
  unfold Funcs.BR_ReadI32 brReadI32
  simp only [Out.bind_eq, Out.pure_eq]
  refine (next_sim N hw r 4).bind (fun t y he hq _ => ?_)
  obtain ⟨r1, b, e⟩ := t
  simp only at he hq
  subst he hq
  refine (Tpl.beU32_osim N b).bind (fun a v _ hq _ => ?_) (fun _ h => absurd rfl h)
  obtain ⟨rfl, hlt⟩ := hq
  simp only [wrap_i32_nat _ hlt]
  exact .ok _ _ rfl rfl

theorem skipstr_sim (N : ErrNaming) (hw : WrapOK N) (r : Rd) :
    BSim N (Funcs.BR_skipstr (rdI N) r) (brSkipStr r) := by
  unfold Funcs.BR_skipstr brSkipStr
  simp only [Out.bind_eq]
  refine (readI32_sim N hw r).bind (fun t b he hq _ => ?_)
  subst hq
  simp only [he, ne_eq, not_true_eq_false, decide_false, if_false, Bool.false_eq_true, Out.pure_eq, bind_ok_eta]
  exact skipn_sim N hw t.1 t.2.1


/-! ## the generated loops, abstractly

  The loop functions the translator generates change their SIGNATURE when the Go source is refactored harmlessly (a counter
  that runs down needs no bound parameter, a hoisted `maxdepth-1` is passed instead of `maxdepth`).  The loop lemmas are
  therefore stated about ANY function `L` that satisfies the loop's step equation (what one iteration does to the state:
  element(s), early return on error, counter step), with the counter described by the number of iterations that REMAIN
  (`Counter`: count-up `j < sz, j++` and count-down `left > 0, left--` are two instances).  At the use site `L` is found by
  unification and the step equation is proved by unfolding the generated function and bringing both sides to one normal
  form. -/

/-- the element step that the translated loops inline: fixed size, `skipstr`, or the recursive call at depth `dep` -/
def elemB {ρ : Type} (I : ReaderI ρ) (rec : ρ → Int → Int → GM (ρ × GoErr)) (dep t sz : Int) (r : ρ) : GM (ρ × GoErr) :=
  if sz > 0 then Funcs.BR_skipn I r sz
  else if t = 11 then Funcs.BR_skipstr I r
  else rec r t dep

/-- the field value step of the STRUCT loop: fixed size or the recursive call -/
def elemF {ρ : Type} (I : ReaderI ρ) (rec : ρ → Int → Int → GM (ρ × GoErr)) (dep t sz : Int) (r : ρ) : GM (ρ × GoErr) :=
  if sz > 0 then Funcs.BR_skipn I r sz else rec r t dep

/-- a loop counter: on the values `J` it takes, the loop goes on (`cont`) iff iterations remain, and the step `next` lowers
    the number `left` of remaining iterations by one -/
structure Counter (J : Int → Prop) (cont : Int → Prop) (next : Int → Int) (left : Int → Nat) : Prop where
  cont_iff : ∀ j, J j → (cont j ↔ 0 < left j)
  step : ∀ j, J j → 0 < left j → J (next j) ∧ left (next j) + 1 = left j

/-- `for j := 0; j < sz; j++` -/
theorem counter_up (sz : Nat) (hsz : sz < 2 ^ 31) :
    Counter (fun j => 0 ≤ j ∧ j ≤ (sz : Int)) (fun j => j < (sz : Int)) (fun j => wrap .i64 (j + 1))
      (fun j => ((sz : Int) - j).toNat) := by
  constructor
  · intro j hj; omega
  · intro j hj hl
    rw [wrap_i64_of_range _ (by omega) (by omega)]; omega

/-- `for left := sz; left > 0; left--` -/
theorem counter_down (sz : Nat) (hsz : sz < 2 ^ 31) :
    Counter (fun j => 0 ≤ j ∧ j ≤ (sz : Int)) (fun j => j > 0) (fun j => wrap .i64 (j - 1)) (fun j => j.toNat) := by
  constructor
  · intro j hj; omega
  · intro j hj hl
    rw [wrap_i64_of_range _ (by omega) (by omega)]; omega

theorem wrap_mul_small' (a b : Int) (ha0 : 0 ≤ a) (ha : a < 2147483648) (hb0 : 0 ≤ b) (hb : b ≤ 16) :
    wrap .i64 (b * a) = b * a := by
  rw [Int.mul_comm]; exact Tpl.wrap_mul_small a b ha0 ha hb0 hb

/-! ## the model consumes: a measure of what the reader still owes -/

/-- under the reader invariant `P`, a request `0 ≤ n ≤ 2^35` to `Next` / `Skip` either succeeds and lowers the measure by
    at least `n` (keeping `P`), or fails with a NON-nil error (never `(nil, nil)`, never the model's own `nofuel`);
    the measure is at most what the model's STRUCT loop takes as its fuel -/
structure RMeas (μ : Rd → Nat) (P : Rd → Prop) : Prop where
  next : ∀ r (n : Int), P r → 0 ≤ n → n ≤ 34359738368 →
    (∃ b r', r.next n = (.ok b, r') ∧ P r' ∧ μ r' + n.toNat ≤ μ r) ∨ (∃ e r', r.next n = (.fail (some e), r'))
  skip : ∀ r (n : Int), P r → 0 ≤ n → n ≤ 34359738368 →
    (∃ b r', r.skip n = (.ok b, r') ∧ P r' ∧ μ r' + n.toNat ≤ μ r) ∨ (∃ e r', r.skip n = (.fail (some e), r'))
  le_avail : ∀ r, P r → μ r ≤ r.avail

section dec
variable {μ : Rd → Nat} {P : Rd → Prop}

theorem brNext_uses (hM : RMeas μ P) (k : Nat) {r : Rd} (hp : P r) (hk : k ≤ 34359738368) :
    Tpl.SUses μ P (μ r) k (brNext (k : Int) r) := by
  intro b h
  rcases hM.next r k hp (by omega) (by omega) with ⟨b1, r1, hx, hp1, hd⟩ | ⟨e, r1, hx⟩
  · simp only [brNext, hx, Out.ok.injEq] at h
    subst h; exact ⟨hp1, hd⟩
  · simp [brNext, hx] at h

theorem brSkipn_uses (hM : RMeas μ P) {r : Rd} {n : Int} (hp : P r) (hn : n ≤ 34359738368) :
    Tpl.SUses μ P (μ r) n.toNat (brSkipn n r) := by
  intro b h
  by_cases hn0 : n < 0
  · simp [brSkipn, hn0] at h
  · rcases hM.skip r n hp (by omega) hn with ⟨b1, r1, hx, hp1, hd⟩ | ⟨e, r1, hx⟩
    · simp only [brSkipn, hn0, if_false, hx, Out.ok.injEq] at h
      subst h; exact ⟨hp1, hd⟩
    · simp [brSkipn, hn0, hx] at h

theorem u32of_lt {b : Bytes} {v : Nat} (h : u32of b = .ok v) : v < 4294967296 := by
  unfold u32of at h
  split at h
  · cases h; exact rd32_lt b
  · cases h

theorem brSkipStr_uses (hM : RMeas μ P) {r : Rd} (hp : P r) : Tpl.SUses μ P (μ r) 4 (brSkipStr r) := by
  unfold brSkipStr brReadI32
  simp only [Out.bind_eq, Out.pure_eq, Out.bind_assoc, Out.bind_ok]
  refine (brNext_uses hM 4 hp (by omega)).bind fun b r1 _ hp1 hd1 => ?_
  refine .pure_bind fun v hv => ?_
  have := toI32_range v (u32of_lt hv)
  exact (brSkipn_uses hM hp1 (by omega)).mono (by omega)

/-- what the loops need of the model's recursive call: a successful call consumes -/
def RecDec (μ : Rd → Nat) (P : Rd → Prop) (rec' : UInt8 → RM Unit) : Prop :=
  ∀ t r, P r → Tpl.SUses μ P (μ r) 1 (rec' t r)

variable {rec' : UInt8 → RM Unit}

theorem brElem_uses (hM : RMeas μ P) (hrec : RecDec μ P rec') (t : UInt8) (sz : Int) (hsz : sz ≤ 8) {r : Rd} (hp : P r) :
    Tpl.SUses μ P (μ r) 1 (brElem rec' t sz r) :=
  .ite (fun _ => (brSkipn_uses hM hp (by omega)).mono (by omega)) fun _ =>
    .ite (fun _ => (brSkipStr_uses hM hp).mono (by omega)) fun _ => hrec t r hp

def brKV (rec' : UInt8 → RM Unit) (kt vt : UInt8) (ksz vsz : Int) : RM Unit := fun r =>
  (brElem rec' kt ksz r).bind fun a => brElem rec' vt vsz a.2

theorem brKV_uses (hM : RMeas μ P) (hrec : RecDec μ P rec') (kt vt : UInt8) (ksz vsz : Int) (hk : ksz ≤ 8) (hv : vsz ≤ 8)
    {r : Rd} (hp : P r) : Tpl.SUses μ P (μ r) 1 (brKV rec' kt vt ksz vsz r) :=
  (brElem_uses hM hrec kt ksz hk hp).bind fun _ r1 _ hp1 hd1 => (brElem_uses hM hrec vt vsz hv hp1).mono (by omega)

theorem brMapLoop_eq (rec' : UInt8 → RM Unit) (kt vt : UInt8) (ksz vsz : Int) (cnt : Nat) (r : Rd) :
    brMapLoop rec' kt vt ksz vsz (cnt + 1) r =
      (brKV rec' kt vt ksz vsz r).bind fun a => brMapLoop rec' kt vt ksz vsz cnt a.2 := by
  simp only [brMapLoop, brKV, Out.bind_eq, Out.bind_assoc]

theorem brListLoop_eq (rec' : UInt8 → RM Unit) (vt : UInt8) (cnt : Nat) (r : Rd) :
    brListLoop rec' vt (cnt + 1) r =
      (brElem rec' vt 0 r).bind fun a => brListLoop rec' vt cnt a.2 := by
  simp only [brListLoop, brElem, Out.bind_eq, gt_iff_lt, Int.lt_irrefl, if_false]

theorem cloop_uses {body' : RM Unit} (hb : ∀ r, P r → Tpl.SUses μ P (μ r) 1 (body' r)) {M : Nat → RM Unit}
    (h0 : ∀ r, M 0 r = .ok ((), r)) (hs : ∀ cnt r, M (cnt + 1) r = (body' r).bind fun a => M cnt a.2) :
    ∀ cnt r, P r → Tpl.SUses μ P (μ r) 0 (M cnt r) := by
  intro cnt
  induction cnt with
  | zero => intro r hp; rw [h0]; exact .ok hp (Nat.le_refl _)
  | succ cnt ih =>
    intro r hp
    rw [hs]
    exact (hb r hp).bind fun _ r1 _ hp1 hd1 => (ih r1 hp1).mono (by omega)

theorem brFieldBegin_uses (hM : RMeas μ P) {r : Rd} (hp : P r) : Tpl.SUses μ P (μ r) 1 (brFieldBegin r) :=
  (brNext_uses hM 1 hp (by omega)).bind fun b r1 _ hp1 hd1 => .pure_bind fun tp _ =>
    .ite (fun _ => Tpl.SUses.ok hp1 hd1) fun _ => (brNext_uses hM 2 hp1 (by omega)).bind fun _ r2 _ hp2 hd2 =>
      .pure_bind fun _ _ => Tpl.SUses.ok hp2 (by omega)

theorem brStructLoop_uses (hM : RMeas μ P) (hrec : RecDec μ P rec') :
    ∀ fuel r, P r → Tpl.SUses μ P (μ r) 1 (brStructLoop rec' fuel r) := by
  intro fuel
  induction fuel with
  | zero => intro r _ _ h; cases h
  | succ fuel ih =>
    intro r hp
    simp only [brStructLoop, typeSize_eq, Out.bind_eq, Out.bind_ok]
    refine (brFieldBegin_uses hM hp).bind fun ft r1 _ hp1 hd1 => .ite (fun _ => Tpl.SUses.ok hp1 hd1) fun _ => ?_
    have hle := fixedSize_le ft
    have h2 : Tpl.SUses μ P (μ r1) 0 (if ((fixedSize ft : Nat) : Int) > 0 then brSkipn (fixedSize ft : Nat) r1 else rec' ft r1) :=
      .ite (fun _ => (brSkipn_uses hM hp1 (by omega)).mono (by omega)) fun _ => (hrec ft r1 hp1).mono (by omega)
    exact h2.bind fun _ r2 _ hp2 hd2 => (ih r2 hp2).mono (by omega)

theorem size_lt {sz : Nat} (hlt : sz < 4294967296) (hn : ¬ toI32 sz < 0) : sz < 2 ^ 31 := by
  have hi := toI32_neg_iff sz hlt
  by_cases hv : sz < 2147483648
  · exact hv
  · exact absurd (hi.mpr hv) hn

theorem count_mul_le {b : Bytes} {v : Nat} (h : u32of b = .ok v) (hn : ¬ toI32 v < 0) (a : Nat) (ha : a ≤ 16) :
    (v : Int) * (a : Int) ≤ 34359738368 := by
  have := Nat.mul_le_mul (Nat.le_of_lt (size_lt (u32of_lt h) hn)) ha
  rw [← Int.natCast_mul]; omega

/-- every successful `skipType` of the model consumes at least one unit of the measure (and keeps the invariant) -/
theorem skipBRAt_dec (hM : RMeas μ P) : ∀ d, RecDec μ P (skipBRAt d) := by
  intro d
  induction d with
  | zero => intro t r _; exact .err _
  | succ d ih =>
    intro t r hp
    simp only [skipBRAt, typeSize_eq, Out.bind_eq, Out.bind_ok]
    have hle := fixedSize_le t
    refine .ite (fun _ => (brSkipn_uses hM hp (by omega)).mono (by omega)) fun _ =>
      .ite (fun _ => (brSkipStr_uses hM hp).mono (by omega)) fun _ => .ite (fun _ => ?map) fun _ =>
      .ite (fun _ => ?list) fun _ => .ite (fun _ => brStructLoop_uses hM ih _ r hp) fun _ => .err _
    case map =>
      refine (brNext_uses hM 6 hp (by omega)).bind fun b r1 _ hp1 hd1 => .pure_bind fun kt _ => .pure_bind fun vt _ =>
        .pure_bind fun v hv => .ite (fun _ => .err _) fun hn => ?_
      have hk := fixedSize_le kt
      have hv8 := fixedSize_le vt
      refine .ite (fun _ => ?_) fun _ => (cloop_uses (fun r hp => brKV_uses hM ih kt vt _ _ (by omega) (by omega) hp)
        (fun _ => rfl) (brMapLoop_eq _ kt vt _ _) v r1 hp1).mono (by omega)
      have := count_mul_le hv hn (fixedSize kt + fixedSize vt) (by omega)
      exact (brSkipn_uses hM hp1 (by rw [← Int.natCast_add]; exact this)).mono (by omega)
    case list =>
      refine (brNext_uses hM 5 hp (by omega)).bind fun b r1 _ hp1 hd1 => .pure_bind fun vt _ =>
        .pure_bind fun v hv => .ite (fun _ => .err _) fun hn => ?_
      have hv8 := fixedSize_le vt
      refine .ite (fun _ => ?_) fun _ => (cloop_uses (fun r hp => brElem_uses hM ih vt 0 (by omega) hp) (fun _ => rfl)
        (brListLoop_eq _ vt) v r1 hp1).mono (by omega)
      exact (brSkipn_uses hM hp1 (count_mul_le hv hn _ (by omega))).mono (by omega)

end dec

/-! ## elements and loops under a hypothesis on the recursive call -/

/-- what the loops assume about the recursive call `rec` (translation, at the Go depth `dep`) and `rec'` (model): they agree
    on every reader state within the measure bound for which the fuel was chosen, and a successful call consumes -/
structure RecOK (N : ErrNaming) (μ : Rd → Nat) (P : Rd → Prop) (rec : Rd → Int → Int → GM (Rd × GoErr))
    (rec' : UInt8 → RM Unit) (dep : Int) (bound : Nat) : Prop where
  sim : ∀ r t, P r → μ r ≤ bound → BSim N (rec r (toI8 t.toNat) dep) (rec' t r)
  dec : RecDec μ P rec'

section sim
variable {N : ErrNaming} {μ : Rd → Nat} {P : Rd → Prop} {rec : Rd → Int → Int → GM (Rd × GoErr)}
  {rec' : UInt8 → RM Unit} {dep : Int} {bound : Nat}

theorem elem_sim (hw : WrapOK N) (H : RecOK N μ P rec rec' dep bound) (t : UInt8) (sz : Int) (r : Rd) (hp : P r)
    (hb : μ r ≤ bound) :
    BSim N (elemB (rdI N) rec dep (toI8 t.toNat) sz r) (brElem rec' t sz r) := by
  unfold elemB brElem
  by_cases hs : sz > 0
  · simp only [hs, if_true]; exact skipn_sim N hw r sz
  · simp only [hs, if_false]
    by_cases ht : t = T_STRING
    · have ht' : toI8 t.toNat = 11 := (toI8_eq_11 t).mpr ht
      simp only [if_pos ht, ht', if_true]
      exact skipstr_sim N hw r
    · have ht' : ¬ toI8 t.toNat = 11 := fun h => ht ((toI8_eq_11 t).mp h)
      simp only [if_neg ht, ht', if_false]
      exact H.sim r t hp hb

abbrev LSim (N : ErrNaming) : GM (LoopR (Rd × GoErr) (Rd × GoErr × Int)) → TOut (Unit × Rd) → Prop :=
  OSim N loopErr (fun t b => ∃ s, t = LoopR.done s ∧ b = ((), s.1))

/-- what the enclosing function does with the outcome of a counted loop: `return` of the early return, `return nil` after
    the loop -/
theorem LSim.finish {X : GM (LoopR (Rd × GoErr) (Rd × GoErr × Int))} {Y : TOut (Unit × Rd)}
    {K : LoopR (Rd × GoErr) (Rd × GoErr × Int) → GM (Rd × GoErr)} (h : LSim N X Y)
    (hK1 : ∀ a, K (LoopR.ret a) = .ok a) (hK2 : ∀ s, K (LoopR.done s) = .ok (s.1, GoErr.nil)) :
    BSim N (X.bind K) Y := by
  refine h.map (fun t b _ hq => ?_) (fun t he => ?_)
  · obtain ⟨s, rfl, rfl⟩ := hq
    rw [hK2]; exact .ok _ _ rfl rfl
  · cases t with
    | ret a => rw [hK1]; rfl
    | done s => exact absurd rfl he

theorem BSim.seq {x : GM (Rd × GoErr)} {y : TOut (Unit × Rd)} {F : Rd → GM (Rd × GoErr)} {F' : RM Unit} (h : BSim N x y)
    (hF : ∀ r, y = .ok ((), r) → BSim N (F r) (F' r)) :
    BSim N (x.bind fun a => if a.2 ≠ GoErr.nil then .ok (a.1, a.2) else F a.1) (y.bind fun a => F' a.2) := by
  refine h.bind (fun a b he hq hy => ?_)
  subst hq
  simp only [he, ne_eq, not_true_eq_false, if_false]
  exact hF a.1 hy

/-- MAP: the body is key element then value element; LIST/SET: one element. `hs`: the step equation of `L`; `M`: the
    model loop, by its two equations -/
theorem cloop_sim (body : Rd → GM (Rd × GoErr)) (body' : RM Unit)
    (hbody : ∀ r, P r → μ r ≤ bound → BSim N (body r) (body' r))
    (hdec : ∀ r, P r → Tpl.SUses μ P (μ r) 1 (body' r))
    {M : Nat → RM Unit} (h0 : ∀ r, M 0 r = .ok ((), r)) (hM : ∀ cnt r, M (cnt + 1) r = (body' r).bind fun a => M cnt a.2)
    {J cont : Int → Prop} {next : Int → Int} {left : Int → Nat} [DecidablePred cont] (C : Counter J cont next left)
    (L : Nat → Rd → GoErr → Int → GM (LoopR (Rd × GoErr) (Rd × GoErr × Int)))
    (hs : ∀ f r e j, L (f + 1) r e j =
      if cont j then
        (body r).bind fun a =>
          if a.2 ≠ GoErr.nil then .ok (LoopR.ret (a.1, a.2))
          else L f a.1 a.2 (next j)
      else .ok (LoopR.done (r, e, j))) :
    ∀ (f : Nat) (r : Rd) (e : GoErr) (j : Int) (cnt : Nat), J j → left j = cnt → μ r + 1 ≤ f → μ r ≤ bound → P r →
      LSim N (L f r e j) (M cnt r) := by
  intro f
  induction f with
  | zero => intro r e j cnt _ _ hf; omega
  | succ f ih =>
    intro r e j cnt hJ hcnt hf hb hp
    rw [hs]
    cases cnt with
    | zero =>
      rw [if_neg (by rw [C.cont_iff j hJ]; omega), h0]
      exact .ok _ _ rfl ⟨_, rfl, rfl⟩
    | succ cnt =>
      obtain ⟨hJ', hl'⟩ := C.step j hJ (by omega)
      rw [if_pos ((C.cont_iff j hJ).mpr (by omega)), hM]
      refine (hbody r hp hb).bind (fun a b he hq hy => ?_)
      subst hq
      obtain ⟨hp1, hd1⟩ := (hdec r hp).out hy
      simp only [he, ne_eq, not_true_eq_false, if_false]
      exact ih a.1 _ (next j) cnt hJ' (by omega) (by omega) (by omega) hp1

/-- `ReadFieldBegin` against the model: the type byte as a Go `int8` -/
abbrev FSim (N : ErrNaming) : GM (Rd × Int × Int × GoErr) → TOut (UInt8 × Rd) → Prop :=
  OSim N (fun t => t.2.2.2) (fun t b => b.2 = t.1 ∧ t.2.1 = toI8 b.1.toNat)

theorem beU16_eq (b : Bytes) :
    beU16 b = match b[1]? with | some _ => .ok (rd16 b : Int) | none => .panic "index" := by
  unfold beU16
  by_cases h : b.length < 2
  · have : b[1]? = none := List.getElem?_eq_none (by omega)
    simp [h, this]
  · have : 1 < b.length := by omega
    simp [h, List.getElem?_eq_getElem this]

theorem fieldBegin_sim (hw : WrapOK N) (r : Rd) :
    FSim N (Funcs.BR_ReadFieldBegin (rdI N) r) (brFieldBegin r) := by
  unfold Funcs.BR_ReadFieldBegin brFieldBegin
  simp only [Out.bind_eq, Out.pure_eq]
  refine (next_sim N hw r 1).bind (fun t y he hq _ => ?_)
  obtain ⟨r1, b, e⟩ := t
  simp only at he hq
  subst he hq
  refine (Tpl.idx_osim N b 0).bind (fun a tp _ hq _ => ?_) (fun _ h => absurd rfl h)
  obtain ⟨rfl, _⟩ := hq
  simp only [wrap_i8_nat _ tp.toNat_lt, toI8_eq_0, decide_eq_true_eq, decide_not, Bool.not_eq_true', decide_eq_false_iff_not,
    ne_eq, ite_not]
  by_cases hstop : tp = T_STOP
  · simp only [eq_true hstop, if_true]
    exact .ok _ _ rfl ⟨rfl, ((toI8_eq_0 tp).mpr hstop).symm⟩
  · simp only [hstop, if_false]
    refine (next_sim N hw r1 2).bind (fun t2 y2 he2 hq2 _ => ?_)
    subst hq2
    simp only [he2, ne_eq, not_true_eq_false, decide_false, if_false, Bool.false_eq_true, beU16_eq, Verif.idx]
    cases hb1 : t2.2.1[1]? with
    | none => exact .panic _
    | some x => exact .ok _ _ rfl ⟨rfl, rfl⟩

/-- `K` / `K'`: the rest of the function / of the model. The header is parsed here, on terms that do not contain the
    rest of the function. -/
theorem mapBegin_bind (hw : WrapOK N) (r : Rd) {K : Rd × Int × Int × Int × GoErr → GM (Rd × GoErr)}
    {K' : UInt8 → UInt8 → Nat → Bytes × Rd → TOut (Unit × Rd)}
    (hok : ∀ b r1 kt vt (sz : Nat), brNext 6 r = .ok (b, r1) → sz < 4294967296 →
      BSim N (K (r1, toI8 kt.toNat, toI8 vt.toNat, (sz : Int), GoErr.nil)) (K' kt vt sz (b, r1)))
    (herr : ∀ t, t.2.2.2.2 ≠ GoErr.nil → (K t).bind (fun t' => .ok t'.2) = .ok t.2.2.2.2 := by
      intro t he
      simp only [he, ne_eq, not_false_eq_true, not_true_eq_false, decide_true, decide_false, if_true, if_false,
        Bool.false_eq_true, Out.bind_eq, Out.pure_eq, Out.bind_ok]) :
    BSim N ((Funcs.BR_ReadMapBegin (rdI N) r).bind K)
      ((brNext 6 r).bind fun x =>
        (Verif.idx x.1 0).bind fun kt => (Verif.idx x.1 1).bind fun vt =>
          (u32of (x.1.drop 2)).bind fun sz => K' kt vt sz x) := by
  unfold Funcs.BR_ReadMapBegin
  simp only [Out.bind_eq, Out.pure_eq, ite_bind, Out.bind_assoc, Out.bind_ok]
  refine (next_sim N hw r 6).bind (fun a y he hq hy => ?_) (fun a he => ?_)
  · obtain ⟨r1, b, e⟩ := a
    simp only at he hq
    subst he hq
    refine (Tpl.idx_osim N b 0).bind (fun a kt _ hq _ => ?_) (fun _ h => absurd rfl h)
    obtain ⟨rfl, _⟩ := hq
    refine (Tpl.idx_osim N b 1).bind (fun a vt _ hq _ => ?_) (fun _ h => absurd rfl h)
    obtain ⟨rfl, hlen⟩ := hq
    refine .sliceFrom (by omega) (by simp only; omega) ?_
    refine (Tpl.beU32_osim N _).bind (fun a sz _ hq _ => ?_) (fun _ h => absurd rfl h)
    obtain ⟨rfl, hlt⟩ := hq
    simp only [wrap_i8_nat _ kt.toNat_lt, wrap_i8_nat _ vt.toNat_lt]
    exact hok b r1 kt vt sz hy hlt
  · simp only [he, ne_eq, not_false_eq_true, decide_true, if_true, Out.bind_eq, Out.pure_eq, Out.bind_ok]
    exact herr _ he

theorem listBegin_bind (hw : WrapOK N) (r : Rd) {K : Rd × Int × Int × GoErr → GM (Rd × GoErr)}
    {K' : UInt8 → Nat → Bytes × Rd → TOut (Unit × Rd)}
    (hok : ∀ b r1 vt (sz : Nat), brNext 5 r = .ok (b, r1) → sz < 4294967296 →
      BSim N (K (r1, toI8 vt.toNat, (sz : Int), GoErr.nil)) (K' vt sz (b, r1)))
    (herr : ∀ t, t.2.2.2 ≠ GoErr.nil → (K t).bind (fun t' => .ok t'.2) = .ok t.2.2.2 := by
      intro t he
      simp only [he, ne_eq, not_false_eq_true, not_true_eq_false, decide_true, decide_false, if_true, if_false,
        Bool.false_eq_true, Out.bind_eq, Out.pure_eq, Out.bind_ok]) :
    BSim N ((Funcs.BR_ReadListBegin (rdI N) r).bind K)
      ((brNext 5 r).bind fun x =>
        (Verif.idx x.1 0).bind fun vt => (u32of (x.1.drop 1)).bind fun sz => K' vt sz x) := by
  unfold Funcs.BR_ReadListBegin
  simp only [Out.bind_eq, Out.pure_eq, ite_bind, Out.bind_assoc, Out.bind_ok]
  refine (next_sim N hw r 5).bind (fun a y he hq hy => ?_) (fun a he => ?_)
  · obtain ⟨r1, b, e⟩ := a
    simp only at he hq
    subst he hq
    refine (Tpl.idx_osim N b 0).bind (fun a vt _ hq _ => ?_) (fun _ h => absurd rfl h)
    obtain ⟨rfl, hlen⟩ := hq
    refine .sliceFrom (by omega) (by simp only; omega) ?_
    refine (Tpl.beU32_osim N _).bind (fun a sz _ hq _ => ?_) (fun _ h => absurd rfl h)
    obtain ⟨rfl, hlt⟩ := hq
    simp only [wrap_i8_nat _ vt.toNat_lt]
    exact hok b r1 vt sz hy hlt
  · simp only [he, ne_eq, not_false_eq_true, decide_true, if_true, Out.bind_eq, Out.pure_eq, Out.bind_ok]
    exact herr _ he

/-- the STRUCT loop only leaves by `return` -/
abbrev LSim3 (N : ErrNaming) : GM (LoopR (Rd × GoErr) Rd) → TOut (Unit × Rd) → Prop :=
  OSim N loopErr (fun t b => ∃ a, t = LoopR.ret a ∧ b = ((), a.1))

theorem LSim3.finish {X : GM (LoopR (Rd × GoErr) Rd)} {Y : TOut (Unit × Rd)}
    {K : LoopR (Rd × GoErr) Rd → GM (Rd × GoErr)} (h : LSim3 N X Y) (hK1 : ∀ a, K (LoopR.ret a) = .ok a) :
    BSim N (X.bind K) Y := by
  refine h.map (fun t b he hq => ?_) (fun t he => ?_)
  · obtain ⟨a, rfl, rfl⟩ := hq
    rw [hK1]; exact .ok _ _ he rfl
  · cases t with
    | ret a => rw [hK1]; rfl
    | done s => exact absurd rfl he

/-- the STRUCT loop: ANY function `L` with the step equation `hs` (field header, STOP, field value) -/
theorem sloop_sim (hw : WrapOK N) (hM : RMeas μ P) (H : RecOK N μ P rec rec' dep bound)
    (L : Nat → Rd → GM (LoopR (Rd × GoErr) Rd))
    (hs : ∀ f r, L (f + 1) r =
      (Funcs.BR_ReadFieldBegin (rdI N) r).bind fun a =>
        if a.2.2.2 ≠ GoErr.nil then .ok (LoopR.ret (a.1, a.2.2.2))
        else if a.2.1 = 0 then .ok (LoopR.ret (a.1, GoErr.nil))
        else (tblIdx Funcs.tbl_typeToSize (wrap .u8 a.2.1)).bind fun s =>
          (elemF (rdI N) rec dep a.2.1 s a.1).bind fun b =>
            if b.2 ≠ GoErr.nil then .ok (LoopR.ret (b.1, b.2))
            else L f b.1) :
    ∀ (f1 f2 : Nat) (r : Rd), μ r + 1 ≤ f1 → μ r + 1 ≤ f2 → μ r ≤ bound → P r →
      LSim3 N (L f1 r) (brStructLoop rec' f2 r) := by
  intro f1
  induction f1 with
  | zero => intro f2 r hf; omega
  | succ f1 ih =>
    intro f2 r hf1 hf2 hb hp
    cases f2 with
    | zero => omega
    | succ f2 =>
      rw [hs, brStructLoop]
      simp only [Out.bind_eq]
      refine (fieldBegin_sim hw r).bind (fun a b he hq hy => ?_)
      obtain ⟨ft, r1⟩ := b
      obtain ⟨rfl, hft⟩ := hq
      obtain ⟨hp1, hd1⟩ := (brFieldBegin_uses hM hp).out hy
      simp only [he, hft, ne_eq, not_true_eq_false, if_false]
      by_cases hstop : ft = T_STOP
      · have c0 : toI8 ft.toNat = 0 := (toI8_eq_0 ft).mpr hstop
        simp only [if_pos hstop, c0, if_true, Out.pure_eq]
        exact .ok _ _ rfl ⟨_, rfl, rfl⟩
      · have c0 : ¬ toI8 ft.toNat = 0 := fun h => hstop ((toI8_eq_0 ft).mp h)
        simp only [if_neg hstop, c0, if_false, tblIdx_fixed, typeSize_eq, Out.bind_ok, elemF]
        have hle := fixedSize_le ft
        by_cases hfix : ((fixedSize ft : Nat) : Int) > 0
        · simp only [hfix, if_true]
          refine (skipn_sim N hw a.1 _).bind (fun a2 b2 he2 hq2 hy2 => ?_)
          subst hq2
          obtain ⟨hp2, hd2⟩ := (brSkipn_uses hM hp1 (by omega)).out hy2
          simp only [he2, ne_eq, not_true_eq_false, if_false]
          exact ih f2 a2.1 (by omega) (by omega) (by omega) hp2
        · simp only [hfix, if_false]
          refine (H.sim a.1 ft hp1 (by omega)).bind (fun a2 b2 he2 hq2 hy2 => ?_)
          subst hq2
          obtain ⟨hp2, hd2⟩ := (H.dec _ _ hp1).out hy2
          simp only [he2, ne_eq, not_true_eq_false, if_false]
          exact ih f2 a2.1 (by omega) (by omega) (by omega) hp2

/-- `skipn` with the request computed differently on the two sides -/
theorem skipn_sim' (hw : WrapOK N) (r : Rd) (a b : Int) (h : a = b) :
    BSim N (Funcs.BR_skipn (rdI N) r a) (brSkipn b r) := by
  subst h; exact skipn_sim N hw r a

end sim


/-! ## the whole function: one lemma per container kind, then induction on the depth -/

section cases
variable {N : ErrNaming} {μ : Rd → Nat} {P : Rd → Prop}

/-- the recursive call as the translator passes it to the loops -/
abbrev recOf (N : ErrNaming) (f : Nat) : Rd → Int → Int → GM (Rd × GoErr) :=
  fun a0 a1 a2 => Funcs.BR_skipType (rdI N) f a0 a1 a2

/-- the Go depth of the elements of a container at depth `d + 1` -/
abbrev depOf (d : Nat) : Int := wrap .i64 (((d + 1 : Nat) : Int) - 1)

theorem recOK_of_ih (N : ErrNaming) (hM : RMeas μ P) (d f bound : Nat) (hd : d + 1 < 2 ^ 63) (hf : bound + d + 2 ≤ f)
    (ih : ∀ (f : Nat) (r : Rd) (t : UInt8) (D : Int), P r → μ r + d + 2 ≤ f → D = (d : Int) →
      BSim N (Funcs.BR_skipType (rdI N) f r (toI8 t.toNat) D) (skipBRAt d t r)) :
    RecOK N μ P (recOf N f) (skipBRAt d) (depOf d) bound := by
  constructor
  · intro r t hp hb
    exact ih f r t _ hp (by omega) (by unfold depOf; rw [wrap_i64_of_range _ (by omega) (by omega)]; omega)
  · exact skipBRAt_dec hM d

section
attribute [local congr] bind_congr_arg ite_congr_cond

/-- `BufferReader.skipType`, whole function, translated from the Go source, over the reader model: the model `skipBRAt`,
    final reader state, error, and every panic included -/
theorem skipType_sim (hw : WrapOK N) (hM : RMeas μ P) :
    ∀ (d f : Nat) (r : Rd) (t : UInt8) (D : Int), d < 2 ^ 63 → P r → μ r + d + 2 ≤ f → D = (d : Int) →
      BSim N (Funcs.BR_skipType (rdI N) f r (toI8 t.toNat) D) (skipBRAt d t r) := by
  intro d
  induction d with
  | zero =>
    intro f r t D hd hp hf hD
    cases f with
    | zero => omega
    | succ f =>
      subst hD
      rw [Funcs.BR_skipType]
      simp only [skipBRAt, Int.natCast_zero, decide_true, if_true, Out.pure_eq]
      exact .perr _ _ _ rfl
  | succ d ih =>
    intro f r t D hd hp hf hD
    cases f with
    | zero => omega
    | succ f =>
      have H := recOK_of_ih N hM d f (μ r) hd (by omega) (fun f r t D h0 h1 h2 => ih f r t D (by omega) h0 h1 h2)
      have hf : μ r + 1 ≤ f := by omega
      subst hD
      have cD : ¬ ((d + 1 : Nat) : Int) = 0 := by omega
      rw [Funcs.BR_skipType]
      -- semantic case split on the type byte; in each case one pass decides every test on both sides (the tests of the Go
      -- `switch` on the `int8` are turned into the model's tests on the byte), whatever the order of the clauses; the
      -- congruence rules make that pass follow the execution, so the clauses not taken are not entered
      by_cases hmap : t = T_MAP
      · have hfix : ¬ ((fixedSize t : Nat) : Int) > 0 := by rw [hmap]; decide
        have hstr : ¬ t = T_STRING := by rw [hmap]; decide
        have hst : ¬ t = T_STRUCT := by rw [hmap]; decide
        have hl : ¬ t = T_LIST := by rw [hmap]; decide
        have hs : ¬ t = T_SET := by rw [hmap]; decide
        simp only [↓Out.bind_eq, skipBRAt, cD, toI8_eq_11, toI8_eq_12, toI8_eq_13, toI8_eq_14, toI8_eq_15, tblIdx_fixed, typeSize_eq,
          Out.bind_ok, Out.pure_eq, Bool.or_eq_true, decide_eq_true_eq, decide_false, decide_true, Bool.false_eq_true, bind_ok_eta,
          hfix, eq_true hmap, hstr, hst, hl, hs, or_self, if_false, if_true]
        refine mapBegin_bind hw r (fun b r1 kt vt sz hy hlt => ?_)
        obtain ⟨hp1, hd1⟩ := (brNext_uses hM 6 hp (by omega)).out hy
        by_cases hn : toI32 sz < 0
        · simp only [ne_eq, not_true_eq_false, if_false, wrap_i32_nat _ hlt, hn, if_true]
          exact .perr _ _ _ rfl
        · have hs31 := size_lt hlt hn
          simp only [ne_eq, not_true_eq_false, if_false, wrap_i32_nat _ hlt, hn, tblIdx_fixed, Out.bind_ok]
          have hk := fixedSize_le kt
          have hv := fixedSize_le vt
          by_cases hfast : ((fixedSize kt : Nat) : Int) > 0 ∧ ((fixedSize vt : Nat) : Int) > 0
          · simp only [hfast, and_self, decide_true, Bool.and_self, if_true, bind_ok_eta]
            refine skipn_sim' hw r1 _ _ ?_
            simp (disch := omega) only [wrap_i64_of_range, Tpl.wrap_mul_small, wrap_mul_small']
            try (first | rfl | ac_rfl)
          · have cfast : (decide (((fixedSize kt : Nat) : Int) > 0) &&
                decide (((fixedSize vt : Nat) : Int) > 0)) = false := by
              simpa using hfast
            simp only [hfast, cfast, if_false, Bool.false_eq_true]
            have hk8 : ((fixedSize kt : Nat) : Int) ≤ 8 := by omega
            have hv8 : ((fixedSize vt : Nat) : Int) ≤ 8 := by omega
            generalize ((fixedSize kt : Nat) : Int) = ksz at hk8 ⊢
            generalize ((fixedSize vt : Nat) : Int) = vsz at hv8 ⊢
            refine LSim.finish ?_ (fun _ => rfl) (fun _ => rfl)
            have loop := @cloop_sim N μ P (μ r)
              (fun r => (elemB (rdI N) (recOf N f) (depOf d) (toI8 kt.toNat) ksz r).bind fun a =>
                if a.2 ≠ GoErr.nil then .ok (a.1, a.2) else elemB (rdI N) (recOf N f) (depOf d) (toI8 vt.toNat) vsz a.1)
              (brKV (skipBRAt d) kt vt ksz vsz)
              (fun r hp hb => (elem_sim hw H kt ksz r hp hb).seq fun r1 hy =>
                have h1 := (brElem_uses hM H.dec kt ksz hk8 hp).out hy
                elem_sim hw H vt vsz r1 h1.1 (by omega))
              (fun r hp => brKV_uses hM H.dec kt vt ksz vsz hk8 hv8 hp) _ (fun _ => rfl) (brMapLoop_eq _ kt vt ksz vsz)
            -- the counter runs up (`j < sz`, `j++`) or down (`left > 0`, `left--`)
            first
            | refine loop (counter_up sz hs31) _ ?_ f r1 _ 0 sz ⟨by omega, by omega⟩ (by simp) (by omega) (by omega) hp1
            | refine loop (counter_down sz hs31) _ ?_ f r1 _ sz sz ⟨by omega, by omega⟩ (by simp) (by omega) (by omega) hp1
            intro f' r' e' j'
            -- the step equation: the generated loop function (numbered in source order: whichever it is) unfolded at
            -- `fuel + 1`, and both sides brought to one normal form (the `bind` that follows an element pushed into the
            -- branches of the element's `if`, as the translator emits it; tests as propositions, either polarity)
            first | rw [Funcs.BR_skipType_loop1] | rw [Funcs.BR_skipType_loop2] | rw [Funcs.BR_skipType_loop3]
            simp only [elemB, elemF, ite_bind, Out.bind_assoc, Out.bind_ok, ite_ite_pos, ite_ite_neg, ite_not, decide_eq_true_eq,
              decide_not, Bool.not_eq_true', decide_eq_false_iff_not, ne_eq, Out.bind_eq, Out.pure_eq]
      · by_cases hlist : t = T_LIST ∨ t = T_SET
        · have hfix : ¬ ((fixedSize t : Nat) : Int) > 0 := by rcases hlist with h | h <;> rw [h] <;> decide
          have hstr : ¬ t = T_STRING := by rcases hlist with h | h <;> rw [h] <;> decide
          have hst : ¬ t = T_STRUCT := by rcases hlist with h | h <;> rw [h] <;> decide
          simp only [↓Out.bind_eq, skipBRAt, cD, toI8_eq_11, toI8_eq_12, toI8_eq_13, toI8_eq_14, toI8_eq_15, tblIdx_fixed, typeSize_eq,
          Out.bind_ok, Out.pure_eq, Bool.or_eq_true, decide_eq_true_eq, decide_false, decide_true, Bool.false_eq_true, bind_ok_eta,
            hfix, eq_true hlist, eq_true hlist.symm, hmap, hstr, hst, if_false, if_true]
          refine listBegin_bind hw r (fun b r1 vt sz hy hlt => ?_)
          obtain ⟨hp1, hd1⟩ := (brNext_uses hM 5 hp (by omega)).out hy
          by_cases hn : toI32 sz < 0
          · simp only [ne_eq, not_true_eq_false, if_false, wrap_i32_nat _ hlt, hn, if_true]
            exact .perr _ _ _ rfl
          · have hs31 := size_lt hlt hn
            simp only [ne_eq, not_true_eq_false, if_false, wrap_i32_nat _ hlt, hn, tblIdx_fixed, Out.bind_ok]
            have hv := fixedSize_le vt
            by_cases hfast : ((fixedSize vt : Nat) : Int) > 0
            · simp only [hfast, if_true, bind_ok_eta]
              refine skipn_sim' hw r1 _ _ ?_
              simp (disch := omega) only [wrap_i64_of_range, Tpl.wrap_mul_small, wrap_mul_small']
              try (first | rfl | ac_rfl)
            · simp only [hfast, if_false]
              refine LSim.finish ?_ (fun _ => rfl) (fun _ => rfl)
              have loop := @cloop_sim N μ P (μ r) (elemB (rdI N) (recOf N f) (depOf d) (toI8 vt.toNat) 0)
                (brElem (skipBRAt d) vt 0) (fun r hp hb => elem_sim hw H vt _ r hp hb)
                (fun r hp => brElem_uses hM H.dec vt 0 (by omega) hp) _ (fun _ => rfl) (brListLoop_eq _ vt)
              -- the counter runs up (`j < sz`, `j++`) or down (`left > 0`, `left--`)
              first
              | refine loop (counter_up sz hs31) _ ?_ f r1 _ 0 sz ⟨by omega, by omega⟩ (by simp) (by omega) (by omega) hp1
              | refine loop (counter_down sz hs31) _ ?_ f r1 _ sz sz ⟨by omega, by omega⟩ (by simp) (by omega) (by omega) hp1
              intro f' r' e' j'
              first | rw [Funcs.BR_skipType_loop1] | rw [Funcs.BR_skipType_loop2] | rw [Funcs.BR_skipType_loop3]
              simp only [elemB, elemF, ite_bind, Out.bind_assoc, Out.bind_ok, ite_ite_pos, ite_ite_neg, ite_not, decide_eq_true_eq,
                decide_not, Bool.not_eq_true', decide_eq_false_iff_not, ne_eq, Out.bind_eq, Out.pure_eq]
              simp only [Int.lt_irrefl, if_false]
        · obtain ⟨hl, hs⟩ := not_or.mp hlist
          simp only [↓Out.bind_eq, skipBRAt, cD, toI8_eq_11, toI8_eq_12, toI8_eq_13, toI8_eq_14, toI8_eq_15, tblIdx_fixed, typeSize_eq,
          Out.bind_ok, Out.pure_eq, Bool.or_eq_true, decide_eq_true_eq, decide_false, decide_true, Bool.false_eq_true, bind_ok_eta,
            hmap, hl, hs, or_self, if_false]
          by_cases hfix : ((fixedSize t : Nat) : Int) > 0
          · simp only [hfix, if_true]
            exact skipn_sim N hw r _
          · simp only [hfix, if_false]
            by_cases hstr : t = T_STRING
            · simp only [eq_true hstr, if_true]
              exact skipstr_sim N hw r
            · by_cases hst : t = T_STRUCT
              · simp only [hstr, eq_true hst, if_false, if_true]
                refine LSim3.finish ?_ (fun _ => rfl)
                refine sloop_sim (bound := μ r) (rec := recOf N f) (dep := depOf d) hw hM H _ ?_ f (r.avail + 1) r hf
                  (by have := hM.le_avail r hp; omega) (Nat.le_refl _) hp
                intro f' r'
                first | rw [Funcs.BR_skipType_loop1] | rw [Funcs.BR_skipType_loop2] | rw [Funcs.BR_skipType_loop3]
                simp only [elemB, elemF, ite_bind, Out.bind_assoc, Out.bind_ok, ite_ite_pos, ite_ite_neg, ite_not, decide_eq_true_eq,
                  decide_not, Bool.not_eq_true', decide_eq_false_iff_not, ne_eq, Out.bind_eq, Out.pure_eq]
              · simp only [hstr, hst, if_false]
                exact .perr _ _ _ rfl

end

end cases

/-! ## the reader model satisfies the contract -/

/-- the reader invariant of C04 (`Inv`), and sizes for which every request `≤ 2^35` is in the range `Rd.Small`
    (`n + ri ≤ 2^63`) in which the reader MODEL is well behaved -/
def RdSmall (r : Rd) : Prop := Inv r ∧ r.remaining.length + r.ri + 34359738368 ≤ 9223372036854775808

/-- `Next(n)` and `Skip(n)` after the `acquire` they share -/
theorem advance_meas {r : Rd} {n : Int} {x : RdRes × Rd} (hp : RdSmall r)
    (h : ∃ m r1, AcqPost r n.toNat m r1 ∧ ((n.toNat > m ∧ x = (.fail r1.err, r1)) ∨
      (¬ n.toNat > m ∧ ∃ b, x = (.ok b, { r1 with ri := r1.ri + n.toNat })))) :
    (∃ b r', x = (.ok b, r') ∧ RdSmall r' ∧ r'.remaining.length + n.toNat ≤ r.remaining.length) ∨
      (∃ e r', x = (.fail (some e), r')) := by
  obtain ⟨hinv, hsm⟩ := hp
  obtain ⟨m, r1, hpost, ⟨hgt, hx⟩ | ⟨hle, b, hx⟩⟩ := h
  · right
    have he := (hpost.short hgt).1
    cases hre : r1.err with
    | none => exact absurd hre he
    | some e => exact ⟨e, r1, by rw [hx, hre]⟩
  · left
    have hen := hpost.enough hle
    have hrem := hpost.remaining hinv.ri_le
    have hri := hpost.ri
    have hl : r1.remaining.length = n.toNat + ({ r1 with ri := r1.ri + n.toNat } : Rd).remaining.length := by
      rw [remaining_split r1 n.toNat, List.length_append, take_length_of_le r1 n.toNat hen]
    rw [hrem] at hl
    refine ⟨b, _, hx, ⟨inv_advance r1 _ hpost.inv hen, ?_⟩, ?_⟩
    · simp only []; omega
    · omega

theorem rd_meas : RMeas (fun r => r.remaining.length) RdSmall := by
  refine ⟨?_, ?_, ?_⟩
  · intro r n hp h0 hn
    rcases next_cases r n hp.1 (by unfold Rd.Small; have := hp.2; omega) with ⟨hneg, _⟩ | ⟨_, m, r1, _, hpost, h⟩
    · omega
    · exact advance_meas hp ⟨m, r1, hpost, h.imp id (fun h => ⟨h.1, _, h.2⟩)⟩
  · intro r n hp h0 hn
    rcases skip_cases r n hp.1 (by unfold Rd.Small; have := hp.2; omega) with ⟨hneg, _⟩ | ⟨_, m, r1, _, hpost, h⟩
    · omega
    · exact advance_meas hp ⟨m, r1, hpost, h.imp id (fun h => ⟨h.1, _, h.2⟩)⟩
  · intro r _
    simp only [Rd.avail, Rd.remaining, List.length_append, List.length_drop]
    omega


/-- `BufferReader.next` (no hypothesis on the reader) -/
theorem BR_next_eq (N : ErrNaming) (hw : WrapOK N) (r : Rd) (n : Int) :
    liftBRv N.absE (Funcs.BR_next (rdI N) r n) = brNext n r := (next_sim N hw r n).lift

/-- `BufferReader.skipn` (no hypothesis on the reader) -/
theorem BR_skipn_eq (N : ErrNaming) (hw : WrapOK N) (r : Rd) (n : Int) :
    liftBR N.absE (Funcs.BR_skipn (rdI N) r n) = brSkipn n r := (skipn_sim N hw r n).lift

end SSkip

open SSkip

/-- `BufferReader.skipstr` translated from the Go source IS the model `brSkipStr` (no hypothesis on the reader) -/
theorem BR_skipstr_eq (N : ErrNaming) (hw : WrapOK N) (r : Rd) :
    liftBR N.absE (Funcs.BR_skipstr (rdI N) r) = brSkipStr r := (SSkip.skipstr_sim N hw r).lift

/-- `BufferReader.skipType` translated from the Go source IS the model `skipBRAt`, for every depth.
    Hypotheses: `hinv` the reader invariant (C04 proves every reachable reader has it) — with it a failing `Next`/`Skip`
    returns a non-nil error, so no loop goes on without consuming; `hsm` the sizes for which the reader MODEL's
    fuel-64 doubling loops are exact (`Rd.Small`: request + ri ≤ 2^63; the largest request is 2^35); `hd` the depth is a Go
    `int`; `hf` the ONE fuel of the translation covers the recursion depth and every loop (each iteration consumes). -/
theorem BR_skipType_eq (N : ErrNaming) (hw : WrapOK N) (r : Rd) (t : UInt8) (d fuel : Nat) (hinv : Inv r)
    (hsm : r.remaining.length + r.ri + 34359738368 ≤ 9223372036854775808) (hd : d < 2 ^ 63)
    (hf : r.remaining.length + d + 2 ≤ fuel) :
    liftBR N.absE (Funcs.BR_skipType (rdI N) fuel r (toI8 t.toNat) (d : Int)) = skipBRAt d t r :=
  (SSkip.skipType_sim hw rd_meas d fuel r t _ hd ⟨hinv, hsm⟩ hf rfl).lift

/-- `BufferReader.Skip` translated from the Go source IS the model `skipBR` (hypotheses: see `BR_skipType_eq`) -/
theorem BR_Skip_eq (N : ErrNaming) (hw : WrapOK N) (r : Rd) (t : UInt8) (fuel : Nat) (hinv : Inv r)
    (hsm : r.remaining.length + r.ri + 34359738368 ≤ 9223372036854775808) (hf : r.remaining.length + 66 ≤ fuel) :
    liftBR N.absE (Funcs.BR_Skip (rdI N) fuel r (toI8 t.toNat)) = skipBR t r := by
  have h := SSkip.skipType_sim hw rd_meas 64 fuel r t 64 (by omega) ⟨hinv, hsm⟩ (by show r.remaining.length + 64 + 2 ≤ fuel; omega) rfl
  unfold Funcs.BR_Skip skipBR
  have e : Facts.defaultRecursionDepth = 64 := rfl
  rw [e]
  generalize Funcs.BR_skipType (rdI N) fuel r (toI8 t.toNat) 64 = x at h ⊢
  generalize skipBRAt 64 t r = y at h ⊢
  cases h <;> simp [liftBR, *]

/-- the standard naming (`raw io.EOF` ↦ `named "io.EOF"`, `wrap e` ↦ `named "wrap:<name>"` as `GoSem.wrapErr`) -/
theorem BR_Skip_eq_std (r : Rd) (t : UInt8) (fuel : Nat) (hinv : Inv r)
    (hsm : r.remaining.length + r.ri + 34359738368 ≤ 9223372036854775808) (hf : r.remaining.length + 66 ≤ fuel) :
    liftBR absStd (Funcs.BR_Skip (iOfRd (fun e => errOfStd (.raw e))) fuel r (toI8 t.toNat)) = skipBR t r :=
  BR_Skip_eq stdNaming wrapOK_std r t fuel hinv hsm hf

/-! ## the generated function computes (non-vacuity) -/

/-- the translation over a `BytesReader` on `b` (the reader model `Rd.newBytes`), standard error naming -/
def brBytes (fuel : Nat) (b : Bytes) (t : Int) : GM (Rd × GoErr) :=
  Funcs.BR_Skip (iOfRd (fun e => errOfStd (.raw e))) fuel (Rd.newBytes b b.length) t

/-- the translation over a `DefaultReader` whose source delivers `stream` three bytes per `Read` -/
def brStream (fuel : Nat) (stream : Bytes) (t : Int) : GM (Rd × GoErr) :=
  Funcs.BR_Skip (iOfRd (fun e => errOfStd (.raw e))) fuel (Rd.newDefault ⟨stream, List.replicate 12 ⟨3, none⟩⟩) t

/-- bytes consumed (ReadLen) and the error -/
def riErr (x : GM (Rd × GoErr)) : GM (Nat × GoErr) := x.bind (fun r => .ok (r.1.ri, r.2))

-- an i32
example : riErr (brBytes 80 [0, 0, 0, 1] 8) = .ok (4, GoErr.nil) := by decide +kernel
-- a struct {1: i32 5} (STRUCT loop), from a bytes reader and from a source that delivers 3 bytes at a time
example : riErr (brBytes 80 [8, 0, 1, 0, 0, 0, 5, 0] 12) = .ok (8, GoErr.nil) := by decide +kernel
example : riErr (brStream 80 [8, 0, 1, 0, 0, 0, 5, 0, 99] 12) = .ok (8, GoErr.nil) := by decide +kernel
-- list<string> ["a", ""] (LIST loop), map<string,i32> {"a": 7} (MAP loop), map<i32,i64> x 1 (MAP fast path)
example : riErr (brBytes 80 [11, 0, 0, 0, 2, 0, 0, 0, 1, 97, 0, 0, 0, 0] 15) = .ok (14, GoErr.nil) := by decide +kernel
example : riErr (brBytes 80 [11, 8, 0, 0, 0, 1, 0, 0, 0, 1, 97, 0, 0, 0, 7] 13) = .ok (15, GoErr.nil) := by decide +kernel
example : riErr (brBytes 80 [8, 10, 0, 0, 0, 1, 0, 0, 0, 1, 0, 0, 0, 0, 0, 0, 0, 2] 13) = .ok (18, GoErr.nil) := by
  decide +kernel
-- the lifted translation and the model, computed side by side
example : liftBR absStd (brBytes 80 [11, 8, 0, 0, 0, 1, 0, 0, 0, 1, 97, 0, 0, 0, 7] 13) =
    skipBR 13 (Rd.newBytes [11, 8, 0, 0, 0, 1, 0, 0, 0, 1, 97, 0, 0, 0, 7] 15) := by decide +kernel
-- errors: the reader's EOF wrapped by `next` (NewProtocolExceptionWithErr), negative size, unknown type, depth limit
example : riErr (brBytes 80 [0] 8) = .ok (0, GoErr.named "wrap:io.EOF") := by decide +kernel
example : liftBR absStd (brBytes 80 [0] 8) = .err (.wrap .eof) := by decide +kernel
example : skipBR 8 (Rd.newBytes [0] 1) = .err (.wrap .eof) := by decide +kernel
example : riErr (brStream 80 [8, 0, 1, 0, 0] 12) = .ok (3, GoErr.named "wrap:io.EOF") := by decide +kernel
example : riErr (brBytes 80 [255, 255, 255, 255] 11) = .ok (4, GoErr.pe 2 "negative size") := by decide +kernel
example : riErr (brBytes 80 [11, 255, 255, 255, 255] 15) = .ok (5, GoErr.pe 2 "negative size") := by decide +kernel
example : riErr (brBytes 80 [0] 1) = .ok (0, GoErr.pe 1 "") := by decide +kernel
example : liftBR absStd (brBytes 300 (List.replicate 200 12) 12) = .err errDepth := by decide +kernel
example : skipBR 12 (Rd.newBytes (List.replicate 200 12) 200) = .err errDepth := by decide +kernel
-- panics: fuel exhausted (excluded by `hf`); a reader interface that answers `(nil, nil)` makes `b[0]` panic in the
-- translation as in the model (`fail none`, excluded for `Rd` under `Inv` by `rd_meas`)
example : brBytes 0 [0] 8 = .panic "nofuel" := by decide +kernel
example : brBytes 3 [12, 0, 1, 12, 0, 1, 0, 0] 12 = .panic "nofuel" := by decide +kernel
def nilReader : ReaderI Unit :=
  { next := fun s _ => .ok (([], GoErr.nil), s), peek := fun s _ => .ok (([], GoErr.nil), s),
    skip := fun s _ => .ok (GoErr.nil, s), readBinary := fun s _ => .ok (([], 0, GoErr.nil), s), readLen := fun _ => 0 }
example : Funcs.BR_Skip nilReader 10 () 12 = .panic "index" := by decide +kernel
example : Funcs.BR_Skip nilReader 10 () 11 = .panic "index" := by decide +kernel

end Verif.FuncsEq
