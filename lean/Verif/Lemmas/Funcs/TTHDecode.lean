/-
  Lemmas/Funcs/TTHDecode: `ttheader.Decode(ctx, in bufiox.Reader)` (protocol/ttheader/decode.go), which the translator
  (`extract/funcs.go`) turns into `Verif.Funcs.tth_Decode` (and the transform-id loop `tth_Decode_loop1`) on every
  run, IS the hand-written model `TTH.decodeG` of `Verif.Model.TTHeader` that the decode property theorems are about,
  for every reader `next : σ → Int → RdRes × σ` (instances: the bufiox reader model `Rd.next`, the plain cursor
  `Cur.next`).

  Representation
  * the `bufiox.Reader` argument is the abstract reader state `σ` with behaviour `iOfNext next errOf : ReaderI σ`:
    `.ok b` ↦ `(b, nil)`, `.fail (some e)` ↦ `(nil, errOf e)`, `.fail none` ↦ `(nil, nil)` — the model's `nextBytes`
    continues with the empty slice there, and so does the translation, which only tests `err != nil` —, `.nofuel`
    (the reader MODEL's fuel) ↦ `panic "nofuel"`;
  * `liftDec errBack` : `(in', param, err)` ↦ `DOut DecParam × Option σ`: `err == nil` ↦ `.ok (paramM param)` (field by
    field; `IntInfo` through TTH2's `imapM`), a non-nil error ↦ its class by the format string (`decErr`), an error of
    `in.Next` read back by `errBack`; the reader state is `some in'`. A Go panic carries no reader state (`none`);
    `panic "nofuel"` ↦ `.err .nofuel`. The `param` returned next to an error is ignored;
  * `obsDec` : the model result as far as the translation can show it. (1) `fmt.Errorf("ttHeader read kv info failed,
    %s, headerInfo=%#x", err.Error(), …)` is ONE Go error for every failure of readKVInfo — the translation drops the
    arguments that only feed the message — so the model's `.section` and `.infoId` are one class (`mergeKV`);
    (2) the model returns the reader state also next to a panic / `.nofuel`; the translation cannot (`GM` has no
    state in `panic`), so the state is compared exactly when Decode RETURNS (a value or an error).

  Hypotheses of `tth_Decode_eq`
  * `ErrOK errOf errBack`: `errOf e ≠ nil` and `decErr errBack (errOf e) = .rd e` (the rendering of reader errors
    is never nil, is not one of Decode's own five errors, and is read back); `rdErrOf`/`rdErrBack` is an instance;
  * `NextBounded next`: an `.ok b` answer to a request for 2 … 65536 bytes has `b.length ≤ 65536` (weaker than the
    `Next` contract `len = n`; NOT needed for agreement on index panics — a short answer makes both sides panic
    alike — but for the fuel: the translation runs readKVInfo on the caller's fuel, the model on `len + 1`);
  * `65537 ≤ fuel` (the transform loop runs ≤ 255 times, the section loop ≤ 65536 times).
  No hypothesis on the first `Next(14)`: whatever slice it returns, both sides slice / index it alike.
-/
import Verif.Lemmas.Funcs.TTH2
import Verif.Model.TTHeader
import Verif.Lemmas.TthDec
namespace Verif.FuncsEq
open Verif Verif.GoSem

/-! ## a model reader as a `ReaderI` -/

/-- the behaviour of a `bufiox.Reader` whose `Next` is the model function `next`; `errOf` renders a reader error as a
    Go error value. `.fail none` (Next returned a nil slice with a nil error) is the pair `([], nil)`: the model's
    `TTH.nextBytes` continues with the empty slice in that case, and so does the translated Decode, which only tests
    `err != nil`. `.nofuel` (the reader model ran out of fuel) is `panic "nofuel"`. The other four methods are not
    called by Decode. -/
def iOfNext {σ : Type} (next : σ → Int → RdRes × σ) (errOf : RErr → GoErr) : ReaderI σ where
  next s n :=
    match next s n with
    | (.ok b, s') => .ok ((b, GoErr.nil), s')
    | (.fail (some e), s') => .ok (([], errOf e), s')
    | (.fail none, s') => .ok (([], GoErr.nil), s')
    | (.nofuel, _) => .panic "nofuel"
  peek s _ := .ok (([], GoErr.named "iOfNext:unused"), s)
  skip s _ := .ok (GoErr.named "iOfNext:unused", s)
  readBinary s _ := .ok (([], 0, GoErr.named "iOfNext:unused"), s)
  readLen _ := 0

def rdErrOf : RErr → GoErr
  | .eof => .named "io.EOF"
  | .noProgress => .named "io.ErrNoProgress"
  | .negCount => .named "bufiox:errNegativeCount"
  | .src k => .pe (k : Int) "bufiox:source error"

def rdErrBack : GoErr → Option RErr
  | .named s =>
    if s = "io.EOF" then some .eof
    else if s = "io.ErrNoProgress" then some .noProgress
    else if s = "bufiox:errNegativeCount" then some .negCount
    else none
  | .pe k s => if s = "bufiox:source error" ∧ 0 ≤ k then some (.src k.toNat) else none
  | .nil => none

/-! ## the lift -/

def errNotTTH : GoErr := .named "errors.New:not TTHeader protocol"
def errBadSize : GoErr := .named "fmt.Errorf:invalid header length[%d]"
def errProto : GoErr := .named "fmt.Errorf:unsupported ProtocolID[%d]"
def errTransforms : GoErr := .named "fmt.Errorf:need read %d transformIDs, but not enough"
def errKV : GoErr := .named "fmt.Errorf:ttHeader read kv info failed, %s, headerInfo=%#x"

/-- the model's error class of a non-nil error returned by the translated Decode: its own five errors by their format
    strings; anything else is an error of `in.Next`, decoded by `errBack` (an error that is neither is sent to
    `.nofuel`, which the equality then excludes). The translation of
    `fmt.Errorf("ttHeader read kv info failed, %s, headerInfo=%#x", err.Error(), headerInfo)` drops the arguments, so
    the incomplete-section error and the unknown-info-id error of readKVInfo are ONE error here: `.section`
    (see `mergeKV`). -/
def decErr (errBack : GoErr → Option RErr) (e : GoErr) : TTH.DErr :=
  if e = errNotTTH then .notTTHeader
  else if e = errBadSize then .badSize
  else if e = errProto then .protocol
  else if e = errTransforms then .transforms
  else if e = errKV then .section
  else match errBack e with
    | some r => .rd r
    | none => .nofuel

/-- `DecodeParam` field by field -/
def paramM (p : Funcs.S_ttheader_DecodeParam) : TTH.DecParam :=
  { flags := p.Flags.toNat, seq := p.SeqID, proto := p.ProtocolID.toNat, intKV := p.IntInfo.map imapM,
    strKV := p.StrInfo, headerLen := p.HeaderLen, payloadLen := p.PayloadLen }

/-- `(in', param, err)` of the translated Decode as the model's outcome and the reader afterwards. A Go panic carries
    no reader state (`none`); `panic "nofuel"` — which only the reader model's own fuel produces, see `iOfNext` — is the
    model's `.err .nofuel`. The `param` returned next to an error is ignored. -/
def liftDec {σ : Type} (errBack : GoErr → Option RErr) (x : GM (σ × Funcs.S_ttheader_DecodeParam × GoErr)) :
    TTH.DOut TTH.DecParam × Option σ :=
  match x with
  | .ok r => (if r.2.2 = .nil then .ok (paramM r.2.1) else .err (decErr errBack r.2.2), some r.1)
  | .panic s => (if s = "nofuel" then .err .nofuel else .panic s, none)
  | .oob => (.oob, none)
  | .err e => nomatch e

/-- what the lift can see of the model's error classes: the two readKVInfo errors are one -/
def mergeKV : TTH.DErr → TTH.DErr
  | .infoId => .section
  | e => e

/-- the model's result as far as the translation can show it: error classes through `mergeKV`, the reader state
    whenever Decode returns (a value or an error), not after a panic / fuel exhaustion of the reader model -/
def obsDec {σ : Type} (r : TTH.DOut TTH.DecParam × σ) : TTH.DOut TTH.DecParam × Option σ :=
  match r.1 with
  | .ok p => (.ok p, some r.2)
  | .err .nofuel => (.err .nofuel, none)
  | .err e => (.err (mergeKV e), some r.2)
  | .panic s => (.panic s, none)
  | .oob => (.oob, none)

/-! ## the transform-id loop -/

theorem index_getD (b : Bytes) (i : Nat) (h : i < b.length) : TTH.index b i = .ok (b.getD i 0) := by
  simp [TTH.index, List.getD_eq_getElem?_getD, List.getElem?_eq_getElem h]

theorem index_panic (b : Bytes) (i : Nat) (h : b.length ≤ i) : TTH.index b i = .panic "index" := by
  have : b[i]? = none := List.getElem?_eq_none h
  simp [TTH.index, this]

/-- The transform-id loop against the model's, for ANY function `L` that satisfies the loop's two defining equations
    (one more round below the bound, done at the bound). The generated `Funcs.tth_Decode_loop1 I info …` is such an
    `L` whatever its parameter list is (a refactoring of the Go source changes the number / order of the variables the
    loop function is closed over, e.g. `for i := range transformIDs`), so this lemma does not mention it;
    `tth_Decode_eq` finds the call in its goal and proves the two equations there by unfolding. -/
theorem decLoop_sim {R : Type} (info : Bytes) (hb : info.length < 4611686018427387904) (n : Nat)
    (hn : n < 4611686018427387904) (L : Nat → Int → Bytes → Int → GM (LoopR R (Int × Bytes × Int)))
    (hstep : ∀ (f : Nat) (hd i : Int) (tids : Bytes), i < (n : Int) →
      L (f + 1) hd tids i = (GoSem.idx info hd).bind fun t => (GoSem.vset tids 0 i t).bind fun tids' =>
        L f (wrap .i64 (hd + 1)) tids' (wrap .i64 (i + 1)))
    (hdone : ∀ (f : Nat) (hd i : Int) (tids : Bytes), ¬ i < (n : Int) →
      L (f + 1) hd tids i = .ok (.done (hd, tids, i))) :
    ∀ (k fuel hd i : Nat) (tids : Bytes) (hdI iI : Int), hdI = (hd : Int) → iI = (i : Int) →
      i + k = n → tids.length = n → k < fuel → hd ≤ info.length →
      (hd + k ≤ info.length ∧ TTH.transformLoop info k hd = .ok (hd + k) ∧
        ∃ t', L fuel hdI tids iI = .ok (.done (((hd + k : Nat) : Int), t', (n : Int)))) ∨
      (TTH.transformLoop info k hd = .panic "index" ∧ L fuel hdI tids iI = .panic "index") := by
  intro k
  induction k with
  | zero =>
    intro fuel hd i tids hdI iI ehd ei hi ht hf hh
    subst ehd ei
    obtain ⟨f, rfl⟩ : ∃ f, fuel = f + 1 := ⟨fuel - 1, by omega⟩
    obtain rfl : i = n := by omega
    exact Or.inl ⟨hh, rfl, tids, hdone f _ _ _ (by omega)⟩
  | succ k ih =>
    intro fuel hd i tids hdI iI ehd ei hi ht hf hh
    subst ehd ei
    obtain ⟨f, rfl⟩ : ∃ f, fuel = f + 1 := ⟨fuel - 1, by omega⟩
    rw [hstep f _ _ _ (by omega), TTH.transformLoop]
    by_cases c : hd < info.length
    · have e1 : wrap .i64 ((hd : Int) + 1) = ((hd + 1 : Nat) : Int) := by rw [wrap_i64_of_range] <;> omega
      have e2 : wrap .i64 ((i : Int) + 1) = ((i + 1 : Nat) : Int) := by rw [wrap_i64_of_range] <;> omega
      have hv : ¬ ((i : Int) < 0 ∨ (i : Int) ≥ vlen tids 0) := by unfold vlen len; omega
      go_step [idx_ok info (hd : Int) (by omega) (by omega), index_getD info hd c, vset, hv, e1, e2]
      rcases ih f (hd + 1) (i + 1) (putAt tids ((0 : Int) + (i : Int)).toNat [_]) _ _ rfl rfl (by omega)
          (by simp [putAt]; omega) (by omega) (by omega) with ⟨h1, hm, t', hg⟩ | ⟨hm, hg⟩
      · rw [hm, hg, show hd + 1 + k = hd + (k + 1) by omega]
        exact Or.inl ⟨by omega, rfl, t', rfl⟩
      · exact Or.inr ⟨hm, hg⟩
    · go_step [idx_panic info (hd : Int) (by omega), index_panic info hd (by omega)]
      exact Or.inr ⟨trivial, trivial⟩

/-! ## Decode -/

/-- what the theorem needs of the rendering of reader errors: never nil, and read back by the lift -/
def ErrOK (errOf : RErr → GoErr) (errBack : GoErr → Option RErr) : Prop :=
  ∀ e, errOf e ≠ GoErr.nil ∧ decErr errBack (errOf e) = .rd e

/-- what the theorem needs of `next`: the answer to a request for 2 … 65536 bytes is not longer than 65536 bytes -/
def NextBounded {σ : Type} (next : σ → Int → RdRes × σ) : Prop :=
  ∀ s n b s', 2 ≤ n → n ≤ 65536 → next s n = (RdRes.ok b, s') → b.length ≤ 65536

/-- the header-info size both sides compute from the 14 meta bytes (`uint32(uint16 field) * 4`, in the width Tie A reports) -/
def metaSize (b : Bytes) : Nat := rd16 ((b.drop 12).take 2) * 4 % 2 ^ 32

theorem decodeMeta_eq (b : Bytes) :
    TTH.decodeMeta b =
      if b.length < 4 then .panic "slice" else if b.length < 8 then .panic "index"
      else if rd32 (b.drop 4) &&& 4294901760 = 268435456 then
        if b.length < 14 then .panic "slice"
        else if metaSize b > 65536 ∨ metaSize b < 2 then .err .badSize
        else .ok { total := rd32 (b.take 4), flags := rd16 (b.drop 6), seq := toI32 (rd32 ((b.drop 8).take 4)),
                   size := metaSize b }
      else .err .notTTHeader := by
  unfold TTH.decodeMeta
  rw [m_isTTH]
  by_cases l4 : b.length < 4
  · go_step [l4]
  by_cases l8 : b.length < 8
  · go_step [l4, l8]
  by_cases hx : rd32 (b.drop 4) &&& 4294901760 = 268435456
  · unfold TTH.slice TTH.sliceFrom TTH.beU32 TTH.beU16 metaSize
    simp only [l4, l8, hx, Facts.ttSize32, Facts.ttSize16, Facts.ttMetaSize, Facts.ttHeaderSizeBits,
      Facts.ttMaxHeaderSize]
    -- `[0:4]`, `Uint32`, `[6:]`, `Uint16` succeed from 8 bytes on; `[8:12]` needs 12 and `[12:14]` needs 14
    have a2 : ¬ min 4 b.length < 4 := by omega
    have a3 : ¬ 2 * 3 > b.length := by omega
    have a4 : ¬ b.length - 2 * 3 < 2 := by omega
    by_cases l12 : b.length < 12
    · have l14 : b.length < 14 := by omega
      have a5 : 4 * 3 > b.length := by omega
      simp [a2, a3, a4, a5, l14]
    · have a5 : ¬ 4 * 3 > b.length := by omega
      have a6 : ¬ min (4 * 3 - 4 * 2) (b.length - 4 * 2) < 4 := by omega
      by_cases l14 : b.length < 14
      · simp [a2, a3, a4, a5, a6, l14]
      · have a8 : ¬ min (14 - 4 * 3) (b.length - 4 * 3) < 2 := by omega
        simp [a2, a3, a4, a5, a6, a8, l14]
  · simp [l4, l8, hx]

/-- the model's section loop never panics -/
theorem readKVInfo_not_panic (b : Bytes) (fuel idx : Nat) (m : TTH.Maps) (why : String) :
    TTH.readKVInfo b fuel idx m ≠ .panic why := by
  have h := TTH.readKVInfo_ref b fuel idx m
  split at h
  · rw [h]; simp
  · obtain ⟨e, he, _⟩ := h; rw [he]; simp

/-- the three things a call of `Next` can be, on both sides -/
theorem iOfNext_cases {σ : Type} (next : σ → Int → RdRes × σ) (errOf : RErr → GoErr) (s : σ) (n : Int) :
    ((iOfNext next errOf).next s n = .panic "nofuel" ∧ TTH.nextBytes (next s n).1 = .err .nofuel) ∨
    (∃ e, (iOfNext next errOf).next s n = .ok (([], errOf e), (next s n).2)
        ∧ TTH.nextBytes (next s n).1 = .err (.rd e)) ∨
    (∃ info, (iOfNext next errOf).next s n = .ok ((info, GoErr.nil), (next s n).2)
        ∧ TTH.nextBytes (next s n).1 = .ok info ∧ (info = [] ∨ ∃ s', next s n = (RdRes.ok info, s'))) := by
  rcases h : next s n with ⟨r, s'⟩
  cases r with
  | nofuel => exact Or.inl (by simp [iOfNext, h, TTH.nextBytes])
  | fail e =>
    cases e with
    | none => exact Or.inr (Or.inr ⟨[], by simp [iOfNext, h, TTH.nextBytes]⟩)
    | some e => exact Or.inr (Or.inl ⟨e, by simp [iOfNext, h, TTH.nextBytes]⟩)
  | ok b => exact Or.inr (Or.inr ⟨b, by simp [iOfNext, h, TTH.nextBytes]⟩)

theorem decodeG_eq {σ : Type} (next : σ → Int → RdRes × σ) (s : σ) :
    TTH.decodeG next s =
      match (TTH.nextBytes (next s 14).1).bind TTH.decodeMeta with
      | .ok m => ((TTH.nextBytes (next (next s 14).2 m.size).1).bind (TTH.decodeInfo m), (next (next s 14).2 m.size).2)
      | .err e => (.err e, (next s 14).2)
      | .panic why => (.panic why, (next s 14).2)
      | .oob => (.oob, (next s 14).2) := rfl

set_option linter.unusedSimpArgs false in
theorem tth_Decode_eq {σ : Type} (next : σ → Int → RdRes × σ) (errOf : RErr → GoErr) (errBack : GoErr → Option RErr)
    (hE : ErrOK errOf errBack) (hN : NextBounded next) (fuel : Nat) (hf : 65537 ≤ fuel) (s : σ) :
    liftDec errBack (Funcs.tth_Decode (iOfNext next errOf) fuel s) = obsDec (TTH.decodeG next s) := by
  unfold Funcs.tth_Decode
  rw [decodeG_eq]
  -- Each step rewrites the call at the head and lets `↓` rules drop the continuation of a panic and the dead branch
  -- of a decided guard before `simp` walks into them: the rest of Decode is a large term.
  rcases iOfNext_cases next errOf s 14 with ⟨h1g, h1m⟩ | ⟨e, h1g, h1m⟩ | ⟨b, h1g, h1m, -⟩
  · rw [h1g, h1m]
    go_step [Out.bind_err]
    simp [liftDec, obsDec]
  · rw [h1g, h1m]
    go_step [Out.bind_err, (hE e).1]
    simp [(hE e).1, (hE e).2, liftDec, obsDec, mergeKV]
  rw [h1g, h1m, Out.bind_ok, decodeMeta_eq]
  generalize (next s 14).2 = s1
  go_step [g_isTTH]
  by_cases l4 : b.length < 4
  · go_step [l4]
    simp [liftDec, obsDec]
  by_cases l8 : b.length < 8
  · go_step [l4, l8]
    simp [liftDec, obsDec]
  by_cases hx : rd32 (b.drop 4) &&& 4294901760 = 268435456
  case neg =>
    go_step [l4, l8, hx, Bool.not_false]
    simp [liftDec, obsDec, errNotTTH, decErr, mergeKV]
  have q1 : GoSem.sliceTo b 4 = .ok (b.take 4) := sliceTo_ok b 4 (by omega) (by omega)
  have g2 := beU32_ok (b.take 4) (by rw [List.length_take]; omega)
  have q2 : GoSem.sliceFrom b 6 = .ok (b.drop 6) := sliceFrom_ok b 6 (by omega) (by omega)
  have g3 := beU16_ok (b.drop 6) (by rw [List.length_drop]; omega)
  go_step [l4, l8, hx, Bool.not_true, g_u32nc, g_u16nc, q1, g2, q2, g3]
  by_cases l12 : b.length < 12
  · have l14 : b.length < 14 := by omega
    go_step [slice_panic_hi b 8 12 (by omega), l14]
    simp [liftDec, obsDec]
  have q3 : GoSem.slice b 8 12 = .ok ((b.drop 8).take 4) := slice_ok b 8 12 (by omega) (by omega) (by omega)
  have g6 := beU32_ok ((b.drop 8).take 4) (by rw [List.length_take, List.length_drop]; omega)
  go_step [q3, g6]
  by_cases l14 : b.length < 14
  · go_step [slice_panic_hi b 12 14 (by omega), l14]
    simp [liftDec, obsDec]
  have q4 : GoSem.slice b 12 14 = .ok ((b.drop 12).take 2) := slice_ok b 12 14 (by omega) (by omega) (by omega)
  have g7 := beU16_ok ((b.drop 12).take 2) (by rw [List.length_take, List.length_drop]; omega)
  have hr := rd16_lt ((b.drop 12).take 2)
  have e1 : wrap .u32 (((rd16 ((b.drop 12).take 2) : Nat) : Int) * 4) = ((metaSize b : Nat) : Int) := by
    rw [wrap_u32]; unfold ofInt metaSize; omega
  go_step [q4, g7, e1, l14]
  have hms : metaSize b < 4294967296 := by unfold metaSize; omega
  generalize metaSize b = size at hms
  by_cases hs : size > 65536 ∨ size < 2
  · -- the atoms, not the disjunction: `a || b` and `b || a` both close
    rcases hs with h | h
    · have a1 : (65536 < (size : Int)) := by omega
      have a2 : ¬ ((size : Int) < 2) := by omega
      simp [h, a1, a2, liftDec, obsDec, errBadSize, errNotTTH, decErr, mergeKV]
    · have a1 : ¬ (65536 < (size : Int)) := by omega
      have a2 : ((size : Int) < 2) := by omega
      simp [h, a1, a2, liftDec, obsDec, errBadSize, errNotTTH, decErr, mergeKV]
  · have hs' : ¬ (65536 < (size : Int) ∨ (size : Int) < 2) := by omega
    have hs1 : ¬ ((size : Int) > 65536) := by omega
    have hs2 : ¬ ((size : Int) < 2) := by omega
    go_step [hs, hs1, hs2, Bool.or_false]
    have hfl := rd16_lt (b.drop 6)
    have hsq := rd32_lt ((b.drop 8).take 4)
    have htot := rd32_lt (b.take 4)
    generalize rd16 (b.drop 6) = fl at hfl
    generalize rd32 ((b.drop 8).take 4) = sq at hsq
    generalize rd32 (b.take 4) = tot at htot
    -- the second Next
    rcases iOfNext_cases next errOf s1 (size : Int) with ⟨h2g, h2m⟩ | ⟨e, h2g, h2m⟩ | ⟨info, h2g, h2m, h2l⟩
    · rw [h2g, h2m]
      simp [liftDec, obsDec]
    · rw [h2g, h2m]
      simp [(hE e).1, (hE e).2, liftDec, obsDec, mergeKV]
    have hlen : info.length ≤ 65536 := by
      rcases h2l with h | ⟨s', h⟩
      · simp [h]
      · exact hN s1 (size : Int) info s' (by omega) (by omega) h
    clear h2l
    rw [h2g, h2m]
    generalize (next s1 (size : Int)).2 = s2
    go_step []
    have hb62 : info.length < 4611686018427387904 := by omega
    unfold TTH.decodeInfo
    by_cases i0 : info.length < 1
    · go_step [idx_panic info 0 (by omega), index_panic info 0 (by omega)]
      simp [liftDec, obsDec]
    have a0 : GoSem.idx info 0 = .ok (((info.getD 0 0).toNat : Nat) : Int) := idx_ok info 0 (by omega) (by omega)
    go_step [a0, checkProtocolID_out, index_getD info 0 (by omega)]
    generalize (info.getD 0 0).toNat = p0
    by_cases hc : TTH.checkProtocolID p0
    case neg =>
      simp [hc, errProto, liftDec, obsDec, decErr, errNotTTH, errBadSize, mergeKV]
    go_step [hc, Bool.not_true]
    by_cases i1 : info.length < 2
    · go_step [idx_panic info 1 (by omega), index_panic info 1 (by omega)]
      simp [liftDec, obsDec]
    have a1 : GoSem.idx info 1 = .ok (((info.getD 1 0).toNat : Nat) : Int) := idx_ok info 1 (by omega) (by omega)
    go_step [a1, index_getD info 1 (by omega)]
    have htn : (info.getD 1 0).toNat < 256 := UInt8.toNat_lt _
    generalize (info.getD 1 0).toNat = tn at htn
    have e2 : wrap .i64 ((size : Int) - 2) = (size : Int) - 2 := by rw [wrap_i64_of_range] <;> omega
    simp only [e2]
    by_cases ht : (size : Int) - 2 < (tn : Int)
    · simp [ht, liftDec, obsDec, decErr, errNotTTH, errBadSize, errProto, errTransforms, mergeKV]
    have hmk : makeBytes (tn : Int) = .ok (List.replicate tn 0) := by
      have : ¬ ((tn : Int) < 0) := by omega
      simp [makeBytes, this]
    go_step [ht, hmk]
    -- the call of the loop function, whatever its parameter list is (longest first: a shorter pattern
    -- would elaborate to a partial application)
    first
      | generalize hc : Funcs.tth_Decode_loop1 _ _ _ _ _ _ _ _ _ _ = call
      | generalize hc : Funcs.tth_Decode_loop1 _ _ _ _ _ _ _ _ _ = call
      | generalize hc : Funcs.tth_Decode_loop1 _ _ _ _ _ _ _ _ = call
      | generalize hc : Funcs.tth_Decode_loop1 _ _ _ _ _ _ _ = call
      | generalize hc : Funcs.tth_Decode_loop1 _ _ _ _ _ _ = call
    have L : (2 + tn ≤ info.length ∧ TTH.transformLoop info tn 2 = .ok (2 + tn) ∧
          ∃ t', call = .ok (.done (((2 + tn : Nat) : Int), t', (tn : Int)))) ∨
        (TTH.transformLoop info tn 2 = .panic "index" ∧ call = .panic "index") := by
      rw [← hc]
      exact decLoop_sim info hb62 tn (by omega) _
        (by intro f hd i tids h
            have h' : ¬ ((tn : Int) ≤ i) := by omega
            simp [Funcs.tth_Decode_loop1, h, h', len])
        (by intro f hd i tids h
            have h' : (tn : Int) ≤ i := by omega
            simp [Funcs.tth_Decode_loop1, h, h', len])
        tn fuel 2 0 _ _ _ rfl rfl (by omega) (by simp) (by omega) (by omega)
    clear hc
    rcases L with ⟨hl, hT, t', hL⟩ | ⟨hT, hL⟩
    case inr =>
      rw [hT, hL]
      simp [liftDec, obsDec]
    rw [hT, hL]
    go_step []
    -- the translation runs the section loop on the caller's fuel, the model on `len + 1`
    have K := tth_readKVInfo_eq_fuel info fuel (info.length + 1) (2 + tn) hb62 (by omega) (by omega) (by omega)
    have NP := readKVInfo_not_panic info (info.length + 1) (2 + tn) ⟨none, none⟩
    rw [← K] at NP ⊢
    have e3 : wrap .u32 ((size : Int) + 14) = (((size + 14) % 4294967296 : Nat) : Int) := by
      rw [wrap_u32]; unfold ofInt; omega
    have e4 : wrap .i64 ((tot : Int) + 4) = (tot : Int) + 4 := by rw [wrap_i64_of_range] <;> omega
    have e6 : wrap .i32 (sq : Int) = toI32 sq := wrap_i32_nat sq hsq
    generalize Funcs.tth_readKVInfo fuel ((2 + tn : Nat) : Int) info = x at NP
    cases x with
    | ok r =>
      obtain ⟨ri, rs, re⟩ := r
      by_cases hr : re = GoErr.nil
      · subst hr
        simp [liftMaps, liftDec, obsDec, paramM, e3, e4, e6, Facts.ttMetaSize, Facts.ttSize32]
        rw [wrap_i64_of_range] <;> omega
      · by_cases hi : re = infoIdErr
        · subst hi
          simp [infoIdErr, liftMaps, liftDec, obsDec, decErr, errNotTTH, errBadSize, errProto,
            errTransforms, errKV, mergeKV]
        · simp [hr, hi, liftMaps, liftDec, obsDec, decErr, errNotTTH, errBadSize, errProto, errTransforms,
            errKV, mergeKV]
    | panic why => exact absurd rfl (NP why)
    | oob => simp [liftMaps, liftDec, obsDec]
    | err e => exact nomatch e

theorem tth_Decode_eq_out {σ : Type} (next : σ → Int → RdRes × σ) (errOf : RErr → GoErr)
    (errBack : GoErr → Option RErr) (hE : ErrOK errOf errBack) (hN : NextBounded next) (fuel : Nat)
    (hf : 65537 ≤ fuel) (s : σ) :
    (liftDec errBack (Funcs.tth_Decode (iOfNext next errOf) fuel s)).1 = (obsDec (TTH.decodeG next s)).1 := by
  rw [tth_Decode_eq next errOf errBack hE hN fuel hf s]

/-- whenever the translated Decode returns (a value or an error), the reader it returns is the model's -/
theorem tth_Decode_eq_state {σ : Type} (next : σ → Int → RdRes × σ) (errOf : RErr → GoErr)
    (errBack : GoErr → Option RErr) (hE : ErrOK errOf errBack) (hN : NextBounded next) (fuel : Nat)
    (hf : 65537 ≤ fuel) (s : σ) (r : σ × Funcs.S_ttheader_DecodeParam × GoErr)
    (h : Funcs.tth_Decode (iOfNext next errOf) fuel s = .ok r) : r.1 = (TTH.decodeG next s).2 := by
  have e := tth_Decode_eq next errOf errBack hE hN fuel hf s
  rw [h] at e
  have e2 := congrArg Prod.snd e
  revert e2
  unfold obsDec
  simp only [liftDec]
  split <;> simp

/-! ## the two reader models -/

theorem errOK_rd : ErrOK rdErrOf rdErrBack := by
  intro e
  cases e <;> simp [rdErrOf, rdErrBack, decErr, errNotTTH, errBadSize, errProto, errTransforms, errKV]

theorem nextBounded_cur : NextBounded TTH.Cur.next := by
  intro c n b c' h2 h65 h
  unfold TTH.Cur.next at h
  split at h
  · simp at h
  · split at h
    · simp only [Prod.mk.injEq, RdRes.ok.injEq] at h
      rw [← h.1, List.length_take]
      omega
    · simp at h

theorem nextBounded_rd : NextBounded Rd.next := by
  intro r n b r' h2 h65 h
  unfold Rd.next at h
  split at h
  · simp at h
  · split at h
    · simp at h
    · split at h
      · simp at h
      · simp only [Prod.mk.injEq, RdRes.ok.injEq] at h
        rw [← h.1, List.length_take]
        omega

/-- Decode over the bufiox reader model -/
theorem tth_Decode_eq_rd (fuel : Nat) (hf : 65537 ≤ fuel) (r : Rd) :
    liftDec rdErrBack (Funcs.tth_Decode (iOfNext Rd.next rdErrOf) fuel r) = obsDec (TTH.decodeRd r) :=
  tth_Decode_eq Rd.next rdErrOf rdErrBack errOK_rd nextBounded_rd fuel hf r

/-- Decode over the plain cursor (`TTH.decodeCur b` is `decodeG Cur.next ⟨b, 0⟩` with the position projected) -/
theorem tth_Decode_eq_cur (fuel : Nat) (hf : 65537 ≤ fuel) (c : TTH.Cur) :
    liftDec rdErrBack (Funcs.tth_Decode (iOfNext TTH.Cur.next rdErrOf) fuel c) = obsDec (TTH.decodeG TTH.Cur.next c) :=
  tth_Decode_eq TTH.Cur.next rdErrOf rdErrBack errOK_rd nextBounded_cur fuel hf c

/-! ## the generated function computes (non-vacuity) -/

instance : DecidableEq Funcs.S_ttheader_DecodeParam := inferInstance

/-- meta (total 30, magic 0x1000, flags 1, seq 7, size field 3 = 12 bytes), protocol 0, no transforms, one string
    section {"a": "b"}, padding; 4 payload bytes -/
def frame1 : Bytes :=
  [0, 0, 0, 30,  0x10, 0, 0, 1,  0, 0, 0, 7,  0, 3,
   0, 0,  1, 0, 1, 0, 1, 97, 0, 1, 98, 0,
   9, 9, 9, 9]

-- a valid frame: the raw result of the translation, its lift, and the model
example : (Funcs.tth_Decode (iOfNext TTH.Cur.next rdErrOf) 65537 ⟨frame1, 0⟩).bind (fun r => .ok (r.1.pos, r.2.1.Flags, r.2.1.ProtocolID, r.2.1.StrInfo, r.2.2))
    = .ok (26, 1, 0, some [([97], [98])], GoErr.nil) := by decide +kernel
example : liftDec rdErrBack (Funcs.tth_Decode (iOfNext TTH.Cur.next rdErrOf) 65537 ⟨frame1, 0⟩)
    = (.ok { flags := 1, seq := 7, proto := 0, intKV := none, strKV := some [([97], [98])], headerLen := 26,
             payloadLen := 8 }, some ⟨frame1, 26⟩) := by
  rw [tth_Decode_eq_cur _ (by decide)]; decide +kernel

/-- `frame1` with another size field / other info bytes -/
def frameOf (magicHi : UInt8) (sizeHi sizeLo : UInt8) (rest : Bytes) : Bytes :=
  [0, 0, 0, 30,  magicHi, 0, 0, 1,  0, 0, 0, 7,  sizeHi, sizeLo] ++ rest

-- a bad magic: the Go error, its class, the reader after the first Next
example : (Funcs.tth_Decode (iOfNext TTH.Cur.next rdErrOf) 65537 ⟨frameOf 0x11 0 3 [0, 0, 0, 0], 0⟩).bind
      (fun r => .ok (r.1.pos, r.2.2))
    = .ok (14, GoErr.named "errors.New:not TTHeader protocol") := by decide +kernel
example : liftDec rdErrBack (Funcs.tth_Decode (iOfNext TTH.Cur.next rdErrOf) 65537 ⟨frameOf 0x11 0 3 [0, 0, 0, 0], 0⟩)
    = (.err .notTTHeader, some ⟨frameOf 0x11 0 3 [0, 0, 0, 0], 14⟩) := by decide +kernel
example : TTH.decodeG TTH.Cur.next ⟨frameOf 0x11 0 3 [0, 0, 0, 0], 0⟩
    = (.err .notTTHeader, ⟨frameOf 0x11 0 3 [0, 0, 0, 0], 14⟩) := by decide +kernel
-- a size field of 0x4001: 4 * 0x4001 = 65540 > 65536
example : liftDec rdErrBack (Funcs.tth_Decode (iOfNext TTH.Cur.next rdErrOf) 65537 ⟨frameOf 0x10 0x40 1 [0, 0], 0⟩)
    = (.err .badSize, some ⟨frameOf 0x10 0x40 1 [0, 0], 14⟩) := by decide +kernel
example : TTH.decodeG TTH.Cur.next ⟨frameOf 0x10 0x40 1 [0, 0], 0⟩
    = (.err .badSize, ⟨frameOf 0x10 0x40 1 [0, 0], 14⟩) := by decide +kernel
-- a size field of 0x4000 is accepted by the size check; the stream then ends: the reader's io.EOF, passed through
example : liftDec rdErrBack (Funcs.tth_Decode (iOfNext TTH.Cur.next rdErrOf) 65537 ⟨frameOf 0x10 0x40 0 [0, 0], 0⟩)
    = (.err (.rd .eof), some ⟨frameOf 0x10 0x40 0 [0, 0], 14⟩) := by decide +kernel
-- a truncated info section (the value of the only entry claims 9 bytes): the wrapped readKVInfo error
example : (Funcs.tth_Decode (iOfNext TTH.Cur.next rdErrOf) 65537
      ⟨frameOf 0x10 0 3 [0, 0, 1, 0, 1, 0, 1, 97, 0, 9, 98, 0], 0⟩).bind (fun r => .ok (r.1.pos, r.2.2))
    = .ok (26, GoErr.named "fmt.Errorf:ttHeader read kv info failed, %s, headerInfo=%#x") := by decide +kernel
example : liftDec rdErrBack (Funcs.tth_Decode (iOfNext TTH.Cur.next rdErrOf) 65537
      ⟨frameOf 0x10 0 3 [0, 0, 1, 0, 1, 0, 1, 97, 0, 9, 98, 0], 0⟩)
    = (.err .section, some ⟨frameOf 0x10 0 3 [0, 0, 1, 0, 1, 0, 1, 97, 0, 9, 98, 0], 26⟩) := by decide +kernel
example : TTH.decodeG TTH.Cur.next ⟨frameOf 0x10 0 3 [0, 0, 1, 0, 1, 0, 1, 97, 0, 9, 98, 0], 0⟩
    = (.err .section, ⟨frameOf 0x10 0 3 [0, 0, 1, 0, 1, 0, 1, 97, 0, 9, 98, 0], 26⟩) := by decide +kernel
-- an unknown info id (2): `.infoId` in the model, the SAME wrapped error in Go, hence `.section` through the lift
example : TTH.decodeG TTH.Cur.next ⟨frameOf 0x10 0 1 [0, 0, 2, 0], 0⟩
    = (.err .infoId, ⟨frameOf 0x10 0 1 [0, 0, 2, 0], 18⟩) := by decide +kernel
example : liftDec rdErrBack (Funcs.tth_Decode (iOfNext TTH.Cur.next rdErrOf) 65537 ⟨frameOf 0x10 0 1 [0, 0, 2, 0], 0⟩)
    = (.err .section, some ⟨frameOf 0x10 0 1 [0, 0, 2, 0], 18⟩) := by decide +kernel
-- three transform ids announced in a 4-byte info section
example : liftDec rdErrBack (Funcs.tth_Decode (iOfNext TTH.Cur.next rdErrOf) 65537 ⟨frameOf 0x10 0 1 [0, 3, 1, 0], 0⟩)
    = (.err .transforms, some ⟨frameOf 0x10 0 1 [0, 3, 1, 0], 18⟩) := by decide +kernel
-- a stream shorter than the meta: io.EOF of the first Next
example : liftDec rdErrBack (Funcs.tth_Decode (iOfNext TTH.Cur.next rdErrOf) 65537 ⟨[0, 0, 0, 30, 0x10], 0⟩)
    = (.err (.rd .eof), some ⟨[0, 0, 0, 30, 0x10], 0⟩) := by decide +kernel
-- panics: a reader whose Next returns (nil, nil) makes `IsTTHeader` slice the empty buffer (both sides);
-- a reader that answers the second Next with a short slice makes the transform loop index out of range
example : Funcs.tth_Decode (iOfNext (fun (s : Unit) _ => (RdRes.fail none, s)) rdErrOf) 65537 ()
    = .panic "slice" := by decide +kernel
example : TTH.decodeG (fun (s : Unit) _ => (RdRes.fail none, s)) () = (.panic "slice", ()) := by decide +kernel
example : Funcs.tth_Decode (iOfNext (fun (s : Nat) _ => (if s = 0 then RdRes.ok (frame1.take 14) else RdRes.ok [0, 2, 7], s + 1))
      rdErrOf) 65537 0 = .panic "index" := by decide +kernel
example : (TTH.decodeG (fun (s : Nat) _ => (if s = 0 then RdRes.ok (frame1.take 14) else RdRes.ok [0, 2, 7], s + 1)) 0).1
    = .panic "index" := by decide +kernel
-- the fuel of the reader model
example : liftDec (σ := Unit) rdErrBack (Funcs.tth_Decode (iOfNext (fun s _ => (RdRes.nofuel, s)) rdErrOf) 65537 ())
    = (.err .nofuel, none) := by decide +kernel

end Verif.FuncsEq
