/-
  Lemmas/Funcs/TransferTTH: helper lemmas for Props/Translated (undoing the result lifts); split per group so that a
  property's check only depends on the translated functions it is about.
-/
import Verif.Lemmas.Funcs.TTH2
namespace Verif.FuncsEq
open Verif Verif.GoSem

theorem returns_of_lift_safe {α β ε : Type} (lift : GM α → Out ε β) (hp : ∀ s, lift (.panic s) = .panic s)
    (ho : lift .oob = .oob) {x : GM α} (h : (lift x).Safe) : ∃ r, x = .ok r := by
  cases x with
  | ok r => exact ⟨r, rfl⟩
  | err e => exact nomatch e
  | panic s => exact absurd (hp s) (h.1 s)
  | oob => exact absurd ho h.2

theorem liftMaps_returns {x : GM (GoMap Int Bytes × GoMap Bytes Bytes × GoErr)} (h : (liftMaps x).Safe) :
    ∃ r, x = .ok r :=
  returns_of_lift_safe liftMaps (fun _ => rfl) rfl h

theorem liftSec_returns {G M : Type} {abs : G → M} {x : GM (Int × Option G × GoErr)} (h : (liftSec abs x).Safe) :
    ∃ r, x = .ok r :=
  returns_of_lift_safe (liftSec abs) (fun _ => rfl) rfl h

theorem liftSecH_returns {G M : Type} {abs : G → M} {x : GM (Int × Option G × Bool × GoErr)}
    (h : (liftSecH abs x).Safe) : ∃ r, x = .ok r :=
  returns_of_lift_safe (liftSecH abs) (fun _ => rfl) rfl h

theorem liftEofS_returns {x : GM (Bytes × Int × GoErr)} (h : (liftEofS x).Safe) : ∃ r, x = .ok r :=
  returns_of_lift_safe liftEofS (fun _ => rfl) rfl h

theorem liftEof_returns {x : GM (Int × GoErr)} (h : (liftEof x).Safe) : ∃ r, x = .ok r :=
  returns_of_lift_safe liftEof (fun _ => rfl) rfl h

end Verif.FuncsEq
