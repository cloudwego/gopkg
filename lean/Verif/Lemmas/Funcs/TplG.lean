/-
  Lemmas/Funcs/TplG: `(SkipDecoderTpl[T]).Skip` (self-recursive, three `for` loops, generic over the back end
  `SkipDecoderIface`) TRANSLATED from protocol/thrift/skipdecoder_tpl.go (`Verif.Funcs.Tpl_Skip` and its loop functions
  over an abstract `SkipNI ρ`: generated) is the hand-written model `skipTplAt` (Model/SkipStream.lean), for ANY interface
  value `I : SkipNI ρ` over ANY Go-side state type `ρ` that IMPLEMENTS a model back end `B : Backend σ` through an
  abstraction relation `R : ρ → σ → Prop` (Go-side state, model state):

      Impl N R I B P :  ∀ p s n, R p s → P s → 0 ≤ n ≤ 2^35 → SSim N R (I.skipN p n) (B.skipN s n.toNat)

  (`SSim`: success with the same bytes and `R`-related new states; an error value `e ≠ nil` with `N.absE e` = the model's
  error — whatever the Go state and the returned slice next to the error are —; the same panic).  A relation rather than
  a function so that it can carry a Go-side typing invariant the model state cannot express (`0 ≤ p.n` for an `int`
  offset the model keeps as a `Nat`).  Only model states satisfying the back-end invariant `P` and only counts in
  `0 … 2^35` matter: the generic code never passes anything else (the fixed sizes are `> 0`, the STRING size and the
  counts are tested `< 0` first, the products are `< 2^31 * 16`) — the proof shows it, so what `I.skipN` does on a
  negative count is irrelevant.

      Tpl_Skip_simG : Meas B μ P → Impl N R I B P → R p s → P s → d < 2^63 → μ s + d + 2 ≤ fuel →
          GSim N R (Funcs.Tpl_Skip I fuel p (toI8 t.toNat) d) (skipTplAt B d t s)
      Tpl_Skip_eqG  : the same as an equation through `liftTplG` when `R p s → s = α p`

  This is the ONE simulation proof about the generic skipper: `Tpl.Tpl_Skip_sim` / `Tpl_Skip_eq*` (Lemmas/Funcs/Tpl.lean:
  the model back end itself as the interface value, `ρ = σ`, `R = Eq`, `I = iOf B N.errOf`) and `BSD_Next_sim` / `SD_Next_sim`
  (Lemmas/Funcs/Dec.lean: the interface value built from the receiver's own TRANSLATED `SkipN`) are instances.

  This file also holds what both need: the error naming (`ErrNaming`, `stdNaming`), `iOf`, `liftTpl`, the measure `Meas`
  (see Tpl.lean for the discussion of errors and fuel) and the model-only lemmas (`skipTplAt_dec`: a successful skip
  consumes, in the form `Uses` that is carried through the model's `bind`s); and `OSim`, the outcome relation with its
  rule for a call followed by a continuation (`OSim.bind`), in which this proof works (`GSim` and `SSim` embed:
  `GSim.of_osim`, `SSim.osim`) and of which the relations of Lemmas/Funcs/StreamSkip.lean and Dec.lean are instances.

  Shape-robustness (the generated definition changes with every harmless refactoring of the Go source):
  * the generated LOOP functions are never mentioned: their names are numbered in source order and their parameter
    lists follow the variables the loop reads, so both change when clauses are reordered or a sub-expression is
    hoisted.  `counted_simG` (MAP, LIST/SET) and `struct_simG` are about ANY function `L` whose one-step unfolding
    (`step`, proved by `rfl` at the use site, where unification finds `L`, the loop test `cond`, the counter update
    `next` and the depth expression) is: test, recursive calls for the element types, continue. The counting direction
    only enters through `Iter cond next i cnt` ("the counter makes exactly `cnt` more iterations"), for which there is
    one lemma per idiom (`iter_up`: `for i := 0; i < sz; i++`, `iter_down`: `for n := sz; n > 0; n--`).  The STRUCT loop
    may be left by `break` or by `return nil` (`stopR`).
  * the `switch` is handled by a semantic case split on the type byte in which every test is decided, so the order of
    the clauses does not matter; the byte counts are normalised by `wrap_add_small / wrap_mul_l / wrap_mul_r` whatever
    the order of the operands; a `SkipN` call is taken with what follows it on both sides by `OSim.bind`.
-/
import Verif.Lemmas.Funcs.Skip
import Verif.Model.SkipStream
set_option linter.unusedSimpArgs false
namespace Verif.FuncsEq
open Verif Verif.GoSem

/-! ## errors: naming the model's `TErr` values as Go error values -/

/-- an injection of the model's errors into `GoErr` (never `nil`) with a left inverse that reads a protocol exception
    by its type id -/
structure ErrNaming where
  errOf : TErr → GoErr
  absE : GoErr → TErr
  ne_nil : ∀ e, errOf e ≠ GoErr.nil
  inv : ∀ e, absE (errOf e) = e
  pe : ∀ id msg, absE (GoErr.pe id msg) = TErr.pe id

def rName : RErr → String
  | .eof => "io.EOF"
  | .noProgress => "io.ErrNoProgress"
  | .negCount => "bufiox.errNegativeCount"
  | .src k => "src#" ++ Nat.repr k

def rOfChars (cs : List Char) : RErr :=
  if cs.take 4 = ['s', 'r', 'c', '#'] then .src (Nat.ofDigitChars 10 (cs.drop 4) 0)
  else if cs = "io.EOF".toList then .eof
  else if cs = "io.ErrNoProgress".toList then .noProgress
  else .negCount

theorem rName_src (k : Nat) : (rName (.src k)).toList = 's' :: 'r' :: 'c' :: '#' :: Nat.toDigits 10 k := by
  have h : "src#".toList = ['s', 'r', 'c', '#'] := by decide
  simp only [rName, String.toList_append, Nat.toList_repr, h, List.cons_append, List.nil_append]

theorem rOfChars_rName (e : RErr) : rOfChars (rName e).toList = e := by
  cases e with
  | eof => decide
  | noProgress => decide
  | negCount => decide
  | src k =>
    rw [rName_src]
    simp [rOfChars, Nat.ofDigitChars_ten_toDigits]

/-- the standard naming: a raw reader error by its name, a wrapped one as `GoSem.wrapErr` names it -/
def errOfStd : TErr → GoErr
  | .pe id => .pe id ""
  | .raw e => .named (rName e)
  | .wrap e => .named ("wrap:" ++ rName e)

def absStd : GoErr → TErr
  | .nil => .pe 0
  | .pe id _ => .pe id
  | .named s =>
    if s.toList.take 5 = ['w', 'r', 'a', 'p', ':'] then .wrap (rOfChars (s.toList.drop 5)) else .raw (rOfChars s.toList)

theorem absStd_errOfStd (e : TErr) : absStd (errOfStd e) = e := by
  cases e with
  | pe id => rfl
  | wrap e =>
    have h : "wrap:".toList = ['w', 'r', 'a', 'p', ':'] := by decide
    simp [errOfStd, absStd, String.toList_append, h, rOfChars_rName]
  | raw e =>
    have h : (rName e).toList.take 5 ≠ ['w', 'r', 'a', 'p', ':'] := by
      cases e with
      | eof => decide
      | noProgress => decide
      | negCount => decide
      | src k => rw [rName_src]; simp
    simp [errOfStd, absStd, h, rOfChars_rName]

theorem wrapErr_errOfStd (e : RErr) : wrapErr (errOfStd (.raw e)) = errOfStd (.wrap e) := rfl

def stdNaming : ErrNaming where
  errOf := errOfStd
  absE := absStd
  ne_nil e := by cases e <;> simp [errOfStd]
  inv := absStd_errOfStd
  pe _ _ := rfl

/-- `er` reads the Go error out of a result of the translation; next to an error value nothing else of the result is
    compared -/
inductive OSim (N : ErrNaming) {τ β : Type} (er : τ → GoErr) (Q : τ → β → Prop) : GM τ → TOut β → Prop where
  | ok (t : τ) (b : β) (he : er t = GoErr.nil) (h : Q t b) : OSim N er Q (.ok t) (.ok b)
  | err (t : τ) (he : er t ≠ GoErr.nil) : OSim N er Q (.ok t) (.err (N.absE (er t)))
  | panic (m : String) : OSim N er Q (.panic m) (.panic m)
  | oob : OSim N er Q .oob .oob

def loopErr {ρ σ : Type} : LoopR (ρ × GoErr) σ → GoErr
  | .ret a => a.2
  | .done _ => GoErr.nil

theorem ite_bind {α β : Type} {c : Prop} [Decidable c] (a b : GM α) (K : α → GM β) :
    (if c then a else b).bind K = if c then a.bind K else b.bind K := by
  split <;> rfl

theorem ite_ite_pos {α : Type} {c : Prop} [Decidable c] (x y z : α) :
    (if c then (if c then x else y) else z) = if c then x else z := by
  split <;> simp [*]

theorem ite_ite_neg {α : Type} {c : Prop} [Decidable c] (x y z : α) :
    (if c then z else (if c then y else x)) = if c then z else x := by
  split <;> simp [*]

namespace OSim
variable {N : ErrNaming} {τ β τ' β' : Type} {er : τ → GoErr} {Q : τ → β → Prop} {er' : τ' → GoErr}
  {Q' : τ' → β' → Prop}

theorem named (t : τ) (e : TErr) (h : er t = N.errOf e) : OSim N er Q (.ok t) (.err e) := by
  have := OSim.err (N := N) (er := er) (Q := Q) t (h ▸ N.ne_nil e)
  rwa [h, N.inv] at this

theorem perr (t : τ) (id : Int) (msg : String) (h : er t = GoErr.pe id msg) :
    OSim N er Q (.ok t) (.err (TErr.pe id)) := by
  have := OSim.err (N := N) (er := er) (Q := Q) t (by rw [h]; exact GoErr.noConfusion)
  rwa [h, N.pe] at this

/-- a call followed by the rest of the function, on both sides: after a success the continuations `K`, `K'` correspond
    (`hy` hands the model's successful call to the caller); on an error value the translation returns it (`herr`; by
    default: the continuation's test of the error is decided by the error fact, in either polarity). -/
theorem bind {x : GM τ} {y : TOut β} {K : τ → GM τ'} {K' : β → TOut β'} (h : OSim N er Q x y)
    (hok : ∀ t b, er t = GoErr.nil → Q t b → y = .ok b → OSim N er' Q' (K t) (K' b))
    (herr : ∀ t, er t ≠ GoErr.nil → (K t).bind (fun t' => .ok (er' t')) = .ok (er t) := by
      intro t he
      simp only [he, loopErr, ne_eq, not_false_eq_true, not_true_eq_false, decide_true, decide_false, if_true, if_false,
        Bool.false_eq_true, Out.bind_eq, Out.pure_eq, Out.bind_ok]) :
    OSim N er' Q' (x.bind K) (y.bind K') := by
  cases h with
  | ok t b he h => exact hok t b he h rfl
  | err t he =>
    have h := herr t he
    show OSim N er' Q' (K t) _
    cases hk : K t with
    | ok t' =>
      rw [hk] at h
      simp only [Out.bind_ok, Out.ok.injEq] at h
      rw [← h]; exact .err t' (h ▸ he)
    | err e => exact nomatch e
    | panic m => rw [hk] at h; cases h
    | oob => rw [hk] at h; cases h
  | panic m => exact .panic m
  | oob => exact .oob

theorem map {x : GM τ} {y : TOut β} {K : τ → GM τ'} {Q' : τ' → β → Prop} (h : OSim N er Q x y)
    (hok : ∀ t b, er t = GoErr.nil → Q t b → OSim N er' Q' (K t) (.ok b))
    (herr : ∀ t, er t ≠ GoErr.nil → (K t).bind (fun t' => .ok (er' t')) = .ok (er t)) :
    OSim N er' Q' (x.bind K) y := by
  have := h.bind (K' := .ok) (fun t b he hq _ => hok t b he hq) herr
  cases y <;> exact this

end OSim

/-! ## the model back end as an instance of the abstract Go interface; the lift -/

/-- `B : Backend σ` as a `SkipDecoderIface` value. A negative count is never passed by `SkipDecoderTpl.Skip`
    (`Tpl_Skip_sim` never reaches that branch). -/
def iOf {σ : Type} (B : Backend σ) (errOf : TErr → GoErr) : SkipNI σ where
  skipN s n :=
    if n < 0 then .panic "SkipN: negative count"
    else match B.skipN s n.toNat with
      | .ok r => .ok ((r.1, GoErr.nil), r.2)
      | .err e => .ok (([], errOf e), s)
      | .panic m => .panic m
      | .oob => .oob

/-- result `(p, err)` of the translated `Skip` (receiver state afterwards, error) as the model's `TOut σ` -/
def liftTpl {σ : Type} (absE : GoErr → TErr) (x : GM (σ × GoErr)) : TOut σ :=
  match x with
  | .ok r => if r.2 = GoErr.nil then .ok r.1 else .err (absE r.2)
  | .panic s => .panic s
  | .oob => .oob
  | .err e => nomatch e

theorem iOf_skipN {σ : Type} (B : Backend σ) (errOf : TErr → GoErr) (s : σ) (n : Int) (h : 0 ≤ n) :
    (iOf B errOf).skipN s n =
      match B.skipN s n.toNat with
      | .ok r => .ok ((r.1, GoErr.nil), r.2)
      | .err e => .ok (([], errOf e), s)
      | .panic m => .panic m
      | .oob => .oob := by
  have h : ¬ (n < 0) := by omega
  simp only [iOf, h, if_false]

/-- a measure of what the back end can still deliver, under a back-end invariant `P` -/
structure Meas {σ : Type} (B : Backend σ) (μ : σ → Nat) (P : σ → Prop) : Prop where
  dec : ∀ s n b s', P s → n ≤ 34359738368 → B.skipN s n = .ok (b, s') → P s' ∧ μ s' + n ≤ μ s
  le_avail : ∀ s, P s → μ s ≤ B.avail s



namespace Tpl
variable {σ : Type}

/-- `b[k]` in the translation: the model's `idx` with the byte as an integer -/
theorem gidx_nat (b : Bytes) (k : Nat) :
    GoSem.idx b (k : Int) = match b[k]? with | some x => .ok ((x.toNat : Nat) : Int) | none => .panic "index" := by
  have h : ¬ ((k : Int) < 0) := by omega
  simp only [GoSem.idx, h, if_false, Int.toNat_natCast]
  cases b[k]? <;> rfl


/-! ## the model consumes: a successful `skipTplAt` lowers the measure by at least 1 -/

/-- the form in which "every step of the model consumes" is carried through the model's `bind`s -/
def Uses {β : Type} (μ : β → Nat) (P : β → Prop) (m k : Nat) (x : TOut β) : Prop :=
  ∀ b, x = .ok b → P b ∧ μ b + k ≤ m

namespace Uses
variable {α β γ : Type} {μ : β → Nat} {P : β → Prop} {μ' : γ → Nat} {P' : γ → Prop} {m k m' k' : Nat}

theorem ok {b : β} (hp : P b) (hm : μ b + k ≤ m) : Uses μ P m k (.ok b) :=
  fun _ h => by cases h; exact ⟨hp, hm⟩

theorem err (e : TErr) : Uses μ P m k (.err e) := fun _ h => nomatch h

theorem mono {x : TOut β} (h : Uses μ P m' k' x) (hm : m' + k ≤ m + k') : Uses μ P m k x :=
  fun b hb => ⟨(h b hb).1, by have := (h b hb).2; omega⟩

theorem bind {x : TOut β} {f : β → TOut γ} (hx : Uses μ P m k x)
    (hf : ∀ b, x = .ok b → P b → μ b + k ≤ m → Uses μ' P' m' k' (f b)) : Uses μ' P' m' k' (x.bind f) := by
  intro c h
  obtain ⟨b, hb, hc⟩ := Out.bind_ok_inv h
  exact hf b hb (hx b hb).1 (hx b hb).2 c hc

theorem pure_bind {x : TOut α} {f : α → TOut β} (hf : ∀ a, x = .ok a → Uses μ P m k (f a)) :
    Uses μ P m k (x.bind f) := by
  intro c h
  obtain ⟨a, ha, hc⟩ := Out.bind_ok_inv h
  exact hf a ha c hc

theorem ite {c : Prop} [Decidable c] {x y : TOut β} (hx : c → Uses μ P m k x) (hy : ¬ c → Uses μ P m k y) :
    Uses μ P m k (if c then x else y) := by
  split
  · exact hx ‹_›
  · exact hy ‹_›

end Uses

abbrev SUses {α σ : Type} (μ : σ → Nat) (P : σ → Prop) (m k : Nat) (x : TOut (α × σ)) : Prop :=
  Uses (fun b => μ b.2) (fun b => P b.2) m k x

namespace SUses
variable {α γ σ : Type} {μ : σ → Nat} {P : σ → Prop} {μ' : γ → Nat} {P' : γ → Prop} {m k m' k' : Nat}
  {x : TOut (α × σ)}

theorem out (h : SUses μ P m k x) {a : α} {s : σ} (hx : x = .ok (a, s)) : P s ∧ μ s + k ≤ m := h _ hx

theorem ok {a : α} {s : σ} (hp : P s) (hm : μ s + k ≤ m) : SUses μ P m k (.ok (a, s)) := Uses.ok hp hm

theorem bind {f : α × σ → TOut γ} (hx : SUses μ P m k x)
    (hf : ∀ a s, x = .ok (a, s) → P s → μ s + k ≤ m → Uses μ' P' m' k' (f (a, s))) : Uses μ' P' m' k' (x.bind f) :=
  Uses.bind hx fun b hb hp hm => hf b.1 b.2 hb hp hm

end SUses

def seqModel (rec' : UInt8 → σ → TOut σ) : List UInt8 → σ → (σ → TOut σ) → TOut σ
  | [], s, k => k s
  | t :: ts, s, k => (rec' t s).bind (fun s1 => seqModel rec' ts s1 k)

def cntModel (rec' : UInt8 → σ → TOut σ) (ts : List UInt8) : Nat → σ → TOut σ
  | 0, s => .ok s
  | c + 1, s => seqModel rec' ts s (cntModel rec' ts c)

theorem tplListLoop_eq (rec' : UInt8 → σ → TOut σ) (vt : UInt8) :
    ∀ c s, tplListLoop rec' vt c s = cntModel rec' [vt] c s := by
  intro c
  induction c with
  | zero => intro s; rfl
  | succ c ih =>
    intro s
    simp only [tplListLoop, cntModel, seqModel, Out.bind_eq]
    congr 1; funext s1; exact ih s1

theorem tplMapLoop_eq (rec' : UInt8 → σ → TOut σ) (kt vt : UInt8) :
    ∀ c s, tplMapLoop rec' kt vt c s = cntModel rec' [kt, vt] c s := by
  intro c
  induction c with
  | zero => intro s; rfl
  | succ c ih =>
    intro s
    simp only [tplMapLoop, cntModel, seqModel, Out.bind_eq]
    congr 1; funext s1; congr 1; funext s2; exact ih s2


variable {B : Backend σ} {μ : σ → Nat} {P : σ → Prop} {rec' : UInt8 → σ → TOut σ}

theorem _root_.Verif.FuncsEq.Meas.uses (hM : Meas B μ P) {s : σ} (hp : P s) (n : Nat) (hn : n ≤ 34359738368) :
    SUses μ P (μ s) n (B.skipN s n) :=
  fun b h => hM.dec s n b.1 b.2 hp hn h

theorem seqModel_uses (hrec : ∀ t s, P s → Uses μ P (μ s) 1 (rec' t s)) (m : Nat) :
    ∀ (ts : List UInt8) (s : σ) (k : σ → TOut σ), P s → μ s ≤ m →
      (∀ s', P s' → μ s' ≤ m → Uses μ P m 0 (k s')) → Uses μ P m 0 (seqModel rec' ts s k) := by
  intro ts
  induction ts with
  | nil => intro s k hp hm hk; exact hk s hp hm
  | cons t ts ih =>
    intro s k hp hm hk
    exact (hrec t s hp).bind fun s1 _ hp1 hd1 => ih s1 k hp1 (by omega) hk

theorem cntModel_uses (hrec : ∀ t s, P s → Uses μ P (μ s) 1 (rec' t s)) (ts : List UInt8) (m : Nat) :
    ∀ (cnt : Nat) (s : σ), P s → μ s ≤ m → Uses μ P m 0 (cntModel rec' ts cnt s) := by
  intro cnt
  induction cnt with
  | zero => intro s hp hm; exact .ok hp hm
  | succ cnt ih => intro s hp hm; exact seqModel_uses hrec m ts s _ hp hm ih

theorem tplStructLoop_uses (hM : Meas B μ P) (hrec : ∀ t s, P s → Uses μ P (μ s) 1 (rec' t s)) :
    ∀ (fuel : Nat) (s : σ), P s → Uses μ P (μ s) 1 (tplStructLoop B rec' fuel s) := by
  intro fuel
  induction fuel with
  | zero => intro s _ _ h; cases h
  | succ fuel ih =>
    intro s hp
    refine (hM.uses hp 1 (by omega)).bind fun b s1 _ hp1 hd1 => .pure_bind fun tp _ => .ite
      (fun _ => .ok hp1 hd1) fun _ => ?_
    refine (hM.uses hp1 2 (by omega)).bind fun _ s2 _ hp2 hd2 => ?_
    exact (hrec tp s2 hp2).bind fun s3 _ hp3 hd3 => (ih s3 hp3).mono (by omega)

/-- `34359738368 = 2^35` bounds the requests of the fast paths -/
theorem count_mul_le {b : Bytes} {v : Nat} (h : u32of b = .ok v) (a : Nat) (ha : a ≤ 16) :
    (toI32 v).toNat * a ≤ 34359738368 := by
  unfold u32of at h
  split at h
  · cases h
    have := toI32_range _ (rd32_lt b)
    have := Nat.mul_le_mul (show (toI32 (rd32 b)).toNat ≤ 2147483648 by omega) ha
    omega
  · cases h

/-- every successful `SkipDecoderTpl.Skip` consumes at least one unit of the measure (and keeps the invariant) -/
theorem skipTplAt_dec (hM : Meas B μ P) : ∀ d t s, P s → Uses μ P (μ s) 1 (skipTplAt B d t s) := by
  intro d
  induction d with
  | zero => intro t s _; exact .err _
  | succ d ih =>
    intro t s hp
    simp only [skipTplAt, typeSize_eq, Out.bind_eq, Out.bind_ok, Out.pure_eq, Int.toNat_natCast, tplMapLoop_eq,
      tplListLoop_eq]
    have hle := fixedSize_le t
    refine .ite (fun hfix => (hM.uses hp _ (by omega)).bind fun _ s1 _ hp1 hd1 => .ok (b := s1) hp1 (by omega))
      fun _ => .ite (fun _ => ?str) fun _ => .ite (fun _ => tplStructLoop_uses hM ih _ s hp)
      fun _ => .ite (fun _ => ?map) fun _ => .ite (fun _ => ?list) fun _ => .err _
    case str =>
      refine (hM.uses hp 4 (by omega)).bind fun b s1 _ hp1 hd1 => .pure_bind fun v hv => .ite (fun _ => .err _)
        fun _ => ?_
      have := count_mul_le hv 1 (by omega)
      exact (hM.uses hp1 _ (by omega)).bind fun _ s2 _ hp2 hd2 => .ok (b := s2) hp2 (by omega)
    case map =>
      refine (hM.uses hp 6 (by omega)).bind fun b s1 _ hp1 hd1 => .pure_bind fun kt _ => .pure_bind fun vt _ =>
        .pure_bind fun v hv => .ite (fun _ => .err _) fun _ => .ite (fun _ => ?_) fun _ => ?_
      · have := count_mul_le hv (fixedSize kt + fixedSize vt) (by have := fixedSize_le kt; have := fixedSize_le vt; omega)
        exact (hM.uses hp1 _ this).bind fun _ s2 _ hp2 hd2 => .ok (b := s2) hp2 (by omega)
      · exact (cntModel_uses ih _ (μ s1) _ s1 hp1 (Nat.le_refl _)).mono (by omega)
    case list =>
      refine (hM.uses hp 5 (by omega)).bind fun b s1 _ hp1 hd1 => .pure_bind fun vt _ =>
        .pure_bind fun v hv => .ite (fun _ => .err _) fun _ => .ite (fun _ => ?_) fun _ => ?_
      · have := count_mul_le hv (fixedSize vt) (by have := fixedSize_le vt; omega)
        exact (hM.uses hp1 _ this).bind fun _ s2 _ hp2 hd2 => .ok (b := s2) hp2 (by omega)
      · exact (cntModel_uses ih _ (μ s1) _ s1 hp1 (Nat.le_refl _)).mono (by omega)

theorem beU32_eq (b : Bytes) : beU32 b = if 4 ≤ b.length then .ok (rd32 b : Int) else .panic "index" := by
  unfold beU32
  by_cases h : 4 ≤ b.length
  · have : ¬ b.length < 4 := by omega
    simp [h, this]
  · have : b.length < 4 := by omega
    simp [h, this]

theorem wrap_mul_small (a b : Int) (ha0 : 0 ≤ a) (ha : a < 2147483648) (hb0 : 0 ≤ b) (hb : b ≤ 16) :
    wrap .i64 (a * b) = a * b := by
  have h1 : a * b ≤ 2147483648 * 16 := Int.mul_le_mul (by omega) hb hb0 (by omega)
  have h2 : 0 ≤ a * b := Int.mul_nonneg ha0 hb0
  exact wrap_i64_of_range _ (by omega) (by omega)


theorem idx_osim (N : ErrNaming) (b : Bytes) (k : Nat) :
    OSim N (fun _ : Int => GoErr.nil) (fun a u => a = ((u.toNat : Nat) : Int) ∧ k < b.length)
      (GoSem.idx b (k : Int)) (Verif.idx b k) := by
  rw [gidx_nat, Verif.idx]
  cases h : b[k]? with
  | none => exact .panic _
  | some x => exact .ok _ _ rfl ⟨rfl, (List.getElem?_eq_some_iff.mp h).1⟩

theorem beU32_osim (N : ErrNaming) (b : Bytes) :
    OSim N (fun _ : Int => GoErr.nil) (fun a v => a = ((v : Nat) : Int) ∧ v < 4294967296) (beU32 b) (u32of b) := by
  rw [beU32_eq, u32of]
  by_cases h : 4 ≤ b.length
  · rw [if_pos h, if_pos h]; exact .ok _ _ rfl ⟨rfl, rd32_lt b⟩
  · rw [if_neg h, if_neg h]; exact .panic _

/-- `b[k:]` inside the slice: the model has no step for it -/
theorem _root_.Verif.FuncsEq.OSim.sliceFrom {N : ErrNaming} {τ β : Type} {er : τ → GoErr} {Q : τ → β → Prop} {b : Bytes}
    {k : Int} {K : Bytes → GM τ} {y : TOut β} (h0 : 0 ≤ k) (h : k ≤ b.length)
    (h' : OSim N er Q (K (b.drop k.toNat)) y) : OSim N er Q ((sliceFrom b k).bind K) y := by
  rwa [sliceFrom_ok b k h0 h]

end Tpl

namespace TplG

/-- counting down: `for n := sz; n > 0; n--` with an `int32` counter -/
theorem iter_down (cond : Int → Bool) (next : Int → Int)
    (hc : ∀ i, cond i = decide (i > 0)) (hn : ∀ i, next i = wrap .i32 (i - 1)) :
    ∀ (c : Nat), c < 2 ^ 31 → Iter cond next (c : Int) c :=
  FuncsEq.iter_down cond next hc hn

open Tpl
variable {ρ σ : Type}

/-! ## the relations -/

/-- one `SkipN` call: translation-side outcome `x` against the model back end's outcome `y` -/
inductive SSim (N : ErrNaming) (R : ρ → σ → Prop) : GM ((Bytes × GoErr) × ρ) → TOut (Bytes × σ) → Prop where
  | ok (b : Bytes) (p : ρ) (s : σ) (h : R p s) : SSim N R (.ok ((b, GoErr.nil), p)) (.ok (b, s))
  | err (b : Bytes) (p : ρ) (e : GoErr) (h : e ≠ GoErr.nil) : SSim N R (.ok ((b, e), p)) (.err (N.absE e))
  | panic (m : String) : SSim N R (.panic m) (.panic m)
  | oob : SSim N R .oob .oob

/-- the interface value `I` (Go state `ρ`) implements the model back end `B` (model state `σ`) through `R`, on the
    states satisfying `P` and for the counts the generic code can pass -/
structure Impl (N : ErrNaming) (R : ρ → σ → Prop) (I : SkipNI ρ) (B : Backend σ) (P : σ → Prop) : Prop where
  sim : ∀ p s n, R p s → P s → 0 ≤ n → n ≤ 34359738368 → SSim N R (I.skipN p n) (B.skipN s n.toNat)

inductive GSim (N : ErrNaming) (R : ρ → σ → Prop) : GM (ρ × GoErr) → TOut σ → Prop where
  | ok (p : ρ) (s : σ) (h : R p s) : GSim N R (.ok (p, GoErr.nil)) (.ok s)
  | err (p : ρ) (e : GoErr) (h : e ≠ GoErr.nil) : GSim N R (.ok (p, e)) (.err (N.absE e))
  | panic (m : String) : GSim N R (.panic m) (.panic m)
  | oob : GSim N R .oob .oob

/-- the form of `GSim` in which the proofs work: an instance of `OSim` -/
abbrev GS (N : ErrNaming) (R : ρ → σ → Prop) : GM (ρ × GoErr) → TOut σ → Prop :=
  OSim N (fun t => t.2) (fun t s => R t.1 s)

theorem GSim.of_osim {N : ErrNaming} {R : ρ → σ → Prop} {x : GM (ρ × GoErr)} {y : TOut σ} (h : GS N R x y) :
    GSim N R x y := by
  cases h with
  | ok t s he h => obtain ⟨p, e⟩ := t; cases he; exact .ok p s h
  | err t he => exact .err t.1 t.2 he
  | panic m => exact .panic m
  | oob => exact .oob

theorem SSim.osim {N : ErrNaming} {R : ρ → σ → Prop} {x : GM ((Bytes × GoErr) × ρ)} {y : TOut (Bytes × σ)}
    (h : SSim N R x y) : OSim N (fun t => t.1.2) (fun t b => t.1.1 = b.1 ∧ R t.2 b.2) x y := by
  cases h with
  | ok b p s h => exact .ok _ _ rfl ⟨rfl, h⟩
  | err b p e h => exact .err ((b, e), p) h
  | panic m => exact .panic m
  | oob => exact .oob

/-- result `(p, err)` of the translated `Skip` as the model's `TOut σ`, through an abstraction FUNCTION `α` (the Go state
    next to an error is dropped) -/
def liftTplG (absE : GoErr → TErr) (α : ρ → σ) (x : GM (ρ × GoErr)) : TOut σ :=
  match x with
  | .ok r => if r.2 = GoErr.nil then .ok (α r.1) else .err (absE r.2)
  | .panic s => .panic s
  | .oob => .oob
  | .err e => nomatch e

/-- when the relation determines the model state (`R p s → s = α p`), the simulation is an equation -/
theorem GSim.lift {N : ErrNaming} {R : ρ → σ → Prop} {α : ρ → σ} (hα : ∀ p s, R p s → s = α p)
    {x : GM (ρ × GoErr)} {y : TOut σ} (h : GSim N R x y) : liftTplG N.absE α x = y := by
  cases h with
  | ok p s h => simp [liftTplG, hα p s h]
  | err p e h => simp [liftTplG, h]
  | panic m => rfl
  | oob => rfl

/-- what the loops assume about the recursive call `rec` (translation, at the depth `dp` the loops pass) and `rec'`
    (model) -/
structure RecOKG (N : ErrNaming) (R : ρ → σ → Prop) (μ : σ → Nat) (P : σ → Prop) (rec : ρ → Int → Int → GM (ρ × GoErr))
    (rec' : UInt8 → σ → TOut σ) (dp : Int) (bound : Nat) : Prop where
  sim : ∀ p s t, R p s → P s → μ s ≤ bound → GS N R (rec p (toI8 t.toNat) dp) (rec' t s)
  dec : ∀ t s, P s → Uses μ P (μ s) 1 (rec' t s)

/-! ## loops, independent of the names, parameter lists and counting direction of the generated loop functions -/

/-- the recursive calls of ONE iteration of a counted loop as the translator emits them: `Skip(t, depth)` for each `t`,
    `return err` after each, then the continuation -/
def seqRec {τ : Type} (rec : ρ → Int → Int → GM (ρ × GoErr)) (dp : Int) :
    List Int → ρ → (ρ → GM (LoopR (ρ × GoErr) τ)) → GM (LoopR (ρ × GoErr) τ)
  | [], p, k => k p
  | t :: ts, p, k => do
    let r ← rec p t dp
    if decide (r.2 ≠ GoErr.nil) then pure (LoopR.ret (r.1, r.2)) else seqRec rec dp ts r.1 k

abbrev LSimG (N : ErrNaming) (R : ρ → σ → Prop) : GM (LoopR (ρ × GoErr) (ρ × Int)) → TOut σ → Prop :=
  OSim N loopErr (fun t s => ∃ q, t = LoopR.done q ∧ R q.1 s)

theorem seq_simG {N : ErrNaming} {R : ρ → σ → Prop} {μ : σ → Nat} {P : σ → Prop} {rec rec' dp bound}
    (H : RecOKG N R μ P rec rec' dp bound) :
    ∀ (ts : List UInt8) (p : ρ) (s : σ) (k : ρ → GM (LoopR (ρ × GoErr) (ρ × Int))) (k' : σ → TOut σ),
      R p s → P s → μ s ≤ bound →
      (∀ p' s', R p' s' → P s' → μ s' + ts.length ≤ μ s → LSimG N R (k p') (k' s')) →
      LSimG N R (seqRec rec dp (ts.map fun t => toI8 t.toNat) p k) (seqModel rec' ts s k') := by
  intro ts
  induction ts with
  | nil => intro p s k k' hR hp _ hk; exact hk p s hR hp (by simp)
  | cons t ts ih =>
    intro p s k k' hR hp hb hk
    simp only [List.map_cons, seqRec, seqModel, Out.bind_eq]
    refine (H.sim p s t hR hp hb).bind (fun a s1 he hR1 hy => ?_)
    obtain ⟨hp1, hd1⟩ := H.dec t s hp s1 hy
    simp only [he, ne_eq, not_true_eq_false, decide_false, if_false, Bool.false_eq_true]
    exact ih a.1 s1 k k' hR1 hp1 (by omega)
      (fun p' s' hR' hp' hm => hk p' s' hR' hp' (by simp only [List.length_cons]; omega))

/-- a counted loop (MAP: `ts = [kt, vt]`, LIST/SET: `ts = [vt]`), whatever the generated loop function `L` is called,
    whatever parameters it takes and in whichever direction it counts: one iteration (`step`) tests the counter, makes
    the recursive calls and goes on with the next counter value; the counter makes exactly `cnt` iterations (`Iter`). -/
theorem counted_simG {N : ErrNaming} {R : ρ → σ → Prop} {μ : σ → Nat} {P : σ → Prop} {rec rec' dp bound}
    (H : RecOKG N R μ P rec rec' dp bound) (L : Nat → ρ → Int → GM (LoopR (ρ × GoErr) (ρ × Int)))
    (cond : Int → Bool) (next : Int → Int) (dp' : Int) (ts : List UInt8) (hts : 0 < ts.length)
    (step : ∀ f p i, L (f + 1) p i =
      if cond i = true then seqRec rec dp' (ts.map fun t => toI8 t.toNat) p (fun p' => L f p' (next i))
      else pure (LoopR.done (p, i)))
    (hdp : dp' = dp) :
    ∀ (cnt : Nat) (i : Int), Iter cond next i cnt → ∀ (f : Nat) (p : ρ) (s : σ), R p s → μ s + 1 ≤ f → μ s ≤ bound →
      P s → LSimG N R (L f p i) (cntModel rec' ts cnt s) := by
  subst hdp
  intro cnt
  induction cnt with
  | zero =>
    intro i hi f p s hR hf _ _
    cases f with
    | zero => omega
    | succ f =>
      have hc : cond i = false := hi
      rw [step, if_neg (by simp [hc])]
      exact .ok _ _ rfl ⟨_, rfl, hR⟩
  | succ cnt ih =>
    intro i hi f p s hR hf hb hp
    cases f with
    | zero => omega
    | succ f =>
      obtain ⟨hc, hi'⟩ := hi
      rw [step, if_pos hc]
      exact seq_simG H ts p s _ _ hR hp hb
        (fun p' s' hR' hp' hm => ih (next i) hi' f p' s' hR' (by omega) (by omega) hp')

/-- `stopR p` is what the loop function yields at the STOP field (`break`: `LoopR.done p`, or `return nil`:
    `LoopR.ret (p, nil)`) -/
abbrev LSim1G (N : ErrNaming) (R : ρ → σ → Prop) (stopR : ρ → LoopR (ρ × GoErr) ρ) :
    GM (LoopR (ρ × GoErr) ρ) → TOut σ → Prop :=
  OSim N loopErr (fun t s => ∃ p, t = stopR p ∧ R p s)

/-- the STRUCT loop, whatever the generated loop function `L` is called and however it is left at STOP -/
theorem struct_simG {N : ErrNaming} {R : ρ → σ → Prop} {I : SkipNI ρ} {B : Backend σ} {μ : σ → Nat} {P : σ → Prop}
    {rec rec' dp bound} (hM : Meas B μ P) (hI : Impl N R I B P) (H : RecOKG N R μ P rec rec' dp bound)
    (L : Nat → ρ → GM (LoopR (ρ × GoErr) ρ)) (stopR : ρ → LoopR (ρ × GoErr) ρ) (hstop : ∀ p, loopErr (stopR p) = GoErr.nil)
    (dp' : Int)
    (step : ∀ f p, L (f + 1) p = do
      let t ← I.skipN p 1
      if decide (t.1.2 ≠ GoErr.nil) then pure (LoopR.ret (t.2, t.1.2)) else do
      let x ← GoSem.idx t.1.1 0
      if decide (wrap .i8 x = 0) then pure (stopR t.2) else do
      let t2 ← I.skipN t.2 2
      if decide (t2.1.2 ≠ GoErr.nil) then pure (LoopR.ret (t2.2, t2.1.2)) else do
      let r ← rec t2.2 (wrap .i8 x) dp'
      if decide (r.2 ≠ GoErr.nil) then pure (LoopR.ret (r.1, r.2)) else L f r.1)
    (hdp : dp' = dp) :
    ∀ (f1 f2 : Nat) (p : ρ) (s : σ), R p s → μ s + 1 ≤ f1 → μ s + 1 ≤ f2 → μ s ≤ bound → P s →
      LSim1G N R stopR (L f1 p) (tplStructLoop B rec' f2 s) := by
  subst hdp
  intro f1
  induction f1 with
  | zero => intro f2 p s _ hf; omega
  | succ f1 ih =>
    intro f2 p s hR hf1 hf2 hb hp
    cases f2 with
    | zero => omega
    | succ f2 =>
      rw [step, tplStructLoop]
      simp only [Out.bind_eq, Out.pure_eq]
      refine (hI.sim p s 1 hR hp (by omega) (by omega)).osim.bind (fun a y he hq hy => ?_)
      obtain ⟨⟨b, e⟩, p1⟩ := a
      obtain ⟨b', s1⟩ := y
      obtain ⟨hb', hR1⟩ := hq
      cases he; cases hb'
      obtain ⟨hp1, hd1⟩ := hM.dec _ _ _ _ hp (by omega) hy
      refine (idx_osim N b 0).bind (fun x tp _ hq _ => ?_) (fun _ h => absurd rfl h)
      obtain ⟨rfl, _⟩ := hq
      simp only [wrap_i8_nat _ tp.toNat_lt, toI8_eq_0, decide_eq_true_eq]
      by_cases hstop' : tp = T_STOP
      · simp only [eq_true hstop', if_true]
        exact .ok _ _ (hstop p1) ⟨p1, rfl, hR1⟩
      · simp only [hstop', if_false]
        refine (hI.sim p1 s1 2 hR1 hp1 (by omega) (by omega)).osim.bind (fun a2 y2 he2 hq2 hy2 => ?_)
        obtain ⟨hp2, hd2⟩ := hM.dec _ _ _ _ hp1 (by omega) hy2
        simp only [he2, ne_eq, not_true_eq_false, if_false]
        refine (H.sim a2.2 y2.2 tp hq2.2 hp2 (by omega)).bind (fun a3 s3 he3 hR3 hy3 => ?_)
        obtain ⟨hp3, hd3⟩ := H.dec _ _ hp2 _ hy3
        simp only [he3, ne_eq, not_true_eq_false, if_false]
        exact ih f2 a3.1 s3 hR3 (by omega) (by omega) (by omega) hp3

theorem LSimG.finish {N : ErrNaming} {R : ρ → σ → Prop} {x : GM (LoopR (ρ × GoErr) (ρ × Int))} {y : TOut σ}
    {K : LoopR (ρ × GoErr) (ρ × Int) → GM (ρ × GoErr)} (h : LSimG N R x y)
    (hd : ∀ q, K (LoopR.done q) = .ok (q.1, GoErr.nil)) (hr : ∀ r, K (LoopR.ret r) = .ok r) :
    GS N R (x.bind K) y := by
  refine h.map (fun t s _ hq => ?_) (fun t he => ?_)
  · obtain ⟨q, rfl, hR⟩ := hq
    rw [hd]; exact .ok _ _ rfl hR
  · cases t with
    | ret a => rw [hr]; rfl
    | done q => exact absurd rfl he

theorem LSim1G.finish {N : ErrNaming} {R : ρ → σ → Prop} {stopR : ρ → LoopR (ρ × GoErr) ρ}
    {x : GM (LoopR (ρ × GoErr) ρ)} {y : TOut σ} {K : LoopR (ρ × GoErr) ρ → GM (ρ × GoErr)} (h : LSim1G N R stopR x y)
    (hs : ∀ p, K (stopR p) = .ok (p, GoErr.nil)) (hr : ∀ r, K (LoopR.ret r) = .ok r) :
    GS N R (x.bind K) y := by
  refine h.map (fun t s _ hq => ?_) (fun t he => ?_)
  · obtain ⟨p, rfl, hR⟩ := hq
    rw [hs]; exact .ok _ _ rfl hR
  · cases t with
    | ret a => rw [hr]; rfl
    | done q => exact absurd rfl he


/-! ## arithmetic of the byte counts: no `int` wraps, whatever the order of the operands in the Go source -/

theorem wrap_add_small (a b : Nat) (ha : a ≤ 8) (hb : b ≤ 8) :
    wrap .i64 ((a : Int) + (b : Int)) = ((a + b : Nat) : Int) := by
  rw [wrap_i64_of_range _ (by omega) (by omega)]; simp

theorem wrap_mul_l (a b : Nat) (ha : a < 2 ^ 31) (hb : b ≤ 16) :
    wrap .i64 ((a : Int) * (b : Int)) = ((a * b : Nat) : Int) := by
  rw [wrap_mul_small _ _ (by omega) (by omega) (by omega) (by omega), Int.natCast_mul]

theorem wrap_mul_r (a b : Nat) (ha : a < 2 ^ 31) (hb : b ≤ 16) :
    wrap .i64 ((b : Int) * (a : Int)) = ((a * b : Nat) : Int) := by
  rw [Int.mul_comm]; exact wrap_mul_l a b ha hb

/-! ## the whole function, by induction on the depth -/

theorem recOK_of_ihG (N : ErrNaming) {R : ρ → σ → Prop} {I : SkipNI ρ} {B : Backend σ} {μ : σ → Nat} {P : σ → Prop}
    (hM : Meas B μ P) (d f bound : Nat) (hf : bound + d + 2 ≤ f)
    (ih : ∀ (f : Nat) (p : ρ) (s : σ) (t : UInt8) (D : Int), R p s → P s → μ s + d + 2 ≤ f → D = (d : Int) →
      GS N R (Funcs.Tpl_Skip I f p (toI8 t.toNat) D) (skipTplAt B d t s)) :
    RecOKG N R μ P (fun a0 a1 a2 => Funcs.Tpl_Skip I f a0 a1 a2) (skipTplAt B d) (d : Int) bound := by
  constructor
  · intro p s t hR hp hb
    exact ih f p s t _ hR hp (by omega) rfl
  · exact skipTplAt_dec hM d

section
attribute [local congr] bind_congr_arg ite_congr_cond

theorem Tpl_Skip_osim (N : ErrNaming) {R : ρ → σ → Prop} {I : SkipNI ρ} {B : Backend σ} {μ : σ → Nat} {P : σ → Prop}
    (hM : Meas B μ P) (hI : Impl N R I B P) :
    ∀ (d f : Nat) (p : ρ) (s : σ) (t : UInt8) (D : Int), R p s → d < 2 ^ 63 → P s → μ s + d + 2 ≤ f → D = (d : Int) →
      GS N R (Funcs.Tpl_Skip I f p (toI8 t.toNat) D) (skipTplAt B d t s) := by
  intro d
  induction d with
  | zero =>
    intro f p s t D hR hd hp hf hD
    cases f with
    | zero => omega
    | succ f =>
      subst hD
      rw [Funcs.Tpl_Skip]
      simp only [skipTplAt, Int.natCast_zero, decide_true, if_true, Out.pure_eq]
      exact .perr _ _ _ rfl
  | succ d ih =>
    intro f p s t D hR hd hp hf hD
    cases f with
    | zero => omega
    | succ f =>
      have H := recOK_of_ihG N (R := R) (I := I) hM d f (μ s) (by omega)
        (fun f p s t D hR h0 h1 h2 => ih f p s t D hR (by omega) h0 h1 h2)
      subst hD
      -- the depth passed to the recursive calls
      have hdp : wrap .i64 (((d + 1 : Nat) : Int) - 1) = (d : Int) := by
        rw [wrap_i64_of_range _ (by omega) (by omega)]; omega
      have cD : ¬ ((d + 1 : Nat) : Int) = 0 := by omega
      rw [Funcs.Tpl_Skip]
      -- semantic case split on the type byte; in each case one pass decides every test on both sides (the tests of the Go
      -- `switch` on the `int8` are turned into the model's tests on the byte), whatever the order of the clauses; the
      -- congruence rules make that pass follow the execution, so the clauses not taken are not entered
      by_cases hmap : t = T_MAP
      · have hfix : ¬ ((fixedSize t : Nat) : Int) > 0 := by rw [hmap]; decide
        have hstr : ¬ t = T_STRING := by rw [hmap]; decide
        have hst : ¬ t = T_STRUCT := by rw [hmap]; decide
        have hl : ¬ t = T_LIST := by rw [hmap]; decide
        have hs : ¬ t = T_SET := by rw [hmap]; decide
        simp only [↓Out.bind_eq, skipTplAt, cD, toI8_eq_11, toI8_eq_12, toI8_eq_13, toI8_eq_14, toI8_eq_15, tblIdx_fixed, typeSize_eq,
          Out.bind_ok, Out.pure_eq, Bool.or_eq_true, decide_eq_true_eq, decide_false, decide_true, Bool.false_eq_true,
          hfix, eq_true hmap, hstr, hst, hl, hs, or_self, if_false, if_true]
        refine (hI.sim p s _ hR hp (by omega) (by omega)).osim.bind (fun a y he hq hy => ?_)
        obtain ⟨⟨b, e⟩, p1⟩ := a
        obtain ⟨b', s1⟩ := y
        obtain ⟨hb, hR1⟩ := hq
        simp only at he hb hR1
        subst he hb
        obtain ⟨hp1, hd1⟩ := hM.dec _ _ _ _ hp (by omega) hy
        refine (idx_osim N b 0).bind (fun a kt _ hq _ => ?_) (fun _ h => absurd rfl h)
        obtain ⟨rfl, _⟩ := hq
        refine (idx_osim N b 1).bind (fun a vt _ hq _ => ?_) (fun _ h => absurd rfl h)
        obtain ⟨rfl, hlen⟩ := hq
        refine .sliceFrom (by omega) (by simp only; omega) ?_
        refine (beU32_osim N _).bind (fun a sz _ hq _ => ?_) (fun _ h => absurd rfl h)
        obtain ⟨rfl, hlt⟩ := hq
        have hr := toI32_range _ hlt
        simp only [↓Out.bind_eq, wrap_i32_nat _ hlt]
        generalize toI32 sz = n at hr
        by_cases hn : n < 0
        · simp only [hn, decide_true, if_true, Out.pure_eq]
          exact .perr _ _ _ rfl
        · simp only [↓Out.bind_eq, hn, decide_false, Bool.false_eq_true, if_false, wrap_i8_nat _ vt.toNat_lt,
            wrap_i8_nat _ kt.toNat_lt, tblIdx_fixed, Out.bind_ok]
          obtain ⟨sz, rfl⟩ := Int.eq_ofNat_of_zero_le (by omega : 0 ≤ n)
          have hs : sz < 2 ^ 31 := by omega
          simp only [Int.toNat_natCast]
          have hk := fixedSize_le kt
          have hv := fixedSize_le vt
          by_cases hfast : ((fixedSize kt : Nat) : Int) > 0 ∧ ((fixedSize vt : Nat) : Int) > 0
          · have hq1 : sz * (fixedSize kt + fixedSize vt) ≤ 2 ^ 31 * 16 :=
              Nat.mul_le_mul (by omega) (by omega)
            simp (disch := omega) only [↓Out.bind_eq, hfast, and_self, decide_true, Bool.and_self, if_true, wrap_add_small,
              wrap_mul_l, wrap_mul_r, Nat.add_comm (fixedSize vt) (fixedSize kt), Out.pure_eq]
            refine (hI.sim p1 s1 _ hR1 hp1 (by omega) (by omega)).osim.bind (fun a y he hq _ => ?_)
            exact .ok _ _ he hq.2
          · have cfast1 : (decide (((fixedSize kt : Nat) : Int) > 0) &&
                decide (((fixedSize vt : Nat) : Int) > 0)) = false := by
              simpa using hfast
            simp only [↓Out.bind_eq, hfast, cfast1, if_false, Bool.false_eq_true, tplMapLoop_eq, Out.pure_eq]
            exact LSimG.finish (counted_simG H _ _ _ _ [kt, vt] (by simp) (fun _ _ _ => by rfl)
              (by first | rfl | exact hdp) sz _
              (by first
                | exact iter_up _ _ sz hs (fun _ => rfl) (fun _ => rfl) sz 0 (by omega)
                | exact iter_down _ _ (fun _ => rfl) (fun _ => rfl) sz hs)
              f p1 s1 hR1 (by omega) (by omega) hp1) (fun _ => rfl) (fun _ => rfl)
      · by_cases hlist : t = T_SET ∨ t = T_LIST
        · have hfix : ¬ ((fixedSize t : Nat) : Int) > 0 := by rcases hlist with h | h <;> rw [h] <;> decide
          have hstr : ¬ t = T_STRING := by rcases hlist with h | h <;> rw [h] <;> decide
          have hst : ¬ t = T_STRUCT := by rcases hlist with h | h <;> rw [h] <;> decide
          simp only [↓Out.bind_eq, skipTplAt, cD, toI8_eq_11, toI8_eq_12, toI8_eq_13, toI8_eq_14, toI8_eq_15, tblIdx_fixed, typeSize_eq,
          Out.bind_ok, Out.pure_eq, Bool.or_eq_true, decide_eq_true_eq, decide_false, decide_true, Bool.false_eq_true,
            hfix, eq_true hlist, eq_true hlist.symm, hmap, hstr, hst, if_false, if_true]
          refine (hI.sim p s _ hR hp (by omega) (by omega)).osim.bind (fun a y he hq hy => ?_)
          obtain ⟨⟨b, e⟩, p1⟩ := a
          obtain ⟨b', s1⟩ := y
          obtain ⟨hb, hR1⟩ := hq
          simp only at he hb hR1
          subst he hb
          obtain ⟨hp1, hd1⟩ := hM.dec _ _ _ _ hp (by omega) hy
          refine (idx_osim N b 0).bind (fun a vt _ hq _ => ?_) (fun _ h => absurd rfl h)
          obtain ⟨rfl, hlen⟩ := hq
          refine .sliceFrom (by omega) (by simp only; omega) ?_
          refine (beU32_osim N _).bind (fun a sz _ hq _ => ?_) (fun _ h => absurd rfl h)
          obtain ⟨rfl, hlt⟩ := hq
          have hr := toI32_range _ hlt
          simp only [↓Out.bind_eq, wrap_i32_nat _ hlt]
          generalize toI32 sz = n at hr
          by_cases hn : n < 0
          · simp only [hn, decide_true, if_true, Out.pure_eq]
            exact .perr _ _ _ rfl
          · simp only [↓Out.bind_eq, hn, decide_false, Bool.false_eq_true, if_false, wrap_i8_nat _ vt.toNat_lt, tblIdx_fixed,
              Out.bind_ok]
            obtain ⟨sz, rfl⟩ := Int.eq_ofNat_of_zero_le (by omega : 0 ≤ n)
            have hs : sz < 2 ^ 31 := by omega
            simp only [Int.toNat_natCast]
            have hv := fixedSize_le vt
            by_cases hfast : ((fixedSize vt : Nat) : Int) > 0
            · have hq : sz * fixedSize vt ≤ 2 ^ 31 * 8 := Nat.mul_le_mul (by omega) hv
              simp (disch := omega) only [↓Out.bind_eq, hfast, decide_true, if_true, wrap_mul_l, wrap_mul_r, Out.pure_eq]
              refine (hI.sim p1 s1 _ hR1 hp1 (by omega) (by omega)).osim.bind (fun a y he hq _ => ?_)
              exact .ok _ _ he hq.2
            · simp only [↓Out.bind_eq, hfast, decide_false, Bool.false_eq_true, if_false, tplListLoop_eq, Out.pure_eq]
              exact LSimG.finish (counted_simG H _ _ _ _ [vt] (by simp) (fun _ _ _ => by rfl)
                (by first | rfl | exact hdp) sz _
                (by first
                  | exact iter_up _ _ sz hs (fun _ => rfl) (fun _ => rfl) sz 0 (by omega)
                  | exact iter_down _ _ (fun _ => rfl) (fun _ => rfl) sz hs)
                f p1 s1 hR1 (by omega) (by omega) hp1) (fun _ => rfl) (fun _ => rfl)
        · obtain ⟨hs, hl⟩ := not_or.mp hlist
          simp only [↓Out.bind_eq, skipTplAt, cD, toI8_eq_11, toI8_eq_12, toI8_eq_13, toI8_eq_14, toI8_eq_15, tblIdx_fixed, typeSize_eq,
          Out.bind_ok, Out.pure_eq, Bool.or_eq_true, decide_eq_true_eq, decide_false, decide_true, Bool.false_eq_true,
            hmap, hs, hl, or_self, if_false]
          by_cases hfix : ((fixedSize t : Nat) : Int) > 0
          · simp only [↓Out.bind_eq, hfix, if_true, Out.pure_eq]
            have hk := fixedSize_le t
            refine (hI.sim p s _ hR hp (by omega) (by omega)).osim.bind (fun a y he hq _ => ?_)
            exact .ok _ _ he hq.2
          · simp only [↓Out.bind_eq, hfix, if_false]
            by_cases hstr : t = T_STRING
            · simp only [↓Out.bind_eq, eq_true hstr, if_true]
              refine (hI.sim p s _ hR hp (by omega) (by omega)).osim.bind (fun a y he hq hy => ?_)
              obtain ⟨⟨b, e⟩, p1⟩ := a
              obtain ⟨b', s1⟩ := y
              obtain ⟨hb, hR1⟩ := hq
              simp only at he hb hR1
              subst he hb
              obtain ⟨hp1, hd1⟩ := hM.dec _ _ _ _ hp (by omega) hy
              refine (beU32_osim N b).bind (fun a v _ hq _ => ?_) (fun _ h => absurd rfl h)
              obtain ⟨rfl, hlt⟩ := hq
              have hr := toI32_range _ hlt
              simp only [↓Out.bind_eq, wrap_i32_nat _ hlt]
              generalize toI32 v = n at hr
              by_cases hn : n < 0
              · simp only [hn, decide_true, if_true, Out.pure_eq]
                exact .perr _ _ _ rfl
              · simp only [↓Out.bind_eq, hn, decide_false, Bool.false_eq_true, if_false]
                refine (hI.sim p1 s1 _ hR1 hp1 (by omega) (by omega)).osim.bind (fun a y he hq _ => ?_)
                simp only [he, ne_eq, not_true_eq_false, if_false]
                exact .ok _ _ rfl hq.2
            · by_cases hst : t = T_STRUCT
              · simp only [↓Out.bind_eq, hstr, eq_true hst, if_false, if_true, Out.pure_eq]
                have hav := hM.le_avail s hp
                first
                | exact LSim1G.finish (struct_simG hM hI H _ LoopR.done (fun _ => rfl) _ (fun _ _ => by rfl)
                    (by first | rfl | exact hdp) f (B.avail s + 1) p s hR (by omega) (by omega) (Nat.le_refl _) hp)
                    (fun _ => rfl) (fun _ => rfl)
                | exact LSim1G.finish (struct_simG hM hI H _ (fun p => LoopR.ret (p, GoErr.nil)) (fun _ => rfl) _
                    (fun _ _ => by rfl) (by first | rfl | exact hdp) f (B.avail s + 1) p s hR (by omega) (by omega)
                    (Nat.le_refl _) hp) (fun _ => rfl) (fun _ => rfl)
              · simp only [hstr, hst, if_false, Out.pure_eq]
                exact .perr _ _ _ rfl

end

/-- `SkipDecoderTpl.Skip`, whole function, translated from the Go source, instantiated with any interface value that
    implements the model back end `B`: the model `skipTplAt B`, final states `R`-related, error and panics included -/
theorem Tpl_Skip_simG (N : ErrNaming) {R : ρ → σ → Prop} {I : SkipNI ρ} {B : Backend σ} {μ : σ → Nat} {P : σ → Prop}
    (hM : Meas B μ P) (hI : Impl N R I B P) :
    ∀ (d f : Nat) (p : ρ) (s : σ) (t : UInt8) (D : Int), R p s → d < 2 ^ 63 → P s → μ s + d + 2 ≤ f → D = (d : Int) →
      GSim N R (Funcs.Tpl_Skip I f p (toI8 t.toNat) D) (skipTplAt B d t s) :=
  fun d f p s t D hR hd hp hf hD => .of_osim (Tpl_Skip_osim N hM hI d f p s t D hR hd hp hf hD)

end TplG

/-- `SkipDecoderTpl.Skip` translated from the Go source and instantiated with an interface value `I` that implements the
    model back end `B` through `R` IS the model `skipTplAt B` (an equation, through any abstraction function `α` that `R`
    determines), for every Go-side state related to a model state satisfying the back-end invariant, every type byte, depth
    and every fuel ≥ `μ s + d + 2` -/
theorem Tpl_Skip_eqG {ρ σ : Type} (N : ErrNaming) {R : ρ → σ → Prop} {α : ρ → σ} (hα : ∀ p s, R p s → s = α p)
    {I : SkipNI ρ} {B : Backend σ} {μ : σ → Nat} {P : σ → Prop} (hM : Meas B μ P) (hI : TplG.Impl N R I B P)
    (p : ρ) (s : σ) (t : UInt8) (d fuel : Nat) (hR : R p s) (hp : P s) (hd : d < 2 ^ 63) (hf : μ s + d + 2 ≤ fuel) :
    TplG.liftTplG N.absE α (Funcs.Tpl_Skip I fuel p (toI8 t.toNat) (d : Int)) = skipTplAt B d t s :=
  (TplG.Tpl_Skip_simG N hM hI d fuel p s t _ hR hd hp hf rfl).lift hα

end Verif.FuncsEq
