/-
  Lemmas/Funcs/Dec: the two concrete skip decoders of protocol/thrift/skipdecoder.go, TRANSLATED from the Go source
  (`Verif.Funcs.BSD_SkipN / BSD_Reset / BSD_Next`: BytesSkipDecoder, receiver structure `S_thrift_BytesSkipDecoder`;
  `Verif.Funcs.SD_SkipN / SD_Next`: SkipDecoder over a bufiox.Reader, receiver `S_thrift_SkipDecoder ρ`, abstract reader
  `I : ReaderI ρ`), ARE the hand-written models of Model/SkipStream.lean:

      BSD_SkipN_eq : 0 ≤ p.n → 0 ≤ n → p.n + n < 2^63 →
                       liftSDec N.absE absB (Funcs.BSD_SkipN p n) = bytesBackend.skipN (absB p) n.toNat
      BSD_Reset_eq : liftSt absB (Funcs.BSD_Reset p b) = .ok ⟨b, 0⟩               (the model's fresh decoder)
      BSD_Next_eq  : |p.b| + 2^35 < 2^63 → |p.b| + 66 ≤ fuel →
                       liftSDec N.absE absB (Funcs.BSD_Next fuel p (toI8 t.toNat)) = bytesDecNext (absB p) t
      SD_SkipN_eq  : 0 ≤ p.rn → 0 ≤ n → p.rn + n < 2^63 →
                       liftSDec N.absE absD (Funcs.SD_SkipN (iOfRd (rawOf N)) p n) = bufioxBackend.skipN (absD p) n.toNat
      SD_Next_eq   : Inv p.r → |remaining| + ri + 2^35 < 2^63 → |remaining| + 66 ≤ fuel →
                       liftSDec N.absE (·.r) (Funcs.SD_Next (iOfRd (rawOf N)) fuel p (toI8 t.toNat)) = bufioxDecNext p.r t

  * abstraction maps: `absB p = ⟨p.b, p.n.toNat⟩ : BytesDec`, `absD p = ⟨p.r, p.rn.toNat⟩ : BufioxDec` (the Go `int` offset
    is the model's `Nat`; `0 ≤ p.n` / `0 ≤ p.rn` is the Go-side invariant — both fields only ever hold `0` or a sum of
    non-negative counts — that the `SkipN` theorems assume and the `Next` theorems do NOT need: `Next` resets the offset
    first, exactly like the model `{ s with n := 0 }` / `{ r := r, rn := 0 }`); for `SD_Next` the model returns the reader
    only, so the abstraction is `p ↦ p.r` (the stale `p.rn` is reset by the following `Next`).
  * `liftSDec absE α`: result `(p', buf, err)` ↦ `ok (buf, α p')` when `err = nil`, `err (absE err)` otherwise (the model
    drops the decoder state next to an error); Go panics carried over with their kind.
  * errors: as in TplG.lean an `ErrNaming N` names the model's `TErr` values; the reader model's `RErr` `e` is handed to the
    translation as `rawOf N e = N.errOf (.raw e)`.  `BytesSkipDecoder.SkipN` returns the package-level `io.EOF`, which
    the translator renders `named "io.EOF"`: the naming must agree (`hE`; `stdNaming` does, `stdNaming_eof`).
  * `BSD_Next` / `SD_Next` call the translated generic `SkipDecoderTpl.Skip` with the interface value built from the
    receiver's own translated `SkipN`.  `ifB_impl` / `ifD_impl` show that this interface value implements the model back
    end (`TplG.Impl`: same bytes, related states, same error, same panic — from `BSD_SkipN_sim` / `SD_SkipN_sim`) and the
    generalised simulation `TplG.Tpl_Skip_osim` (Lemmas/Funcs/TplG.lean) does the rest; the measures are those of
    Tpl.lean (`bytes_dec`, `bufiox_meas`) with the no-wrap bound added to the invariant (`bytes_meas`, `bufiox_meas2`).
  * hypotheses: the size bounds keep `p.n + n` / `p.rn + n` from wrapping in a Go `int` (outside them the translation
    wraps to a negative number and then panics "slice" (bytes) / gets errNegativeCount from `Peek` (bufiox) where the
    model — over `Nat` — reports EOF: see the examples at the end; no real slice or stream is that long); `Inv` is the reader-model invariant; the fuel bounds are those of `Tpl_Skip_eq_bytes/_bufiox`.
-/
import Verif.Lemmas.Funcs.Tpl
import Verif.Lemmas.Funcs.RdI
set_option linter.unusedSimpArgs false
namespace Verif.FuncsEq
open Verif Verif.GoSem

/-! ## abstraction maps, lifts, the outcome relation -/

/-- the receiver of the translated `BytesSkipDecoder` methods as the model's decoder state -/
def absB (p : Funcs.S_thrift_BytesSkipDecoder) : BytesDec := { b := p.b, n := p.n.toNat }

/-- the receiver of the translated `SkipDecoder` methods (over the reader model) as the model's decoder state -/
def absD (p : Funcs.S_thrift_SkipDecoder Rd) : BufioxDec := { r := p.r, rn := p.rn.toNat }

/-- Go-side state `p` and model state `s`: `s` is the abstraction of `p` and the `int` offset is not negative -/
def RB (p : Funcs.S_thrift_BytesSkipDecoder) (s : BytesDec) : Prop := 0 ≤ p.n ∧ s = absB p
def RD (p : Funcs.S_thrift_SkipDecoder Rd) (s : BufioxDec) : Prop := 0 ≤ p.rn ∧ s = absD p

/-- result `(p', buf, err)` of a translated decoder method as the model's `TOut (Bytes × σ)` -/
def liftSDec {ρ σ : Type} (absE : GoErr → TErr) (α : ρ → σ) (x : GM (ρ × Bytes × GoErr)) : TOut (Bytes × σ) :=
  match x with
  | .ok r => if r.2.2 = GoErr.nil then .ok (r.2.1, α r.1) else .err (absE r.2.2)
  | .panic s => .panic s
  | .oob => .oob
  | .err e => nomatch e

/-- result `p'` of a translated method that only updates the receiver as the model's `TOut σ` -/
def liftSt {ρ σ : Type} (α : ρ → σ) (x : GM ρ) : TOut σ :=
  match x with
  | .ok p => .ok (α p)
  | .panic s => .panic s
  | .oob => .oob
  | .err e => nomatch e

/-- a reader-model error as the Go error value the naming `N` gives to the model's `raw e` -/
def rawOf (N : ErrNaming) (e : RErr) : GoErr := N.errOf (.raw e)

theorem stdNaming_eof : stdNaming.errOf (.raw .eof) = GoErr.named "io.EOF" := rfl

/-- outcome `x` of a translated decoder method against the model outcome `y`: the same bytes and `R`-related states, an
    error value `≠ nil` named like the model's error, the same panic -/
abbrev DSim {ρ σ : Type} (N : ErrNaming) (R : ρ → σ → Prop) : GM (ρ × Bytes × GoErr) → TOut (Bytes × σ) → Prop :=
  OSim N (fun t => t.2.2) (fun t b => b.1 = t.2.1 ∧ R t.1 b.2)

theorem DSim.lift {ρ σ : Type} {N : ErrNaming} {R : ρ → σ → Prop} {α : ρ → σ} (hα : ∀ p s, R p s → s = α p)
    {x : GM (ρ × Bytes × GoErr)} {y : TOut (Bytes × σ)} (h : DSim N R x y) : liftSDec N.absE α x = y := by
  cases h with
  | ok t b he h =>
    obtain ⟨b1, s⟩ := b
    obtain ⟨rfl, hR⟩ := h
    simp [liftSDec, he, ← hα _ _ hR]
  | err t he => simp [liftSDec, he]
  | panic m => rfl
  | oob => rfl

theorem DSim.ok' {ρ σ : Type} {N : ErrNaming} {R : ρ → σ → Prop} (p : ρ) (b b' : Bytes) (s : σ) (hb : b = b')
    (h : R p s) : DSim N R (.ok (p, b, GoErr.nil)) (.ok (b', s)) := .ok _ _ rfl ⟨hb.symm, h⟩

/-- the interface value that `BSD_Next` / `SD_Next` build from the receiver's `SkipN` (results repackaged) -/
theorem DSim.pack {ρ σ : Type} {N : ErrNaming} {R : ρ → σ → Prop} {x : GM (ρ × Bytes × GoErr)}
    {y : TOut (Bytes × σ)} (h : DSim N R x y) :
    TplG.SSim N R (do let r ← x; pure ((r.2.1, r.2.2), r.1)) y := by
  cases h with
  | ok t b he h =>
    obtain ⟨p, bs, e⟩ := t
    obtain ⟨b1, s⟩ := b
    obtain ⟨rfl, hR⟩ := h
    simp only at he; subst he
    exact TplG.SSim.ok _ p s hR
  | err t he => exact TplG.SSim.err t.2.1 t.1 t.2.2 he
  | panic m => exact TplG.SSim.panic m
  | oob => exact TplG.SSim.oob

theorem RB_abs (p : Funcs.S_thrift_BytesSkipDecoder) (s : BytesDec) (h : RB p s) : s = absB p := h.2
theorem RD_abs (p : Funcs.S_thrift_SkipDecoder Rd) (s : BufioxDec) (h : RD p s) : s = absD p := h.2

/-- `b[lo:hi]` inside the slice -/
theorem slice_ok_x (b : Bytes) (lo hi : Int) (h0 : 0 ≤ lo) (h1 : lo ≤ hi) (h2 : hi ≤ (b.length : Int)) :
    slice b lo hi = .ok ((b.take hi.toNat).drop lo.toNat) := by
  unfold slice len
  have c1 : ¬ (hi < 0 ∨ hi > (b.length : Int)) := by omega
  have c2 : ¬ (lo < 0 ∨ lo > hi) := by omega
  simp only [c1, c2, if_false]

theorem sliceTo_ok (b : Bytes) (hi : Int) (h0 : 0 ≤ hi) (h : hi ≤ (b.length : Int)) :
    sliceTo b hi = .ok (b.take hi.toNat) := by
  unfold sliceTo len
  have c : ¬ (hi < 0 ∨ hi > (b.length : Int)) := by omega
  simp only [c, if_false]

theorem sliceTo_panic (b : Bytes) (hi : Int) (h : (b.length : Int) < hi) : sliceTo b hi = .panic "slice" := by
  unfold sliceTo len
  have c : (hi < 0 ∨ hi > (b.length : Int)) := by omega
  simp only [c, if_true]

theorem sliceFrom_panic (b : Bytes) (lo : Int) (h : (b.length : Int) < lo) : sliceFrom b lo = .panic "slice" := by
  unfold sliceFrom len
  have c : (lo < 0 ∨ lo > (b.length : Int)) := by omega
  simp only [c, if_true]

/-- `nil[lo:]` with `lo > 0` -/
theorem sliceFrom_nil_panic (lo : Int) (h : 0 < lo) : sliceFrom [] lo = .panic "slice" :=
  sliceFrom_panic [] lo (by simpa using h)

/-! ## BytesSkipDecoder -/

/-- `BytesSkipDecoder.SkipN`, outcome by outcome. `hn0`: the offset is not negative (Go-side invariant, see the header);
    `hk`: the model takes a `Nat` count (a negative count makes the Go code panic "slice": last examples);
    `hsz`: `p.n + n` does not wrap in a Go `int`. -/
theorem BSD_SkipN_sim (N : ErrNaming) (hE : N.errOf (.raw .eof) = GoErr.named "io.EOF")
    (p : Funcs.S_thrift_BytesSkipDecoder) (n : Int) (hn0 : 0 ≤ p.n) (hk : 0 ≤ n)
    (hsz : p.n + n < 9223372036854775808) :
    DSim N RB (Funcs.BSD_SkipN p n) (bytesBackend.skipN (absB p) n.toNat) := by
  obtain ⟨pn, b⟩ := p
  obtain ⟨m, rfl⟩ := Int.eq_ofNat_of_zero_le hn0
  obtain ⟨k, rfl⟩ := Int.eq_ofNat_of_zero_le hk
  simp only at hsz
  unfold Funcs.BSD_SkipN bytesBackend absB
  by_cases hlen : b.length ≥ m + k
  · go_simp [hlen, wrap_i64_of_range, slice_ok_x]
    refine DSim.ok' _ _ _ _ ?_ ⟨?_, ?_⟩
    · rw [List.take_drop]; congr_omega
    · simp only; omega
    · simp [absB]; omega
  · go_simp [hlen, wrap_i64_of_range]
    exact .named _ (.raw .eof) hE.symm

/-- `BytesSkipDecoder.SkipN` translated from the Go source IS the model back end's `skipN` -/
theorem BSD_SkipN_eq (N : ErrNaming) (hE : N.errOf (.raw .eof) = GoErr.named "io.EOF")
    (p : Funcs.S_thrift_BytesSkipDecoder) (n : Int) (hn0 : 0 ≤ p.n) (hk : 0 ≤ n)
    (hsz : p.n + n < 9223372036854775808) :
    liftSDec N.absE absB (Funcs.BSD_SkipN p n) = bytesBackend.skipN (absB p) n.toNat :=
  (BSD_SkipN_sim N hE p n hn0 hk hsz).lift RB_abs

/-- `BytesSkipDecoder.Reset(b)`: never fails, and the receiver afterwards is the model's fresh decoder `⟨b, 0⟩`, whatever
    it was before (there is no model FUNCTION for `Reset`: the models start from the literal `⟨b, 0⟩`) -/
theorem BSD_Reset_eq (p : Funcs.S_thrift_BytesSkipDecoder) (b : Bytes) :
    liftSt absB (Funcs.BSD_Reset p b) = .ok ({ b := b, n := 0 } : BytesDec) := by
  unfold Funcs.BSD_Reset
  simp [liftSt, absB]

/-- … and it satisfies the Go-side invariant that the `SkipN` theorems assume -/
theorem BSD_Reset_inv (p : Funcs.S_thrift_BytesSkipDecoder) (b : Bytes) :
    ∃ p', Funcs.BSD_Reset p b = .ok p' ∧ RB p' { b := b, n := 0 } := by
  unfold Funcs.BSD_Reset
  exact ⟨_, rfl, Int.le_refl 0, rfl⟩

/-- invariant of the bytes back end during one `Next(t)`: the offset inside the slice, and a slice short enough for
    `p.n + n` (`n ≤ 2^35`: the largest count the generic code passes) not to wrap in a Go `int` -/
def BytesOK (s : BytesDec) : Prop := s.n ≤ s.b.length ∧ s.b.length + 34359738368 < 9223372036854775808

theorem bytes_meas : Meas bytesBackend bytesBackend.avail BytesOK := by
  constructor
  · intro s n b s' hp _ h
    refine ⟨?_, bytes_dec s n b s' h⟩
    simp only [bytesBackend] at h
    by_cases hk : s.b.length ≥ s.n + n
    · simp only [hk, if_true, Out.ok.injEq, Prod.mk.injEq] at h
      obtain ⟨_, rfl⟩ := h
      exact ⟨hk, hp.2⟩
    · simp [hk] at h
  · intro s _; exact Nat.le_refl _

/-- the interface value `BSD_Next` hands to the generic skipper: the receiver's own translated `SkipN` -/
def ifB : SkipNI Funcs.S_thrift_BytesSkipDecoder :=
  { skipN := fun s n => do let r ← Funcs.BSD_SkipN s n; pure ((r.2.1, r.2.2), r.1) }

theorem ifB_impl (N : ErrNaming) (hE : N.errOf (.raw .eof) = GoErr.named "io.EOF") :
    TplG.Impl N RB ifB bytesBackend BytesOK := by
  constructor
  intro p s n hR hp h0 hn
  obtain ⟨hp0, rfl⟩ := hR
  have hpn : (p.n.toNat : Int) = p.n := Int.toNat_of_nonneg hp0
  obtain ⟨h1, h2⟩ := hp
  simp only [absB] at h1 h2
  exact (BSD_SkipN_sim N hE p n hp0 h0 (by omega)).pack

/-- `BytesSkipDecoder.Next`, outcome by outcome -/
theorem BSD_Next_sim (N : ErrNaming) (hE : N.errOf (.raw .eof) = GoErr.named "io.EOF")
    (p : Funcs.S_thrift_BytesSkipDecoder) (t : UInt8) (fuel : Nat)
    (hsz : p.b.length + 34359738368 < 9223372036854775808) (hf : p.b.length + 66 ≤ fuel) :
    DSim N RB (Funcs.BSD_Next fuel p (toI8 t.toNat)) (bytesDecNext (absB p) t) := by
  have hS := TplG.Tpl_Skip_osim N bytes_meas (ifB_impl N hE) 64 fuel { p with n := 0 } { absB p with n := 0 } t 64
    ⟨Int.le_refl 0, rfl⟩ (by omega) ⟨Nat.zero_le _, hsz⟩ (by simp only [bytesBackend, absB]; omega) rfl
  unfold Funcs.BSD_Next bytesDecNext
  simp only [Out.bind_eq]
  refine hS.bind (fun a s1 he hR _ => ?_)
  obtain ⟨⟨n1, b1⟩, e⟩ := a
  simp only at he
  subst he
  obtain ⟨h0, rfl⟩ := hR
  obtain ⟨m, rfl⟩ := Int.eq_ofNat_of_zero_le h0
  simp only [absB, Int.toNat_natCast]
  by_cases hle : m ≤ b1.length
  · go_simp [sliceTo_ok, sliceFrom_ok, hle]
    exact .ok _ _ rfl ⟨rfl, Int.le_refl 0, rfl⟩
  · go_simp [sliceTo_panic, sliceFrom_panic, hle]
    exact .panic _

/-- `BytesSkipDecoder.Next` translated from the Go source IS the model `bytesDecNext`, for EVERY receiver state (the stale
    offset is reset first, on both sides) and every type byte. `hsz`: the slice is short enough for the offset
    arithmetic not to wrap in a Go `int` (2^63 - 2^35 bytes); `hf`: the fuel of `Tpl_Skip_eq_bytes`. -/
theorem BSD_Next_eq (N : ErrNaming) (hE : N.errOf (.raw .eof) = GoErr.named "io.EOF")
    (p : Funcs.S_thrift_BytesSkipDecoder) (t : UInt8) (fuel : Nat)
    (hsz : p.b.length + 34359738368 < 9223372036854775808) (hf : p.b.length + 66 ≤ fuel) :
    liftSDec N.absE absB (Funcs.BSD_Next fuel p (toI8 t.toNat)) = bytesDecNext (absB p) t :=
  (BSD_Next_sim N hE p t fuel hsz hf).lift RB_abs

/-! ## SkipDecoder over a bufiox.Reader -/

theorem rawOf_ne_nil (N : ErrNaming) (e : RErr) : rawOf N e ≠ GoErr.nil := N.ne_nil _

/-- `SkipDecoder.SkipN` over the reader model, outcome by outcome: `Peek(p.rn + n)`, then the window `buf[p.rn:]`.
    `h0`: the window offset is not negative (Go-side invariant, see the header); `hk`: the model takes a `Nat` count;
    `hsz`: `p.rn + n` does not wrap in a Go `int`.  No reader invariant is needed: both sides make the same `Peek`. -/
theorem SD_SkipN_sim (N : ErrNaming) (p : Funcs.S_thrift_SkipDecoder Rd) (n : Int) (h0 : 0 ≤ p.rn) (hk : 0 ≤ n)
    (hsz : p.rn + n < 9223372036854775808) :
    DSim N RD (Funcs.SD_SkipN (iOfRd (rawOf N)) p n) (bufioxBackend.skipN (absD p) n.toNat) := by
  obtain ⟨r, rn⟩ := p
  obtain ⟨m, rfl⟩ := Int.eq_ofNat_of_zero_le h0
  obtain ⟨k, rfl⟩ := Int.eq_ofNat_of_zero_le hk
  simp only at hsz
  unfold Funcs.SD_SkipN bufioxBackend absD
  -- both sides make the same `Peek`: the request is brought to one normal form (no wrap, casts pushed, sums ordered)
  simp (disch := go_disch) only [iOfRd, Int.toNat_natCast, Int.natCast_add, wrap_i64_of_range, Int.add_comm]
  generalize r.peek _ = pk
  obtain ⟨res, r'⟩ := pk
  cases res with
  | ok buf =>
    by_cases hov : m > buf.length
    · go_simp [resI, hov, sliceFrom_panic]
      exact .panic _
    · go_simp [resI, hov, sliceFrom_ok, wrap_i64_of_range]
      refine DSim.ok' _ _ _ _ rfl ⟨?_, ?_⟩
      · simp only; omega
      · simp [absD]; omega
  | fail oe =>
    cases oe with
    | some e =>
      go_simp [resI, rawOf_ne_nil]
      exact .named _ (.raw e) rfl
    | none =>
      by_cases hov : m > 0
      · go_simp [resI, hov, sliceFrom_nil_panic]
        exact .panic _
      · have hm : m = 0 := by omega
        subst hm
        go_simp [resI, sliceFrom_ok, wrap_i64_of_range]
        refine DSim.ok' _ _ _ _ rfl ⟨?_, ?_⟩
        · simp only; omega
        · simp [absD]
  | nofuel =>
    simp only [resI, Out.bind_eq, Out.bind_panic, Out.bind]
    exact .panic _

/-- `SkipDecoder.SkipN` translated from the Go source, over the reader model, IS the model back end's `skipN` -/
theorem SD_SkipN_eq (N : ErrNaming) (p : Funcs.S_thrift_SkipDecoder Rd) (n : Int) (h0 : 0 ≤ p.rn) (hk : 0 ≤ n)
    (hsz : p.rn + n < 9223372036854775808) :
    liftSDec N.absE absD (Funcs.SD_SkipN (iOfRd (rawOf N)) p n) = bufioxBackend.skipN (absD p) n.toNat :=
  (SD_SkipN_sim N p n h0 hk hsz).lift RD_abs

/-- invariant of the bufiox back end during one `Next(t)`: `BufioxOK` of Tpl.lean and what the reader owes small enough
    for `p.rn + n` (`n ≤ 2^35`) not to wrap in a Go `int` -/
def BufioxOK2 (s : BufioxDec) : Prop := BufioxOK s ∧ s.r.remaining.length + 34359738368 < 9223372036854775808

theorem bufiox_meas2 : Meas bufioxBackend bufioxMu BufioxOK2 := by
  constructor
  · intro s n b s' hp hn h
    obtain ⟨h1, h2⟩ := bufiox_meas.dec s n b s' hp.1 hn h
    refine ⟨⟨h1, ?_⟩, h2⟩
    rw [(bufiox_skipN_ok s n b s' hp.1 hn h).2.2]
    exact hp.2
  · intro s hp; exact bufiox_meas.le_avail s hp.1

/-- the interface value `SD_Next` hands to the generic skipper: the receiver's own translated `SkipN` -/
def ifD (N : ErrNaming) : SkipNI (Funcs.S_thrift_SkipDecoder Rd) :=
  { skipN := fun s n => do let r ← Funcs.SD_SkipN (iOfRd (rawOf N)) s n; pure ((r.2.1, r.2.2), r.1) }

theorem ifD_impl (N : ErrNaming) : TplG.Impl N RD (ifD N) bufioxBackend BufioxOK2 := by
  constructor
  intro p s n hR hp h0 hn
  obtain ⟨hp0, rfl⟩ := hR
  have hpn : (p.rn.toNat : Int) = p.rn := Int.toNat_of_nonneg hp0
  obtain ⟨⟨_, h1, _⟩, h2⟩ := hp
  simp only [absD] at h1 h2
  exact (SD_SkipN_sim N p n hp0 h0 (by omega)).pack

/-- `SkipDecoder.Next`, outcome by outcome (the model returns the reader afterwards: abstraction `p ↦ p.r`) -/
theorem SD_Next_sim (N : ErrNaming) (p : Funcs.S_thrift_SkipDecoder Rd) (t : UInt8) (fuel : Nat) (hinv : Inv p.r)
    (hsm : p.r.remaining.length + p.r.ri + 34359738368 < 9223372036854775808)
    (hf : p.r.remaining.length + 66 ≤ fuel) :
    DSim N (fun p r => r = p.r) (Funcs.SD_Next (iOfRd (rawOf N)) fuel p (toI8 t.toNat)) (bufioxDecNext p.r t) := by
  have hS := TplG.Tpl_Skip_osim N bufiox_meas2 (ifD_impl N) 64 fuel { p with rn := 0 } { r := p.r, rn := 0 } t 64
    ⟨Int.le_refl 0, rfl⟩ (by omega) ⟨⟨hinv, Nat.zero_le _, by simp only; omega⟩, by simp only; omega⟩
    (by simp only [bufioxMu]; omega) rfl
  unfold Funcs.SD_Next bufioxDecNext
  simp only [Out.bind_eq]
  refine hS.bind (fun a s1 he hR _ => ?_)
  obtain ⟨⟨r1, rn1⟩, e⟩ := a
  simp only at he
  subst he
  obtain ⟨h0, rfl⟩ := hR
  obtain ⟨m, rfl⟩ := Int.eq_ofNat_of_zero_le h0
  simp only [absD, Int.toNat_natCast, iOfRd]
  cases hnx : r1.next (m : Int) with
  | mk res r' =>
    cases res with
    | ok buf =>
      go_simp [resI]
      exact .ok _ _ rfl ⟨rfl, rfl⟩
    | fail oe =>
      cases oe with
      | some e =>
        go_simp [resI]
        exact .named _ (.raw e) rfl
      | none =>
        go_simp [resI]
        exact .ok _ _ rfl ⟨rfl, rfl⟩
    | nofuel =>
      simp only [resI, Out.bind_eq, Out.bind_panic, Out.bind]
      exact .panic _

/-- `SkipDecoder.Next` translated from the Go source, over the reader model, IS the model `bufioxDecNext`, for EVERY
    receiver state (the stale window offset is reset first, on both sides) and every type byte. `hinv`: the invariant of
    the reader model; `hsm`: what the reader owes is small enough for the reader model to be well behaved (`Rd.Small`)
    and for `p.rn + n` not to wrap in a Go `int`; `hf`: the fuel of `Tpl_Skip_eq_bufiox`. -/
theorem SD_Next_eq (N : ErrNaming) (p : Funcs.S_thrift_SkipDecoder Rd) (t : UInt8) (fuel : Nat) (hinv : Inv p.r)
    (hsm : p.r.remaining.length + p.r.ri + 34359738368 < 9223372036854775808)
    (hf : p.r.remaining.length + 66 ≤ fuel) :
    liftSDec N.absE (fun p => p.r) (Funcs.SD_Next (iOfRd (rawOf N)) fuel p (toI8 t.toNat)) = bufioxDecNext p.r t :=
  (SD_Next_sim N p t fuel hinv hsm hf).lift (fun _ _ h => h)

/-! ## the generated decoders compute (non-vacuity) -/

/-- the returned bytes and the error of a decoder method, the offset and what is left of the slice -/
def outB (x : GM (Funcs.S_thrift_BytesSkipDecoder × Bytes × GoErr)) : GM (Bytes × GoErr × Int × Bytes) :=
  x.bind (fun r => .ok (r.2.1, r.2.2, r.1.n, r.1.b))
/-- the returned bytes and the error, the window offset, the reader's read index and sticky error -/
def outD (x : GM (Funcs.S_thrift_SkipDecoder Rd × Bytes × GoErr)) : GM (Bytes × GoErr × Int × Nat × Option RErr) :=
  x.bind (fun r => .ok (r.2.1, r.2.2, r.1.rn, r.1.r.ri, r.1.r.err))
/-- the reader model as the Go interface value, errors named by `stdNaming` -/
def stdI : ReaderI Rd := iOfRd (rawOf stdNaming)

-- BytesSkipDecoder: an i32 is skipped and returned, the slice moves on (whatever the stale offset was)
example : outB (Funcs.BSD_Next 80 { n := 0, b := [0, 0, 0, 1, 9] } 8) = .ok ([0, 0, 0, 1], GoErr.nil, 0, [9]) := by
  decide +kernel
example : outB (Funcs.BSD_Next 80 { n := -7, b := [0, 0, 0, 1, 9] } 8) = .ok ([0, 0, 0, 1], GoErr.nil, 0, [9]) := by
  decide +kernel
-- a struct {1: string "a"} followed by a byte
example : outB (Funcs.BSD_Next 80 { n := 0, b := [11, 0, 1, 0, 0, 0, 1, 97, 0, 5] } 12) =
    .ok ([11, 0, 1, 0, 0, 0, 1, 97, 0], GoErr.nil, 0, [5]) := by decide +kernel
-- an error: a struct whose first field value is cut short; io.EOF, no bytes, the offset of the failed attempt stays
example : outB (Funcs.BSD_Next 80 { n := 0, b := [8, 0, 1, 0, 0] } 12) =
    .ok ([], GoErr.named "io.EOF", 3, [8, 0, 1, 0, 0]) := by decide +kernel
-- reuse after the error: the next `Next` starts at 0 again (F16), on both sides
example : outB ((Funcs.BSD_Next 80 { n := 0, b := [8, 0, 1, 0, 0] } 12).bind (fun r => Funcs.BSD_Next 80 r.1 2)) =
    .ok ([8], GoErr.nil, 0, [0, 1, 0, 0]) := by decide +kernel
example : bytesDecNext { b := [8, 0, 1, 0, 0], n := 3 } 2 = .ok ([8], { b := [0, 1, 0, 0], n := 0 }) := by
  decide +kernel
-- through the lift: the model's outcome, error named by `stdNaming`
example : liftSDec absStd absB (Funcs.BSD_Next 80 { n := 0, b := [8, 0, 1, 0, 0] } 12) = .err (.raw .eof) := by
  decide +kernel
example : bytesDecNext { b := [8, 0, 1, 0, 0], n := 0 } 12 = .err (.raw .eof) := by decide +kernel
example : liftSDec absStd absB (Funcs.BSD_Next 80 { n := 0, b := [255, 255, 255, 255] } 11) = .err errNeg := by
  decide +kernel
-- SkipN and Reset
example : outB (Funcs.BSD_SkipN { n := 1, b := [5, 6, 7, 8] } 2) = .ok ([6, 7], GoErr.nil, 3, [5, 6, 7, 8]) := by
  decide +kernel
example : outB (Funcs.BSD_SkipN { n := 1, b := [5, 6, 7, 8] } 4) = .ok ([], GoErr.named "io.EOF", 1, [5, 6, 7, 8]) := by
  decide +kernel
example : Funcs.BSD_Reset { n := 3, b := [1, 2, 3] } [4, 5] = .ok { n := 0, b := [4, 5] } := by decide +kernel
-- panics: no fuel (excluded by `hf`); a negative count (`hk`: `p.b[p.n-n : p.n]` with `p.n-n > p.n`); and why `hsz` is
-- needed: `p.n + n` wraps to a negative number, the guard `len(p.b) >= p.n+n` holds and the slice expression panics,
-- where the model (offsets are `Nat`s) reports EOF
example : Funcs.BSD_Next 0 { n := 0, b := [0] } 8 = .panic "nofuel" := by decide +kernel
example : Funcs.BSD_SkipN { n := 1, b := [0, 0] } (-1) = .panic "slice" := by decide +kernel
example : Funcs.BSD_SkipN { n := 1, b := [0] } 9223372036854775807 = .panic "slice" := by decide +kernel
example : bytesBackend.skipN { b := [0], n := 1 } 9223372036854775807 = .err (.raw .eof) := by decide +kernel

-- SkipDecoder over a bufiox reader: an i32 is skipped and returned by `Next` (stale window offset 7 reset first)
example : outD (Funcs.SD_Next stdI 80 { r := Rd.newBytes [0, 0, 0, 1, 9] 5, rn := 7 } 8) =
    .ok ([0, 0, 0, 1], GoErr.nil, 4, 4, none) := by decide +kernel
example : (bufioxDecNext (Rd.newBytes [0, 0, 0, 1, 9] 5) 8).bind (fun r => .ok (r.1, r.2.ri)) = .ok ([0, 0, 0, 1], 4) := by
  decide +kernel
-- the same through the lift: the model's outcome, reader state included
example : liftSDec absStd (fun p => p.r) (Funcs.SD_Next stdI 80 { r := Rd.newBytes [0, 0, 0, 1, 9] 5, rn := 7 } 8) =
    bufioxDecNext (Rd.newBytes [0, 0, 0, 1, 9] 5) 8 := by decide +kernel
-- over a scripted source: 3 bytes, then 2 bytes together with the source error #7
example : outD (Funcs.SD_Next stdI 80
      { r := Rd.newDefault ⟨[1, 2, 3, 4, 5], [⟨3, none⟩, ⟨3, some (.src 7)⟩]⟩, rn := 0 } 8) =
    .ok ([1, 2, 3, 4], GoErr.nil, 4, 4, some (.src 7)) := by decide +kernel
-- errors: the source error reaches the caller by its name; EOF inside a struct
example : outD (Funcs.SD_Next stdI 80
      { r := Rd.newDefault ⟨[1, 2, 3, 4, 5], [⟨3, none⟩, ⟨3, some (.src 7)⟩]⟩, rn := 0 } 10) =
    .ok ([], GoErr.named "src#7", 0, 0, some (.src 7)) := by decide +kernel
example : liftSDec absStd (fun p => p.r) (Funcs.SD_Next stdI 80
      { r := Rd.newDefault ⟨[1, 2, 3, 4, 5], [⟨3, none⟩, ⟨3, some (.src 7)⟩]⟩, rn := 0 } 10) = .err (.raw (.src 7)) := by
  decide +kernel
example : outD (Funcs.SD_Next stdI 80 { r := Rd.newBytes [8, 0, 1, 0, 0] 5, rn := 0 } 12) =
    .ok ([], GoErr.named "io.EOF", 3, 0, some .eof) := by decide +kernel
-- reuse after the error: nothing was consumed, the window restarts at 0, the buffered byte is still served
example : outD ((Funcs.SD_Next stdI 80 { r := Rd.newBytes [8, 0, 1, 0, 0] 5, rn := 0 } 12).bind
      (fun r => Funcs.SD_Next stdI 80 r.1 2)) = .ok ([8], GoErr.nil, 1, 1, some .eof) := by decide +kernel
-- SkipN: the window grows, the reader does not move
example : outD (Funcs.SD_SkipN stdI { r := Rd.newBytes [5, 6, 7, 8] 4, rn := 1 } 2) = .ok ([6, 7], GoErr.nil, 3, 0, none) := by
  decide +kernel
-- panics / why `hsz` is needed: `p.rn + n` wraps to a negative number and `Peek` refuses it (errNegativeCount) where the
-- model (over `Nat`) runs into EOF
example : outD (Funcs.SD_Next stdI 0 { r := Rd.newBytes [0] 1, rn := 0 } 8) = .panic "nofuel" := by decide +kernel
example : outD (Funcs.SD_SkipN stdI { r := Rd.newBytes [1, 2, 3] 3, rn := 1 } 9223372036854775807) =
    .ok ([], GoErr.named "bufiox.errNegativeCount", 1, 0, none) := by decide +kernel
example : bufioxBackend.skipN { r := Rd.newBytes [1, 2, 3] 3, rn := 1 } 9223372036854775807 = .err (.raw .eof) := by
  decide +kernel

end Verif.FuncsEq
