/-
  Lemmas/Funcs/TTH2: the section readers of protocol/ttheader/decode.go that the translator
  (`extract/funcs.go`) turns into `Verif.Funcs.tth_readKVInfo`, `tth_readStrKVInfo`, `tth_readIntKVInfo`,
  `tth_readACLToken`, `tth_checkProtocolID` (and the loop functions `…_loop1`, recursive over a `fuel : Nat`) on every
  run ARE the hand-written model functions `TTH.readKVInfo`, `TTH.readStrKVInfo`, `TTH.readIntKVInfo`,
  `TTH.readACLToken`, `TTH.checkProtocolID` of `Verif.Model.TTHeader` that the decode property theorems are about.

  Representation
  * `map[string]string`: model `StrMap = List (Bytes × Bytes)`, translation `GoMap Bytes Bytes = Option (List …)`: the
    same entries (newest first); `map[uint16]string`: model keys are `Nat`, translated keys are `Int`: `imapG` / `imapM`
    convert the entries (`imapM (imapG m) = m`). The section readers are called with the NON-nil map `some (image of m)`.
  * the Go constant `GDPRToken` is `"…".toUTF8.toList` in the translation and `TTH.gdprKey` in the model:
    `gdprKey_utf8` proves them equal.

  Lifts (public statements)
  * `liftSec abs` / `liftSecH abs` : `(idx, info, [has,] err)` ↦ `DOut (Nat × M)`: `err == nil` ↦ `.ok (idx, abs info)`;
    ANY non-nil error ↦ `.err .section` — the error text is not part of the model — and the `has` flag and the
    index / map returned next to an error are ignored (reading decision 13: state after an error return is unspecified);
  * `liftMaps` : `(intKVMap, strKVMap, err)` of readKVInfo ↦ `DOut Maps`: the error
    `fmt.Errorf("invalid infoIDType[%#x]")` ↦ `.err .infoId`, every other non-nil error ↦ `.err .section`;
  * `liftChk` : the `error` of checkProtocolID ↦ `.ok (err == nil)`.
  Panics are carried over with their kind.

  Internally the proofs use EXACT specifications (`LoopSpec`, `SecSpec`: on success the translated index
  is the cast of the model's, the translated map is `some` of the image of the model's, plus progress bounds; on
  failure the error is non-nil and not the unknown-id error), because the lifts above forget what the next loop
  iteration needs. The two counted loops are instances of `CountedLoop` (any loop function with the two round
  equations). The utils are used through the explicit-output lemmas `g_u8/g_u16/g_s2` (translation) and
  `m_u8/m_u16/m_s2` (model) of `Lemmas/Funcs/TTH`.

  Hypotheses
  * sizes: `b.length < 2^62` and `idx < 2^62` (the index is a Go `int`; the translation computes `idx + n` and
    `len(buf) - idx` in wrapped int64, the model in ℕ / ℤ);
  * fuel: `b.length - idx < fuel` (ℕ subtraction) — the model's own discipline (`decodeInfo` calls
    `readKVInfo info (info.length + 1) hdIdx`): every iteration of the `for {}` consumes ≥ 1 byte, and the counted
    loops inside a section, which the translation runs on the SAME (decremented) fuel, consume ≥ 4 bytes per entry,
    so neither side reports "nofuel" (`.err .nofuel` in the model, `.panic "nofuel"` in the translation). No extra
    fuel is needed for the inner loops.
-/
import Verif.Lemmas.Funcs.TTH
namespace Verif.FuncsEq
open Verif Verif.GoSem

/-! ## the GDPRToken constant -/

theorem ba_toList_loop (bs : ByteArray) (i : Nat) (r : List UInt8) (h : i ≤ bs.size) :
    ByteArray.toList.loop bs i r = r.reverse ++ bs.data.toList.drop i := by
  have hsz : bs.data.toList.length = bs.size := Array.length_toList
  induction hk : bs.size - i generalizing i r with
  | zero =>
    rw [ByteArray.toList.loop]
    have : ¬ i < bs.size := by omega
    simp [this, List.drop_eq_nil_of_le (show bs.data.toList.length ≤ i by omega)]
  | succ k ih =>
    rw [ByteArray.toList.loop]
    have hlt : i < bs.size := by omega
    simp only [hlt, if_true]
    rw [ih (i+1) _ (by omega) (by omega)]
    have hl : i < bs.data.toList.length := by omega
    rw [List.drop_eq_getElem_cons hl]
    simp [ByteArray.get!, getElem!_pos, hlt]

theorem ba_toList (bs : ByteArray) : bs.toList = bs.data.toList := by
  simp [ByteArray.toList, ba_toList_loop]

/-- the translator's rendering of the Go constant `GDPRToken` is the model's `gdprKey` -/
theorem gdprKey_utf8 : ("RPC_TRANSIT_gdpr-token".toUTF8.toList : Bytes) = TTH.gdprKey := by
  rw [String.toUTF8, ← String.utf8Encode_toList, ba_toList]
  simp [TTH.gdprKey, Facts.ttGDPRToken, List.utf8Encode, String.utf8EncodeChar]

/-! ## errors, maps, and the counted loops -/

/-- the error of readKVInfo's `default:` case -/
def infoIdErr : GoErr := .named "fmt.Errorf:invalid infoIDType[%#x]"

/-- an error of a section reader: non-nil, and not the unknown-info-id error of readKVInfo -/
def SecErr (e : GoErr) : Prop := e ≠ .nil ∧ e ≠ infoIdErr
instance (e : GoErr) : Decidable (SecErr e) := inferInstanceAs (Decidable (_ ∧ _))

theorem secErr_named (s : String) (h : s ≠ "fmt.Errorf:invalid infoIDType[%#x]") : SecErr (.named s) :=
  ⟨nofun, fun e => h (GoErr.named.inj e)⟩

/-- model `IntMap` entries (keys `Nat`) as the entries of the translated `map[uint16]string` (keys `Int`) -/
def imapG (m : TTH.IntMap) : List (Int × Bytes) := m.map fun kv => ((kv.1 : Int), kv.2)
def imapM (g : List (Int × Bytes)) : TTH.IntMap := g.map fun kv => (kv.1.toNat, kv.2)

theorem imapM_imapG (m : TTH.IntMap) : imapM (imapG m) = m := by
  induction m with
  | nil => rfl
  | cons kv t ih =>
    simp only [imapG, imapM, List.map_cons, List.map_map] at ih ⊢
    rw [ih]; simp

def LoopSpec {G M : Type} (img : M → G) (K lo len : Nat)
    (x : GM (LoopR (Int × Option G × Bool × GoErr) (Int × Option G × Int))) (y : TTH.DOut (Nat × M)) : Prop :=
  match y with
  | .ok r => x = .ok (.done ((r.1 : Int), some (img r.2), (K : Int))) ∧ lo ≤ r.1 ∧ (lo ≤ len → r.1 ≤ len)
  | .err e => e = .section ∧ ∃ t, x = .ok (.ret t) ∧ SecErr t.2.2.2
  | .panic _ => False
  | .oob => False

theorem LoopSpec.mono {G M : Type} {img : M → G} {K lo lo' len : Nat}
    {x : GM (LoopR (Int × Option G × Bool × GoErr) (Int × Option G × Int))} {y : TTH.DOut (Nat × M)}
    (h : LoopSpec img K lo' len x y) (h1 : lo ≤ lo') (h2 : lo ≤ len → lo' ≤ len) : LoopSpec img K lo len x y := by
  revert h
  unfold LoopSpec
  split
  · rintro ⟨a, b, c⟩
    exact ⟨a, by omega, fun hh => c (h2 hh)⟩
  all_goals exact id

/-- `L`: a translated loop `for i < K` (arguments: fuel, index, map, counter); `Lm`: the model loop, structural on the
    rounds left -/
structure CountedLoop {G M : Type} (img : M → G) (K len : Nat)
    (L : Nat → Int → Option G → Int → GM (LoopR (Int × Option G × Bool × GoErr) (Int × Option G × Int)))
    (Lm : Nat → Nat → M → TTH.DOut (Nat × M)) : Prop where
  stop : ∀ f idx (g : Option G) (idxm : Nat) m,
    L (f + 1) idx g (K : Int) = .ok (.done (idx, g, (K : Int))) ∧ Lm 0 idxm m = .ok (idxm, m)
  round : ∀ f n (idx i : Nat) m, i + (n + 1) = K → idx < 4611686018427387904 →
    (Lm (n + 1) idx m = .err .section ∧ ∃ t, L (f + 1) idx (some (img m)) i = .ok (.ret t) ∧ SecErr t.2.2.2) ∨
    (∃ (idx' : Nat) (m' : M), idx < idx' ∧ idx' ≤ len ∧ Lm (n + 1) idx m = Lm n idx' m' ∧
      L (f + 1) idx (some (img m)) i = L f idx' (some (img m')) ((i + 1 : Nat) : Int))

/-- every round consumes a byte, so fuel for the bytes left is enough -/
theorem CountedLoop.spec {G M : Type} {img : M → G} {K len : Nat}
    {L : Nat → Int → Option G → Int → GM (LoopR (Int × Option G × Bool × GoErr) (Int × Option G × Int))}
    {Lm : Nat → Nat → M → TTH.DOut (Nat × M)} (H : CountedLoop img K len L Lm) (hlen : len < 4611686018427387904) :
    ∀ (n fuel idx : Nat) (m : M) (i : Nat), i + n = K → idx < 4611686018427387904 → len - idx < fuel →
      LoopSpec img K idx len (L fuel idx (some (img m)) i) (Lm n idx m) := by
  intro n
  induction n with
  | zero =>
    intro fuel idx m i hi hidx hf
    obtain ⟨f, rfl⟩ : ∃ f, fuel = f + 1 := ⟨fuel - 1, by omega⟩
    obtain rfl : i = K := by omega
    rw [(H.stop f idx (some (img m)) idx m).1, (H.stop f idx none idx m).2]
    exact ⟨rfl, Nat.le_refl _, id⟩
  | succ n ih =>
    intro fuel idx m i hi hidx hf
    obtain ⟨f, rfl⟩ : ∃ f, fuel = f + 1 := ⟨fuel - 1, by omega⟩
    rcases H.round f n idx i m hi hidx with ⟨hm, t, hg, ht⟩ | ⟨idx', m', h1, h2, hm, hg⟩
    · rw [hm]
      exact ⟨rfl, t, hg, ht⟩
    · rw [hm, hg]
      exact (ih f idx' m' (i + 1) (by omega) (by omega) (by omega)).mono (by omega) (fun _ => h2)

theorem wrap_adv (b : Bytes) (hb : b.length < 4611686018427387904) (idx : Nat) (c : strFits b idx) :
    wrap .i64 ((idx : Int) + ((rd16 (b.drop idx) + 2 : Nat) : Int)) = ((idx + (rd16 (b.drop idx) + 2) : Nat) : Int) := by
  unfold strFits at c
  rw [wrap_i64_of_range] <;> omega

theorem strLoop (b : Bytes) (hb : b.length < 4611686018427387904) (K : Nat) (hK : K < 65536) :
    CountedLoop id K b.length (Funcs.tth_readStrKVInfo_loop1 b (K : Int)) (TTH.readStrKVs b) where
  stop := fun f idx g idxm m => ⟨by simp [Funcs.tth_readStrKVInfo_loop1], rfl⟩
  round := by
    intro f n idx i m hi hidx
    have hlt : ((i : Int) < (K : Int)) := by omega
    rw [Funcs.tth_readStrKVInfo_loop1, TTH.readStrKVs, g_s2 b idx (by omega) (by omega), m_s2 b idx]
    by_cases c1 : strFits b idx
    · have c1' : _ ≤ b.length := c1
      go_step [hlt, c1, wrap_adv b hb idx c1]
      generalize hidx2 : idx + (rd16 (b.drop idx) + 2) = idx2
      rw [g_s2 b idx2 (by omega) (by omega), m_s2 b idx2]
      by_cases c2 : strFits b idx2
      · have c2' : _ ≤ b.length := c2
        have e3 : wrap .u16 ((i : Int) + 1) = ((i + 1 : Nat) : Int) := by
          rw [wrap_u16]; unfold ofInt; omega
        go_step [c2, wrap_adv b hb idx2 c2, e3, mapSet]
        exact Or.inr ⟨_, _, by omega, by omega, rfl, rfl⟩
      · go_step [c2]
        exact Or.inl ⟨trivial, _, rfl, secErr_named _ (by decide)⟩
    · go_step [hlt, c1]
      exact Or.inl ⟨trivial, _, rfl, secErr_named _ (by decide)⟩

theorem intLoop (b : Bytes) (hb : b.length < 4611686018427387904) (K : Nat) (hK : K < 65536) :
    CountedLoop imapG K b.length (Funcs.tth_readIntKVInfo_loop1 b (K : Int)) (TTH.readIntKVs b) where
  stop := fun f idx g idxm m => ⟨by simp [Funcs.tth_readIntKVInfo_loop1], rfl⟩
  round := by
    intro f n idx i m hi hidx
    have hlt : ((i : Int) < (K : Int)) := by omega
    rw [Funcs.tth_readIntKVInfo_loop1, TTH.readIntKVs, g_u16 b idx (by omega) (by omega), m_u16 b idx]
    by_cases c1 : idx + 2 ≤ b.length
    · have e1 : wrap .i64 ((idx : Int) + 2) = ((idx + 2 : Nat) : Int) := by
        rw [wrap_i64_of_range] <;> omega
      go_step [hlt, c1, e1]
      generalize hidx2 : idx + 2 = idx2
      rw [g_s2 b idx2 (by omega) (by omega), m_s2 b idx2]
      by_cases c2 : strFits b idx2
      · have c2' : _ ≤ b.length := c2
        have e3 : wrap .u16 ((i : Int) + 1) = ((i + 1 : Nat) : Int) := by
          rw [wrap_u16]; unfold ofInt; omega
        go_step [c2, wrap_adv b hb idx2 c2, e3, mapSet]
        exact Or.inr ⟨_, _, by omega, by omega, rfl, rfl⟩
      · go_step [c2]
        exact Or.inl ⟨trivial, _, rfl, secErr_named _ (by decide)⟩
    · go_step [hlt, c1]
      exact Or.inl ⟨trivial, _, rfl, secErr_named _ (by decide)⟩

/-! ## the three section readers -/

def dropHas {G : Type} (t : Int × Option G × Bool × GoErr) : Int × Option G × GoErr := (t.1, t.2.1, t.2.2.2)

/-- `view` is `id` for a reader returning `(idx, info, err)` and `dropHas` for `(idx, info, has, err)` -/
def SecSpec {τ G M : Type} (view : τ → Int × Option G × GoErr) (img : M → G) (lo len : Nat)
    (x : GM τ) (y : TTH.DOut (Nat × M)) : Prop :=
  ∃ t, x = .ok t ∧
    match y with
    | .ok r => view t = ((r.1 : Int), some (img r.2), GoErr.nil) ∧ lo + 2 ≤ r.1 ∧ r.1 ≤ len
    | .err e => e = .section ∧ SecErr (view t).2.2
    | .panic _ => False
    | .oob => False

theorem readACLToken_spec (b : Bytes) (idx : Nat) (m : TTH.StrMap)
    (hb : b.length < 4611686018427387904) (hi : idx < 4611686018427387904) :
    SecSpec id id idx b.length (Funcs.tth_readACLToken (idx : Int) b (some m)) (TTH.readACLToken b idx m) := by
  unfold Funcs.tth_readACLToken TTH.readACLToken
  rw [g_s2 b idx (by omega) (by omega), m_s2 b idx]
  have hr := rd16_lt (b.drop idx)
  by_cases c : strFits b idx
  · have c' : _ ≤ b.length := c
    go_step [c, wrap_adv b hb idx c, mapSet, gdprKey_utf8]
    exact ⟨_, rfl, rfl, by omega, by omega⟩
  · go_step [c]
    exact ⟨_, rfl, rfl, secErr_named _ (by decide)⟩

theorem secSpec_of_loop {G M : Type} {img : M → G} {K idx len : Nat}
    {x : GM (LoopR (Int × Option G × Bool × GoErr) (Int × Option G × Int))} {y : TTH.DOut (Nat × M)}
    (L : LoopSpec img K (idx + 2) len x y) (c : idx + 2 ≤ len)
    (k : LoopR (Int × Option G × Bool × GoErr) (Int × Option G × Int) → GM (Int × Option G × Bool × GoErr))
    (hret : ∀ t, k (.ret t) = .ok t) (hdone : ∀ s, ∃ has, k (.done s) = .ok (s.1, s.2.1, has, GoErr.nil)) :
    SecSpec dropHas img idx len (x.bind k) y := by
  cases y with
  | ok r =>
    obtain ⟨rfl, h2, h3⟩ := L
    obtain ⟨has, hk⟩ := hdone ((r.1 : Int), some (img r.2), (K : Int))
    exact ⟨_, hk, rfl, h2, h3 c⟩
  | err e =>
    obtain ⟨he, t, rfl, ht⟩ := L
    exact ⟨t, hret t, he, ht⟩
  | panic s => exact L.elim
  | oob => exact L.elim

theorem readStrKVInfo_spec (b : Bytes) (fuel idx : Nat) (m : TTH.StrMap)
    (hb : b.length < 4611686018427387904) (hi : idx < 4611686018427387904) (hf : b.length - idx < fuel) :
    SecSpec dropHas id idx b.length (Funcs.tth_readStrKVInfo fuel (idx : Int) b (some m))
      (TTH.readStrKVInfo b idx m) := by
  unfold Funcs.tth_readStrKVInfo TTH.readStrKVInfo
  rw [g_u16 b idx (by omega) (by omega), m_u16 b idx]
  have hr := rd16_lt (b.drop idx)
  by_cases c : idx + 2 ≤ b.length
  · have e1 : wrap .i64 ((idx : Int) + 2) = ((idx + 2 : Nat) : Int) := by
      rw [wrap_i64_of_range] <;> omega
    by_cases hz : rd16 (b.drop idx) = 0
    · go_step [c, hz, e1, Int.natCast_zero, Int.le_refl, Nat.le_refl]
      exact ⟨_, rfl, rfl, by omega, by omega⟩
    · have hz' : ¬ ((rd16 (b.drop idx) : Int) ≤ 0) := by omega
      have hz'' : ¬ (rd16 (b.drop idx) ≤ 0) := by omega
      go_step [c, e1, hz', hz'']
      exact secSpec_of_loop ((strLoop b hb (rd16 (b.drop idx)) hr).spec hb (rd16 (b.drop idx)) fuel (idx + 2) m 0
        (by omega) (by omega) (by omega)) c _ (fun _ => rfl) (fun _ => ⟨_, rfl⟩)
  · go_step [c]
    exact ⟨_, rfl, rfl, secErr_named _ (by decide)⟩

theorem readIntKVInfo_spec (b : Bytes) (fuel idx : Nat) (m : TTH.IntMap)
    (hb : b.length < 4611686018427387904) (hi : idx < 4611686018427387904) (hf : b.length - idx < fuel) :
    SecSpec dropHas imapG idx b.length (Funcs.tth_readIntKVInfo fuel (idx : Int) b (some (imapG m)))
      (TTH.readIntKVInfo b idx m) := by
  unfold Funcs.tth_readIntKVInfo TTH.readIntKVInfo
  rw [g_u16 b idx (by omega) (by omega), m_u16 b idx]
  have hr := rd16_lt (b.drop idx)
  by_cases c : idx + 2 ≤ b.length
  · have e1 : wrap .i64 ((idx : Int) + 2) = ((idx + 2 : Nat) : Int) := by
      rw [wrap_i64_of_range] <;> omega
    by_cases hz : rd16 (b.drop idx) = 0
    · go_step [c, hz, e1, Int.natCast_zero, Int.le_refl, Nat.le_refl]
      exact ⟨_, rfl, rfl, by omega, by omega⟩
    · have hz' : ¬ ((rd16 (b.drop idx) : Int) ≤ 0) := by omega
      have hz'' : ¬ (rd16 (b.drop idx) ≤ 0) := by omega
      go_step [c, e1, hz', hz'']
      exact secSpec_of_loop ((intLoop b hb (rd16 (b.drop idx)) hr).spec hb (rd16 (b.drop idx)) fuel (idx + 2) m 0
        (by omega) (by omega) (by omega)) c _ (fun _ => rfl) (fun _ => ⟨_, rfl⟩)
  · go_step [c]
    exact ⟨_, rfl, rfl, secErr_named _ (by decide)⟩

/-! ## readKVInfo -/

/-- `(intKVMap, strKVMap, err)` of readKVInfo as the models' `DOut Maps`: the unknown-info-id error is `.infoId`,
    every other non-nil error (the wrapped io.EOF of an incomplete section) is `.section` -/
def liftMaps (x : GM (GoMap Int Bytes × GoMap Bytes Bytes × GoErr)) : TTH.DOut TTH.Maps :=
  match x with
  | .ok r =>
    if r.2.2 = .nil then .ok ⟨r.1.map imapM, r.2.1⟩
    else if r.2.2 = infoIdErr then .err .infoId else .err .section
  | .panic s => .panic s
  | .oob => .oob
  | .err e => nomatch e

/-- the `for {}` of readKVInfo: it can only be left by `return` -/
def liftKVLoop {σ : Type} (x : GM (LoopR (GoMap Int Bytes × GoMap Bytes Bytes × GoErr) σ)) : TTH.DOut TTH.Maps :=
  match x with
  | .ok (.ret r) => liftMaps (.ok r)
  | .ok (.done _) => .panic "unreachable"
  | .panic s => .panic s
  | .oob => .oob
  | .err e => nomatch e

theorem map_imapM_imapG (mi : Option TTH.IntMap) : (mi.map imapG).map imapM = mi := by
  cases mi <;> simp [imapM_imapG]

theorem kvStep {τ G M ρ : Type} {view : τ → Int × Option G × GoErr} {img : M → G} {lo len : Nat}
    {x : GM τ} {y : TTH.DOut (Nat × M)} (S : SecSpec view img lo len x y)
    (kg : τ → GM (LoopR (GoMap Int Bytes × GoMap Bytes Bytes × GoErr) ρ)) (km : Nat × M → TTH.DOut TTH.Maps)
    (herr : ∀ t, SecErr (view t).2.2 → ∃ g s e, kg t = .ok (.ret (g, s, e)) ∧ SecErr e)
    (hok : ∀ r t, (view t).1 = (r.1 : Int) → (view t).2.1 = some (img r.2) → (view t).2.2 = GoErr.nil →
      lo + 2 ≤ r.1 → r.1 ≤ len → liftKVLoop (kg t) = km r) :
    liftKVLoop (x.bind kg) = y.bind km := by
  obtain ⟨t, rfl, S⟩ := S
  cases y with
  | ok r => exact hok r t (congrArg (·.1) S.1) (congrArg (·.2.1) S.1) (congrArg (·.2.2) S.1) S.2.1 S.2.2
  | err e =>
    obtain ⟨rfl, ht⟩ := S
    obtain ⟨g, s, e, hk, he⟩ := herr t ht
    simp [hk, liftKVLoop, liftMaps, he.1, he.2]
  | panic s => exact S.elim
  | oob => exact S.elim

/-- the two sides may run on different fuels: each only needs more than the bytes left -/
theorem kvLoop_eq (b : Bytes) (hb : b.length < 4611686018427387904) :
    ∀ (fuel fuel' idx : Nat) (mi : Option TTH.IntMap) (ms : Option TTH.StrMap) (e0 : GoErr),
      idx < 4611686018427387904 → b.length - idx < fuel → b.length - idx < fuel' →
      liftKVLoop (Funcs.tth_readKVInfo_loop1 b fuel (idx : Int) (mi.map imapG) ms e0)
        = TTH.readKVInfo b fuel' idx ⟨mi, ms⟩ := by
  intro fuel
  induction fuel with
  | zero => intro fuel' idx mi ms e0 hi hf; omega
  | succ f ih =>
    intro fuel' idx mi ms e0 hi hf hf'
    obtain ⟨f', rfl⟩ : ∃ f', fuel' = f' + 1 := ⟨fuel' - 1, by omega⟩
    rw [Funcs.tth_readKVInfo_loop1, TTH.readKVInfo, g_u8 b idx (by omega) (by omega), m_u8 b idx]
    by_cases c : idx < b.length
    · have e1 : wrap .i64 ((idx : Int) + 1) = ((idx + 1 : Nat) : Int) := by
        rw [wrap_i64_of_range] <;> omega
      have hid : (b.getD idx 0).toNat < 256 := UInt8.toNat_lt _
      generalize (b.getD idx 0).toNat = id at hid
      go_step [c, e1, Facts.ttInfoPadding, Facts.ttInfoKeyValue, Facts.ttInfoIntKeyValue, Facts.ttInfoACLToken]
      by_cases h0 : id = 0
      · subst h0
        go_step [Int.natCast_zero]
        exact ih f' (idx + 1) mi ms _ (by omega) (by omega) (by omega)
      · have h0' : ¬ ((id : Int) = 0) := by omega
        go_step [h0, h0']
        by_cases h1 : id = 1
        · subst h1
          have S := readStrKVInfo_spec b f (idx + 1) (TTH.mk ms) hb (by omega) (by omega)
          go_step [Int.natCast_one]
          cases ms <;>
          · go_step [TTH.mk] at S ⊢
            refine kvStep S _ _ ?_ ?_
            · intro t (ht : SecErr t.2.2.2)
              go_step [ht.1]
              exact ⟨_, _, _, rfl, ht⟩
            · intro r t (h1 : t.1 = (r.1 : Int)) (h2 : t.2.1 = some r.2) (h3 : t.2.2.2 = GoErr.nil) hr1 hr2
              go_step [h1, h2, h3]
              exact ih f' r.1 mi (some r.2) _ (by omega) (by omega) (by omega)
        · have h1' : ¬ ((id : Int) = 1) := by omega
          go_step [h1, h1']
          by_cases h16 : id = 16
          · subst h16
            have S := readIntKVInfo_spec b f (idx + 1) (TTH.mk mi) hb (by omega) (by omega)
            go_step [show ((16 : Nat) : Int) = 16 from rfl]
            cases mi <;>
            · go_step [TTH.mk, Option.map_none, Option.map_some, imapG, List.map_nil] at S ⊢
              refine kvStep S _ _ ?_ ?_
              · intro t (ht : SecErr t.2.2.2)
                go_step [ht.1]
                exact ⟨_, _, _, rfl, ht⟩
              · intro r t (h1 : t.1 = (r.1 : Int)) (h2 : t.2.1 = some (imapG r.2)) (h3 : t.2.2.2 = GoErr.nil) hr1 hr2
                go_step [h1, h2, h3]
                exact ih f' r.1 (some r.2) ms _ (by omega) (by omega) (by omega)
          · have h16' : ¬ ((id : Int) = 16) := by omega
            go_step [h16, h16']
            by_cases h17 : id = 17
            · subst h17
              have S := readACLToken_spec b (idx + 1) (TTH.mk ms) hb (by omega)
              go_step [show ((17 : Nat) : Int) = 17 from rfl]
              cases ms <;>
              · go_step [TTH.mk] at S ⊢
                refine kvStep S _ _ ?_ ?_
                · intro t (ht : SecErr t.2.2)
                  go_step [ht.1]
                  exact ⟨_, _, _, rfl, ht⟩
                · intro r t (h1 : t.1 = (r.1 : Int)) (h2 : t.2.1 = some r.2) (h3 : t.2.2 = GoErr.nil) hr1 hr2
                  go_step [h1, h2, h3]
                  exact ih f' r.1 mi (some r.2) _ (by omega) (by omega) (by omega)
            · have h17' : ¬ ((id : Int) = 17) := by omega
              simp [h17, h17', liftKVLoop, liftMaps, infoIdErr]
    · simp [c, liftKVLoop, liftMaps]
      cases mi <;> simp [imapM_imapG]

theorem liftMaps_bind {σ : Type} (x : GM (LoopR (GoMap Int Bytes × GoMap Bytes Bytes × GoErr) σ))
    (k : LoopR (GoMap Int Bytes × GoMap Bytes Bytes × GoErr) σ → GM (GoMap Int Bytes × GoMap Bytes Bytes × GoErr))
    (hret : ∀ r, k (.ret r) = .ok r) (hdone : ∀ s, k (.done s) = .panic "unreachable") :
    liftMaps (x.bind k) = liftKVLoop x := by
  cases x with
  | ok v => cases v <;> simp [hret, hdone, liftKVLoop, liftMaps]
  | err e => exact nomatch e
  | panic s => rfl
  | oob => rfl

/-! ## the public lifts and the equivalence theorems -/

/-- `(idx, info, err)` of a section reader as the models' `DOut (Nat × M)`: `err == nil` ↦ the new index and the map
    (through `abs`); ANY non-nil error ↦ `.err .section` (the error text is not part of the model), and the index and
    the map returned next to an error are ignored (reading decision 13: state after an error return is unspecified).
    A nil map next to a nil error is sent to `.err .nofuel`, which the model readers never produce. -/
def liftSec {G M : Type} (abs : G → M) (x : GM (Int × Option G × GoErr)) : TTH.DOut (Nat × M) :=
  match x with
  | .ok r =>
    if r.2.2 = .nil then
      match r.2.1 with
      | some l => .ok (r.1.toNat, abs l)
      | none => .err .nofuel
    else .err .section
  | .panic s => .panic s
  | .oob => .oob
  | .err e => nomatch e

/-- `(idx, info, has, err)`: the same, the `has` flag is ignored -/
def liftSecH {G M : Type} (abs : G → M) (x : GM (Int × Option G × Bool × GoErr)) : TTH.DOut (Nat × M) :=
  liftSec abs (x.bind fun r => .ok (r.1, r.2.1, r.2.2.2))

theorem liftSec_of_spec {τ G M : Type} {view : τ → Int × Option G × GoErr} {img : M → G} {abs : G → M}
    (h : ∀ m, abs (img m) = m) {lo len : Nat} {x : GM τ} {y : TTH.DOut (Nat × M)}
    (S : SecSpec view img lo len x y) : liftSec abs (x.bind fun t => .ok (view t)) = y := by
  obtain ⟨t, rfl, S⟩ := S
  cases y with
  | ok r => simp [liftSec, S.1, h]
  | err e => obtain ⟨rfl, ht⟩ := S; simp [liftSec, ht.1]
  | panic s => exact S.elim
  | oob => exact S.elim

/-- readACLToken(&idx, buf, info) with a non-nil map -/
theorem tth_readACLToken_eq (b : Bytes) (idx : Nat) (m : TTH.StrMap)
    (hb : b.length < 4611686018427387904) (hi : idx < 4611686018427387904) :
    liftSec id (Funcs.tth_readACLToken (idx : Int) b (some m)) = TTH.readACLToken b idx m := by
  have S := readACLToken_spec b idx m hb hi
  have e := liftSec_of_spec (abs := id) (fun _ => rfl) S
  obtain ⟨t, hx, -⟩ := S
  rw [hx] at e ⊢
  exact e

/-- readStrKVInfo(&idx, buf, info) with a non-nil map; fuel: more than the bytes from `idx` on -/
theorem tth_readStrKVInfo_eq (b : Bytes) (fuel idx : Nat) (m : TTH.StrMap)
    (hb : b.length < 4611686018427387904) (hi : idx < 4611686018427387904) (hf : b.length - idx < fuel) :
    liftSecH id (Funcs.tth_readStrKVInfo fuel (idx : Int) b (some m)) = TTH.readStrKVInfo b idx m :=
  liftSec_of_spec (fun _ => rfl) (readStrKVInfo_spec b fuel idx m hb hi hf)

/-- readIntKVInfo(&idx, buf, info) with the non-nil map holding the image of the model's entries -/
theorem tth_readIntKVInfo_eq (b : Bytes) (fuel idx : Nat) (m : TTH.IntMap)
    (hb : b.length < 4611686018427387904) (hi : idx < 4611686018427387904) (hf : b.length - idx < fuel) :
    liftSecH imapM (Funcs.tth_readIntKVInfo fuel (idx : Int) b (some (imapG m))) = TTH.readIntKVInfo b idx m :=
  liftSec_of_spec imapM_imapG (readIntKVInfo_spec b fuel idx m hb hi hf)

/-- readKVInfo(idx, buf) on `fuel`, the model on `fuel'`, each more than the bytes from `idx` on (every iteration
    consumes a byte, and the counted loops inside a section, which get the same fuel, consume ≥ 4 bytes per entry):
    neither side reports "nofuel", and neither depends on its fuel -/
theorem tth_readKVInfo_eq_fuel (b : Bytes) (fuel fuel' idx : Nat) (hb : b.length < 4611686018427387904)
    (hi : idx < 4611686018427387904) (hf : b.length - idx < fuel) (hf' : b.length - idx < fuel') :
    liftMaps (Funcs.tth_readKVInfo fuel (idx : Int) b) = TTH.readKVInfo b fuel' idx ⟨none, none⟩ := by
  unfold Funcs.tth_readKVInfo
  exact (liftMaps_bind _ _ (fun _ => rfl) (fun _ => rfl)).trans
    (kvLoop_eq b hb fuel fuel' idx none none GoErr.nil hi hf hf')

/-- the model's own fuel discipline: the same fuel on both sides -/
theorem tth_readKVInfo_eq (b : Bytes) (fuel idx : Nat)
    (hb : b.length < 4611686018427387904) (hi : idx < 4611686018427387904) (hf : b.length - idx < fuel) :
    liftMaps (Funcs.tth_readKVInfo fuel (idx : Int) b) = TTH.readKVInfo b fuel idx ⟨none, none⟩ :=
  tth_readKVInfo_eq_fuel b fuel fuel idx hb hi hf hf

/-- the call made by `TTH.decodeInfo` -/
theorem tth_readKVInfo_eq_decode (info : Bytes) (hdIdx : Nat)
    (hb : info.length < 4611686018427387904) (hi : hdIdx ≤ info.length) :
    liftMaps (Funcs.tth_readKVInfo (info.length + 1) (hdIdx : Int) info)
      = TTH.readKVInfo info (info.length + 1) hdIdx ⟨none, none⟩ :=
  tth_readKVInfo_eq info (info.length + 1) hdIdx hb (by omega) (by omega)

/-- `err == nil` of checkProtocolID -/
def liftChk (x : GM GoErr) : TTH.DOut Bool :=
  match x with
  | .ok e => .ok (decide (e = .nil))
  | .panic s => .panic s
  | .oob => .oob
  | .err e => nomatch e

set_option linter.unusedSimpArgs false in
theorem checkProtocolID_out (p : Nat) :
    Funcs.tth_checkProtocolID (p : Int)
      = .ok (if TTH.checkProtocolID p then GoErr.nil else GoErr.named "fmt.Errorf:unsupported ProtocolID[%d]") := by
  unfold Funcs.tth_checkProtocolID TTH.checkProtocolID
  by_cases h0 : p = 0
  · subst h0; rfl
  by_cases h4 : p = 4
  · subst h4; rfl
  by_cases h3 : p = 3
  · subst h3; rfl
  by_cases h16 : p = 16
  · subst h16; rfl
  by_cases h17 : p = 17
  · subst h17; rfl
  have k0 : ¬ ((p : Int) = 0) := by omega
  have k4 : ¬ ((p : Int) = 4) := by omega
  have k3 : ¬ ((p : Int) = 3) := by omega
  have k16 : ¬ ((p : Int) = 16) := by omega
  have k17 : ¬ ((p : Int) = 17) := by omega
  simp [h0, h4, h3, h16, h17, k0, k4, k3, k16, k17, Facts.ttProtocolAllow]

/-- checkProtocolID(protoID): nil error exactly for the ids the model allows (`Facts.ttProtocolAllow`) -/
theorem tth_checkProtocolID_eq (p : Nat) :
    liftChk (Funcs.tth_checkProtocolID (p : Int)) = .ok (TTH.checkProtocolID p) := by
  rw [checkProtocolID_out]
  cases TTH.checkProtocolID p <;> rfl

/-! ## the generated functions compute (non-vacuity) -/

instance instDecEqGoMapS : DecidableEq (GoMap Bytes Bytes) := inferInstance
instance instDecEqGoMapI : DecidableEq (GoMap Int Bytes) := inferInstance

-- one string section {"a": "b"}, then EOF at the top of the loop: success
example : Funcs.tth_readKVInfo 10 0 [1, 0, 1, 0, 1, 97, 0, 1, 98]
    = .ok (none, some [([97], [98])], GoErr.nil) := by decide +kernel
example : liftMaps (Funcs.tth_readKVInfo 10 0 [1, 0, 1, 0, 1, 97, 0, 1, 98])
    = .ok ⟨none, some [([97], [98])]⟩ := by decide +kernel
example : TTH.readKVInfo [1, 0, 1, 0, 1, 97, 0, 1, 98] 10 0 ⟨none, none⟩
    = .ok ⟨none, some [([97], [98])]⟩ := by decide +kernel
-- padding, an int section {7: "x"}, padding, EOF
example : Funcs.tth_readKVInfo 16 0 [0, 16, 0, 1, 0, 7, 0, 1, 120, 0]
    = .ok (some [(7, [120])], none, GoErr.nil) := by decide +kernel
-- … followed by an ACL token "t": the translated key constant `"…".toUTF8.toList` does not evaluate under `decide`,
-- so this one goes through the theorem and evaluates the model
example : liftMaps (Funcs.tth_readKVInfo 16 0 [0, 16, 0, 1, 0, 7, 0, 1, 120, 17, 0, 1, 116, 0])
    = .ok ⟨some [(7, [120])], some [(TTH.gdprKey, [116])]⟩ := by
  rw [show (0 : Int) = ((0 : Nat) : Int) from rfl, tth_readKVInfo_eq _ _ _ (by decide) (by decide) (by decide)]
  decide +kernel
-- unknown info id 2
example : Funcs.tth_readKVInfo 10 0 [0, 2, 0]
    = .ok (none, none, GoErr.named "fmt.Errorf:invalid infoIDType[%#x]") := by decide +kernel
example : liftMaps (Funcs.tth_readKVInfo 10 0 [0, 2, 0]) = .err .infoId := by decide +kernel
-- truncated section: the value of the only entry is cut short
example : Funcs.tth_readKVInfo 10 0 [1, 0, 1, 0, 1, 97, 0, 5, 98]
    = .ok (none, some [], GoErr.named "fmt.Errorf:error reading str kv info: %s") := by decide +kernel
example : liftMaps (Funcs.tth_readKVInfo 10 0 [1, 0, 1, 0, 1, 97, 0, 5, 98]) = .err .section := by decide +kernel
example : TTH.readKVInfo [1, 0, 1, 0, 1, 97, 0, 5, 98] 10 0 ⟨none, none⟩ = .err .section := by decide +kernel
-- fuel exhausted / a store into a nil map: panics
example : Funcs.tth_readKVInfo 1 0 [0, 0] = .panic "nofuel" := by decide +kernel
example : Funcs.tth_readACLToken 0 [0, 1, 116] none = .panic "nilmap" := by decide +kernel
-- (the new index of a successful section is a tower of `wrap`s that `decide` compares too deeply: projected away)
example : (Funcs.tth_readIntKVInfo 3 0 [0, 1, 0, 7, 0, 1, 120] (some [])).bind (fun r => .ok r.2)
    = .ok (some [(7, [120])], true, GoErr.nil) := by decide +kernel
example : (Funcs.tth_readStrKVInfo 3 0 [0, 1, 0, 1, 97, 0, 1, 98] (some [])).bind (fun r => .ok r.2)
    = .ok (some [([97], [98])], true, GoErr.nil) := by decide +kernel
example : Funcs.tth_readIntKVInfo 3 0 [0, 1, 0, 7, 0, 1] (some [])
    = .ok (4, some [], false, GoErr.named "fmt.Errorf:error reading int kv info: %s") := by decide +kernel
example : Funcs.tth_readStrKVInfo 3 0 [0, 0] (some []) = .ok (2, some [], false, GoErr.nil) := by decide +kernel
example : Funcs.tth_readStrKVInfo 3 0 [0] (some [])
    = .ok (2, some [], false, GoErr.named "fmt.Errorf:error reading str kv info size: %s") := by decide +kernel
example : Funcs.tth_checkProtocolID 3 = .ok GoErr.nil := by decide +kernel
example : Funcs.tth_checkProtocolID 5 = .ok (GoErr.named "fmt.Errorf:unsupported ProtocolID[%d]") := by decide +kernel

end Verif.FuncsEq
