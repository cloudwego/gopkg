/-
  Lemmas/Funcs/TransferRead: helper lemmas for Props/Translated (undoing the result lifts); split per group so that a
  property's check only depends on the translated functions it is about.
-/
import Verif.Lemmas.Funcs.Read
namespace Verif.FuncsEq
open Verif Verif.GoSem

theorem liftRdG_returns {ρ β : Type} {l : ρ → Int} {e : ρ → GoErr} {v : ρ → Nat → β} {x : GM ρ}
    (h : (liftRdG l e v x).Safe) : ∃ r, x = .ok r := by
  cases x with
  | ok r => exact ⟨r, rfl⟩
  | err e => exact nomatch e
  | panic s => exact absurd rfl (h.1 s)
  | oob => exact absurd rfl h.2

theorem liftRd_eq_liftRdG {α : Type} (x : GM (α × Int × GoErr)) :
    liftRd x = liftRdG (fun r => r.2.1) (fun r => r.2.2) (fun r n => (r.1, n)) x := by
  cases x with
  | err e => exact nomatch e
  | _ => rfl

theorem liftRd_returns {α : Type} {x : GM (α × Int × GoErr)} (h : (liftRd x).Safe) : ∃ r, x = .ok r :=
  liftRdG_returns (liftRd_eq_liftRdG x ▸ h)

/-- `Wire.mapOk` keeps panics and `oob` -/
theorem mapOk_safe {α : Type} {f : α → Wire.Val × Nat} {x : Wire.BOut α} (h : (Wire.mapOk f x).Safe) : x.Safe := by
  cases x with
  | ok r => exact ⟨fun s => by simp, by simp⟩
  | err e => exact ⟨fun s => by simp, by simp⟩
  | panic s => exact absurd rfl (h.1 s)
  | oob => exact absurd rfl h.2

end Verif.FuncsEq
