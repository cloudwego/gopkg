/-
  Lemmas/Funcs/Tpl: `(SkipDecoderTpl[T]).Skip` (self-recursive, three `for` loops, generic over the back end
  `SkipDecoderIface`) TRANSLATED from protocol/thrift/skipdecoder_tpl.go (`Verif.Funcs.Tpl_Skip[_loop1/2/3]` over an
  abstract `SkipNI ρ`: generated) is the hand-written model `skipTplAt` (Model/SkipStream.lean) over ANY model back end.

    Tpl_Skip_eq : Meas B μ P → P s → d < 2^63 → μ s + d + 2 ≤ fuel →
        liftTpl N.absE (Funcs.Tpl_Skip (iOf B N.errOf) fuel s (toI8 t.toNat) d) = skipTplAt B d t s

  * `iOf B errOf : SkipNI σ` is the model back end `B : Backend σ` seen as the abstract Go interface:
    `SkipN(n)` = `B.skipN s n.toNat`, `ok (b, s')` ↦ `(b, nil)` in state `s'`, `err e` ↦ `(nil, errOf e)` in the
    unchanged state (the state next to an error is dropped by `liftTpl`), panics / oob carried over.
    A NEGATIVE argument is `panic "SkipN: negative count"`: the generic code never produces one (the fixed sizes are
    `> 0`, the STRING size and the counts are tested `< 0` first, `int(sz) * (ksz + vsz)` is a product of
    non-negative numbers `< 2^31 * 16`, far from wrapping in an `int`) — the theorem proves it: that branch of `iOf` is
    never reached, so what it returns does not matter for the equality.
  * errors: the model's `TErr` (`pe id` / `wrap e` / `raw e`) has more values than `GoErr` has constructors, so the
    theorem is stated over an `ErrNaming` — an injection `errOf : TErr → GoErr` that avoids `nil`, with a left inverse
    `absE` which sends every protocol exception `pe id msg` to `TErr.pe id`.  Nothing else is assumed about the
    errors of the back end.  `stdNaming` is a concrete one (`raw io.EOF` ↦ `named "io.EOF"`, `raw (src k)` ↦
    `named "src#k"`, `wrap e` ↦ `named "wrap:<name>"` — the same as `GoSem.wrapErr` —, `pe id` ↦ `pe id ""`).
  * fuel: the translation has ONE fuel for the recursion and for its three loops; the model's STRUCT loop has its own
    (`B.avail s + 1`, `panic "nofuel"` when exhausted) and its counted loops run `sz < 2^31` times.  Without any
    assumption on the back end the two sides cannot agree: a back end whose `avail` is not an upper bound makes the
    model stop with its own `nofuel` while the translation goes on (`lyingBackend`, last examples), and a back end
    that delivers for ever needs `2^31` units of fuel for one LIST.  The assumption is a MEASURE `Meas B μ P`: under a
    back-end invariant `P` (kept by every successful `SkipN`), a successful `SkipN(n)` with `n ≤ 2^35` (the generic
    code never asks for more: `(2^31 - 1) * 16`) lowers `μ` by at least `n`, and `μ s ≤ B.avail s`.  Then every
    successful `Skip` consumes ≥ 1 (`skipTplAt_dec`), every loop runs at most `μ s` times and `μ s + d + 2` is enough
    fuel.  `Tpl_Skip_eq_avail` is the case `μ = B.avail`, `P = True` ("every successful SkipN of n bytes lowers
    `B.avail` by ≥ n").  All three concrete back ends are instances, closed theorems at the depth and in the start
    state of `bytesDecNext` / `readerDecNext` / `bufioxDecNext`:
      Tpl_Skip_eq_bytes  (bytes_dec:  μ = avail = len b - n),             fuel ≥ len b - n + 66
      Tpl_Skip_eq_reader (reader_dec: μ = avail = |stream|, any script),  fuel ≥ |stream| + 66
      Tpl_Skip_eq_bufiox (bufiox_meas: μ = |remaining| - rn — `bufioxBackend.avail` ignores the peeked window `rn` —,
                          P = reader invariant `Inv` + requests in the range `Rd.Small` of the reader model),
                          fuel ≥ |remaining| + 66

  Structure: the simulation proof itself is `TplG.Tpl_Skip_simG` (Lemmas/Funcs/TplG.lean: ANY interface value implementing
  a model back end through an abstraction relation; loops under `RecOKG` by induction on the fuel, the function by
  induction on the depth; written to survive harmless reshaping of the generated definition).  `Tpl_Skip_sim` here is
  its instance `I = iOf B N.errOf`, `R = Eq` (`iOf_impl`); the error naming, `iOf`, `liftTpl` and `Meas` live in TplG.lean.
  Outcomes are compared in full: final back-end state, error value, Go panics (`b[0]`, `b[1]`, `b[2:]`, `Uint32(b)` on
  a short slice returned by the back end: same panic kind on both sides).
-/
import Verif.Lemmas.Funcs.TplG
import Verif.Lemmas.ReaderOps
set_option linter.unusedSimpArgs false
namespace Verif.FuncsEq
open Verif Verif.GoSem

namespace Tpl
variable {σ : Type}

/-! ## the simulation relation -/

inductive TSim (N : ErrNaming) : GM (σ × GoErr) → TOut σ → Prop where
  | ok (s : σ) : TSim N (.ok (s, GoErr.nil)) (.ok s)
  | err (s : σ) (e : GoErr) (h : e ≠ GoErr.nil) : TSim N (.ok (s, e)) (.err (N.absE e))
  | panic (m : String) : TSim N (.panic m) (.panic m)
  | oob : TSim N .oob .oob

theorem TSim.lift {N : ErrNaming} {x : GM (σ × GoErr)} {y : TOut σ} (h : TSim N x y) : liftTpl N.absE x = y := by
  cases h <;> simp [liftTpl, *]

theorem TSim.berr (N : ErrNaming) (s : σ) (e : TErr) : TSim N (.ok (s, N.errOf e)) (.err e) := by
  have := TSim.err (N := N) s (N.errOf e) (N.ne_nil e)
  rwa [N.inv] at this

theorem TSim.perr (N : ErrNaming) (s : σ) (id : Int) (msg : String) :
    TSim N (.ok (s, GoErr.pe id msg)) (.err (TErr.pe id)) := by
  have := TSim.err (N := N) s (GoErr.pe id msg) (by simp)
  rwa [N.pe] at this

/-- the model back end seen as the interface value `iOf B N.errOf` implements itself (abstraction relation: equality) -/
theorem iOf_impl (N : ErrNaming) (B : Backend σ) (P : σ → Prop) : TplG.Impl N Eq (iOf B N.errOf) B P := by
  constructor
  intro p s n hR _ h0 _
  subst hR
  rw [iOf_skipN _ _ _ _ h0]
  cases B.skipN p n.toNat with
  | ok r => exact TplG.SSim.ok r.1 r.2 r.2 rfl
  | err e =>
    have := TplG.SSim.err (N := N) (R := (Eq : σ → σ → Prop)) [] p (N.errOf e) (N.ne_nil e)
    rwa [N.inv] at this
  | panic m => exact TplG.SSim.panic m
  | oob => exact TplG.SSim.oob

theorem TSim.of_G {N : ErrNaming} {x : GM (σ × GoErr)} {y : TOut σ} (h : TplG.GSim N Eq x y) : TSim N x y := by
  cases h with
  | ok p s h => subst h; exact TSim.ok p
  | err p e h => exact TSim.err p e h
  | panic m => exact TSim.panic m
  | oob => exact TSim.oob

/-- `SkipDecoderTpl.Skip`, whole function, translated from the Go source, over the model back end `B`: the model
    `skipTplAt B`, final back-end state, error, and every panic included (instance of `TplG.Tpl_Skip_simG`) -/
theorem Tpl_Skip_sim (N : ErrNaming) {B : Backend σ} {μ : σ → Nat} {P : σ → Prop} (hM : Meas B μ P) :
    ∀ (d f : Nat) (s : σ) (t : UInt8) (D : Int), d < 2 ^ 63 → P s → μ s + d + 2 ≤ f → D = (d : Int) →
      TSim N (Funcs.Tpl_Skip (iOf B N.errOf) f s (toI8 t.toNat) D) (skipTplAt B d t s) :=
  fun d f s t D hd hp hf hD =>
    TSim.of_G (TplG.Tpl_Skip_simG N hM (iOf_impl N B P) d f s s t D rfl hd hp hf hD)

end Tpl

/-- `SkipDecoderTpl.Skip` translated from the Go source IS the model `skipTplAt`, over every model back end with a
    measure, for every state, type byte, depth and every fuel ≥ `μ s + d + 2` -/
theorem Tpl_Skip_eq {σ : Type} (N : ErrNaming) {B : Backend σ} {μ : σ → Nat} {P : σ → Prop} (hM : Meas B μ P)
    (s : σ) (t : UInt8) (d fuel : Nat) (hp : P s) (hd : d < 2 ^ 63) (hf : μ s + d + 2 ≤ fuel) :
    liftTpl N.absE (Funcs.Tpl_Skip (iOf B N.errOf) fuel s (toI8 t.toNat) (d : Int)) = skipTplAt B d t s :=
  (Tpl.Tpl_Skip_sim N hM d fuel s t _ hd hp hf rfl).lift

/-- the case `μ = B.avail`: every successful `SkipN(n)` lowers `B.avail` by at least `n` -/
theorem Tpl_Skip_eq_avail {σ : Type} (N : ErrNaming) {B : Backend σ}
    (hdec : ∀ s n b s', B.skipN s n = .ok (b, s') → B.avail s' + n ≤ B.avail s)
    (s : σ) (t : UInt8) (d fuel : Nat) (hd : d ≤ 64) (hf : B.avail s + d + 2 ≤ fuel) :
    liftTpl N.absE (Funcs.Tpl_Skip (iOf B N.errOf) fuel s (toI8 t.toNat) (d : Int)) = skipTplAt B d t s :=
  Tpl_Skip_eq N (μ := B.avail) (P := fun _ => True)
    ⟨fun s n b s' _ _ h => ⟨trivial, hdec s n b s' h⟩, fun _ _ => Nat.le_refl _⟩ s t d fuel trivial (by omega) hf

theorem bytes_dec (s : BytesDec) (n : Nat) (b : Bytes) (s' : BytesDec) (h : bytesBackend.skipN s n = .ok (b, s')) :
    bytesBackend.avail s' + n ≤ bytesBackend.avail s := by
  simp only [bytesBackend] at h ⊢
  by_cases hk : s.b.length ≥ s.n + n
  · simp only [hk, if_true, Out.ok.injEq, Prod.mk.injEq] at h
    obtain ⟨_, rfl⟩ := h
    simp only
    omega
  · simp [hk] at h

/-- `BytesSkipDecoder`: the translation at the depth and in the start state of `bytesDecNext` -/
theorem Tpl_Skip_eq_bytes (N : ErrNaming) (s : BytesDec) (t : UInt8) (fuel : Nat) (hf : (s.b.length - s.n) + 66 ≤ fuel) :
    liftTpl N.absE (Funcs.Tpl_Skip (iOf bytesBackend N.errOf) fuel s (toI8 t.toNat) 64) =
      skipTplAt bytesBackend Facts.defaultRecursionDepth t s :=
  Tpl_Skip_eq_avail N bytes_dec s t 64 fuel (by omega) (by simp only [bytesBackend]; omega)

theorem read_len (s : Src) (room : Nat) :
    (s.read room).2.2.stream.length + (s.read room).1.length = s.stream.length := by
  unfold Src.read
  cases s.script with
  | nil => simp
  | cons r rest => simp only [List.length_drop, List.length_take]; omega

theorem readFull_len : ∀ (fuel : Nat) (s : Src) (k : Nat) (acc : Bytes),
    (readFullLoop fuel s k acc).2.2.stream.length + (readFullLoop fuel s k acc).1.length = s.stream.length + acc.length ∧
    ((readFullLoop fuel s k acc).2.1 = none → k ≤ (readFullLoop fuel s k acc).1.length) := by
  intro fuel
  induction fuel with
  | zero => intro s k acc; simp [readFullLoop]
  | succ fuel ih =>
    intro s k acc
    unfold readFullLoop
    by_cases hk : acc.length ≥ k
    · rw [if_pos hk]
      exact ⟨rfl, fun _ => hk⟩
    · rw [if_neg hk]
      have hr := read_len s (k - acc.length)
      simp only []
      generalize s.read (k - acc.length) = res at hr ⊢
      obtain ⟨dt, e, s2⟩ := res
      cases e with
      | some e =>
        simp only [List.length_append] at hr ⊢
        exact ⟨by omega, fun h => by cases h⟩
      | none =>
        simp only at hr ⊢
        obtain ⟨h1, h2⟩ := ih s2 k (acc ++ dt)
        simp only [List.length_append] at h1
        exact ⟨by omega, h2⟩

theorem reader_dec (s : ReaderDec) (n : Nat) (b : Bytes) (s' : ReaderDec) (h : readerBackend.skipN s n = .ok (b, s')) :
    readerBackend.avail s' + n ≤ readerBackend.avail s := by
  simp only [readerBackend] at h ⊢
  obtain ⟨h1, h2⟩ := readFull_len (s.src.script.length + 2) s.src n []
  generalize readFullLoop (s.src.script.length + 2) s.src n [] = res at h h1 h2
  by_cases hk : res.1.length ≥ n
  · simp only [hk, if_true, Out.ok.injEq, Prod.mk.injEq] at h
    obtain ⟨_, rfl⟩ := h
    simp only [List.length_nil] at h1 ⊢
    omega
  · simp only [hk, if_false] at h
    cases he : res.2.1 with
    | some e => simp [he] at h
    | none => exact absurd (h2 he) hk

/-- `ReaderSkipDecoder`: the translation at the depth of `readerDecNext` -/
theorem Tpl_Skip_eq_reader (N : ErrNaming) (s : ReaderDec) (t : UInt8) (fuel : Nat)
    (hf : s.src.stream.length + 66 ≤ fuel) :
    liftTpl N.absE (Funcs.Tpl_Skip (iOf readerBackend N.errOf) fuel s (toI8 t.toNat) 64) =
      skipTplAt readerBackend Facts.defaultRecursionDepth t s :=
  Tpl_Skip_eq_avail N reader_dec s t 64 fuel (by omega) (by simp only [readerBackend]; omega)

/-! ### SkipDecoder over a bufiox.Reader: the measure is what the reader still owes beyond the peeked window -/

/-- invariant of the bufiox back end during one `Next(t)`: the reader invariant, the window inside what the reader
    owes, and requests in the range in which the reader MODEL is well behaved (`Rd.Small`, Lemmas/ReaderOps) -/
def BufioxOK (s : BufioxDec) : Prop :=
  Inv s.r ∧ s.rn ≤ s.r.remaining.length ∧ s.r.remaining.length + s.r.ri + 34359738368 ≤ 9223372036854775808

def bufioxMu (s : BufioxDec) : Nat := s.r.remaining.length - s.rn

/-- `SkipN` peeks and does not consume: the window grows, `remaining` stays -/
theorem bufiox_skipN_ok (s : BufioxDec) (k : Nat) (b : Bytes) (s' : BufioxDec) (hp : BufioxOK s) (hk : k ≤ 34359738368)
    (h : bufioxBackend.skipN s k = .ok (b, s')) :
    BufioxOK s' ∧ bufioxMu s' + k ≤ bufioxMu s ∧ s'.r.remaining = s.r.remaining := by
  obtain ⟨hinv, hrn, hsm⟩ := hp
  have hn : ((s.rn + k : Nat) : Int).toNat = s.rn + k := Int.toNat_natCast _
  simp only [bufioxBackend] at h
  rcases peek_cases s.r ((s.rn + k : Nat) : Int) hinv (by unfold Rd.Small; rw [hn]; omega) with
    ⟨hneg, _⟩ | ⟨_, m, r1, _, hpost, ⟨hgt, hpk⟩ | ⟨hle, hpk⟩⟩
  · omega
  · have he := (hpost.short hgt).1
    rw [hpk] at h
    cases hre : r1.err with
    | none => exact absurd hre he
    | some e => simp [hre] at h
  · rw [hpk] at h
    simp only at h
    by_cases hov : s.rn > ((r1.buf.drop r1.ri).take ((s.rn + k : Nat) : Int).toNat).length
    · rw [if_pos hov] at h; cases h
    · rw [if_neg hov] at h
      simp only [Out.ok.injEq, Prod.mk.injEq] at h
      obtain ⟨_, rfl⟩ := h
      have hen := hpost.enough hle
      have hrem := hpost.remaining hinv.ri_le
      have hri := hpost.ri
      rw [hn] at hen
      have hlen : r1.buf.length - r1.ri ≤ r1.remaining.length := by
        unfold Rd.remaining; simp only [List.length_append, List.length_drop]; omega
      rw [hrem] at hlen
      simp only [BufioxOK, bufioxMu, hrem, hri]
      exact ⟨⟨hpost.inv, by omega, hsm⟩, by omega, trivial⟩

theorem bufiox_meas : Meas bufioxBackend bufioxMu BufioxOK := by
  constructor
  · intro s k b s' hp hk h
    obtain ⟨h1, h2, _⟩ := bufiox_skipN_ok s k b s' hp hk h
    exact ⟨h1, h2⟩
  · intro s _
    simp only [bufioxBackend, bufioxMu, Rd.avail, Rd.remaining, List.length_append, List.length_drop]
    omega

/-- `SkipDecoder` over a bufiox reader: the translation at the depth and in the start state of `bufioxDecNext` -/
theorem Tpl_Skip_eq_bufiox (N : ErrNaming) (r : Rd) (t : UInt8) (fuel : Nat) (hinv : Inv r)
    (hsm : r.remaining.length + r.ri + 34359738368 ≤ 9223372036854775808) (hf : r.remaining.length + 66 ≤ fuel) :
    liftTpl N.absE (Funcs.Tpl_Skip (iOf bufioxBackend N.errOf) fuel { r := r, rn := 0 } (toI8 t.toNat) 64) =
      skipTplAt bufioxBackend Facts.defaultRecursionDepth t { r := r, rn := 0 } :=
  Tpl_Skip_eq N bufiox_meas { r := r, rn := 0 } t 64 fuel ⟨hinv, Nat.zero_le _, hsm⟩ (by omega)
    (by simp only [bufioxMu]; omega)

/-! ## the generated function computes (non-vacuity) -/

/-- the translation over the bytes back end, from offset 0 -/
def tplBytes (fuel : Nat) (b : Bytes) (t : Int) : GM (BytesDec × GoErr) :=
  Funcs.Tpl_Skip (iOf bytesBackend errOfStd) fuel { b := b, n := 0 } t 64

-- an i32
example : tplBytes 80 [0, 0, 0, 1] 8 = .ok ({ b := [0, 0, 0, 1], n := 4 }, GoErr.nil) := by decide +kernel
-- a struct {1: i32 5} (STRUCT loop)
example : tplBytes 80 [8, 0, 1, 0, 0, 0, 5, 0] 12 = .ok ({ b := [8, 0, 1, 0, 0, 0, 5, 0], n := 8 }, GoErr.nil) := by
  decide +kernel
-- list<string> ["a", ""] (LIST loop), map<string,i32> {"a": 7} (MAP loop), map<i32,i64> x 1 (fast path)
example : (tplBytes 80 [11, 0, 0, 0, 2, 0, 0, 0, 1, 97, 0, 0, 0, 0] 15).bind (fun r => .ok (r.1.n, r.2)) =
    .ok (14, GoErr.nil) := by decide +kernel
example : (tplBytes 80 [11, 8, 0, 0, 0, 1, 0, 0, 0, 1, 97, 0, 0, 0, 7] 13).bind (fun r => .ok (r.1.n, r.2)) =
    .ok (15, GoErr.nil) := by decide +kernel
example : (tplBytes 80 [8, 10, 0, 0, 0, 1, 0, 0, 0, 1, 0, 0, 0, 0, 0, 0, 0, 2] 13).bind (fun r => .ok (r.1.n, r.2)) =
    .ok (18, GoErr.nil) := by decide +kernel
-- errors: the back end's EOF (a raw reader error, by name), negative size, unknown type, depth limit
example : tplBytes 80 [0] 8 = .ok ({ b := [0], n := 0 }, GoErr.named "io.EOF") := by decide +kernel
example : liftTpl absStd (tplBytes 80 [0] 8) = .err (.raw .eof) := by decide +kernel
example : skipTplAt bytesBackend 64 8 { b := [0], n := 0 } = .err (.raw .eof) := by decide +kernel
example : tplBytes 80 [255, 255, 255, 255] 11 =
    .ok ({ b := [255, 255, 255, 255], n := 4 }, GoErr.pe 2 "negative size") := by decide +kernel
example : tplBytes 80 [0] 1 = .ok ({ b := [0], n := 0 }, GoErr.pe 1 "") := by decide +kernel
example : liftTpl absStd (tplBytes 300 (List.replicate 200 12) 12) = .err errDepth := by decide +kernel
-- the naming is injective on what the three back ends produce
example : absStd (errOfStd (.raw (.src 17))) = .raw (.src 17) := absStd_errOfStd _
example : errOfStd (.wrap .noProgress) = GoErr.named "wrap:io.ErrNoProgress" := by decide
-- panics: fuel exhausted (excluded by `hf`), the never-reached negative count, and a back end that returns short
-- slices: `b[0]` / `Uint32(b)` panic in the translation as in the model
example : tplBytes 0 [0] 8 = .panic "nofuel" := by decide +kernel
example : (iOf bytesBackend errOfStd).skipN { b := [], n := 0 } (-1) = .panic "SkipN: negative count" := by
  decide +kernel
def shortBackend : Backend Unit := { skipN := fun _ _ => .ok ([], ()), avail := fun _ => 0 }
example : Funcs.Tpl_Skip (iOf shortBackend errOfStd) 10 () 12 64 = .panic "index" := by decide +kernel
example : skipTplAt shortBackend 64 12 () = .panic "index" := by decide +kernel
example : Funcs.Tpl_Skip (iOf shortBackend errOfStd) 10 () 11 64 = .panic "index" := by decide +kernel
example : skipTplAt shortBackend 64 11 () = .panic "index" := by decide +kernel
-- why `Meas.le_avail` is needed: a back end whose `avail` is NOT an upper bound (three BOOL fields, then STOP, but
-- `avail = 0`): the model's STRUCT loop stops with its own `nofuel`, the translation (fuel 20) finishes
def lyingBackend : Backend Nat :=
  { skipN := fun s n => .ok (List.replicate n (if s < 9 then 2 else 0), s + 1), avail := fun _ => 0 }
example : Funcs.Tpl_Skip (iOf lyingBackend errOfStd) 20 0 12 64 = .ok (10, GoErr.nil) := by decide +kernel
example : skipTplAt lyingBackend 64 12 0 = .panic "nofuel" := by decide +kernel

end Verif.FuncsEq
