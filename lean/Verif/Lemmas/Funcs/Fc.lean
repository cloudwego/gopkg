/-
  Lemmas/Funcs/Fc: the FastCodec struct functions TRANSLATED from the Go source
    (*base.Base).FastRead, (*base.BaseResp).FastRead                protocol/thrift/base/k-base.go
    (*ApplicationException).FastRead / BLength / FastWrite          protocol/thrift/exception.go
  (`Verif.Funcs.Base_FastRead`, `BaseResp_FastRead`, `AppEx_FastRead`, `AppEx_BLength`, `AppEx_FastWrite` and their
  `_loop1/_loop2`: generated) are the hand-written models of Model/FastCodec (`fastReadBase`, `fastReadBaseResp`,
  `fastReadAppEx`, `bLengthAppEx`, `fastWriteAppEx`).

  Lifts
    * records: `toBase`, `toBaseResp`, `toAppEx`; a Go map (`GoMap Bytes Bytes`: association list, newest entry first,
      `none` = nil map) is the model map it denotes (`toSMap`: the entries assigned oldest first with `SMap.set`);
    * a FastRead result `(struct, off, err)` is the model's `RR` (`liftFR`): struct, offset, error kind (`errOpt`:
      `nil` ↦ `none`, otherwise `absErr`; `thrift.PrependError` keeps the kind);
    * a FastWrite result on the view `(b, off)` is compared with the model on the slice `b[off:]`: the model's buffer
      with the untouched prefix `b[:off]` put back in front (`AppEx_FastWrite_eq`); on a whole slice the result is the
      model's `(WS, n)` itself (`liftWS`, `AppEx_FastWrite_eq0`).

  Theorems (all for every receiver value, both values of `spanCacheEnable`, `b.length < 2^62`)
    AppEx_BLength_eq     e.m.length < 2^62 → AppEx_BLength e = ok (bLengthAppEx (toAppEx e))
    AppEx_FastWrite_eq   off ≤ b.length → liftW (AppEx_FastWrite e b off) = fastWriteAppEx (toAppEx e) (b.drop off) with
                         `b.take off` in front;   AppEx_FastWrite_eq0: liftWS (AppEx_FastWrite e b 0) = fastWriteAppEx …
    AppEx_FastRead_eq    b.length + 70 ≤ fuel → liftFR toAppEx (AppEx_FastRead g fuel e b) = fastReadAppEx (toAppEx e) b
                         FULL equality: struct, offset (also next to an error), error, panics, oob
    BaseResp_FastRead_eq, Base_FastRead_eq
                         b.length + 70 ≤ fuel → dropErrOff (liftFR … (…_FastRead g fuel p b)) = dropErrOff (fastRead… )
                         struct, error, panics, oob in full; the offset on success.  The offset next to an ERROR is not
                         compared: the generated code does `off += l` before the error check, and next to an error of
                         `Skip` that `l` is the partial length `Skip` returned, which the model (`caseSkip`) does not
                         keep (an `example` at the end shows the two offsets, 10 and 3).  Everything else about the
                         error exits agrees exactly.
  The fuel bound: the generated FastRead hands its `fuel` to the field loop (≤ remaining bytes + 1 iterations), to the
  map-entry loop (every continuing iteration consumes ≥ 8 bytes) and to `Binary_Skip` (needs `len + 70`).

  Structure: explicit-output observations of the translated callees against the model readers (`rfb_obs`, `rstr_obs`,
  `ri32_obs`, `rmb_obs`, and `Binary_Skip_sim` of Lemmas/Funcs/Skip); the dispatch key (`genKey_eq`: the translated
  `uint32(fid)<<8 | uint32(ftyp)` with both sign extensions IS `fieldKey`), after which both sides branch on the same
  number; the readers in continuation-passing form against the relation `FSim` (`FSim.readStr` …), with which a round of a
  translated loop is walked; `fieldLoop_sim` and `kvLoop_sim` (a loop from its round, for any function with such a
  round); the in-place writers by the simulation `WSim`, walked statement by statement (`fw_step`; also used by
  Lemmas/Funcs/FcW).
-/
import Verif.Lemmas.Funcs.Read
import Verif.Lemmas.Funcs.Write
import Verif.Lemmas.Funcs.Append
import Verif.Lemmas.Funcs.Skip
import Verif.Model.FastCodec
import Verif.Lemmas.FcSafe
set_option linter.unusedSimpArgs false
namespace Verif.FuncsEq
open Verif Verif.GoSem


/-! # observations of the translated callees -/

def errOpt (e : GoErr) : Option TErr := if e = .nil then none else some (absErr e)

def obs3 {α : Type} (x : GM (α × Int × GoErr)) : Option (α × Int × Option TErr) :=
  match x with
  | .ok r => some (r.1, r.2.1, errOpt r.2.2)
  | _ => none
def obs4 {α β : Type} (x : GM (α × β × Int × GoErr)) : Option (α × β × Int × Option TErr) :=
  match x with
  | .ok r => some (r.1, r.2.1, r.2.2.1, errOpt r.2.2.2)
  | _ => none

theorem obs3_elim {α : Type} {x : GM (α × Int × GoErr)} {a : α} {l : Int} {d : Option TErr}
    (h : obs3 x = some (a, l, d)) : ∃ e, x = .ok (a, l, e) ∧ errOpt e = d := by
  cases x with
  | ok r =>
    obtain ⟨r1, r2, r3⟩ := r
    simp only [obs3, Option.some.injEq, Prod.mk.injEq] at h
    obtain ⟨rfl, rfl, rfl⟩ := h
    exact ⟨r3, rfl, rfl⟩
  | err e => exact nomatch e
  | panic s => simp [obs3] at h
  | oob => simp [obs3] at h

theorem obs4_elim {α β : Type} {x : GM (α × β × Int × GoErr)} {a : α} {c : β} {l : Int} {d : Option TErr}
    (h : obs4 x = some (a, c, l, d)) : ∃ e, x = .ok (a, c, l, e) ∧ errOpt e = d := by
  cases x with
  | ok r =>
    obtain ⟨r1, r2, r3, r4⟩ := r
    simp only [obs4, Option.some.injEq, Prod.mk.injEq] at h
    obtain ⟨rfl, rfl, rfl, rfl⟩ := h
    exact ⟨r4, rfl, rfl⟩
  | err e => exact nomatch e
  | panic s => simp [obs4] at h
  | oob => simp [obs4] at h

theorem rfb_obs (buf : Bytes) : obs4 (Funcs.Binary_ReadFieldBegin buf) =
      some (toI8 (readFieldBegin buf).t.toNat, toI16 (readFieldBegin buf).id,
        ((readFieldBegin buf).l : Int), (readFieldBegin buf).err) := by
  unfold Funcs.Binary_ReadFieldBegin
  cases buf with
  | nil => go_simp [obs4, readFieldBegin, toI8, toI16, errOpt, absErr, errRead, Facts.peINVALID_DATA]
  | cons t rest =>
    have h0 : 0 < (t :: rest).length := by simp
    have hw := wrap_i8_nat _ t.toNat_lt
    have hi := idx_zero (t :: rest) h0
    by_cases hs : t = 0
    · subst hs
      go_simp [↓Out.bind_of_ok hi, obs4, readFieldBegin, T_STOP_eq, toI8, toI16, wrap, toU, IT.bits, IT.signed, errOpt]
    · have hs' : ¬ toI8 t.toNat = 0 := fun hc => hs ((toI8_eq_zero _).mp hc)
      by_cases h3 : (t :: rest).length < 3
      · have h3' : rest.length + 1 < 3 := by simpa using h3
        have z8 : toI8 0 = 0 := by decide
        have z16 : toI16 0 = 0 := by decide
        go_simp [↓Out.bind_of_ok hi, obs4, readFieldBegin, T_STOP_eq, hs, hs', hw, h3, h3', z8, z16, errOpt, absErr, errRead,
          Facts.peINVALID_DATA]
      · have h3' : ¬ rest.length + 1 < 3 := by simpa using h3
        have hsl := sliceFrom_ok (t :: rest) 1 (by omega) (by simp only [List.length_cons]; omega)
        go_simp [↓Out.bind_of_ok hi, ↓Out.bind_of_ok hsl, obs4, readFieldBegin, T_STOP_eq, hs, hs', hw, h3, h3', errOpt, beU16,
          wrap_i16_nat _ (rd16_lt _)]

theorem rstr_obs (g : Bool) (buf : Bytes) : obs3 (Funcs.Binary_ReadString g buf) =
      some ((readString buf).s, ((readString buf).l : Int), (readString buf).err) := by
  unfold Funcs.Binary_ReadString readString
  rcases Binary_ReadI32_cases buf with ⟨h, r, hr, he⟩ | ⟨h, hr⟩
  · simp only [hr, he, h, Out.bind_eq, Out.bind_ok, Out.pure_eq, ne_eq, not_false_eq_true, decide_true, if_true, obs3,
      errOpt, reduceCtorEq, if_false, absErr, errRead, Facts.peINVALID_DATA, Int.natCast_zero]
  · have ⟨hlo, hhi⟩ := toI32_range _ (rd32_lt buf)
    simp only [hr, h, Out.bind_eq, Out.bind_ok, Out.pure_eq, ne_eq, not_true_eq_false, decide_false, Bool.false_eq_true,
      if_false]
    by_cases hneg : toI32 (rd32 buf) < 0
    · simp only [hneg, decide_true, if_true, obs3, errOpt, reduceCtorEq, if_false, absErr, errNeg,
        Facts.peNEGATIVE_SIZE, Int.natCast_zero]
    · obtain ⟨k, hk⟩ : ∃ k : Nat, toI32 (rd32 buf) = (k : Int) := ⟨(toI32 (rd32 buf)).toNat, by omega⟩
      rw [hk] at hlo hhi hneg
      have w : wrap .i64 (4 + (k : Int)) = ((4 + k : Nat) : Int) := by
        rw [wrap_i64_of_range _ (by omega) (by omega)]; simp
      simp only [hk, hneg, decide_false, Bool.false_eq_true, if_false, w, len, Int.toNat_natCast]
      by_cases hl : buf.length < 4 + k
      · have hl' : (buf.length : Int) < ((4 + k : Nat) : Int) := by omega
        simp only [hl, hl', decide_true, if_true, obs3, errOpt, reduceCtorEq, if_false, absErr, errRead,
          Facts.peINVALID_DATA]
        rfl
      · have hl' : ¬ (buf.length : Int) < ((4 + k : Nat) : Int) := by omega
        have hs : slice buf 4 ((4 + k : Nat) : Int) = .ok ((buf.drop 4).take k) := by
          rw [rd_slice_ok buf 4 _ (by omega) (by omega) (by omega)]
          congr 2; omega
        simp only [hl, hl', decide_false, Bool.false_eq_true, if_false, hs, Out.bind_ok]
        cases g <;> simp only [if_true, if_false, Bool.false_eq_true, obs3, errOpt, if_true]

theorem ri32_obs (buf : Bytes) : obs3 (Funcs.Binary_ReadI32 buf) =
      some ((readI32 buf).v, ((readI32 buf).l : Int), (readI32 buf).err) := by
  unfold readI32
  rcases Binary_ReadI32_cases buf with ⟨h, r, hr, he⟩ | ⟨h, hr⟩
  · unfold Funcs.Binary_ReadI32 at hr ⊢
    go_simp [h, obs3, errOpt, absErr, errRead, Facts.peINVALID_DATA]
  · go_simp [hr, h, obs3, errOpt]

theorem wrap_u32_toI16 (fid : Nat) (hf : fid < 65536) : wrap .u32 (toI16 fid) = ((sext16 fid : Nat) : Int) := by
  rw [wrap_u32_emod]; unfold toI16 sext16
  split <;> omega

theorem wrap_u32_toI8 (t : UInt8) : wrap .u32 (toI8 t.toNat) = ((sext8 t : Nat) : Int) := by
  have := t.toNat_lt
  rw [wrap_u32_emod]; unfold toI8 sext8
  split <;> omega

theorem sext8_lt (t : UInt8) : sext8 t < 4294967296 := by
  have := t.toNat_lt
  unfold sext8; split <;> omega

/-- the dispatch key as the translated code computes it is the model's `fieldKey` -/
theorem genKey_eq (fid : Nat) (t : UInt8) (hf : fid < 65536) :
    bor .u32 (shl .u32 (wrap .u32 (toI16 fid)) 8) (wrap .u32 (toI8 t.toNat)) = ((fieldKey fid t : Nat) : Int) := by
  rw [wrap_u32_toI16 fid hf, wrap_u32_toI8]
  have h1 : shl .u32 ((sext16 fid : Nat) : Int) 8 = (((sext16 fid * 256) % 4294967296 : Nat) : Int) := by
    unfold shl; rw [wrap_u32_emod]; simp
  rw [h1, bor_u32_nat _ _ (by omega) (sext8_lt t)]
  rfl

/-- … with the operands of `|` the other way round -/
theorem genKey_eq' (fid : Nat) (t : UInt8) (hf : fid < 65536) :
    bor .u32 (wrap .u32 (toI8 t.toNat)) (shl .u32 (wrap .u32 (toI16 fid)) 8) = ((fieldKey fid t : Nat) : Int) := by
  rw [bor_comm, genKey_eq fid t hf]

/-- ReadMapBegin: `(kt, vt, size, l, err)`; the key/value type bytes are not used by the callers below -/
def obsMB (x : GM (Int × Int × Int × Int × GoErr)) : Option (Int × Int × Option TErr) :=
  match x with
  | .ok r => some (r.2.2.1, r.2.2.2.1, errOpt r.2.2.2.2)
  | _ => none

theorem obsMB_elim {x : GM (Int × Int × Int × Int × GoErr)} {sz l : Int} {d : Option TErr}
    (h : obsMB x = some (sz, l, d)) : ∃ kt vt e, x = .ok (kt, vt, sz, l, e) ∧ errOpt e = d := by
  cases x with
  | ok r =>
    obtain ⟨r1, r2, r3, r4, r5⟩ := r
    simp only [obsMB, Option.some.injEq, Prod.mk.injEq] at h
    obtain ⟨rfl, rfl, rfl⟩ := h
    exact ⟨r1, r2, r5, rfl, rfl⟩
  | err e => exact nomatch e
  | panic s => simp [obsMB] at h
  | oob => simp [obsMB] at h

theorem rmb_obs (buf : Bytes) : obsMB (Funcs.Binary_ReadMapBegin buf) =
      some (((readMapBegin buf).size : Int), ((readMapBegin buf).l : Int), (readMapBegin buf).err) := by
  unfold Funcs.Binary_ReadMapBegin
  match buf with
  | [] => go_simp [obsMB, readMapBegin, errOpt, absErr, errRead, Facts.peINVALID_DATA]
  | [a] => go_simp [obsMB, readMapBegin, errOpt, absErr, errRead, Facts.peINVALID_DATA]
  | a :: c :: rest =>
    by_cases h : (a :: c :: rest).length < 6
    · have h' : rest.length + 1 + 1 < 6 := by simpa using h
      go_simp [obsMB, readMapBegin, h, h', errOpt, absErr, errRead, Facts.peINVALID_DATA]
    · have h' : ¬ rest.length + 1 + 1 < 6 := by simpa using h
      have h0 : 0 < (a :: c :: rest).length := by simp
      have h1 : 1 < (a :: c :: rest).length := by simp
      go_simp [obsMB, readMapBegin, h, h', h0, h1, idx_zero, idx_one, sliceFrom_ok, beU32, errOpt]

theorem readMapBegin_l_le (buf : Bytes) : (readMapBegin buf).l ≤ buf.length := by
  match buf with
  | [] => simp [readMapBegin]
  | [a] => simp [readMapBegin]
  | a :: c :: rest =>
    simp only [readMapBegin]
    split
    · simp
    · simp only [List.length_cons] at *; omega

theorem readMapBegin_size_lt (buf : Bytes) : (readMapBegin buf).size < 4294967296 := by
  match buf with
  | [] => simp [readMapBegin]
  | [a] => simp [readMapBegin]
  | a :: c :: rest =>
    simp only [readMapBegin]
    split
    · simp
    · exact rd32_lt _

theorem readFieldBegin_l_le (buf : Bytes) : (readFieldBegin buf).l ≤ buf.length := by
  cases buf with
  | nil => simp [readFieldBegin]
  | cons t rest =>
    simp only [readFieldBegin]
    split
    · simp
    · split
      · simp
      · simp only [List.length_cons] at *; omega

theorem readFieldBegin_id_lt (buf : Bytes) : (readFieldBegin buf).id < 65536 := by
  cases buf with
  | nil => simp [readFieldBegin]
  | cons t rest =>
    simp only [readFieldBegin]
    split
    · simp
    · split
      · simp
      · exact rd16_lt _

theorem readI32_l_le (buf : Bytes) : (readI32 buf).l ≤ buf.length := by
  unfold readI32; split
  · simp
  · simp only; omega

theorem errOpt_none {e : GoErr} : errOpt e = none ↔ e = .nil := by
  unfold errOpt; split <;> simp [*]
theorem errOpt_some {e : GoErr} {te : TErr} : errOpt e = some te ↔ e ≠ .nil ∧ absErr e = te := by
  unfold errOpt; split <;> simp [*]
theorem absErr_prepend (e : GoErr) : absErr (prependErr e) = absErr e := by cases e <;> rfl
theorem prepend_ne_nil {e : GoErr} (h : e ≠ .nil) : prependErr e ≠ .nil := by
  cases e <;> simp [prependErr] at h ⊢

theorem readString_l_le (buf : Bytes) : (readString buf).l ≤ buf.length := by
  unfold readString
  by_cases h1 : buf.length < 4
  · simp [h1]
  · simp only [h1, if_false]
    by_cases h2 : toI32 (rd32 buf) < 0
    · simp [h2]
    · simp only [h2, if_false]
      by_cases h3 : buf.length < 4 + (toI32 (rd32 buf)).toNat
      · simp [h3]; omega
      · simp [h3]; omega

theorem readString_l_ge (buf : Bytes) (h : (readString buf).err = none) : 4 ≤ (readString buf).l := by
  revert h
  unfold readString
  by_cases h1 : buf.length < 4
  · simp [h1]
  · simp only [h1, if_false]
    by_cases h2 : toI32 (rd32 buf) < 0
    · simp [h2]
    · simp only [h2, if_false]
      by_cases h3 : buf.length < 4 + (toI32 (rd32 buf)).toNat
      · simp [h3]
      · simp [h3]

def toSMap : List (Bytes × Bytes) → SMap
  | [] => []
  | kv :: l => (toSMap l).set kv.1 kv.2

def toBaseResp (s : Funcs.S_base_BaseResp) : BaseResp := ⟨s.StatusMessage, s.StatusCode, s.Extra.map toSMap⟩

/-- `wrap` of an offset sum that stays inside a buffer -/
theorem wrap_off (a c : Nat) {n : Nat} (h : a + c ≤ n) (hn : n < 2 ^ 62) :
    wrap .i64 ((a : Int) + (c : Int)) = ((a + c : Nat) : Int) := by
  rw [wrap_i64_of_range _ (by omega) (by omega)]; simp

theorem sliceFrom_nat (b : Bytes) (o : Nat) (h : o ≤ b.length) : GoSem.sliceFrom b (o : Int) = .ok (b.drop o) := by
  rw [sliceFrom_ok b _ (by omega) (by omega), Int.toNat_natCast]

/-- `simp only` with the propositional / Boolean lemmas that decide a generated guard whatever its form (negated,
    operands commuted, `decide` of a comparison …); the arithmetic that remains is decided by `omega` from the context.
    No cast normalisation: offsets keep the form the normal-form lemmas are stated in. -/
syntax "bsimp" (" [" Lean.Parser.Tactic.simpLemma,* "]")? : tactic
macro_rules
  | `(tactic| bsimp) => `(tactic| bsimp [])
  | `(tactic| bsimp [$ls,*]) =>
    `(tactic| simp (disch := omega) only [if_pos, if_neg, if_true, if_false, Out.bind_ok, Out.bind_panic, Out.pure_eq,
        Out.bind_eq, Option.isNone_none, Option.isNone_some, Option.isSome_none, Option.isSome_some, Bool.or_eq_true,
        Bool.and_eq_true, Bool.not_eq_true', Bool.not_eq_true, decide_eq_true_eq, decide_eq_false_iff_not,
        Bool.false_eq_true, Bool.true_eq_false, true_or, or_true, false_or, or_false, true_and, and_true, false_and,
        and_false, not_true_eq_false, not_false_eq_true, eq_self, ne_eq, Classical.not_not, ge_iff_le, gt_iff_lt, Nat.not_lt,
        Nat.not_le, Int.not_lt, Int.not_le,
        Bool.not_true, Bool.not_false, Bool.true_or, Bool.or_true, Bool.false_or, Bool.or_false, Bool.true_and,
        Bool.and_true, Bool.false_and, Bool.and_false, decide_true, decide_false, reduceCtorEq, $ls,*])

/-- `simp only` with what decides the guards of a translated reader from the facts given (an error value that is or is
    not `nil`, a key that is or is not one of the constants), whichever way round a guard is written -/
macro "rsimp" " [" ls:Lean.Parser.Tactic.simpLemma,* "]" : tactic =>
  `(tactic| simp only [ne_eq, not_true_eq_false, not_false_eq_true, Classical.not_not, decide_true, decide_false,
      decide_not, Bool.false_eq_true, Bool.not_true, Bool.not_false, if_true, if_false, eq_self, Out.bind_ok, Out.pure_eq,
      Out.bind_eq, $ls,*])

/-! # the field loops of FastRead

  Every translated FastRead is a loop whose round reads a field header and then, depending on the field, a value with one
  of the readers of binary.go. The model loops (`genLoop` for the generated code, `exLoop` for the hand-written one of
  ApplicationException) are one loop `fieldIter` with a flag; `FSim` relates the outcome of translated code to the
  model's; for every reader there is a lemma in continuation-passing form (`FSim.readStr` …: the translated call followed by
  any `K` against the model's read followed by any `Y`), so that a round of a translated loop is walked statement by
  statement, and `fieldLoop_sim` / `kvLoop_sim` turn a round into the loop, for any function that has such rounds. -/

/-- `b[off:]` handed to a reader of the model, its result to `F` -/
def rdAt {ρ β : Type} (b : Bytes) (off : Nat) (rd : Bytes → ρ) (F : ρ → TOut β) : TOut β :=
  (sliceFrom b off).bind fun buf => F (rd buf)

theorem rdAt_ok {ρ β : Type} {b : Bytes} {off : Nat} (h : off ≤ b.length) (rd : Bytes → ρ) (F : ρ → TOut β) :
    rdAt b off rd F = F (rd (b.drop off)) := by
  unfold rdAt; rw [Verif.sliceFrom_ok b off h]; rfl

/-- what a round does with the outcome `r` of a `case` body; `late`: the loop adds the length to `off` only after the
    error check, so that next to an error it reports `off1`, the offset in front of the value -/
def fieldTail {α : Type} (late : Bool) (off1 : Nat) (C : α → Nat → TOut (RR α)) (r : RR α) : TOut (RR α) :=
  match r.err with
  | some e => .ok ⟨r.p, if late then off1 else r.off, some e⟩
  | none => C r.p r.off

/-- one round of a field loop of the model, `C` being the rounds that follow -/
def fieldIter {α : Type} (late : Bool) (body : α → Bytes → Nat → Nat → UInt8 → TOut (RR α)) (b : Bytes)
    (C : α → Nat → TOut (RR α)) (p : α) (off : Nat) : TOut (RR α) :=
  rdAt b off readFieldBegin fun fb =>
    match fb.err with
    | some e => .ok ⟨p, if late then off else off + fb.l, some e⟩
    | none =>
      if fb.t = T_STOP then .ok ⟨p, off + fb.l, none⟩
      else (body p b (off + fb.l) fb.id fb.t).bind (fieldTail late (off + fb.l) C)

theorem genLoop_succ {α : Type} (body : α → Bytes → Nat → Nat → UInt8 → TOut (RR α)) (b : Bytes) (f : Nat) (p : α)
    (off : Nat) : genLoop body b (f + 1) p off = fieldIter false body b (genLoop body b f) p off := by
  rw [genLoop]; rfl

theorem exLoop_succ (b : Bytes) (f : Nat) (e : AppEx) (off : Nat) :
    exLoop b (f + 1) e off = fieldIter true exBody b (exLoop b f) e off := by
  rw [exLoop]; rfl

/-- the entry loop of the model with the map it returns put into the struct by `ins` -/
def kvAll {α : Type} (ins : SMap → α) (b : Bytes) (cnt off : Nat) (m : SMap) : TOut (RR α) :=
  (readKVs b cnt off m).bind fun r => .ok ⟨ins r.p, r.off, r.err⟩

/-- one round of it, `C` being the rounds that follow -/
def kvRound {α : Type} (ins : SMap → α) (b : Bytes) (C : Nat → SMap → TOut (RR α)) (off : Nat) (m : SMap) : TOut (RR α) :=
  rdAt b off readString fun k =>
    match k.err with
    | some e => .ok ⟨ins m, off + k.l, some e⟩
    | none => rdAt b (off + k.l) readString fun v =>
      match v.err with
      | some e => .ok ⟨ins m, off + k.l + v.l, some e⟩
      | none => C (off + k.l + v.l) (m.set k.s v.s)

theorem kvAll_succ {α : Type} (ins : SMap → α) (b : Bytes) (cnt off : Nat) (m : SMap) :
    kvAll ins b (cnt + 1) off m = kvRound ins b (kvAll ins b cnt) off m := by
  unfold kvAll kvRound rdAt
  rw [readKVs]
  simp only [Out.bind_eq, Out.pure_eq, Out.bind_assoc]
  congr 1; funext buf
  cases (readString buf).err with
  | some e => rfl
  | none =>
    simp only [Out.bind_assoc]
    congr 1; funext buf2
    cases (readString buf2).err <;> rfl

theorem caseStr_tail {α : Type} (setF : α → Bytes → α) (p : α) (b : Bytes) (off : Nat) (T : RR α → TOut (RR α)) :
    (caseStr setF p b off).bind T = rdAt b off readString fun r => T ⟨setF p r.s, off + r.l, r.err⟩ := by
  unfold caseStr rdAt; cases sliceFrom b off <;> rfl

theorem caseI32_tail {α : Type} (setF : α → Int → α) (p : α) (b : Bytes) (off : Nat) (T : RR α → TOut (RR α)) :
    (caseI32 setF p b off).bind T = rdAt b off readI32 fun r => T ⟨setF p r.v, off + r.l, r.err⟩ := by
  unfold caseI32 rdAt; cases sliceFrom b off <;> rfl

theorem caseMap_tail {α : Type} (setF : α → SMap → α) (p : α) (b : Bytes) (off : Nat) (T : RR α → TOut (RR α)) :
    (caseMap setF p b off).bind T = rdAt b off readMapBegin fun mb =>
      match mb.err with
      | some e => T ⟨p, off + mb.l, some e⟩
      | none => (kvAll (setF p) b mb.size (off + mb.l) []).bind T := by
  unfold caseMap rdAt kvAll
  cases sliceFrom b off with
  | ok buf =>
    simp only [Out.bind_eq, Out.pure_eq, Out.bind_ok]
    cases (readMapBegin buf).err with
    | some e => rfl
    | none => simp only [Out.bind_assoc]
  | err e => rfl
  | panic s => rfl
  | oob => rfl

/-- outcome of a translated field loop against the model loop. `pr` reads (struct, off, err) off the loop state;
    `exact` says whether the offset reported next to an error is the model's; `dn`, `rn`: the loop may be left at its
    end (`done`), by a `return` without an error (`fin`) -/
inductive FSim {S σ A : Type} (abs : S → A) (pr : σ → S × Int × GoErr) (exact : Bool) (dn rn : Prop) :
    GM (LoopR (S × Int × GoErr) σ) → TOut (RR A) → Prop where
  | done (s : σ) (off : Nat) (hd : dn) (h : (pr s).2.1 = (off : Int)) (he : (pr s).2.2 = GoErr.nil) :
      FSim abs pr exact dn rn (.ok (.done s)) (.ok ⟨abs (pr s).1, off, none⟩)
  | fin (p : S) (off : Nat) (hr : rn) : FSim abs pr exact dn rn (.ok (.ret (p, (off : Int), GoErr.nil))) (.ok ⟨abs p, off, none⟩)
  | err (p : S) (o' : Int) (off : Nat) (e : GoErr) (he : e ≠ GoErr.nil) (ho : exact = true → o' = (off : Int)) :
      FSim abs pr exact dn rn (.ok (.ret (p, o', e))) (.ok ⟨abs p, off, some (absErr e)⟩)
  | panic (s : String) : FSim abs pr exact dn rn (.panic s) (.panic s)
  | oob : FSim abs pr exact dn rn .oob .oob

/-- the state of the translated loops: the struct, `off`, `err`, then locals that the model does not have -/
def pr3 {S ρ : Type} (s : S × Int × GoErr × ρ) : S × Int × GoErr := (s.1, s.2.1, s.2.2.1)

/-- a translated loop function, which takes its variables one by one, as a function of the tuple of them (with two, five
    and six variables), so that unification finds the function and the initial values in the goal -/
abbrev tup2 {α β R : Type} (L : Nat → α → β → R) (f : Nat) (s : α × β) : R := L f s.1 s.2
abbrev tup5 {α β γ δ ε R : Type} (L : Nat → α → β → γ → δ → ε → R) (f : Nat) (s : α × β × γ × δ × ε) : R :=
  L f s.1 s.2.1 s.2.2.1 s.2.2.2.1 s.2.2.2.2
abbrev tup6 {α β γ δ ε ζ R : Type} (L : Nat → α → β → γ → δ → ε → ζ → R) (f : Nat) (s : α × β × γ × δ × ε × ζ) : R :=
  L f s.1 s.2.1 s.2.2.1 s.2.2.2.1 s.2.2.2.2.1 s.2.2.2.2.2

section stages
variable {S σ A : Type} {abs : S → A} {pr : σ → S × Int × GoErr} {ex : Bool} {dn rn : Prop} {b : Bytes} {off : Nat} {oi : Int}

theorem FSim.stop {s : σ} {pA : A} {o : Nat} (hd : dn) (hp : abs (pr s).1 = pA) (ho : (pr s).2.1 = (o : Int))
    (he : (pr s).2.2 = GoErr.nil) : FSim abs pr ex dn rn (.ok (.done s)) (.ok ⟨pA, o, none⟩) := by
  subst hp; exact .done s o hd ho he

theorem FSim.stopRet {p : S} {o' : Int} {pA : A} {o : Nat} (hr : rn) (hp : abs p = pA) (ho : o' = (o : Int)) :
    FSim abs pr ex dn rn (.ok (.ret (p, o', GoErr.nil))) (.ok ⟨pA, o, none⟩) := by
  subst hp ho; exact .fin p o hr

theorem FSim.ret {p : S} {o' : Int} {e : GoErr} {pA : A} {o : Nat} {te : TErr} (hp : abs p = pA) (he : e ≠ GoErr.nil)
    (hte : absErr e = te) (ho : ex = true → o' = (o : Int)) :
    FSim abs pr ex dn rn (.ok (.ret (p, o', e))) (.ok ⟨pA, o, some te⟩) := by
  subst hp hte; exact .err p o' o e he ho

/-- the error exit of the generated loops: `return off, thrift.PrependError(…, err)` -/
theorem FSim.retP {p : S} {o' : Int} {e : GoErr} {o : Nat} (he : e ≠ GoErr.nil) (ho : ex = true → o' = (o : Int)) :
    FSim abs pr ex dn rn (.ok (.ret (p, o', prependErr e))) (.ok ⟨abs p, o, some (absErr e)⟩) :=
  .ret rfl (prepend_ne_nil he) (absErr_prepend e) ho

variable (hoff : off ≤ b.length) (hoi : oi = (off : Int))
include hoff hoi

/-- `ReadString(b[off:])`, then `K`, against the model's `readString`, then `Y` -/
theorem FSim.readStr (g : Bool)
    {K : Bytes × Int × GoErr → GM (LoopR (S × Int × GoErr) σ)} {Y : SR → TOut (RR A)}
    (herr : ∀ (v : Bytes) (l : Nat) (e : GoErr), e ≠ GoErr.nil → off + l ≤ b.length →
      FSim abs pr ex dn rn (K (v, (l : Int), e)) (Y ⟨v, l, some (absErr e)⟩))
    (hok : ∀ (v : Bytes) (l : Nat), 4 ≤ l → off + l ≤ b.length →
      FSim abs pr ex dn rn (K (v, (l : Int), GoErr.nil)) (Y ⟨v, l, none⟩)) :
    FSim abs pr ex dn rn ((GoSem.sliceFrom b oi).bind fun t => (Funcs.Binary_ReadString g t).bind K)
      (rdAt b off readString Y) := by
  subst hoi
  rw [sliceFrom_nat b off hoff, rdAt_ok hoff, Out.bind_ok]
  obtain ⟨e, hg, he⟩ := obs3_elim (rstr_obs g (b.drop off))
  have hl := readString_l_le (b.drop off)
  have hge := readString_l_ge (b.drop off)
  rw [List.length_drop] at hl
  rw [hg, Out.bind_ok]
  generalize readString (b.drop off) = r at he hl hge ⊢
  obtain ⟨v, l, d⟩ := r
  simp only at he hl hge ⊢
  subst he
  by_cases hn : e = GoErr.nil
  · subst hn
    rw [errOpt_none.mpr rfl] at hge ⊢
    exact hok v l (hge rfl) (by omega)
  · rw [errOpt_some.mpr ⟨hn, rfl⟩]
    exact herr v l e hn (by omega)

/-- `ReadI32(b[off:])` -/
theorem FSim.readI32 {K : Int × Int × GoErr → GM (LoopR (S × Int × GoErr) σ)} {Y : IR → TOut (RR A)}
    (herr : ∀ (v : Int) (l : Nat) (e : GoErr), e ≠ GoErr.nil → off + l ≤ b.length →
      FSim abs pr ex dn rn (K (v, (l : Int), e)) (Y ⟨v, l, some (absErr e)⟩))
    (hok : ∀ (v : Int) (l : Nat), off + l ≤ b.length → FSim abs pr ex dn rn (K (v, (l : Int), GoErr.nil)) (Y ⟨v, l, none⟩)) :
    FSim abs pr ex dn rn ((GoSem.sliceFrom b oi).bind fun t => (Funcs.Binary_ReadI32 t).bind K) (rdAt b off readI32 Y) := by
  subst hoi
  rw [sliceFrom_nat b off hoff, rdAt_ok hoff, Out.bind_ok]
  obtain ⟨e, hg, he⟩ := obs3_elim (ri32_obs (b.drop off))
  have hl := readI32_l_le (b.drop off)
  rw [List.length_drop] at hl
  rw [hg, Out.bind_ok]
  generalize readI32 (b.drop off) = r at he hl ⊢
  obtain ⟨v, l, d⟩ := r
  simp only at he hl ⊢
  subst he
  by_cases hn : e = GoErr.nil
  · subst hn
    rw [errOpt_none.mpr rfl]
    exact hok v l (by omega)
  · rw [errOpt_some.mpr ⟨hn, rfl⟩]
    exact herr v l e hn (by omega)

/-- `ReadMapBegin(b[off:])`; the key and value type bytes are not looked at -/
theorem FSim.readMapBegin {K : Int × Int × Int × Int × GoErr → GM (LoopR (S × Int × GoErr) σ)} {Y : MB → TOut (RR A)}
    (herr : ∀ (kt vt sz : Int) (kt' vt' : UInt8) (sz' l : Nat) (e : GoErr), e ≠ GoErr.nil → off + l ≤ b.length →
      FSim abs pr ex dn rn (K (kt, vt, sz, (l : Int), e)) (Y ⟨kt', vt', sz', l, some (absErr e)⟩))
    (hok : ∀ (kt vt : Int) (kt' vt' : UInt8) (sz l : Nat), sz < 4294967296 → off + l ≤ b.length →
      FSim abs pr ex dn rn (K (kt, vt, (sz : Int), (l : Int), GoErr.nil)) (Y ⟨kt', vt', sz, l, none⟩)) :
    FSim abs pr ex dn rn ((GoSem.sliceFrom b oi).bind fun t => (Funcs.Binary_ReadMapBegin t).bind K)
      (rdAt b off readMapBegin Y) := by
  subst hoi
  rw [sliceFrom_nat b off hoff, rdAt_ok hoff, Out.bind_ok]
  obtain ⟨kt, vt, e, hg, he⟩ := obsMB_elim (rmb_obs (b.drop off))
  have hl := readMapBegin_l_le (b.drop off)
  have hsz := readMapBegin_size_lt (b.drop off)
  rw [List.length_drop] at hl
  rw [hg, Out.bind_ok]
  generalize readMapBegin (b.drop off) = r at he hl hsz ⊢
  obtain ⟨kt', vt', sz, l, d⟩ := r
  simp only at he hl hsz ⊢
  subst he
  by_cases hn : e = GoErr.nil
  · subst hn
    rw [errOpt_none.mpr rfl]
    exact hok kt vt kt' vt' sz l hsz (by omega)
  · rw [errOpt_some.mpr ⟨hn, rfl⟩]
    exact herr kt vt _ kt' vt' sz l e hn (by omega)

/-- `ReadFieldBegin(b[off:])`: the type byte and the field id arrive as the signed numbers Go makes of them -/
theorem FSim.readFieldBegin {K : Int × Int × Int × GoErr → GM (LoopR (S × Int × GoErr) σ)} {Y : FB → TOut (RR A)}
    (herr : ∀ (t id : Int) (t' : UInt8) (id' l : Nat) (e : GoErr), e ≠ GoErr.nil → off + l ≤ b.length →
      FSim abs pr ex dn rn (K (t, id, (l : Int), e)) (Y ⟨t', id', l, some (absErr e)⟩))
    (hok : ∀ (t : UInt8) (fid l : Nat), fid < 65536 → 1 ≤ l → off + l ≤ b.length →
      FSim abs pr ex dn rn (K (toI8 t.toNat, toI16 fid, (l : Int), GoErr.nil)) (Y ⟨t, fid, l, none⟩)) :
    FSim abs pr ex dn rn ((GoSem.sliceFrom b oi).bind fun t => (Funcs.Binary_ReadFieldBegin t).bind K)
      (rdAt b off readFieldBegin Y) := by
  subst hoi
  rw [sliceFrom_nat b off hoff, rdAt_ok hoff, Out.bind_ok]
  obtain ⟨e, hg, he⟩ := obs4_elim (rfb_obs (b.drop off))
  have hl := readFieldBegin_l_le (b.drop off)
  have hid := readFieldBegin_id_lt (b.drop off)
  have hge := readFieldBegin_le (b.drop off)
  rw [List.length_drop] at hl
  rw [hg, Out.bind_ok]
  generalize readFieldBegin (b.drop off) = r at he hl hid hge ⊢
  obtain ⟨t, fid, l, d⟩ := r
  simp only at he hl hid hge ⊢
  subst he
  by_cases hn : e = GoErr.nil
  · subst hn
    rw [errOpt_none.mpr rfl] at hge ⊢
    exact hok t fid l hid (hge rfl).1 (by omega)
  · rw [errOpt_some.mpr ⟨hn, rfl⟩]
    exact herr _ _ t fid l e hn (by omega)

variable {late : Bool} {off1 : Nat} {C : A → Nat → TOut (RR A)} {pA : A}

/-- `default: l, err = Skip(b[off:], ftyp)`, then `K`; `f` is the fuel the translation hands to `Skip` -/
theorem FSim.caseSkip (hb : b.length < 2 ^ 62) {f : Nat}
    (hf : b.length - off + 70 ≤ f) {t : UInt8} {K : Int × GoErr → GM (LoopR (S × Int × GoErr) σ)}
    (herr : ∀ (n : Int) (e : GoErr), e ≠ GoErr.nil →
      FSim abs pr ex dn rn (K (n, e)) (.ok ⟨pA, if late then off1 else off, some (absErr e)⟩))
    (hok : ∀ m : Nat, off + m ≤ b.length → FSim abs pr ex dn rn (K ((m : Int), GoErr.nil)) (C pA (off + m))) :
    FSim abs pr ex dn rn ((GoSem.sliceFrom b oi).bind fun t' => (Funcs.Binary_Skip f t' (toI8 t.toNat)).bind K)
      ((caseSkip pA b off t).bind (fieldTail late off1 C)) := by
  subst hoi
  unfold caseSkip
  rw [sliceFrom_nat b off hoff, Verif.sliceFrom_ok b off hoff]
  simp only [Out.bind_eq, Out.bind_ok]
  have hs := Binary_Skip_sim (b.drop off) t f (by rw [List.length_drop]; omega) (by rw [List.length_drop]; omega)
  generalize Funcs.Binary_Skip f (b.drop off) (toI8 t.toNat) = x at hs ⊢
  generalize hy : skipBin (b.drop off) t = y at hs ⊢
  cases hs with
  | ok m =>
    have hm := skipBin_le_len _ _ _ hy
    rw [List.length_drop] at hm
    exact hok m (by omega)
  | err n e h => exact herr n e h
  | panic s => exact FSim.panic s
  | oob => exact FSim.oob

omit hoff hoi in
/-- the entry loop has run (`h`, in terms of its own state `τ`), then `K`: its error exit is the function's, `hdone` is
    what follows it; `P` is what is known of the offset it stops at -/
theorem FSim.bind_inner {τ : Type} {pr2 : τ → S × Int × GoErr} {x : GM (LoopR (S × Int × GoErr) τ)} {y : TOut (RR A)}
    (h : FSim abs pr2 true True False x y) {P : Nat → Prop} (hy : ∀ r, y = .ok r → r.err = none → P r.off)
    {K : LoopR (S × Int × GoErr) τ → GM (LoopR (S × Int × GoErr) σ)} (hret : ∀ r, K (.ret r) = .ok (.ret r))
    (hdone : ∀ (s : τ) (o : Nat), P o → (pr2 s).2.1 = (o : Int) → (pr2 s).2.2 = GoErr.nil →
      FSim abs pr ex dn rn (K (.done s)) (C (abs (pr2 s).1) o)) :
    FSim abs pr ex dn rn (x.bind K) (y.bind (fieldTail false off1 C)) := by
  cases h with
  | done s o _ h he => exact hdone s o (hy _ rfl rfl) h he
  | fin p o hr => exact hr.elim
  | err p o' o e he ho =>
    rw [Out.bind_ok, hret]
    exact FSim.err p o' o e he (fun _ => ho rfl)
  | panic s => exact FSim.panic s
  | oob => exact FSim.oob

end stages

/-- A field loop: any function `L` whose round from a state at `off` simulates the model's round (`hL`, with `C` standing
    for the model's remaining rounds and the hypothesis on `C` for the translated ones, which start further on) simulates
    the model loop `M`. Fuel: the translation hands its `f` also to `Skip` (`+ 70`), the model uses one unit per byte. -/
theorem fieldLoop_sim {S σ A : Type} {abs : S → A} {pr : σ → S × Int × GoErr} {late : Bool} {dn rn : Prop}
    {body : A → Bytes → Nat → Nat → UInt8 → TOut (RR A)} {b : Bytes} {M : Nat → A → Nat → TOut (RR A)}
    (hM : ∀ f p off, M (f + 1) p off = fieldIter late body b (M f) p off)
    {L : Nat → σ → GM (LoopR (S × Int × GoErr) σ)}
    (hL : ∀ (f : Nat) (s : σ) (off : Nat) (C : A → Nat → TOut (RR A)), (pr s).2.1 = (off : Int) → off ≤ b.length →
      b.length - off + 70 ≤ f + 1 →
      (∀ (s' : σ) (off' : Nat), (pr s').2.1 = (off' : Int) → off < off' → off' ≤ b.length →
        FSim abs pr late dn rn (L f s') (C (abs (pr s').1) off')) →
      FSim abs pr late dn rn (L (f + 1) s) (fieldIter late body b C (abs (pr s).1) off)) :
    ∀ (f1 f2 : Nat) (s : σ) (off : Nat), (pr s).2.1 = (off : Int) → off ≤ b.length → b.length - off + 70 ≤ f1 →
      b.length - off < f2 → FSim abs pr late dn rn (L f1 s) (M f2 (abs (pr s).1) off) := by
  intro f1
  induction f1 with
  | zero => intro f2 s off _ _ hf _; omega
  | succ f ih =>
    intro f2 s off hs hoff hf1 hf2
    cases f2 with
    | zero => omega
    | succ f2 =>
      rw [hM]
      exact hL f s off _ hs hoff hf1 fun s' off' hs' hlt hle => ih f2 s' off' hs' hle (by omega) (by omega)

/-- The entry loop of the map field: any function `L` that is done when no round is left (`h0`) and whose round simulates
    the model's (`h1`). `R s cnt off m`: in state `s`, `cnt` rounds are left, the offset is `off` and the entries so far
    denote `m` (this is where the counter, whichever way it runs, and the Go map are read off the state). -/
theorem kvLoop_sim {S τ A : Type} {abs : S → A} {pr : τ → S × Int × GoErr} {b : Bytes} {ins : SMap → A}
    {L : Nat → τ → GM (LoopR (S × Int × GoErr) τ)} {R : τ → Nat → Nat → SMap → Prop}
    (h0 : ∀ f s off m, R s 0 off m → FSim abs pr true True False (L (f + 1) s) (.ok ⟨ins m, off, none⟩))
    (h1 : ∀ f s cnt off m (C : Nat → SMap → TOut (RR A)), R s (cnt + 1) off m → off ≤ b.length →
      (∀ s' off' m', R s' cnt off' m' → off < off' → off' ≤ b.length → FSim abs pr true True False (L f s') (C off' m')) →
      FSim abs pr true True False (L (f + 1) s) (kvRound ins b C off m)) :
    ∀ f cnt s off m, R s cnt off m → off ≤ b.length → b.length - off < f →
      FSim abs pr true True False (L f s) (kvAll ins b cnt off m) := by
  intro f
  induction f with
  | zero => intro cnt s off m _ _ hf; omega
  | succ f ih =>
    intro cnt s off m hR hoff hf
    cases cnt with
    | zero => exact h0 f s off m hR
    | succ cnt =>
      rw [kvAll_succ]
      exact h1 f s cnt off m _ hR hoff fun s' off' m' hR' hlt hle => ih cnt s' off' m' hR' hle (by omega)

/-- the result `(struct, off, err)` of a translated FastRead as the model's `RR` -/
def liftFR {S A : Type} (abs : S → A) (x : GM (S × Int × GoErr)) : TOut (RR A) :=
  match x with
  | .ok r => .ok ⟨abs r.1, r.2.1.toNat, errOpt r.2.2⟩
  | .panic s => .panic s
  | .oob => .oob
  | .err e => nomatch e

/-- the offset reported next to an error is not compared (the model of the generated FastRead does not keep the
    partial length that `Skip` returns next to an error) -/
def dropErrOff {A : Type} (x : TOut (RR A)) : TOut (RR A) :=
  match x with
  | .ok r => if r.err.isSome then .ok { r with off := 0 } else .ok r
  | y => y

/-- after the loop, the translated function (its ending `F`) returns `(p, off, err)` -/
def EndsWith {S σ : Type} (F : LoopR (S × Int × GoErr) σ → GM (S × Int × GoErr)) (pr : σ → S × Int × GoErr) : Prop :=
  ∀ s, F (.done s) = .ok (pr s)

/-- how every translated FastRead ends: the loop's `return` is the function's (`hret`), and it is left at its end only if
    `(p, off, err)` is returned after it -/
theorem FSim.final {S σ A : Type} {abs : S → A} {pr : σ → S × Int × GoErr} {ex : Bool}
    {x : GM (LoopR (S × Int × GoErr) σ)} {y : TOut (RR A)} {F : LoopR (S × Int × GoErr) σ → GM (S × Int × GoErr)}
    (h : FSim abs pr ex (EndsWith F pr) True x y) (hret : ∀ r, F (.ret r) = .ok r) :
    dropErrOff (liftFR abs (x.bind F)) = dropErrOff y ∧ (ex = true → liftFR abs (x.bind F) = y) := by
  cases h with
  | done s off hd h he =>
    rw [Out.bind_ok, hd s]
    simp [liftFR, dropErrOff, h, he, errOpt]
  | fin p off _ =>
    rw [Out.bind_ok, hret]
    simp [liftFR, dropErrOff, errOpt]
  | err p o' off e he ho =>
    rw [Out.bind_ok, hret]
    refine ⟨?_, ?_⟩
    · simp [liftFR, dropErrOff, errOpt, he]
    · intro hx
      simp [liftFR, errOpt, he, ho hx]
  | panic s => simp [liftFR, dropErrOff]
  | oob => simp [liftFR, dropErrOff]

theorem kvAll_off {α : Type} {ins : SMap → α} {b : Bytes} {cnt off : Nat} {m : SMap} (hoff : off ≤ b.length) {r : RR α}
    (h : kvAll ins b cnt off m = .ok r) (he : r.err = none) : off ≤ r.off ∧ r.off ≤ b.length := by
  obtain ⟨r0, h0, hr0⟩ := readKVs_safe b cnt off m hoff
  unfold kvAll at h
  rw [h0, Out.bind_ok] at h
  cases h
  exact hr0 he

/-- the state `(p, off, err, l, i)` of a translated entry loop `for i := 0; i < sz; i++` whose struct is `setX l` for the
    entries `l` stored so far: `cnt` rounds are left, the offset is `o`, the entries denote `m` -/
def KvUp {S : Type} (setX : List (Bytes × Bytes) → S) (sz : Nat) (s : S × Int × GoErr × Int × Int) (cnt o : Nat)
    (m : SMap) : Prop :=
  ∃ l, s.1 = setX l ∧ toSMap l = m ∧ s.2.1 = (o : Int) ∧ s.2.2.1 = GoErr.nil ∧ 0 ≤ s.2.2.2.2 ∧
    s.2.2.2.2 + (cnt : Int) = (sz : Int)

theorem KvUp.intro {S : Type} {setX : List (Bytes × Bytes) → S} {sz : Nat} {es : List (Bytes × Bytes)} {o cnt : Nat}
    {l0 i : Int} (hi0 : 0 ≤ i) (hi : i + (cnt : Int) = (sz : Int)) :
    KvUp setX sz (setX es, (o : Int), GoErr.nil, l0, i) cnt o (toSMap es) :=
  ⟨es, rfl, rfl, rfl, rfl, hi0, hi⟩

set_option hygiene false in
/-- the map<string,string> field: ReadMapBegin, `make`, the entry loop (`spec`: the lemma about the struct's translated entry loop) -/
macro "fr_map" spec:ident : tactic => `(tactic| (
  simp only [caseMap, hsl, hsl', Out.bind_eq, Out.bind_ok, Out.pure_eq]
  obtain ⟨kt, vt, e, hg, he⟩ := obsMB_elim (rmb_obs (b.drop (off + lf)))
  have hl2 := readMapBegin_l_le (b.drop (off + lf))
  have hsz := readMapBegin_size_lt (b.drop (off + lf))
  rw [List.length_drop] at hl2
  have w2 := wrap_off (off + lf) (readMapBegin (b.drop (off + lf))).l (by omega)
  rw [hg]
  simp only [Out.bind_ok, w2]
  cases hE2 : (readMapBegin (b.drop (off + lf))).err with
  | some te =>
    rw [hE2] at he
    obtain ⟨hne, habs⟩ := errOpt_some.mp he
    simp only [hne, not_false_eq_true, decide_true, if_true, Out.bind_ok]
    rw [← habs, ← absErr_prepend]
    exact FSim.err _ _ _ _ (prepend_ne_nil hne) (fun h => h.elim)
  | none =>
    rw [hE2] at he
    have hnil := errOpt_none.mp he
    subst hnil
    simp only [not_true_eq_false, decide_false, Bool.false_eq_true, if_false]
    generalize (readMapBegin (b.drop (off + lf))).l = lm at *
    generalize (readMapBegin (b.drop (off + lf))).size = sz at *
    obtain ⟨r, l', h1, h2, h3, h4, h5⟩ := $spec g b hb (toI8 t.toNat) (toI16 fid) sz hsz f sz 0
      (off + lf + lm) { p with Extra := some [] } [] GoErr.nil (lm : Int) rfl (by omega) (by omega) (by omega)
    rw [show toSMap [] = ([] : SMap) from rfl] at h1
    rw [h1]
    simp only [Out.bind_ok]
    cases hre : r.err with
    | some te =>
      rw [hre] at h5
      obtain ⟨ge, hge1, hge2, hge3⟩ := h5
      rw [show ((0 : Nat) : Int) = 0 from rfl] at hge3
      rw [hge3]
      simp only [Out.bind_ok]
      rw [← hge2, ← h2]
      exact FSim.err _ _ _ _ hge1 (fun h => h.elim)
    | none =>
      rw [hre] at h5
      obtain ⟨e1, l1, i1, hd⟩ := h5
      rw [show ((0 : Nat) : Int) = 0 from rfl] at hd
      rw [hd]
      simp only [Out.bind_ok]
      rw [← h2]
      exact ih f2 _ _ _ _ _ _ (by omega) (by omega) (by omega)))

set_option hygiene false in
/-- one iteration up to the `switch`: ReadFieldBegin, `off += l`, the error exit, STOP; leaves the dispatch -/
macro "fr_head" eq2:ident donety:term : tactic => `(tactic| (
  rw [$eq2:ident, genLoop]
  rw [sliceFrom_nat b off hoff, Verif.sliceFrom_ok b off hoff]
  simp only [Out.bind_eq, Out.bind_ok]
  obtain ⟨e, hg, he⟩ := obs4_elim (rfb_obs (b.drop off))
  have hl := readFieldBegin_l_le (b.drop off)
  have hid := readFieldBegin_id_lt (b.drop off)
  rw [List.length_drop] at hl
  have w1 := wrap_off off (readFieldBegin (b.drop off)).l (by omega)
  rw [hg]
  simp only [Out.bind_ok, w1]
  cases hE : (readFieldBegin (b.drop off)).err
  case some te =>
    rw [hE] at he
    obtain ⟨hne, habs⟩ := errOpt_some.mp he
    simp only [hne, ne_eq, not_false_eq_true, decide_true, if_true, Out.pure_eq]
    rw [← habs, ← absErr_prepend]
    exact FSim.err _ _ _ _ (prepend_ne_nil hne) (fun h => h.elim)
  rw [hE] at he
  have hnil := errOpt_none.mp he
  subst hnil
  have hge := (readFieldBegin_le _ hE).1
  generalize (readFieldBegin (b.drop off)).l = lf at *
  generalize (readFieldBegin (b.drop off)).id = fid at *
  generalize (readFieldBegin (b.drop off)).t = t at *
  simp only [ne_eq, not_true_eq_false, decide_false, Bool.false_eq_true, if_false]
  have hsl := sliceFrom_nat b (off + lf) (by omega)
  have hsl' := Verif.sliceFrom_ok b (off + lf) (by omega)
  by_cases hstop : t = T_STOP
  case pos =>
    have c0 : toI8 t.toNat = 0 := (toI8_stop t).mpr hstop
    simp only [hstop, c0, decide_true, if_true, Out.pure_eq]
    exact FSim.done (σ := $donety) (p, ((off + lf : Nat) : Int), GoErr.nil, _, _, _) (off + lf) rfl rfl
  have c0 : ¬ toI8 t.toNat = 0 := fun h => hstop ((toI8_stop t).mp h)
  simp only [hstop, c0, decide_false, Bool.false_eq_true, if_false, genKey_eq fid t hid]))

/-! # (*BaseResp).FastRead and (*Base).FastRead -/

/-- (*BaseResp).FastRead, translated from the Go source, is the model `fastReadBaseResp`: same struct (the map as the
    map it denotes), same error, same offset on success; every panic carried over -/
theorem BaseResp_FastRead_eq (g : Bool) (fuel : Nat) (p : Funcs.S_base_BaseResp) (b : Bytes)
    (hb : b.length < 2 ^ 62) (hf : b.length + 70 ≤ fuel) :
    dropErrOff (liftFR toBaseResp (Funcs.BaseResp_FastRead g fuel p b)) =
      dropErrOff (fastReadBaseResp (toBaseResp p) b) := by
  unfold Funcs.BaseResp_FastRead fastReadBaseResp
  simp only [Out.bind_eq, Out.pure_eq]
  refine (FSim.final (pr := pr3) (ex := false) ?_ fun _ => rfl).1
  refine fieldLoop_sim (pr := pr3) (L := tup6 _) (genLoop_succ respBody b) ?_ _ _ (_, _, _, _, _, _) 0 rfl (by omega)
    (by omega) (by omega)
  intro f s off C hs hoff hf hC
  obtain ⟨p, oi, e0, t0, fid0, l0⟩ := s
  simp only [pr3, tup6] at hs hC ⊢
  subst hs
  rw [Funcs.BaseResp_FastRead_loop1, fieldIter]
  simp only [Out.bind_eq, Out.pure_eq]
  refine FSim.readFieldBegin hoff rfl ?_ ?_
  · intro t id t' id' l e he hl
    rsimp [he, wrap_off off l hl hb]
    exact .retP he nofun
  · intro t fid l hid hl1 hl
    have w := wrap_off off l hl hb
    by_cases hstop : t = T_STOP
    · subst hstop
      rsimp [(toI8_eq_0 T_STOP).mpr rfl, w]
      first | exact .stop (fun _ => rfl) rfl rfl rfl | exact .stopRet trivial rfl rfl
    · have c0 : ¬ toI8 t.toNat = 0 := fun h => hstop ((toI8_eq_0 t).mp h)
      rsimp [hstop, c0, w, genKey_eq fid t hid, genKey_eq' fid t hid, respBody, Facts.fastReadKeysBaseResp, caseIdx]
      generalize fieldKey fid t = k
      by_cases k1 : (k : Int) = 267
      · rsimp [k1, caseStr_tail]
        refine FSim.readStr hl rfl g ?_ ?_
        · intro v l2 e he hl2
          rsimp [he, wrap_off (off + l) l2 hl2 hb, fieldTail]
          exact .retP he nofun
        · intro v l2 _ hl2
          rsimp [wrap_off (off + l) l2 hl2 hb, fieldTail]
          exact hC (_, _, _, _, _, _) (off + l + l2) rfl (by omega) hl2
      · have k1' : ¬ (267 : Int) = (k : Int) := fun h => k1 h.symm
        by_cases k2 : (k : Int) = 520
        · rsimp [k2, Int.reduceEq, Nat.zero_add, caseI32_tail]
          refine FSim.readI32 hl rfl ?_ ?_
          · intro v l2 e he hl2
            rsimp [he, wrap_off (off + l) l2 hl2 hb, fieldTail]
            exact .retP he nofun
          · intro v l2 hl2
            rsimp [wrap_off (off + l) l2 hl2 hb, fieldTail]
            exact hC (_, _, _, _, _, _) (off + l + l2) rfl (by omega) hl2
        · have k2' : ¬ (520 : Int) = (k : Int) := fun h => k2 h.symm
          by_cases k3 : (k : Int) = 781
          · rsimp [k3, Int.reduceEq, Nat.zero_add, caseMap_tail]
            refine FSim.readMapBegin hl rfl ?_ ?_
            · intro kt vt sz _ _ _ l2 e he hl2
              rsimp [he, wrap_off (off + l) l2 hl2 hb, fieldTail]
              exact .retP he nofun
            · intro kt vt _ _ sz l2 hsz hl2
              rsimp [wrap_off (off + l) l2 hl2 hb]
              refine FSim.bind_inner (pr2 := pr3) (P := fun o => off + l + l2 ≤ o ∧ o ≤ b.length)
                (kvLoop_sim (R := KvUp (fun l => { p with Extra := some l }) sz)
                  (L := tup5 _)
                  ?_ ?_ f sz (_, _, _, _, _) (off + l + l2) [] (KvUp.intro (es := []) (Int.le_refl 0) (Int.zero_add _))
                  hl2 (by omega))
                (fun _ h he => kvAll_off hl2 h he) ?_ ?_
              · rintro f ⟨p', o', e', l', i'⟩ o m ⟨es, rfl, rfl, rfl, rfl, hi0, hi⟩
                simp only [tup5] at hi0 hi ⊢
                rw [Funcs.BaseResp_FastRead_loop2]
                have c : ¬ i' < (sz : Int) := by omega
                rsimp [c]
                exact .stop trivial rfl rfl rfl
              · rintro f ⟨p', o', e', l', i'⟩ cnt o m C ⟨es, rfl, rfl, rfl, rfl, hi0, hi⟩ ho hC
                simp only [pr3, tup5] at hi0 hi hC ⊢
                rw [Funcs.BaseResp_FastRead_loop2, kvRound]
                have c : i' < (sz : Int) := by omega
                rsimp [c, caseStr_tail]
                refine FSim.readStr ho rfl g ?_ ?_
                · intro kk lk e he hlk
                  rsimp [he, wrap_off o lk hlk hb]
                  exact .retP he fun _ => rfl
                · intro kk lk _ hlk
                  rsimp [wrap_off o lk hlk hb]
                  refine FSim.readStr hlk rfl g ?_ ?_
                  · intro vv lv e he hlv
                    rsimp [he, wrap_off (o + lk) lv hlv hb]
                    exact .retP he fun _ => rfl
                  · intro vv lv _ hlv
                    rsimp [wrap_off (o + lk) lv hlv hb, mapSet, wrap_i64_of_range (i' + 1) (by omega) (by omega)]
                    exact hC (_, _, _, _, _) (o + lk + lv) _ (KvUp.intro (es := (kk, vv) :: es) (by omega) (by omega))
                      (by omega) hlv
              · exact fun _ => rfl
              · rintro ⟨p', o', e', l', i'⟩ o ⟨ho1, ho2⟩ h1 h2
                simp only [pr3] at h1 h2 ⊢
                subst h1 h2
                exact hC (_, _, _, _, _, _) o rfl (by omega) ho2
          · have k3' : ¬ (781 : Int) = (k : Int) := fun h => k3 h.symm
            rsimp [k1, k2, k3, k1', k2', k3']
            refine FSim.caseSkip hl rfl hb (by omega) ?_ ?_
            · intro n e he
              rsimp [he]
              exact .retP he nofun
            · intro m hm
              rsimp [wrap_off (off + l) m hm hb]
              exact hC (_, _, _, _, _, _) (off + l + m) rfl (by omega) hm


def toBase (s : Funcs.S_base_Base) : Base := ⟨s.LogID, s.Caller, s.Addr, s.Extra.map toSMap⟩

/-- (*Base).FastRead, translated from the Go source, is the model `fastReadBase` -/
theorem Base_FastRead_eq (g : Bool) (fuel : Nat) (p : Funcs.S_base_Base) (b : Bytes)
    (hb : b.length < 2 ^ 62) (hf : b.length + 70 ≤ fuel) :
    dropErrOff (liftFR toBase (Funcs.Base_FastRead g fuel p b)) = dropErrOff (fastReadBase (toBase p) b) := by
  unfold Funcs.Base_FastRead fastReadBase
  simp only [Out.bind_eq, Out.pure_eq]
  refine (FSim.final (pr := pr3) (ex := false) ?_ fun _ => rfl).1
  refine fieldLoop_sim (pr := pr3) (L := tup6 _) (genLoop_succ baseBody b) ?_ _ _ (_, _, _, _, _, _) 0 rfl (by omega)
    (by omega) (by omega)
  intro f s off C hs hoff hf hC
  obtain ⟨p, oi, e0, t0, fid0, l0⟩ := s
  simp only [pr3, tup6] at hs hC ⊢
  subst hs
  rw [Funcs.Base_FastRead_loop1, fieldIter]
  simp only [Out.bind_eq, Out.pure_eq]
  refine FSim.readFieldBegin hoff rfl ?_ ?_
  · intro t id t' id' l e he hl
    rsimp [he, wrap_off off l hl hb]
    exact .retP he nofun
  · intro t fid l hid hl1 hl
    have w := wrap_off off l hl hb
    by_cases hstop : t = T_STOP
    · subst hstop
      rsimp [(toI8_eq_0 T_STOP).mpr rfl, w]
      first | exact .stop (fun _ => rfl) rfl rfl rfl | exact .stopRet trivial rfl rfl
    · have c0 : ¬ toI8 t.toNat = 0 := fun h => hstop ((toI8_eq_0 t).mp h)
      rsimp [hstop, c0, w, genKey_eq fid t hid, genKey_eq' fid t hid, baseBody, Facts.fastReadKeysBase, caseIdx]
      generalize fieldKey fid t = k
      by_cases k1 : (k : Int) = 267
      · rsimp [k1, caseStr_tail]
        refine FSim.readStr hl rfl g ?_ ?_
        · intro v l2 e he hl2
          rsimp [he, wrap_off (off + l) l2 hl2 hb, fieldTail]
          exact .retP he nofun
        · intro v l2 _ hl2
          rsimp [wrap_off (off + l) l2 hl2 hb, fieldTail]
          exact hC (_, _, _, _, _, _) (off + l + l2) rfl (by omega) hl2
      · have k1' : ¬ (267 : Int) = (k : Int) := fun h => k1 h.symm
        by_cases k2 : (k : Int) = 523
        · rsimp [k2, Int.reduceEq, Nat.zero_add, caseStr_tail]
          refine FSim.readStr hl rfl g ?_ ?_
          · intro v l2 e he hl2
            rsimp [he, wrap_off (off + l) l2 hl2 hb, fieldTail]
            exact .retP he nofun
          · intro v l2 _ hl2
            rsimp [wrap_off (off + l) l2 hl2 hb, fieldTail]
            exact hC (_, _, _, _, _, _) (off + l + l2) rfl (by omega) hl2
        · have k2' : ¬ (523 : Int) = (k : Int) := fun h => k2 h.symm
          by_cases k3 : (k : Int) = 779
          · rsimp [k3, Int.reduceEq, Nat.zero_add, caseStr_tail]
            refine FSim.readStr hl rfl g ?_ ?_
            · intro v l2 e he hl2
              rsimp [he, wrap_off (off + l) l2 hl2 hb, fieldTail]
              exact .retP he nofun
            · intro v l2 _ hl2
              rsimp [wrap_off (off + l) l2 hl2 hb]
              exact hC (_, _, _, _, _, _) (off + l + l2) rfl (by omega) hl2
          · have k3' : ¬ (779 : Int) = (k : Int) := fun h => k3 h.symm
            by_cases k4 : (k : Int) = 1549
            · rsimp [k4, Int.reduceEq, Nat.zero_add, caseMap_tail]
              refine FSim.readMapBegin hl rfl ?_ ?_
              · intro kt vt sz _ _ _ l2 e he hl2
                rsimp [he, wrap_off (off + l) l2 hl2 hb, fieldTail]
                exact .retP he nofun
              · intro kt vt _ _ sz l2 hsz hl2
                rsimp [wrap_off (off + l) l2 hl2 hb]
                refine FSim.bind_inner (pr2 := pr3) (P := fun o => off + l + l2 ≤ o ∧ o ≤ b.length)
                  (kvLoop_sim (R := KvUp (fun l => { p with Extra := some l }) sz)
                    (L := tup5 _)
                    ?_ ?_ f sz (_, _, _, _, _) (off + l + l2) [] (KvUp.intro (es := []) (Int.le_refl 0) (Int.zero_add _))
                    hl2 (by omega))
                  (fun _ h he => kvAll_off hl2 h he) ?_ ?_
                · rintro f ⟨p', o', e', l', i'⟩ o m ⟨es, rfl, rfl, rfl, rfl, hi0, hi⟩
                  simp only [tup5] at hi0 hi ⊢
                  rw [Funcs.Base_FastRead_loop2]
                  have c : ¬ i' < (sz : Int) := by omega
                  rsimp [c]
                  exact .stop trivial rfl rfl rfl
                · rintro f ⟨p', o', e', l', i'⟩ cnt o m C ⟨es, rfl, rfl, rfl, rfl, hi0, hi⟩ ho hC
                  simp only [pr3, tup5] at hi0 hi hC ⊢
                  rw [Funcs.Base_FastRead_loop2, kvRound]
                  have c : i' < (sz : Int) := by omega
                  rsimp [c, caseStr_tail]
                  refine FSim.readStr ho rfl g ?_ ?_
                  · intro kk lk e he hlk
                    rsimp [he, wrap_off o lk hlk hb]
                    exact .retP he fun _ => rfl
                  · intro kk lk _ hlk
                    rsimp [wrap_off o lk hlk hb]
                    refine FSim.readStr hlk rfl g ?_ ?_
                    · intro vv lv e he hlv
                      rsimp [he, wrap_off (o + lk) lv hlv hb]
                      exact .retP he fun _ => rfl
                    · intro vv lv _ hlv
                      rsimp [wrap_off (o + lk) lv hlv hb, mapSet, wrap_i64_of_range (i' + 1) (by omega) (by omega)]
                      exact hC (_, _, _, _, _) (o + lk + lv) _ (KvUp.intro (es := (kk, vv) :: es) (by omega) (by omega))
                        (by omega) hlv
                · exact fun _ => rfl
                · rintro ⟨p', o', e', l', i'⟩ o ⟨ho1, ho2⟩ h1 h2
                  simp only [pr3] at h1 h2 ⊢
                  subst h1 h2
                  exact hC (_, _, _, _, _, _) o rfl (by omega) ho2
            · have k4' : ¬ (1549 : Int) = (k : Int) := fun h => k4 h.symm
              rsimp [k1, k2, k3, k4, k1', k2', k3', k4']
              refine FSim.caseSkip hl rfl hb (by omega) ?_ ?_
              · intro n e he
                rsimp [he]
                exact .retP he nofun
              · intro m hm
                rsimp [wrap_off (off + l) m hm hb]
                exact hC (_, _, _, _, _, _) (off + l + m) rfl (by omega) hm

/-! # (*ApplicationException).FastRead -/

def toAppEx (s : Funcs.S_thrift_ApplicationException) : AppEx := ⟨s.t, s.m⟩

/-- the state of its loop: the struct and `off`; there is no `err` variable that outlives a round -/
def prEx (s : Funcs.S_thrift_ApplicationException × Int) : Funcs.S_thrift_ApplicationException × Int × GoErr :=
  (s.1, s.2, GoErr.nil)

/-- (*ApplicationException).FastRead, translated from the Go source, is the model `fastReadAppEx`: struct, offset
    (also next to an error: this function adds `l` only after the error check) and error -/
theorem AppEx_FastRead_eq (g : Bool) (fuel : Nat) (p : Funcs.S_thrift_ApplicationException) (b : Bytes)
    (hb : b.length < 2 ^ 62) (hf : b.length + 70 ≤ fuel) :
    liftFR toAppEx (Funcs.AppEx_FastRead g fuel p b) = fastReadAppEx (toAppEx p) b := by
  unfold Funcs.AppEx_FastRead fastReadAppEx
  simp only [Out.bind_eq, Out.pure_eq]
  refine (FSim.final (pr := prEx) (ex := true) ?_ fun _ => rfl).2 rfl
  refine fieldLoop_sim (pr := prEx) (L := tup2 _) (exLoop_succ b) ?_ _ _ (_, _) 0 rfl (by omega) (by omega) (by omega)
  intro f s off C hs hoff hf hC
  obtain ⟨p, oi⟩ := s
  simp only [prEx, tup2] at hs hC ⊢
  subst hs
  rw [Funcs.AppEx_FastRead_loop1, fieldIter]
  simp only [Out.bind_eq, Out.pure_eq]
  refine FSim.readFieldBegin hoff rfl ?_ ?_
  · intro t id t' id' l e he hl
    rsimp [he]
    exact FSim.ret rfl he rfl (fun _ => rfl)
  · intro t fid l hid hl1 hl
    have w := wrap_off off l hl hb
    by_cases hstop : t = T_STOP
    · subst hstop
      rsimp [(toI8_eq_0 T_STOP).mpr rfl, w]
      first | exact .stop (fun _ => rfl) rfl rfl rfl | exact .stopRet trivial rfl rfl
    · have c0 : ¬ toI8 t.toNat = 0 := fun h => hstop ((toI8_eq_0 t).mp h)
      rsimp [hstop, c0, w, exBody, Facts.appExcReadCases]
      by_cases c1 : toI16 fid = 1 ∧ toI8 t.toNat = 11
      · rsimp [c1.1, c1.2, Bool.and_self, and_self, caseStr_tail]
        refine FSim.readStr hl rfl g ?_ ?_
        · intro v l2 e he hl2
          rsimp [he]
          exact FSim.ret rfl he rfl (fun _ => rfl)
        · intro v l2 _ hl2
          rsimp [wrap_off (off + l) l2 hl2 hb, fieldTail]
          exact hC (_, _) (off + l + l2) rfl (by omega) hl2
      · have c1' : (decide (toI16 fid = 1) && decide (toI8 t.toNat = 11)) = false := by simpa using c1
        by_cases c2 : toI16 fid = 2 ∧ toI8 t.toNat = 8
        · rsimp [c2.1, c2.2, Int.reduceEq, Bool.and_self, Bool.false_and, and_self, false_and, caseI32_tail]
          refine FSim.readI32 hl rfl ?_ ?_
          · intro v l2 e he hl2
            rsimp [he]
            exact FSim.ret rfl he rfl (fun _ => rfl)
          · intro v l2 hl2
            rsimp [wrap_off (off + l) l2 hl2 hb, fieldTail]
            exact hC (_, _) (off + l + l2) rfl (by omega) hl2
        · have c2' : (decide (toI16 fid = 2) && decide (toI8 t.toNat = 8)) = false := by simpa using c2
          rsimp [c1, c1', c2, c2']
          refine FSim.caseSkip hl rfl hb (by omega) ?_ ?_
          · intro n e he
            rsimp [he]
            exact FSim.ret rfl he rfl (fun _ => rfl)
          · intro m hm
            rsimp [wrap_off (off + l) m hm hb]
            exact hC (_, _) (off + l + m) rfl (by omega) hm

/-! # (*ApplicationException).BLength and FastWrite -/

theorem AppEx_BLength_eq (e : Funcs.S_thrift_ApplicationException) (h : e.m.length < 2 ^ 62) :
    Funcs.AppEx_BLength e = .ok ((bLengthAppEx (toAppEx e) : Nat) : Int) := by
  have h' : e.m.length < 4611686018427387904 := h
  unfold Funcs.AppEx_BLength
  rw [Binary_FieldBeginLength_eq 0 0, Binary_StringLength_eq _ h, Binary_I32Length_eq 0, Binary_FieldStopLength_eq]
  go_simp [Wire.length, bLengthAppEx, toAppEx, wrap_i64_of_range]

/-! ## FastWrite: translated code on a view against model statements on the slice

  A translated in-place writer works on a view `(whole, base)` and stores at `base + off`. It is compared with the model
  on the slice `whole[base:]`: the buffer is `pre ++ sb`, the view starts at `pre.length + ob` inside it (`ob = 0` for the
  function that was called, the offset of the sub-slice for a callee that was handed `b[off:]`), the model works on `sb`.
  `WSim` relates the two outcomes; every primitive of the translation (`vset`, `vfrom` followed by `vset` / `vputU16` /
  `vputU32` / `vcopy` on the sub-view, the final return) has a continuation-passing step lemma against the model
  primitive it implements (`putByte`, `put16`, `put32`, `copyAt`), so that a writer is WALKED statement by statement
  (`fw_step`), callees unfolded. Offsets are whatever `Int` expression the code computes, with a side goal that says which
  offset of the model it is (`off_tac`). -/

theorem putAt_append (pre sb bs : Bytes) (o : Nat) :
    Wire.putAt (pre ++ sb) (pre.length + o) bs = pre ++ patch sb o bs := by
  unfold Wire.putAt patch
  have e : pre.length + o + bs.length = pre.length + (o + bs.length) := by omega
  rw [e, List.take_append, List.drop_append]
  have t1 : pre.take (pre.length + o) = pre := List.take_of_length_le (by omega)
  have t2 : pre.drop (pre.length + (o + bs.length)) = [] := List.drop_of_length_le (by omega)
  simp [t1, t2]

theorem patch_length (b : Bytes) (i : Nat) (bs : Bytes) (h : i + bs.length ≤ b.length) :
    (patch b i bs).length = b.length := by
  simp [patch]; omega

/-! ### normal forms of the view primitives on `(pre ++ sb, pre.length + ob)` -/

theorem vset_pre (pre sb : Bytes) (ob : Nat) {oi : Int} {o : Nat} (x : Int) (h : 0 ≤ oi ∧ (ob : Int) + oi = o) :
    vset (pre ++ sb) ((pre.length + ob : Nat) : Int) oi x =
      if o < sb.length then .ok (pre ++ patch sb o [byteOf x]) else .panic "index" := by
  have e : pre.length + ob + oi.toNat = pre.length + o := by omega
  rw [vset_nf _ _ _ _ h.1, e, putAt_append]
  by_cases c : o < sb.length
  · rw [if_pos (by simp; omega), if_pos c]
  · rw [if_neg (by simp; omega), if_neg c]

theorem vfrom_preK (pre sb : Bytes) (o : Nat) (k : Int) (hk : 0 ≤ k) :
    vfrom (pre ++ sb) ((pre.length + o : Nat) : Int) k =
      if o + k.toNat ≤ sb.length then .ok ((pre.length + (o + k.toNat) : Nat) : Int) else .panic "slice" := by
  rw [vfrom_nf _ _ _ hk]
  by_cases c : o + k.toNat ≤ sb.length
  · rw [if_pos (by simp; omega), if_pos c]; simp; omega
  · rw [if_neg (by simp; omega), if_neg c]

theorem vputU16_pre (pre sb : Bytes) (o : Nat) (x : Int) :
    vputU16 (pre ++ sb) ((pre.length + o : Nat) : Int) x =
      if o + 2 ≤ sb.length then .ok (pre ++ patch sb o (be16 (ofInt 16 x))) else .panic "index" := by
  rw [vputU16_nf, putAt_append]
  by_cases c : o + 2 ≤ sb.length
  · rw [if_pos (by simp; omega), if_pos c]
  · rw [if_neg (by simp; omega), if_neg c]

theorem vputU32_pre (pre sb : Bytes) (o : Nat) (x : Int) :
    vputU32 (pre ++ sb) ((pre.length + o : Nat) : Int) x =
      if o + 4 ≤ sb.length then .ok (pre ++ patch sb o (be32 (ofInt 32 x))) else .panic "index" := by
  rw [vputU32_nf, putAt_append]
  by_cases c : o + 4 ≤ sb.length
  · rw [if_pos (by simp; omega), if_pos c]
  · rw [if_neg (by simp; omega), if_neg c]

theorem vcopy_pre (pre sb : Bytes) (o : Nat) (v : Bytes) (h : o ≤ sb.length) :
    vcopy (pre ++ sb) ((pre.length + o : Nat) : Int) v =
      (pre ++ patch sb o (v.take (min (sb.length - o) v.length)), ((min (sb.length - o) v.length : Nat) : Int)) := by
  have e : (pre ++ sb).length - (pre.length + o) = sb.length - o := by simp; omega
  rw [vcopy_store, e, store_of_le _ _ _ (by simp; omega), putAt_append]

/-! ### the simulation -/

/-- outcome `x` of translated code against outcome `y` of the model statements: same buffer behind `pre`, same recorder
    contents (untouched when there is no no-copy writer, `w = false`), same offset, same panic; `out` makes the result of
    the translated function of these three -/
def WSim {ρ : Type} (out : Bytes → Directs → Int → ρ) (pre : Bytes) (n : Nat) (w : Bool) (ds0 : Directs) (x : GM ρ)
    (y : TOut (WS × Nat)) : Prop :=
  match y with
  | .ok r => r.1.buf.length = n ∧ r.2 ≤ n ∧ (w = false → r.1.ds = ds0) ∧ x = .ok (out (pre ++ r.1.buf) r.1.ds r.2)
  | .panic s => x = .panic s
  | _ => False

section sim
variable {ρ : Type} {out : Bytes → Directs → Int → ρ} {pre : Bytes} {n : Nat} {w : Bool} {ds0 : Directs} {sb : Bytes}
  (hsb : sb.length = n) {ob o : Nat} {oi : Int} (h : 0 ≤ oi ∧ (ob : Int) + oi = o)
include hsb h

/-- `b[off] = x` against `putByte` -/
theorem sim_set {x : Int} {t' : UInt8} (ht : t' = byteOf x) {K : Bytes → GM ρ} {Ky : Bytes → TOut (WS × Nat)}
    (hK : ∀ sb' : Bytes, sb'.length = n → o < n → oi = ((o - ob : Nat) : Int) →
      WSim out pre n w ds0 (K (pre ++ sb')) (Ky sb')) :
    WSim out pre n w ds0 ((vset (pre ++ sb) ((pre.length + ob : Nat) : Int) oi x).bind K) ((putByte sb o t').bind Ky) := by
  subst ht
  rw [vset_pre pre sb ob x h]
  unfold putByte
  by_cases c : o < sb.length
  · rw [if_pos c, if_pos c, Out.bind_ok, Out.bind_ok]
    exact hK _ (by rw [patch_length _ _ _ (by simp; omega), hsb]) (by omega) (by omega)
  · rw [if_neg c, if_neg c]; rfl

omit hsb in
/-- the sub-slice `b[off:]`: its offset in the buffer -/
theorem vfrom_sub : vfrom (pre ++ sb) ((pre.length + ob : Nat) : Int) oi =
    if o ≤ sb.length then .ok ((pre.length + o : Nat) : Int) else .panic "slice" := by
  have e : ob + oi.toNat = o := by omega
  rw [vfrom_preK _ _ _ _ h.1, e]

/-- `b[off:][0] = x` (`ho`: the sub-slice exists; Go would panic with another kind than the model's `putByte`) -/
theorem sim_set0 (ho : o ≤ n) {x : Int} {t' : UInt8} (ht : t' = byteOf x) {K : Int → Bytes → GM ρ}
    {Ky : Bytes → TOut (WS × Nat)}
    (hK : ∀ sb' : Bytes, sb'.length = n → o < n →
      WSim out pre n w ds0 (K ((pre.length + o : Nat) : Int) (pre ++ sb')) (Ky sb')) :
    WSim out pre n w ds0
      ((vfrom (pre ++ sb) ((pre.length + ob : Nat) : Int) oi).bind fun t => (vset (pre ++ sb) t 0 x).bind (K t))
      ((putByte sb o t').bind Ky) := by
  rw [vfrom_sub h, if_pos (by omega), Out.bind_ok]
  exact sim_set hsb (ob := o) (by omega) ht fun sb' h1 h2 _ => hK sb' h1 h2

/-- `PutUint16(b[off:], x)` against `put16` -/
theorem sim_put16 {x : Int} {id' : Nat} (hid : be16 id' = be16 (ofInt 16 x)) {K : Int → Bytes → GM ρ}
    {Ky : Bytes → TOut (WS × Nat)}
    (hK : ∀ sb' : Bytes, sb'.length = n → o + 2 ≤ n →
      WSim out pre n w ds0 (K ((pre.length + o : Nat) : Int) (pre ++ sb')) (Ky sb')) :
    WSim out pre n w ds0
      ((vfrom (pre ++ sb) ((pre.length + ob : Nat) : Int) oi).bind fun t => (vputU16 (pre ++ sb) t x).bind (K t))
      ((put16 sb o id').bind Ky) := by
  rw [vfrom_sub h]
  unfold put16
  by_cases c0 : o ≤ sb.length
  · rw [if_pos c0, if_neg (by omega), Out.bind_ok, vputU16_pre]
    by_cases c : o + 2 ≤ sb.length
    · rw [if_pos c, if_neg (by omega), Out.bind_ok, Out.bind_ok, hid]
      exact hK _ (by rw [patch_length _ _ _ (by simp; omega), hsb]) (by omega)
    · rw [if_neg c, if_pos (by omega)]; rfl
  · rw [if_neg c0, if_pos (by omega)]; rfl

/-- `PutUint32(b[off:], x)` against `put32` -/
theorem sim_put32 {x : Int} {v' : Nat} (hv : be32 v' = be32 (ofInt 32 x)) {K : Int → Bytes → GM ρ}
    {Ky : Bytes → TOut (WS × Nat)}
    (hK : ∀ sb' : Bytes, sb'.length = n → o + 4 ≤ n →
      WSim out pre n w ds0 (K ((pre.length + o : Nat) : Int) (pre ++ sb')) (Ky sb')) :
    WSim out pre n w ds0
      ((vfrom (pre ++ sb) ((pre.length + ob : Nat) : Int) oi).bind fun t => (vputU32 (pre ++ sb) t x).bind (K t))
      ((put32 sb o v').bind Ky) := by
  rw [vfrom_sub h]
  unfold put32
  by_cases c0 : o ≤ sb.length
  · rw [if_pos c0, if_neg (by omega), Out.bind_ok, vputU32_pre]
    by_cases c : o + 4 ≤ sb.length
    · rw [if_pos c, if_neg (by omega), Out.bind_ok, Out.bind_ok, hv]
      exact hK _ (by rw [patch_length _ _ _ (by simp; omega), hsb]) (by omega)
    · rw [if_neg c, if_pos (by omega)]; rfl
  · rw [if_neg c0, if_pos (by omega)]; rfl

/-- `copy(b[off:], v)` against `copyAt`: `hc` is what the translation's `vcopy` returns, to rewrite `K` with -/
theorem sim_copy {v : Bytes} {K : Int → GM ρ} {Ky : Bytes × Nat → TOut (WS × Nat)}
    (hK : ∀ (sb' : Bytes) (k : Nat), sb'.length = n → o + k ≤ n →
      vcopy (pre ++ sb) ((pre.length + o : Nat) : Int) v = (pre ++ sb', (k : Int)) →
      WSim out pre n w ds0 (K ((pre.length + o : Nat) : Int)) (Ky (sb', k))) :
    WSim out pre n w ds0 ((vfrom (pre ++ sb) ((pre.length + ob : Nat) : Int) oi).bind K) ((copyAt sb o v).bind Ky) := by
  rw [vfrom_sub h]
  unfold copyAt
  by_cases c0 : o ≤ sb.length
  · rw [if_pos c0, if_neg (by omega), Out.bind_ok, Out.bind_ok]
    exact hK _ _ (by rw [patch_length _ _ _ (by simp; omega), hsb]) (by omega) (vcopy_pre pre sb o v c0)
  · rw [if_neg c0, if_pos (by omega)]; rfl

omit h in
/-- the final `return off` -/
theorem sim_ret {ds : Directs} (hds : w = false → ds = ds0) (ho : o ≤ n) (hoi : oi = (o : Int)) :
    WSim out pre n w ds0 (.ok (out (pre ++ sb) ds oi)) (.ok (⟨sb, ds⟩, o)) := by
  subst hoi
  exact ⟨hsb, ho, hds, rfl⟩

end sim

theorem wAll_nil (s : WS × Nat) : wAll [] s = .ok s := rfl
theorem wAll_cons (f : WStep) (fs : List WStep) (s : WS × Nat) : wAll (f :: fs) s = (f s).bind (wAll fs) := rfl
theorem wAll_append (a b : List WStep) (s : WS × Nat) : wAll (a ++ b) s = (wAll a s).bind (wAll b) := by
  induction a generalizing s with
  | nil => rfl
  | cons f fs ih =>
    simp only [List.cons_append, wAll_cons, Out.bind_assoc]
    congr 1; funext s'; exact ih s'

/-- the string writer without a no-copy writer, the slice `b[off:]` existing -/
theorem writeStringNocopy_plain (thr : Nat) (b : Bytes) (ds : Directs) (o : Nat) (v : Bytes) (h : o ≤ b.length) :
    writeStringNocopy thr false ⟨b, ds⟩ o v =
      (put32 b o v.length).bind fun b1 => (copyAt b1 (o + 4) v).bind fun r => .ok (⟨r.1, ds⟩, 4 + r.2) := by
  have c : ¬ o > b.length := by omega
  simp only [writeStringNocopy, writeString, c, if_false, Bool.not_false, Bool.true_or, if_true, Out.bind_eq, Out.pure_eq]

theorem be32_len (v : Bytes) : be32 v.length = be32 (ofInt 32 (wrap .u32 (len v))) := by
  rw [ofInt_wrap 32 .u32 _ (by decide)]; exact (be32_ofInt_nat _).symm

/-! ### walking a translated writer -/

/-- an offset expression of the generated code is the model's offset: `wrap`s removed by range, then arithmetic -/
macro "off_tac" : tactic => `(tactic| first
  | (simp (disch := omega) only [wrap_i64_of_range]; first | omega | rfl)
  | omega
  | rfl)

/-- a stored value of the generated code is the model's -/
syntax "fw_val" : tactic
macro_rules | `(tactic| fw_val) => `(tactic| first
  | rfl
  | decide
  | exact be32_len _
  | (rw [ofInt_wrap 32 .u32 _ (by decide)])
  | (rw [ofInt_wrap 16 .u16 _ (by decide)]))

/-- both sides in the form the step lemmas expect: statement lists of the model unfolded to primitives, binds
    right-nested, values substituted -/
macro "fw_norm" : tactic => `(tactic| try (simp only [Out.bind_ok, Out.bind_eq, Out.pure_eq, Out.bind_assoc, wAll_nil, wAll_cons, wAll_append,
  stFieldBegin, stStr, stMapBegin, stI32, stStop, List.cons_append, List.nil_append]))

/-- one statement of the generated writer: the step lemma whose primitive is at the head of the goal (one rule for each,
    next to the lemma), then `fw_norm`. The context keeps ONE fact of each kind under a fixed name (`hsb`: length of the
    current buffer, `hbd`: the latest bound on the offset, `hds`: the recorder invariant; older ones are cleared: `omega`
    slows down badly otherwise). -/
syntax "fw_step" : tactic

section
set_option hygiene false

macro_rules | `(tactic| fw_step) => `(tactic| (
  refine sim_ret hsb hds ?_ ?_
  · omega
  · off_tac))
macro_rules | `(tactic| fw_step) => `(tactic| (
  refine sim_copy hsb ?_ ?_
  · off_tac
  clear hsb; (try clear hbd); intro sb k hsb hbd hc; simp only [hc]; clear hc; fw_norm))
macro_rules | `(tactic| fw_step) => `(tactic| (
  refine sim_put32 hsb ?_ ?_ ?_
  · off_tac
  · fw_val
  clear hsb; (try clear hbd); intro sb hsb hbd; fw_norm))
macro_rules | `(tactic| fw_step) => `(tactic| (
  refine sim_put16 hsb ?_ ?_ ?_
  · off_tac
  · fw_val
  clear hsb; (try clear hbd); intro sb hsb hbd; fw_norm))
macro_rules | `(tactic| fw_step) => `(tactic| (
  refine sim_set0 hsb ?_ ?_ ?_ ?_
  · off_tac
  · omega
  · fw_val
  clear hsb; (try clear hbd); intro sb hsb hbd; fw_norm))
-- the offset expression of the statement is replaced by the model's offset in what follows, so that the offsets stay
-- one `wrap` deep
macro_rules | `(tactic| fw_step) => `(tactic| (
  refine sim_set hsb ?_ ?_ ?_
  · off_tac
  · fw_val
  clear hsb; (try clear hbd); intro sb hsb hbd hoff; (try (rw [hoff])); clear hoff; fw_norm))

end

-- the step lemmas are selected by unification with the head primitive of the goal: a mismatch must fail at once and not
-- by unfolding both primitives
attribute [local irreducible] vset vfrom vputU16 vputU32 putByte put16 put32 copyAt writeStringNocopy

/-- (*ApplicationException).FastWrite on the view `(pre ++ sb, pre.length)` against the model `fastWriteAppEx` on `sb` -/
theorem AppEx_FastWrite_sim (e : Funcs.S_thrift_ApplicationException) (pre sb : Bytes)
    (hlen : (pre ++ sb).length < 2 ^ 62) :
    WSim (fun B _ k => (B, k)) pre sb.length false []
      (Funcs.AppEx_FastWrite e (pre ++ sb) ((pre.length + 0 : Nat) : Int)) (fastWriteAppEx (toAppEx e) sb) := by
  have hn : pre.length + sb.length < 2 ^ 62 := by simpa using hlen
  have hds : false = false → ([] : Directs) = [] := fun _ => rfl
  clear hlen
  generalize hsb : sb.length = n at hn ⊢
  unfold Funcs.AppEx_FastWrite fastWriteAppEx
  simp only [Funcs.Binary_WriteFieldBegin, Funcs.Binary_WriteString, Funcs.Binary_WriteI32, Funcs.Binary_WriteByte, toAppEx]
  fw_norm
  repeat fw_step
  rw [writeStringNocopy_plain _ _ _ _ _ (by omega)]
  fw_norm
  repeat fw_step

theorem bind_id_ws (y : TOut (WS × Nat)) : (y.bind fun r => .ok (⟨[] ++ r.1.buf, r.1.ds⟩, r.2)) = y := by
  cases y <;> rfl

/-- result `(b', n)` of a translated struct writer called on a whole slice, as the model's `(WS, n)`: the buffer
    afterwards and nothing recorded by the (nil) no-copy writer -/
def liftWS (x : GM (Bytes × Int)) : TOut (WS × Nat) :=
  match x with
  | .ok r => .ok (⟨r.1, []⟩, r.2.toNat)
  | .panic s => .panic s
  | .oob => .oob
  | .err e => nomatch e

/-- the outcome `(b', n)` of a writer without a no-copy writer, from the simulation -/
theorem WSim.lifts {pre : Bytes} {n : Nat} {x : GM (Bytes × Int)} {y : TOut (WS × Nat)}
    (h : WSim (fun B _ k => (B, k)) pre n false [] x y) :
    liftWS x = (y.bind fun r => .ok (⟨pre ++ r.1.buf, r.1.ds⟩, r.2)) ∧
      liftW x = y.bind fun r => .ok (pre ++ r.1.buf, r.2) := by
  cases y with
  | ok r =>
    obtain ⟨_, _, hds, rfl⟩ := h
    obtain ⟨⟨rb, rds⟩, rn⟩ := r
    cases hds rfl
    simp only [liftWS, liftW, Out.bind_ok, Int.toNat_natCast, and_self]
  | panic s => subst h; exact ⟨rfl, rfl⟩
  | err te => exact h.elim
  | oob => exact h.elim

/-- `e.FastWrite(b)` translated from the Go source IS the model `fastWriteAppEx e b` -/
theorem AppEx_FastWrite_eq0 (e : Funcs.S_thrift_ApplicationException) (b : Bytes) (hlen : b.length < 2 ^ 62) :
    liftWS (Funcs.AppEx_FastWrite e b 0) = fastWriteAppEx (toAppEx e) b := by
  have h := (AppEx_FastWrite_sim e [] b (by simpa using hlen)).lifts.1
  rw [bind_id_ws] at h
  exact h

theorem AppEx_FastWrite_eq (e : Funcs.S_thrift_ApplicationException) (b : Bytes) (off : Nat) (h : off ≤ b.length)
    (hlen : b.length < 2 ^ 62) :
    liftW (Funcs.AppEx_FastWrite e b (off : Int)) =
      (fastWriteAppEx (toAppEx e) (b.drop off)).bind fun r => .ok (b.take off ++ r.1.buf, r.2) := by
  have hv := (AppEx_FastWrite_sim e (b.take off) (b.drop off) (by rw [List.take_append_drop]; exact hlen)).lifts.2
  rw [List.take_append_drop, List.length_take, Nat.min_eq_left h] at hv
  exact hv

/-! ## the generated functions compute (non-vacuity) -/

/-- `RR` as a tuple (it has no `DecidableEq`) -/
def rrT {A : Type} (x : TOut (RR A)) : TOut (A × Nat × Option TErr) := x.bind fun r => .ok (r.p, r.off, r.err)

-- BaseResp{1: "A", 2: 7, 9: i16 (unknown, skipped), 3: {"k": "v"}} STOP, with and without the span cache
example : Funcs.BaseResp_FastRead true 120 ⟨[], 0, none⟩
    [11, 0, 1, 0, 0, 0, 1, 65,  8, 0, 2, 0, 0, 0, 7,  6, 0, 9, 1, 2,
     13, 0, 3, 11, 11, 0, 0, 0, 1, 0, 0, 0, 1, 107, 0, 0, 0, 1, 118,  0] =
    .ok (⟨[65], 7, some [([107], [118])]⟩, 40, GoErr.nil) := by decide +kernel
example : Funcs.BaseResp_FastRead false 120 ⟨[], 0, none⟩
    [11, 0, 1, 0, 0, 0, 1, 65,  8, 0, 2, 0, 0, 0, 7,  6, 0, 9, 1, 2,  0] =
    .ok (⟨[65], 7, none⟩, 21, GoErr.nil) := by decide +kernel
-- a truncated field: StatusCode with 2 of 4 bytes; `off` has the 3 header bytes, the struct keeps what was read before
example : Funcs.BaseResp_FastRead true 120 ⟨[9], 5, none⟩ [11, 0, 1, 0, 0, 0, 1, 65,  8, 0, 2, 0, 0] =
    .ok (⟨[65], 0, none⟩, 11, GoErr.pe 1 "") := by decide +kernel
-- field id 257 = 0x0101 of type STRING: the low byte is the id of StatusMessage, the key 0x0001010B is not 267: skipped
example : Funcs.BaseResp_FastRead true 120 ⟨[9], 5, none⟩ [11, 1, 1, 0, 0, 0, 1, 65,  0] =
    .ok (⟨[9], 5, none⟩, 9, GoErr.nil) := by decide +kernel
example : rrT (fastReadBaseResp ⟨[9], 5, none⟩ [11, 1, 1, 0, 0, 0, 1, 65,  0]) = .ok (⟨[9], 5, none⟩, 9, none) := by
  decide +kernel
-- a negative field id (0xFF01) with type STRING and a type byte ≥ 128 with id 1: both sign extensions, skipped / error
example : Funcs.BaseResp_FastRead true 120 ⟨[9], 5, none⟩ [11, 255, 1, 0, 0, 0, 1, 65,  0] =
    .ok (⟨[9], 5, none⟩, 9, GoErr.nil) := by decide +kernel
example : rrT (liftFR toBaseResp (Funcs.BaseResp_FastRead true 120 ⟨[9], 5, none⟩ [139, 0, 1, 0, 0, 0, 1, 65,  0])) =
    .ok (⟨[9], 5, none⟩, 3, some (.pe 1)) := by decide +kernel
-- a map with a repeated key: the Go map keeps the last value; the translated association list denotes that map
example : Funcs.BaseResp_FastRead true 120 ⟨[], 0, none⟩
    [13, 0, 3, 11, 11, 0, 0, 0, 2,  0, 0, 0, 1, 65, 0, 0, 0, 1, 66,  0, 0, 0, 1, 65, 0, 0, 0, 1, 67,  0] =
    .ok (⟨[], 0, some [([65], [67]), ([65], [66])]⟩, 30, GoErr.nil) := by decide +kernel
example : toBaseResp ⟨[], 0, some [([65], [67]), ([65], [66])]⟩ = ⟨[], 0, some [([65], [67])]⟩ := by decide +kernel
-- a map header announcing 2^32-1 entries on a short buffer: the entry loop stops at the first short string
example : Funcs.BaseResp_FastRead true 120 ⟨[], 0, none⟩ [13, 0, 3, 11, 11, 255, 255, 255, 255,  0, 0] =
    .ok (⟨[], 0, some []⟩, 9, GoErr.pe 1 "") := by decide +kernel
-- the one place where the model says less: next to an error of `Skip` the Go code reports `off + l` with the partial
-- length `l` that `Skip` returned (here 3 + 7, beyond the buffer), the model reports `off`
example : Funcs.BaseResp_FastRead true 120 ⟨[], 0, none⟩ [12, 0, 9, 8, 0, 1, 0] =
    .ok (⟨[], 0, none⟩, 10, GoErr.pe 1 "") := by decide +kernel
example : rrT (fastReadBaseResp ⟨[], 0, none⟩ [12, 0, 9, 8, 0, 1, 0]) = .ok (⟨[], 0, none⟩, 3, some (.pe 1)) := by
  decide +kernel
-- fuel exhausted (excluded by `b.length + 70 ≤ fuel`)
example : Funcs.BaseResp_FastRead true 1 ⟨[], 0, none⟩ [8, 0, 2, 0, 0, 0, 7, 0] = .panic "nofuel" := by decide +kernel

-- Base{1: "a", 2: "b", 3: "c", 6: {}} and an unknown bool field
example : Funcs.Base_FastRead true 120 ⟨[], [], [], none⟩
    [11, 0, 1, 0, 0, 0, 1, 97,  11, 0, 2, 0, 0, 0, 1, 98,  11, 0, 3, 0, 0, 0, 1, 99,  2, 0, 4, 1,
     13, 0, 6, 11, 11, 0, 0, 0, 0,  0] =
    .ok (⟨[97], [98], [99], some []⟩, 38, GoErr.nil) := by decide +kernel
-- id 6 with type STRING is not the Extra field (key 1547, not 1549): skipped
example : Funcs.Base_FastRead false 120 ⟨[1], [2], [3], none⟩ [11, 0, 6, 0, 0, 0, 0,  0] =
    .ok (⟨[1], [2], [3], none⟩, 8, GoErr.nil) := by decide +kernel
-- negative string length in Caller
example : Funcs.Base_FastRead false 120 ⟨[1], [2], [3], none⟩ [11, 0, 2, 255, 255, 255, 255] =
    .ok (⟨[1], [], [3], none⟩, 3, GoErr.pe 2 "") := by decide +kernel

-- ApplicationException{1: "hi", 2: 6}; on an error `off` stays in front of the value
example : Funcs.AppEx_FastRead true 120 ⟨0, []⟩ [11, 0, 1, 0, 0, 0, 2, 104, 105,  8, 0, 2, 0, 0, 0, 6,  0] =
    .ok (⟨6, [104, 105]⟩, 17, GoErr.nil) := by decide +kernel
example : Funcs.AppEx_FastRead true 120 ⟨3, [1]⟩ [11, 0, 1, 0, 0, 0, 2, 104] =
    .ok (⟨3, []⟩, 3, GoErr.pe 1 "ReadString: buf too small") := by decide +kernel
example : Funcs.AppEx_BLength ⟨6, [104, 105]⟩ = .ok 17 := by decide +kernel
example : Funcs.AppEx_FastWrite ⟨6, [104, 105]⟩ (List.replicate 19 9) 1 =
    .ok ([9, 11, 0, 1, 0, 0, 0, 2, 104, 105, 8, 0, 2, 0, 0, 0, 6, 0, 9], 17) := by decide +kernel
-- a buffer one byte short: the STOP byte is an index panic; `copy` truncates silently before that
example : Funcs.AppEx_FastWrite ⟨6, [104, 105]⟩ (List.replicate 16 9) 0 = .panic "index" := by decide +kernel
example : (fastWriteAppEx ⟨6, [104, 105]⟩ (List.replicate 16 9)).bind (fun r => .ok r.2) = .panic "index" := by
  decide +kernel

end Verif.FuncsEq
