/-
  Lemmas/Funcs/Base: shared definitions and arithmetic lemmas for the equivalence theorems between the
  functions TRANSLATED from the Go source on every run (`Verif.Gen.Funcs`, namespace `Verif.Funcs`) and the
  hand-written model functions that the property theorems are about.

  Conventions
  * `absErr` maps the Go error values of a translated function to the models' canonical `TErr`
    (a package-level `NewProtocolException(id, msg)` value is `pe id`: the text is only compared in C18).
  * `liftRd` turns the result `(v, l, err)` of a translated reader into the models' `BOut (α × Nat)`:
    `ok (v, l)` when `err == nil`, `err (absErr err, l)` otherwise (the models keep the partial length that Go returns
    next to an error); panics are carried over with their kind.
  * `liftW` turns the result `(whole', n)` of a translated in-place writer over the view `(whole, off)` into the models'
    `TOut (Bytes × Nat)`.
  * Go integer arguments are `Int`s in the range of their static type: the theorems carry `InRange t x` hypotheses for
    them (a typing invariant of every Go caller, not a restriction).
-/
import Verif.Gen.Funcs
import Verif.Model.Wire
import Verif.Lemmas.Funcs.Attr
namespace Verif.FuncsEq
open Verif Verif.GoSem

/-- the models' canonical error for a Go error value produced by a translated function -/
def absErr : GoErr → TErr
  | .pe id _ => .pe id
  | .nil => .pe 0
  | .named _ => .pe 0

/-- result of a translated buffer reader `(v, l, err)` as the models' `BOut` -/
def liftRd {α : Type} (x : GM (α × Int × GoErr)) : Wire.BOut (α × Nat) :=
  match x with
  | .ok r => if r.2.2 = .nil then .ok (r.1, r.2.1.toNat) else .err (absErr r.2.2, r.2.1.toNat)
  | .panic s => .panic s
  | .oob => .oob
  | .err e => nomatch e

/-- result of a translated in-place writer `(whole', n)` as the models' `TOut` -/
def liftW (x : GM (Bytes × Int)) : TOut (Bytes × Nat) :=
  match x with
  | .ok r => .ok (r.1, r.2.toNat)
  | .panic s => .panic s
  | .oob => .oob
  | .err e => nomatch e

/-- a translated function that cannot fail with an error value, as a model outcome over any error type -/
def liftP {ε α : Type} (x : GM α) : Out ε α :=
  match x with
  | .ok r => .ok r
  | .panic s => .panic s
  | .oob => .oob
  | .err e => nomatch e

/-! ## `wrap` against the models' signed views and `ofInt` -/

theorem emod_cast (n : Nat) (m : Nat) (h : n < m) : ((n : Int) % (m : Int)) = n :=
  Int.emod_eq_of_lt (by omega) (by omega)

theorem toU_ofInt (bits : Nat) (x : Int) : toU bits x = (ofInt bits x : Nat) := by
  unfold toU ofInt
  have : 0 ≤ x % ((2 ^ bits : Nat) : Int) := Int.emod_nonneg _ (by have := Nat.two_pow_pos bits; omega)
  omega

theorem wrap_signed_nat (t : IT) (hs : t.signed = true) (n : Nat) (h : n < 2 ^ t.bits) :
    wrap t (n : Int) = if n < 2 ^ (t.bits - 1) then (n : Int) else (n : Int) - (2 ^ t.bits : Nat) := by
  have e : toU t.bits (n : Int) = n := toU_of_range (by omega) (by exact_mod_cast h)
  unfold wrap
  simp only [e, hs, Bool.true_and, decide_eq_true_eq]
  split <;> split <;> omega

theorem wrap_i8_nat (n : Nat) (h : n < 256) : wrap .i8 (n : Int) = toI8 n := wrap_signed_nat .i8 rfl n h
theorem wrap_i16_nat (n : Nat) (h : n < 65536) : wrap .i16 (n : Int) = toI16 n := wrap_signed_nat .i16 rfl n h
theorem wrap_i32_nat (n : Nat) (h : n < 4294967296) : wrap .i32 (n : Int) = toI32 n := wrap_signed_nat .i32 rfl n h
theorem wrap_i64_nat (n : Nat) (h : n < 18446744073709551616) : wrap .i64 (n : Int) = toI64 n :=
  wrap_signed_nat .i64 rfl n h

theorem wrap_u8 (x : Int) : wrap .u8 x = (ofInt 8 x : Nat) := toU_ofInt 8 x
theorem wrap_u16 (x : Int) : wrap .u16 x = (ofInt 16 x : Nat) := toU_ofInt 16 x
theorem wrap_u32 (x : Int) : wrap .u32 x = (ofInt 32 x : Nat) := toU_ofInt 32 x
theorem wrap_u64 (x : Int) : wrap .u64 x = (ofInt 64 x : Nat) := toU_ofInt 64 x

attribute [writer_simp] wrap_i64_of_range

theorem toI32_range (n : Nat) (h : n < 4294967296) : -2147483648 ≤ toI32 n ∧ toI32 n < 2147483648 := by
  unfold toI32; split <;> omega

/-- Go's `|`, `&`, `^` commute: a refactoring that swaps the operands changes the generated term, not its value -/
theorem bor_comm (t : IT) (a b : Int) : bor t a b = bor t b a := by unfold bor; rw [Nat.or_comm]
theorem band_comm (t : IT) (a b : Int) : band t a b = band t b a := by unfold band; rw [Nat.and_comm]
theorem bxor_comm (t : IT) (a b : Int) : bxor t a b = bxor t b a := by unfold bxor; rw [Nat.xor_comm]

theorem mapEntriesL_nodup (l : List (Bytes × Bytes)) : ((mapEntriesL l).map Prod.fst).Nodup := by
  induction l with
  | nil => simp [mapEntriesL]
  | cons x r ih =>
    simp only [mapEntriesL, List.map_cons, List.nodup_cons]
    constructor
    · simp only [List.mem_map, List.mem_filter]
      rintro ⟨y, ⟨_, hy⟩, h⟩
      simp [h] at hy
    · exact (ih.sublist ((List.filter_sublist).map _))

theorem set_at_length {α : Type} (l : List α) (x y : α) (rest : List α) :
    (l ++ x :: rest).set l.length y = l ++ y :: rest := by
  induction l with
  | nil => rfl
  | cons a l ih => simp [ih]

theorem byteOf_eq (x : Int) : byteOf x = UInt8.ofNat (ofInt 8 x) := by
  unfold byteOf; rw [toU_ofInt]; simp

theorem toI8_eq_zero (x : UInt8) : toI8 x.toNat = 0 ↔ x = 0 := by
  have := x.toNat_lt
  constructor
  · intro h
    have : x.toNat = (0 : UInt8).toNat := by
      unfold toI8 at h; simp; split at h <;> omega
    exact UInt8.toNat_inj.mp this
  · intro h; subst h; simp [toI8]

theorem sliceFrom_ok (b : Bytes) (lo : Int) (h0 : 0 ≤ lo) (h1 : lo ≤ (b.length : Int)) :
    sliceFrom b lo = .ok (b.drop lo.toNat) := by
  have : ¬ (lo < 0 ∨ lo > (b.length : Int)) := by omega
  simp [sliceFrom, len, this]

/-- `b[lo:hi]` in the models' form `(b.drop lo).take (hi - lo)` -/
theorem slice_ok (b : Bytes) (lo hi : Int) (h0 : 0 ≤ lo) (h1 : lo ≤ hi) (h2 : hi ≤ (b.length : Int)) :
    slice b lo hi = .ok ((b.drop lo.toNat).take (hi.toNat - lo.toNat)) := by
  have hn : ¬ (hi < 0 ∨ hi > (b.length : Int)) := by omega
  have hm : ¬ (lo < 0 ∨ lo > hi) := by omega
  simp [slice, len, hn, hm, List.drop_take]

theorem beU16_ok (b : Bytes) (h : 2 ≤ b.length) : beU16 b = .ok (rd16 b : Int) := if_neg (by omega)
theorem beU32_ok (b : Bytes) (h : 4 ≤ b.length) : beU32 b = .ok (rd32 b : Int) := if_neg (by omega)
theorem beU64_ok (b : Bytes) (h : 8 ≤ b.length) : beU64 b = .ok (rd64 b : Int) := if_neg (by omega)

/-! ## shape-robust simplification

  `go_simp [lemmas]` is `simp [lemmas]` in which every `if c then … else …` whose condition is linear arithmetic
  (over `Nat` lengths or their `Int` casts, in any syntactic form: `len b < 5`, `5 ≤ len b`, `¬ …`, `len b - off ≥ 1` …)
  is decided by `omega` from the hypotheses IN THE CONTEXT.  A proof therefore states its case split semantically
  (`by_cases h : b.length < 5`) and never refers to the position or the polarity of the guard in the generated
  definition: an inverted guard, a hoisted local or a commuted sum in the Go source leaves the proof unchanged.
  `omega` is also the discharger of every other conditional rewrite rule (`wrap_i64_of_range`, `idx_ok` …); closed side
  conditions such as `64 ≤ IT.bits .i64` are evaluated (`go_disch`).
  (`len` is unfolded with `unfold` first, not by `simp`: a guard is `decide (len b < 5) = true`, and `simp [len]` leaves
  the `Decidable` instance behind, after which `decide_eq_true_eq` no longer unifies.) -/

/-- the discharger of `go_simp`: linear arithmetic from the context, or a closed width comparison `64 ≤ IT.bits .i64` -/
macro "go_disch" : tactic => `(tactic| first | omega | (show _ ≤ IT.bits _; decide))

syntax "go_simp" (" [" Lean.Parser.Tactic.simpLemma,* "]")? : tactic
macro_rules
  | `(tactic| go_simp) =>
    `(tactic| (
      (try unfold len)
      simp (disch := go_disch) [if_pos, if_neg, Out.bind_ok, Out.bind_panic, Out.pure_eq, Out.bind_eq]))
  | `(tactic| go_simp [$ls,*]) =>
    `(tactic| (
      (try unfold len)
      simp (disch := go_disch) [if_pos, if_neg, Out.bind_ok, Out.bind_panic, Out.pure_eq, Out.bind_eq, $ls,*]))

/-! ## execution order

  As local `congr` rules these make `simp` treat `x.bind f` and `if c then a else b` like an interpreter: the rest `f` of a
  program is entered only with the value `x` is bound to (when `Out.bind_ok` has fired), a branch only once its
  condition is decided.  Under the binder of `f` nothing is known about the bound value: every conditional rule is
  tried there, its side condition fails, and the work is repeated when the value arrives.
  (`simp` falls back to its default congruence when the rule changes nothing, and when a rule proved by `rfl` fires
  inside `x`: the equation it then builds is compared up to reducible unfolding only.  Rules meant for that position
  are therefore proved by a tactic: `len_eq`, `bw_fill_ok`.) -/

theorem bind_congr_arg {ε α β : Type} {x x' : Out ε α} (f : α → Out ε β) (h : x = x') : x.bind f = x'.bind f := by
  rw [h]

theorem ite_congr_cond {α : Sort _} {c c' : Prop} [Decidable c] [Decidable c'] (a b : α) (h : c = c') :
    ite c a b = ite c' a b := by
  subst h; congr

/- `if_true`, `if_false` first: a condition already rewritten to `True` needs no discharger -/
attribute [writer_simp high] if_true if_false
attribute [writer_simp] if_pos if_neg eq_self ne_eq true_and not_true_eq_false not_false_eq_true decide_true decide_false
  Bool.false_eq_true Bool.not_true Bool.not_false Out.bind_ok Out.bind_panic Out.bind_err Out.pure_eq Int.toNat_natCast
  Nat.add_zero Nat.zero_add Nat.add_assoc
attribute [writer_simp ↓] Out.bind_eq

/-- both readings of `ofInt`/`wrap` after a value-preserving round trip through another integer type of at least the
    same width (`uint64(int64(x))`, `int32(int64(x))` …): the low bits are unchanged -/
theorem toU_wrap (n : Nat) (t : IT) (x : Int) (h : n ≤ t.bits) : toU n (wrap t x) = toU n x := by
  have hd : ((2 ^ n : Nat) : Int) ∣ ((2 ^ t.bits : Nat) : Int) := by
    refine Int.natCast_dvd_natCast.mpr ?_
    exact Nat.pow_dvd_pow 2 h
  unfold wrap toU
  simp only
  split
  · rw [Int.sub_emod, Int.emod_emod_of_dvd _ hd, Int.emod_eq_zero_of_dvd hd]
    simp [Int.emod_emod_of_dvd]
  · exact Int.emod_emod_of_dvd _ hd

@[writer_simp low] theorem ofInt_wrap (n : Nat) (t : IT) (x : Int) (h : n ≤ t.bits) : ofInt n (wrap t x) = ofInt n x := by
  have e := toU_wrap n t x h
  rw [toU_ofInt, toU_ofInt] at e
  omega

theorem wrap_congr_toU (t : IT) (x y : Int) (h : toU t.bits x = toU t.bits y) : wrap t x = wrap t y := by
  unfold wrap; simp only [h]

@[writer_simp] theorem wrap_wrap (t t' : IT) (x : Int) (h : t.bits ≤ t'.bits) : wrap t (wrap t' x) = wrap t x :=
  wrap_congr_toU t _ _ (toU_wrap t.bits t' x h)

theorem byteOf_wrap (t : IT) (x : Int) : byteOf (wrap t x) = byteOf x := by
  unfold byteOf
  rw [toU_wrap 8 t x (by cases t <;> decide)]

/-- closes `f a₁ … aₙ = f a₁' … aₙ'` where corresponding arguments are syntactically equal or arithmetically equal
    (`Nat`/`Int` expressions, `min` included): no dependence on how a sum is associated or ordered -/
macro "congr_omega" : tactic => `(tactic| repeat' (first | with_reducible rfl | omega | with_reducible congr 1))

end Verif.FuncsEq
