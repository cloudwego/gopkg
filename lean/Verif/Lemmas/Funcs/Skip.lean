/-
  Lemmas/Funcs/Skip: `BinaryProtocol.Skip` / `skipType` (self-recursive, three `for` loops) / `skipstr` / `p2i32`
  TRANSLATED from protocol/thrift/binary.go and utils.go (`Verif.Funcs.Binary_Skip`, `thrift_skipType[_loop1/2/3]`,
  `thrift_skipstr`, `thrift_p2i32`, `tbl_typeToSize`: generated) are the hand-written model `skipBin` (Model/Skip.lean).

    Binary_Skip_eq : b.length < 2^62 → b.length + 70 ≤ fuel →
        liftSkip (Funcs.Binary_Skip fuel b (toI8 t.toNat)) = skipBin b t

  Outcomes are compared in full: result length, error value (`absErr`), Go panics and out-of-bounds pointer loads
  (`oob`) are carried over unchanged.  The loop lemmas (`listLoop_sim`, `mapLoop_sim`, `structLoop_sim`) are about ANY
  function with the loop's step equation, by induction on the fuel: an iteration that does not return consumes ≥ 1 byte,
  so `remaining + 1` iterations suffice on both sides (the model's STRUCT loop has its own fuel `b.length + 1`); a counter
  enters only through `Iter cond next j cnt` (it makes exactly `cnt` more iterations).  No statement mentions a generated
  loop function: the step equation is proved where the loop is called, by unfolding both sides to the same program.
  `skipType` is taken one tag at a time, each case with the truth of EVERY test of the `switch` in hand, so that the order
  of its clauses does not matter.
  Facts used about the model beyond its definition: `typeToSize_eq_fixed` (Lemmas/TypeSize: the table lookup is total,
  value `fixedSize t` ≤ 8) and `skipBinAt_matches` (Lemmas/SkipBin): a successful `skipBinAt` returns between 1 and the
  remaining number of bytes (needed so that `i + n` cannot wrap and the fuel suffices).
-/
import Verif.Lemmas.Funcs.Base
import Verif.Model.Skip
import Verif.Lemmas.TypeSize
import Verif.Lemmas.SkipBin
set_option linter.unusedSimpArgs false
namespace Verif.FuncsEq
open Verif Verif.GoSem

/-- result `(n, err)` of the translated skipper as the model's `TOut Nat` (the partial length next to an error is not
    modelled) -/
def liftSkip (x : GM (Int × GoErr)) : TOut Nat :=
  match x with
  | .ok r => if r.2 = .nil then .ok r.1.toNat else .err (absErr r.2)
  | .panic s => .panic s
  | .oob => .oob
  | .err e => nomatch e

/-! ## primitives -/

theorem tbl_typeToSize_eq : Funcs.tbl_typeToSize = Facts.typeToSize := by decide +kernel

/-- `typeToSize[uint8(t)]` in the translation: the grammar's fixed size, never a panic -/
theorem tblIdx_fixed (x : UInt8) :
    tblIdx Funcs.tbl_typeToSize (wrap .u8 (toI8 x.toNat)) = .ok ((fixedSize x : Nat) : Int) := by
  have hw : wrap .u8 (toI8 x.toNat) = (x.toNat : Int) := by
    have := x.toNat_lt
    rw [wrap_u8]; unfold ofInt toI8; split <;> omega
  have hx : ¬ ((x.toNat : Int) < 0) := by omega
  rw [hw, tbl_typeToSize_eq, tblIdx, if_neg hx, Int.toNat_natCast, typeToSize_eq_fixed]

/-- `x`, `y`: the operands as the source writes them (literals or variables); `a`, `b`: their values -/
theorem wrap_i64_add (x y : Int) (a b : Nat) (hx : x = a) (hy : y = b) (h : a + b < 2 ^ 63) :
    wrap .i64 (x + y) = ((a + b : Nat) : Int) := by
  rw [wrap_i64_of_range _ (by omega) (by omega), hx, hy, Int.natCast_add]

theorem wrap_i64_size (c x y : Int) (h s a : Nat) (hc : c = h) (hx : x = s) (hy : y = a) (hh : h ≤ 6) (hs : s < 2 ^ 31)
    (ha : a ≤ 16) : wrap .i64 (c + wrap .i64 (x * y)) = ((h + s * a : Nat) : Int) := by
  have hq : s * a ≤ 2 ^ 31 * 16 := Nat.mul_le_mul (by omega) ha
  subst hc hx hy
  rw [← Int.natCast_mul]
  generalize s * a = q at hq
  rw [wrap_i64_of_range (q : Int) (by omega) (by omega), wrap_i64_add _ _ h q rfl rfl (by omega)]

theorem toU32_nat (n : Nat) (h : n < 4294967296) : (toU (IT.bits .u32) (n : Int)).toNat = n := by
  rw [toU, emod_cast n (2 ^ IT.bits .u32) h, Int.toNat_natCast]

theorem wrap_u32_nat (n : Nat) (h : n < 4294967296) : wrap .u32 (n : Int) = (n : Int) := by
  rw [wrap_u32, ofInt, emod_cast n (2 ^ 32) h, Int.toNat_natCast]

theorem bor_u32_nat (x y : Nat) (hx : x < 4294967296) (hy : y < 4294967296) :
    bor .u32 (x : Int) (y : Int) = ((x ||| y : Nat) : Int) := by
  unfold bor
  rw [toU32_nat x hx, toU32_nat y hy]
  exact wrap_u32_nat _ (Nat.or_lt_two_pow (n := 32) hx hy)

theorem shl_u32_nat (x k : Nat) (h : x * 2 ^ k < 4294967296) : shl .u32 (x : Int) k = ((x * 2 ^ k : Nat) : Int) := by
  rw [shl, ← Int.natCast_mul, wrap_u32_nat _ h]

theorem bor_shl_u32 (x y k m : Nat) (hm : m = 2 ^ k) (hx : x < m) (hy : y * m + x < 4294967296) :
    bor .u32 (x : Int) (shl .u32 (y : Int) k) = ((y * m + x : Nat) : Int) := by
  subst hm
  rw [shl_u32_nat y k (by omega), bor_u32_nat x _ (by omega) (by omega), Nat.or_comm, Nat.mul_comm,
    ← Nat.two_pow_add_eq_or_of_lt hx]

theorem toU_lt (n : Nat) (x : Int) : (toU n x).toNat < 2 ^ n := by
  have h : (0 : Int) < ((2 ^ n : Nat) : Int) := by have := Nat.two_pow_pos n; omega
  have := Int.emod_lt_of_pos x h
  have := Int.emod_nonneg x (Int.ne_of_gt h)
  unfold toU; omega

theorem toU_bor (t : IT) (a b : Int) :
    (toU t.bits (bor t a b)).toNat = (toU t.bits a).toNat ||| (toU t.bits b).toNat := by
  rw [bor, toU_wrap _ _ _ (Nat.le_refl _), toU, Int.ofNat_eq_natCast,
    emod_cast _ _ (Nat.or_lt_two_pow (toU_lt _ a) (toU_lt _ b)), Int.toNat_natCast]

theorem bor_assoc (t : IT) (a b c : Int) : bor t (bor t a b) c = bor t a (bor t b c) := by
  rw [bor, toU_bor, bor, toU_bor, Nat.or_assoc]

theorem bor_left_comm (t : IT) (a b c : Int) : bor t a (bor t b c) = bor t b (bor t a c) := by
  rw [← bor_assoc, bor_comm t a b, bor_assoc]

/-- callers normalise their `|` with `bor_comm`, `bor_assoc`, `bor_left_comm` first -/
theorem bor_shl_bytes (a c d e : Nat) (ha : a < 256) (hc : c < 256) (hd : d < 256) (he : e < 256) :
    wrap .i32 (bor .u32 (bor .u32 (bor .u32 (e : Int) (shl .u32 (d : Int) 8)) (shl .u32 (c : Int) 16))
      (shl .u32 (a : Int) 24)) = toI32 (a * 16777216 + c * 65536 + d * 256 + e) := by
  rw [bor_shl_u32 e d 8 256 (by omega) (by omega) (by omega), bor_shl_u32 _ c 16 65536 (by omega) (by omega) (by omega),
    bor_shl_u32 _ a 24 16777216 (by omega) (by omega) (by omega), wrap_i32_nat _ (by omega)]
  exact congrArg toI32 (by omega)

theorem uload_ok (p : Bytes) (k : Nat) (h : k < p.length) : uload p (k : Int) = .ok ((p[k].toNat : Nat) : Int) := by
  have hk : ¬ ((k : Int) < 0) := by omega
  rw [uload, if_neg hk, Int.toNat_natCast, List.getElem?_eq_getElem h]

theorem load_same (p : Bytes) (off i : Nat) (h : off + i < p.length) :
    ∃ x : UInt8, uload p ((off + i : Nat) : Int) = .ok ((x.toNat : Nat) : Int) ∧ load (p.drop off) i = .ok x :=
  ⟨p[off + i], uload_ok p (off + i) h, by rw [load, List.getElem?_drop, List.getElem?_eq_getElem h]⟩

theorem loadI32_drop_ok (p : Bytes) (off i : Nat) (h : off + i + 4 ≤ p.length) :
    loadI32 (p.drop off) i = .ok (toI32 (rd32 (p.drop (off + i)))) := by
  rw [loadI32_ok _ _ (by rw [List.length_drop]; omega), List.drop_drop]

theorem uload_of_drop (p : Bytes) (k j : Nat) (x : UInt8) (h : (p.drop k)[j]? = some x) :
    uload p ((k + j : Nat) : Int) = .ok ((x.toNat : Nat) : Int) := by
  have hk : ¬ (((k + j : Nat) : Int) < 0) := by omega
  rw [uload, if_neg hk, Int.toNat_natCast, ← List.getElem?_drop, h]

theorem p2i32_ok (p : Bytes) (k : Nat) (hk : k < 2 ^ 62) (h : k + 4 ≤ p.length) :
    Funcs.thrift_p2i32 p (k : Int) = .ok (toI32 (rd32 (p.drop k))) := by
  obtain ⟨a, c, d, e, r, hd⟩ : ∃ a c d e r, p.drop k = a :: c :: d :: e :: r := ⟨_, _, _, _, _, drop_cons4 p k h⟩
  have hb := bor_shl_bytes _ _ _ _ a.toNat_lt c.toNat_lt d.toNat_lt e.toNat_lt
  simp only [bor_comm, bor_assoc, bor_left_comm] at hb
  have h0 : uload p (k : Int) = .ok ((a.toNat : Nat) : Int) := uload_of_drop p k 0 a (by rw [hd]; rfl)
  unfold Funcs.thrift_p2i32
  rw [wrap_i64_add _ 3 k 3 rfl rfl (by omega), wrap_i64_add _ 2 k 2 rfl rfl (by omega),
    wrap_i64_add _ 1 k 1 rfl rfl (by omega), uload_of_drop p k 3 e (by rw [hd]; rfl),
    uload_of_drop p k 2 d (by rw [hd]; rfl), uload_of_drop p k 1 c (by rw [hd]; rfl), h0, hd]
  simp only [Out.bind_eq, Out.bind_ok, Out.pure_eq, bor_comm, bor_assoc, bor_left_comm]
  rw [hb]
  rfl

/-! ## the simulation relation between a translated skipper result and the model's -/

inductive Sim : GM (Int × GoErr) → TOut Nat → Prop where
  | ok (m : Nat) : Sim (.ok ((m : Int), GoErr.nil)) (.ok m)
  | err (n : Int) (e : GoErr) (h : e ≠ GoErr.nil) : Sim (.ok (n, e)) (.err (absErr e))
  | panic (s : String) : Sim (.panic s) (.panic s)
  | oob : Sim .oob .oob

theorem Sim.lift {x y} (h : Sim x y) : liftSkip x = y := by
  cases h <;> simp [liftSkip, *]

theorem Sim.short (a : Int) : Sim (.ok (a, GoErr.pe 1 "buffer too short")) (.err errShort) :=
  Sim.err a _ (by decide)

theorem Sim.neg (a : Int) : Sim (.ok (a, GoErr.pe 2 "negative size")) (.err errNeg) :=
  Sim.err a _ (by decide)

theorem Sim.fits (q n : Nat) :
    Sim (if (q : Int) > (n : Int) then .ok (0, GoErr.pe 1 "buffer too short") else .ok ((q : Int), GoErr.nil))
      (if q > n then .err errShort else .ok q) := by
  by_cases h : q > n
  · rw [if_pos h, if_pos (by omega)]; exact Sim.short 0
  · rw [if_neg h, if_neg (by omega)]; exact Sim.ok q

theorem bind_ok_eta {α β : Type} (x : GM (α × β)) : (x.bind fun t => .ok (t.1, t.2)) = x := by
  cases x <;> rfl

/-- `skipstr(p+off+i, e-i)` against `skipStrBin` on `p[off:]` at `i` -/
theorem skipstr_sim (p : Bytes) (off i : Nat) (hp : p.length < 2 ^ 62) (h : off + i ≤ p.length)
    (K E : Int) (hK : K = (off : Int) + (i : Int)) (hE : E = (p.length : Int) - (off : Int) - (i : Int)) :
    Sim (Funcs.thrift_skipstr p K E) (skipStrBin (p.drop off) i) := by
  obtain ⟨r, hr⟩ : ∃ r, off + i + r = p.length := ⟨p.length - (off + i), by omega⟩
  have hE' : E = (r : Int) := by omega
  have hl : (p.drop off).length = i + r := by rw [List.length_drop]; omega
  subst hE' hK
  unfold Funcs.thrift_skipstr skipStrBin
  rw [hl, ← Int.natCast_add]
  by_cases h4 : 4 ≤ r
  · have c1 : (4 : Int) ≤ (r : Int) ∧ ¬ (r : Int) < 4 := by omega
    have c2 : i + 4 ≤ i + r := by omega
    rw [p2i32_ok p (off + i) (by omega) (by omega), loadI32_drop_ok p off i (by omega)]
    simp only [c1, c2, decide_true, decide_false, if_true, if_false, Bool.false_eq_true, Out.bind_eq, Out.bind_ok]
    have hn := toI32_range _ (rd32_lt (p.drop (off + i)))
    generalize toI32 (rd32 (p.drop (off + i))) = n at hn
    by_cases hneg : n < 0
    · simp only [hneg, decide_true, if_true, Out.pure_eq]
      exact Sim.neg 0
    · obtain ⟨s, rfl⟩ := Int.eq_ofNat_of_zero_le (by omega : 0 ≤ n)
      simp only [hneg, decide_false, if_false, Bool.false_eq_true, Int.toNat_natCast, Out.pure_eq,
        wrap_i64_add 4 _ 4 s rfl rfl (by omega), wrap_i64_add _ 4 s 4 rfl rfl (by omega), Nat.add_comm s 4]
      by_cases hfit : 4 + s ≤ r
      · have c3 : ((4 + s : Nat) : Int) ≤ (r : Int) ∧ ¬ ((4 + s : Nat) : Int) > (r : Int) := by omega
        have c4 : i + (4 + s) ≤ i + r := by omega
        simp only [c3, c4, decide_true, decide_false, if_true, if_false, Bool.false_eq_true]
        exact Sim.ok _
      · have c3 : ¬ ((4 + s : Nat) : Int) ≤ (r : Int) ∧ ((4 + s : Nat) : Int) > (r : Int) := by omega
        have c4 : ¬ i + (4 + s) ≤ i + r := by omega
        simp only [c3, c4, decide_true, decide_false, if_true, if_false, Bool.false_eq_true]
        exact Sim.short 0
  · have c1 : ¬ (4 : Int) ≤ (r : Int) ∧ (r : Int) < 4 := by omega
    have c2 : ¬ i + 4 ≤ i + r := by omega
    simp only [c1, c2, decide_true, decide_false, if_true, if_false, Bool.false_eq_true, Out.pure_eq]
    exact Sim.short 0

theorem skipStrBin_bound (b : Bytes) (i m : Nat) (h : skipStrBin b i = .ok m) : 1 ≤ m ∧ i + m ≤ b.length := by
  unfold skipStrBin at h
  by_cases h4 : i + 4 ≤ b.length
  · rw [if_pos h4, loadI32_ok b i h4] at h
    simp only [Out.bind_eq, Out.bind_ok] at h
    split at h
    · cases h
    · split at h
      · cases h; omega
      · cases h
  · rw [if_neg h4] at h; cases h

theorem toI8_eq_tag (t : UInt8) (k : Nat) (hk : k < 128) : toI8 t.toNat = (k : Int) ↔ t = UInt8.ofNat k := by
  have := t.toNat_lt
  have h : t = UInt8.ofNat k ↔ t.toNat = k := by
    rw [← UInt8.toNat_inj]; simp; omega
  rw [h]; unfold toI8; split <;> omega

theorem toI8_eq_0 (t : UInt8) : toI8 t.toNat = 0 ↔ t = T_STOP := toI8_eq_tag t 0 (by decide)
theorem toI8_eq_11 (t : UInt8) : toI8 t.toNat = 11 ↔ t = T_STRING := toI8_eq_tag t 11 (by decide)
theorem toI8_eq_12 (t : UInt8) : toI8 t.toNat = 12 ↔ t = T_STRUCT := toI8_eq_tag t 12 (by decide)
theorem toI8_eq_13 (t : UInt8) : toI8 t.toNat = 13 ↔ t = T_MAP := toI8_eq_tag t 13 (by decide)
theorem toI8_eq_14 (t : UInt8) : toI8 t.toNat = 14 ↔ t = T_SET := toI8_eq_tag t 14 (by decide)
theorem toI8_eq_15 (t : UInt8) : toI8 t.toNat = 15 ↔ t = T_LIST := toI8_eq_tag t 15 (by decide)

/-- the element step that the translated loops inline, in a loop whose error variable holds `err`: fixed size (Go
    tests the loop's `err` after every element, also where none was assigned), `skipstr`, or the recursive call; then
    `if err != nil { return c, err }`, then the rest `k` of the iteration with the element's length and the new `err` -/
def elemK {σ : Type} (rec : Bytes → Int → Int → Int → Int → GM (Int × GoErr)) (p : Bytes) (off e md t sz i : Int)
    (err : GoErr) (c : Int) (k : Int × GoErr → GM (LoopR (Int × GoErr) σ)) : GM (LoopR (Int × GoErr) σ) :=
  if sz > 0 then (if err ≠ GoErr.nil then .ok (LoopR.ret (c, err)) else k (sz, err))
  else if t = 11 then
    (Funcs.thrift_skipstr p (wrap .i64 (off + i)) (wrap .i64 (e - i))).bind fun r =>
      if r.2 ≠ GoErr.nil then .ok (LoopR.ret (c, r.2)) else k r
  else
    (rec p (wrap .i64 (off + i)) (wrap .i64 (e - i)) t (wrap .i64 (md - 1))).bind fun r =>
      if r.2 ≠ GoErr.nil then .ok (LoopR.ret (c, r.2)) else k r

structure RecOK (rec : Bytes → Int → Int → Int → Int → GM (Int × GoErr)) (rec' : Bytes → Nat → UInt8 → TOut Nat)
    (p : Bytes) (off n : Nat) (md : Int) : Prop where
  len : off + n = p.length
  small : p.length < 2 ^ 62
  depth : 0 < md ∧ md ≤ 64
  sim : ∀ (i : Nat) (t : UInt8), i < n →
    Sim (rec p ((off : Int) + (i : Int)) ((n : Int) - (i : Int)) (toI8 t.toNat) (md - 1)) (rec' (p.drop off) i t)
  bound : ∀ (i : Nat) (t : UInt8) (m : Nat), i < n → rec' (p.drop off) i t = .ok m → 1 ≤ m ∧ i + m ≤ n

/-- `fin r m`: leaving the loop as `r` (normally, or by a `return` without error) is the model's `ok m` -/
inductive LSim {σ : Type} (fin : LoopR (Int × GoErr) σ → Nat → Prop) : GM (LoopR (Int × GoErr) σ) → TOut Nat → Prop where
  | ok (r : LoopR (Int × GoErr) σ) (m : Nat) (h : fin r m) : LSim fin (.ok r) (.ok m)
  | err (a : Int) (e : GoErr) (h : e ≠ GoErr.nil) : LSim fin (.ok (LoopR.ret (a, e))) (.err (absErr e))
  | panic (s : String) : LSim fin (.panic s) (.panic s)
  | oob : LSim fin .oob .oob

section loops
variable {rec : Bytes → Int → Int → Int → Int → GM (Int × GoErr)} {rec' : Bytes → Nat → UInt8 → TOut Nat}
  {p : Bytes} {off n : Nat} {md : Int} {σ : Type} {fin : LoopR (Int × GoErr) σ → Nat → Prop}

theorem LSim.finish {X : GM (LoopR (Int × GoErr) σ)} {Y : TOut Nat} (h : LSim fin X Y)
    (K : LoopR (Int × GoErr) σ → GM (Int × GoErr)) (K' : Nat → TOut Nat) (hret : ∀ a, K (LoopR.ret a) = .ok a)
    (hok : ∀ r m, fin r m → Sim (K r) (K' m)) : Sim (X.bind K) (Y.bind K') := by
  cases h with
  | ok r m h => exact hok r m h
  | err a e h => rw [Out.bind_ok, hret]; exact Sim.err a e h
  | panic s => exact Sim.panic s
  | oob => exact Sim.oob

theorem LSim.finish_ok {X : GM (LoopR (Int × GoErr) σ)} {Y : TOut Nat} (h : LSim fin X Y)
    (K : LoopR (Int × GoErr) σ → GM (Int × GoErr)) (hret : ∀ a, K (LoopR.ret a) = .ok a)
    (hok : ∀ r m, fin r m → K r = .ok ((m : Int), GoErr.nil)) : Sim (X.bind K) Y := by
  cases h with
  | ok r m h => rw [Out.bind_ok, hok r m h]; exact Sim.ok m
  | err a e h => rw [Out.bind_ok, hret]; exact Sim.err a e h
  | panic s => exact Sim.panic s
  | oob => exact Sim.oob

theorem Sim.bind_loop {x : GM (Int × GoErr)} {y : TOut Nat} (h : Sim x y) (c : Int)
    (k : Int × GoErr → GM (LoopR (Int × GoErr) σ)) (k' : Nat → TOut Nat)
    (hk : ∀ m : Nat, y = .ok m → LSim fin (k ((m : Int), GoErr.nil)) (k' m)) :
    LSim fin (x.bind fun r => if r.2 ≠ GoErr.nil then .ok (LoopR.ret (c, r.2)) else k r) (y.bind k') := by
  cases h with
  | ok m => simp only [Out.bind_ok, ne_eq, not_true_eq_false, if_false]; exact hk m rfl
  | err a e h => simp only [Out.bind_ok, Out.bind_err, ne_eq, h, not_false_eq_true, if_true]; exact LSim.err c e h
  | panic s => exact LSim.panic s
  | oob => exact LSim.oob

theorem RecOK.length_drop (H : RecOK rec rec' p off n md) : (p.drop off).length = n := by
  have := H.len
  rw [List.length_drop]; omega

theorem LSim.chk (i n : Nat) (a : Int) {x : GM (LoopR (Int × GoErr) σ)} {y : TOut Nat} (h : i < n → LSim fin x y) :
    LSim fin (if (i : Int) ≥ (n : Int) then .ok (LoopR.ret (a, GoErr.pe 1 "buffer too short")) else x)
      (if i ≥ n then .err errShort else y) := by
  by_cases hi : i ≥ n
  · rw [if_pos hi, if_pos (by omega)]; exact LSim.err a _ (by decide)
  · rw [if_neg hi, if_neg (by omega)]; exact h (by omega)

/-- a fixed-size element may reach up to 7 bytes past the end: the next bounds check of the loop catches it -/
theorem RecOK.elem (H : RecOK rec rec' p off n md) (t : UInt8) (i : Nat) (hi : i < n) (c : Int)
    (k : Int × GoErr → GM (LoopR (Int × GoErr) σ)) (k' : Nat → TOut Nat)
    (hk : ∀ m : Nat, 1 ≤ m → i + m ≤ n + 8 → LSim fin (k ((m : Int), GoErr.nil)) (k' m)) :
    LSim fin (elemK rec p off n md (toI8 t.toNat) ((fixedSize t : Nat) : Int) i GoErr.nil c k)
      ((elemBin rec' (p.drop off) i t ((fixedSize t : Nat) : Int)).bind k') := by
  have hlen := H.len
  have hp := H.small
  have hmd := H.depth
  unfold elemK elemBin
  by_cases hs : ((fixedSize t : Nat) : Int) > 0
  · have := fixedSize_le t
    rw [if_pos hs, if_pos hs, if_neg (fun h => h rfl), Int.toNat_natCast, Out.bind_ok]
    exact hk _ (by omega) (by omega)
  · rw [if_neg hs, if_neg hs, wrap_i64_of_range ((off : Int) + (i : Int)) (by omega) (by omega),
      wrap_i64_of_range ((n : Int) - (i : Int)) (by omega) (by omega), wrap_i64_of_range (md - 1) (by omega) (by omega)]
    by_cases ht : t = T_STRING
    · rw [if_pos ((toI8_eq_11 t).mpr ht), if_pos ht]
      refine (skipstr_sim p off i hp (by omega) _ _ rfl (by omega)).bind_loop c k k' fun m hm => ?_
      have := skipStrBin_bound _ _ _ hm
      rw [H.length_drop] at this
      exact hk m this.1 (by omega)
    · rw [if_neg (mt (toI8_eq_11 t).mp ht), if_neg ht]
      refine (H.sim i t hi).bind_loop c k k' fun m hm => ?_
      have := H.bound i t m hi hm
      exact hk m this.1 (by omega)

/-- loop state `(err, i, j)` -/
abbrev atOffset : LoopR (Int × GoErr) (GoErr × Int × Int) → Nat → Prop
  | .done s, m => s.2.1 = (m : Int)
  | .ret _, _ => False

abbrev returned : LoopR (Int × GoErr) (GoErr × Int) → Nat → Prop
  | .ret r, m => r = ((m : Int), GoErr.nil)
  | .done _, _ => False

namespace TplG
def Iter (cond : Int → Bool) (next : Int → Int) : Int → Nat → Prop
  | i, 0 => cond i = false
  | i, c + 1 => cond i = true ∧ Iter cond next (next i) c
end TplG
open TplG (Iter)

theorem iter_up (cond : Int → Bool) (next : Int → Int) (sz : Nat) (hsz : sz < 2 ^ 31)
    (hc : ∀ j, cond j = decide (j < (sz : Int))) (hn : ∀ j, next j = wrap .i32 (j + 1)) :
    ∀ (c j : Nat), j + c = sz → Iter cond next (j : Int) c := by
  intro c
  induction c with
  | zero => intro j hj; rw [Iter, hc]; exact decide_eq_false (by omega)
  | succ c ih =>
    intro j hj
    refine ⟨by rw [hc]; exact decide_eq_true (by omega), ?_⟩
    rw [hn, wrap_i32_of_range _ (by omega) (by omega), ← Int.natCast_one, ← Int.natCast_add]
    exact ih (j + 1) (by omega)

theorem iter_down (cond : Int → Bool) (next : Int → Int) (hc : ∀ j, cond j = decide (j > 0))
    (hn : ∀ j, next j = wrap .i32 (j - 1)) : ∀ (c : Nat), c < 2 ^ 31 → Iter cond next (c : Int) c := by
  intro c
  induction c with
  | zero => intro _; rw [Iter, hc]; exact decide_eq_false (by omega)
  | succ c ih =>
    intro h
    refine ⟨by rw [hc]; exact decide_eq_true (by omega), ?_⟩
    rw [hn, wrap_i32_of_range _ (by omega) (by omega), Int.natCast_add, Int.natCast_one, Int.add_sub_cancel]
    exact ih (by omega)

theorem listLoop_sim (H : RecOK rec rec' p off n md) (vt : UInt8)
    (L : Nat → GoErr → Int → Int → GM (LoopR (Int × GoErr) (GoErr × Int × Int))) (cond : Int → Bool) (next : Int → Int)
    (hL : ∀ f e i j, L (f + 1) e i j =
      if cond j = true then
        if i ≥ (n : Int) then .ok (LoopR.ret (0, GoErr.pe 1 "buffer too short"))
        else elemK rec p off n md (toI8 vt.toNat) ((fixedSize vt : Nat) : Int) i e i fun r =>
          L f r.2 (wrap .i64 (i + r.1)) (next j)
      else .ok (LoopR.done (e, i, j))) :
    ∀ (f i cnt : Nat) (j : Int), Iter cond next j cnt → 0 < f → n < f + i →
      LSim atOffset (L f GoErr.nil i j) (listLoopBin rec' (p.drop off) vt ((fixedSize vt : Nat) : Int) cnt i) := by
  have hlen := H.len
  have hp := H.small
  intro f
  induction f with
  | zero => intro i cnt j _ hf; omega
  | succ f ih =>
    intro i cnt j hj _ hf
    rw [hL]
    cases cnt with
    | zero => rw [if_neg (by rw [show cond j = false from hj]; decide)]; exact LSim.ok _ i rfl
    | succ cnt =>
      rw [if_pos hj.1, listLoopBin, H.length_drop]
      refine LSim.chk i n 0 fun hi => H.elem vt i hi _ _ _ fun m h1 h2 => ?_
      simp only [wrap_i64_add _ _ i m rfl rfl (by omega)]
      exact ih (i + m) cnt _ hj.2 (by omega) (by omega)

theorem mapLoop_sim (H : RecOK rec rec' p off n md) (kt vt : UInt8)
    (L : Nat → GoErr → Int → Int → GM (LoopR (Int × GoErr) (GoErr × Int × Int))) (cond : Int → Bool) (next : Int → Int)
    (hL : ∀ f e i j, L (f + 1) e i j =
      if cond j = true then
        if i ≥ (n : Int) then .ok (LoopR.ret (0, GoErr.pe 1 "buffer too short"))
        else elemK rec p off n md (toI8 kt.toNat) ((fixedSize kt : Nat) : Int) i e i fun r =>
          if wrap .i64 (i + r.1) ≥ (n : Int) then .ok (LoopR.ret (0, GoErr.pe 1 "buffer too short"))
          else elemK rec p off n md (toI8 vt.toNat) ((fixedSize vt : Nat) : Int) (wrap .i64 (i + r.1)) r.2
            (wrap .i64 (i + r.1)) fun r2 => L f r2.2 (wrap .i64 (wrap .i64 (i + r.1) + r2.1)) (next j)
      else .ok (LoopR.done (e, i, j))) :
    ∀ (f i cnt : Nat) (j : Int), Iter cond next j cnt → 0 < f → n < f + i →
      LSim atOffset (L f GoErr.nil i j)
        (mapLoopBin rec' (p.drop off) kt vt ((fixedSize kt : Nat) : Int) ((fixedSize vt : Nat) : Int) cnt i) := by
  have hlen := H.len
  have hp := H.small
  intro f
  induction f with
  | zero => intro i cnt j _ hf; omega
  | succ f ih =>
    intro i cnt j hj _ hf
    rw [hL]
    cases cnt with
    | zero => rw [if_neg (by rw [show cond j = false from hj]; decide)]; exact LSim.ok _ i rfl
    | succ cnt =>
      rw [if_pos hj.1, mapLoopBin, H.length_drop]
      refine LSim.chk i n 0 fun hi => H.elem kt i hi _ _ _ fun m h1 h2 => ?_
      simp only [wrap_i64_add _ _ i m rfl rfl (by omega)]
      refine LSim.chk (i + m) n 0 fun hi2 => H.elem vt (i + m) hi2 _ _ _ fun m2 h3 h4 => ?_
      simp only [wrap_i64_add _ _ (i + m) m2 rfl rfl (by omega)]
      exact ih (i + m + m2) cnt _ hj.2 (by omega) (by omega)

theorem structLoop_sim (H : RecOK rec rec' p off n md)
    (L : Nat → GoErr → Int → GM (LoopR (Int × GoErr) (GoErr × Int)))
    (hEnd : ∀ f e (i : Int), i ≥ (n : Int) → L (f + 1) e i = .ok (LoopR.ret (i, GoErr.pe 1 "buffer too short")))
    (hL : ∀ f e (i : Int) (ft : UInt8), i < (n : Int) → uload p (wrap .i64 (off + i)) = .ok (ft.toNat : Int) →
      L (f + 1) e i =
        if toI8 ft.toNat = 0 then .ok (LoopR.ret (wrap .i64 (i + 1), GoErr.nil))
        else if wrap .i64 (wrap .i64 (i + 1) + 2) ≥ (n : Int) then
          .ok (LoopR.ret (wrap .i64 (wrap .i64 (i + 1) + 2), GoErr.pe 1 "buffer too short"))
        else elemK rec p off n md (toI8 ft.toNat) ((fixedSize ft : Nat) : Int) (wrap .i64 (wrap .i64 (i + 1) + 2)) e
          (wrap .i64 (wrap .i64 (i + 1) + 2)) fun r => L f r.2 (wrap .i64 (wrap .i64 (wrap .i64 (i + 1) + 2) + r.1))) :
    ∀ (f1 f2 i : Nat), 0 < f1 → n < f1 + i → 0 < f2 → n < f2 + i →
      LSim returned (L f1 GoErr.nil (i : Int)) (structLoopBin rec' (p.drop off) f2 i) := by
  have hlen := H.len
  have hp := H.small
  intro f1
  induction f1 with
  | zero => intro f2 i hf; omega
  | succ f1 ih =>
    intro f2 i _ hf1 h2 hf2
    obtain ⟨f2, rfl⟩ : ∃ g, f2 = g + 1 := ⟨f2 - 1, by omega⟩
    rw [structLoopBin, H.length_drop]
    by_cases hi : i ≥ n
    · rw [hEnd _ _ _ (by omega), if_pos hi]; exact LSim.err _ _ (by decide)
    · obtain ⟨ft, hu, hl⟩ := load_same p off i (by omega)
      rw [hL f1 _ i ft (by omega) (by rw [wrap_i64_add _ _ off i rfl rfl (by omega), hu]), if_neg hi, hl,
        wrap_i64_add _ 1 i 1 rfl rfl (by omega), wrap_i64_add _ 2 (i + 1) 2 rfl rfl (by omega)]
      simp only [Out.bind_eq, Out.bind_ok, typeSize_eq]
      by_cases hstop : ft = T_STOP
      · rw [if_pos ((toI8_eq_0 ft).mpr hstop), if_pos hstop]; exact LSim.ok _ (i + 1) rfl
      · rw [if_neg (mt (toI8_eq_0 ft).mp hstop), if_neg hstop]
        refine LSim.chk (i + 1 + 2) n _ fun hi3 => H.elem ft (i + 1 + 2) hi3 _ _ _ fun m h1 h2 => ?_
        simp only [wrap_i64_add _ _ (i + 1 + 2) m rfl rfl (by omega)]
        exact ih f2 (i + 1 + 2 + m) (by omega) (by omega) (by omega) (by omega)

end loops

abbrev recG (f : Nat) : Bytes → Int → Int → Int → Int → GM (Int × GoErr) :=
  fun a0 a1 a2 a3 a4 => Funcs.thrift_skipType f a0 a1 a2 a3 a4
abbrev recM (d : Nat) : Bytes → Nat → UInt8 → TOut Nat := fun bb i tt => skipBinAt d bb i tt

section cases
variable {f d : Nat} {p : Bytes} {off n : Nat} {D : Int} {t : UInt8}

theorem map_case (H : RecOK (recG f) (recM d) p off n D) (hf : n < f) (hmap : t = T_MAP) :
    Sim (Funcs.thrift_skipType (f + 1) p off n (toI8 t.toNat) D) (skipBinAt (d + 1) p off t) := by
  have hlen := H.len
  have hp := H.small
  have hD : ¬ D = 0 := by have := H.depth; omega
  obtain ⟨hfix, hstr, hst, hl, hse⟩ : ¬ ((fixedSize t : Nat) : Int) > 0 ∧ ¬ t = T_STRING ∧ ¬ t = T_STRUCT ∧ ¬ t = T_LIST ∧
      ¬ t = T_SET := by subst hmap; decide
  rw [Funcs.thrift_skipType, skipBinAt]
  simp only [↓reduceIte, hD, hfix, hstr, eq_true hmap, hst, hl, hse, toI8_eq_11, toI8_eq_12, toI8_eq_13, toI8_eq_14,
    toI8_eq_15, tblIdx_fixed, typeSize_eq, H.length_drop, decide_false, decide_true, Bool.or_self, Bool.false_eq_true,
    Out.bind_ok, Out.bind_eq, Out.pure_eq]
  by_cases h6 : 6 > n
  · have c6 : (6 : Int) > (n : Int) := by omega
    simp only [h6, c6, decide_true, if_true]
    exact Sim.short 0
  · have c6 : ¬ (6 : Int) > (n : Int) := by omega
    obtain ⟨kt, hk, hk'⟩ := load_same p off 0 (by omega)
    obtain ⟨vt, hv, hv'⟩ := load_same p off 1 (by omega)
    rw [Nat.add_zero] at hk
    simp only [h6, c6, decide_false, if_false, Bool.false_eq_true, wrap_i64_add _ 1 off 1 rfl rfl (by omega),
      wrap_i64_add _ 2 off 2 rfl rfl (by omega), hk, hk', hv, hv',
      p2i32_ok p (off + 2) (by omega) (by omega), loadI32_drop_ok p off 2 (by omega), Out.bind_ok]
    have hr := toI32_range _ (rd32_lt (p.drop (off + 2)))
    generalize toI32 (rd32 (p.drop (off + 2))) = sz at hr
    by_cases hneg : sz < 0
    · simp only [hneg, decide_true, if_true]
      exact Sim.neg 0
    · obtain ⟨s, rfl⟩ := Int.eq_ofNat_of_zero_le (by omega : 0 ≤ sz)
      simp only [hneg, decide_false, if_false, Bool.false_eq_true, wrap_i8_nat _ kt.toNat_lt, wrap_i8_nat _ vt.toNat_lt,
        tblIdx_fixed, Out.bind_ok, Int.toNat_natCast]
      by_cases hfast : ((fixedSize kt : Nat) : Int) > 0 ∧ ((fixedSize vt : Nat) : Int) > 0
      · have := fixedSize_le kt
        have := fixedSize_le vt
        simp only [hfast, and_self, decide_true, Bool.and_self, if_true, decide_eq_true_eq,
          wrap_i64_add _ _ (fixedSize kt) (fixedSize vt) rfl rfl (by omega),
          wrap_i64_size 6 _ _ 6 s (fixedSize kt + fixedSize vt) rfl rfl rfl (by omega) (by omega) (by omega)]
        exact Sim.fits _ n
      · have cfast : (decide (((fixedSize kt : Nat) : Int) > 0) && decide (((fixedSize vt : Nat) : Int) > 0)) = false := by
          simpa using hfast
        simp only [hfast, cfast, if_false, Bool.false_eq_true]
        have hs : s < 2 ^ 31 := by omega
        refine LSim.finish (fin := atOffset) ?_ _ _ (fun _ => rfl) ?_
        -- the counter runs up (`j := 0; j < sz; j++`) or down (`j := sz; j > 0; j--`)
        · first
          | refine mapLoop_sim H kt vt _ _ _ ?_ f 6 s 0
              (iter_up _ _ s hs (fun _ => rfl) (fun _ => rfl) s 0 (by omega)) (by omega) (by omega)
          | refine mapLoop_sim H kt vt _ _ _ ?_ f 6 s s (iter_down _ _ (fun _ => rfl) (fun _ => rfl) s hs) (by omega)
              (by omega)
          intro f' e i j
          rw [Funcs.thrift_skipType_loop1]
          simp only [elemK, recG, Out.bind_eq, Out.pure_eq, decide_eq_true_eq, ne_eq]
        · intro r m h
          cases r with
          | ret a => exact h.elim
          | done st =>
            simp only [show st.2.1 = (m : Int) from h, decide_eq_true_eq]
            exact Sim.fits m n

theorem list_case (H : RecOK (recG f) (recM d) p off n D) (hf : n < f) (hlist : t = T_LIST ∨ t = T_SET) :
    Sim (Funcs.thrift_skipType (f + 1) p off n (toI8 t.toNat) D) (skipBinAt (d + 1) p off t) := by
  have hlen := H.len
  have hp := H.small
  have hD : ¬ D = 0 := by have := H.depth; omega
  obtain ⟨hfix, hstr, hmap, hst⟩ : ¬ ((fixedSize t : Nat) : Int) > 0 ∧ ¬ t = T_STRING ∧ ¬ t = T_MAP ∧ ¬ t = T_STRUCT := by
    rcases hlist with rfl | rfl <;> decide
  rw [Funcs.thrift_skipType, skipBinAt]
  simp only [↓reduceIte, hD, hfix, hstr, hmap, hst, eq_true hlist, eq_true hlist.symm, toI8_eq_11, toI8_eq_12, toI8_eq_13,
    toI8_eq_14, toI8_eq_15, tblIdx_fixed, typeSize_eq, H.length_drop, decide_false, decide_true, Bool.false_eq_true,
    Bool.decide_or, decide_eq_true_eq, Bool.or_eq_true, Out.bind_ok, Out.bind_eq, Out.pure_eq]
  by_cases h5 : 5 > n
  · have c5 : (5 : Int) > (n : Int) := by omega
    simp only [h5, c5, if_true]
    exact Sim.short 0
  · have c5 : ¬ (5 : Int) > (n : Int) := by omega
    obtain ⟨vt, hv, hv'⟩ := load_same p off 0 (by omega)
    rw [Nat.add_zero] at hv
    simp only [h5, c5, if_false, wrap_i64_add _ 1 off 1 rfl rfl (by omega), hv, hv',
      p2i32_ok p (off + 1) (by omega) (by omega), loadI32_drop_ok p off 1 (by omega), Out.bind_ok]
    have hr := toI32_range _ (rd32_lt (p.drop (off + 1)))
    generalize toI32 (rd32 (p.drop (off + 1))) = sz at hr
    by_cases hneg : sz < 0
    · simp only [hneg, if_true]
      exact Sim.neg 0
    · obtain ⟨s, rfl⟩ := Int.eq_ofNat_of_zero_le (by omega : 0 ≤ sz)
      simp only [hneg, if_false, wrap_i8_nat _ vt.toNat_lt, tblIdx_fixed, Out.bind_ok, Int.toNat_natCast]
      by_cases hfast : ((fixedSize vt : Nat) : Int) > 0
      · have := fixedSize_le vt
        simp only [hfast, if_true, wrap_i64_size 5 _ _ 5 s (fixedSize vt) rfl rfl rfl (by omega) (by omega) (by omega)]
        exact Sim.fits _ n
      · simp only [hfast, if_false]
        have hs : s < 2 ^ 31 := by omega
        refine LSim.finish_ok (fin := atOffset) ?_ _ (fun _ => rfl) ?_
        · first
          | refine listLoop_sim H vt _ _ _ ?_ f 5 s 0
              (iter_up _ _ s hs (fun _ => rfl) (fun _ => rfl) s 0 (by omega)) (by omega) (by omega)
          | refine listLoop_sim H vt _ _ _ ?_ f 5 s s (iter_down _ _ (fun _ => rfl) (fun _ => rfl) s hs) (by omega)
              (by omega)
          intro f' e i j
          rw [Funcs.thrift_skipType_loop2]
          simp only [elemK, recG, Out.bind_eq, Out.pure_eq, decide_eq_true_eq, ne_eq]
        · intro r m h
          cases r with
          | ret a => exact h.elim
          | done st => simp only [show st.2.1 = (m : Int) from h]

theorem struct_case (H : RecOK (recG f) (recM d) p off n D) (hf : n < f) (hst : t = T_STRUCT) :
    Sim (Funcs.thrift_skipType (f + 1) p off n (toI8 t.toNat) D) (skipBinAt (d + 1) p off t) := by
  have hD : ¬ D = 0 := by have := H.depth; omega
  obtain ⟨hfix, hstr, hmap, hl, hse⟩ : ¬ ((fixedSize t : Nat) : Int) > 0 ∧ ¬ t = T_STRING ∧ ¬ t = T_MAP ∧ ¬ t = T_LIST ∧
      ¬ t = T_SET := by subst hst; decide
  rw [Funcs.thrift_skipType, skipBinAt]
  simp only [↓reduceIte, hD, hfix, hstr, hmap, hl, hse, eq_true hst, toI8_eq_11, toI8_eq_12, toI8_eq_13, toI8_eq_14,
    toI8_eq_15, tblIdx_fixed, typeSize_eq, H.length_drop, decide_false, decide_true, Bool.or_self, or_self,
    Bool.false_eq_true, Out.bind_ok, Out.bind_eq, Out.pure_eq]
  refine LSim.finish_ok (structLoop_sim H _ ?_ ?_ f (n + 1) 0 (by omega) (by omega) (by omega) (by omega)) _
    (fun _ => rfl) ?_
  · intro f' e i hi
    rw [Funcs.thrift_skipType_loop3]
    simp only [hi, decide_true, if_true, Out.pure_eq]
  · intro f' e i ft hi hload
    have c : ¬ i ≥ (n : Int) := by omega
    rw [Funcs.thrift_skipType_loop3]
    simp only [c, hload, wrap_i8_nat _ ft.toNat_lt, tblIdx_fixed, elemK, recG, Out.bind_eq, Out.bind_ok, Out.pure_eq,
      decide_eq_true_eq, decide_false, if_false, Bool.false_eq_true, ne_eq]
  · intro r m h
    cases r with
    | ret a => simp only [show a = ((m : Int), GoErr.nil) from h]
    | done st => exact h.elim

theorem leaf_case (H : RecOK (recG f) (recM d) p off n D) (hmap : ¬ t = T_MAP) (hl : ¬ t = T_LIST) (hse : ¬ t = T_SET)
    (hst : ¬ t = T_STRUCT) :
    Sim (Funcs.thrift_skipType (f + 1) p off n (toI8 t.toNat) D) (skipBinAt (d + 1) p off t) := by
  have hlen := H.len
  have hD : ¬ D = 0 := by have := H.depth; omega
  rw [Funcs.thrift_skipType, skipBinAt]
  simp only [↓reduceIte, hD, hmap, hl, hse, hst, toI8_eq_11, toI8_eq_12, toI8_eq_13, toI8_eq_14, toI8_eq_15, tblIdx_fixed,
    typeSize_eq, H.length_drop, decide_false, Bool.or_self, or_self, Bool.false_eq_true, decide_eq_true_eq,
    Int.toNat_natCast, Out.bind_ok, Out.bind_eq, Out.pure_eq, bind_ok_eta]
  by_cases hfix : ((fixedSize t : Nat) : Int) > 0
  · rw [if_pos hfix, if_pos hfix]
    exact Sim.fits _ n
  · rw [if_neg hfix, if_neg hfix]
    by_cases hstr : t = T_STRING
    · rw [if_pos hstr, if_pos hstr]
      exact skipstr_sim p off 0 H.small (by omega) _ _ (by omega) (by omega)
    · rw [if_neg hstr, if_neg hstr]
      exact Sim.err 0 (GoErr.pe 1 "") (by decide)

end cases

theorem skipBinAt_drop (d : Nat) (p : Bytes) (off i : Nat) (t : UInt8) :
    skipBinAt d (p.drop off) i t = skipBinAt d p (off + i) t := by
  cases d with
  | zero => rfl
  | succ d => rw [skipBinAt, skipBinAt, List.drop_drop]

theorem skipBinAt_bound (d : Nat) (p : Bytes) (off : Nat) (t : UInt8) (m : Nat) (hoff : off ≤ p.length)
    (h : skipBinAt d p off t = .ok m) : 1 ≤ m ∧ m ≤ p.length - off := by
  have hm := skipBinAt_matches d p off t hoff
  unfold Matches at hm
  cases hr : refBin d t (p.drop off) with
  | none =>
    rw [hr] at hm; obtain ⟨e, he⟩ := hm
    rw [he] at h; cases h
  | some n =>
    rw [hr] at hm
    rw [hm] at h
    cases h
    have := refBin_good d t _ _ hr
    simpa using this

theorem skipType_sim : ∀ (d f : Nat) (p : Bytes) (off : Nat) (t : UInt8) (K E D : Int), p.length < 2 ^ 62 →
    off ≤ p.length → d ≤ 64 → (p.length - off) + d + 2 ≤ f →
    K = (off : Int) → E = (p.length : Int) - (off : Int) → D = (d : Int) →
    Sim (Funcs.thrift_skipType f p K E (toI8 t.toNat) D) (skipBinAt d p off t) := by
  intro d
  induction d with
  | zero =>
    intro f p off t K E D hp hoff hd hf hK hE hD
    obtain ⟨f, rfl⟩ : ∃ g, f = g + 1 := ⟨f - 1, by omega⟩
    subst hD
    rw [Funcs.thrift_skipType, skipBinAt, if_pos (by simp)]
    exact Sim.err 0 (GoErr.pe 6 "depth limit exceeded") (by decide)
  | succ d ih =>
    intro f p off t K E D hp hoff hd hf hK hE hD
    obtain ⟨f, rfl⟩ : ∃ g, f = g + 1 := ⟨f - 1, by omega⟩
    obtain ⟨n, hn⟩ : ∃ n, off + n = p.length := ⟨p.length - off, by omega⟩
    obtain rfl : E = (n : Int) := by omega
    subst hK hD
    have H : RecOK (recG f) (recM d) p off n ((d + 1 : Nat) : Int) :=
      { len := hn, small := hp, depth := by omega
        sim := fun i t hi => by
          rw [recM, skipBinAt_drop]
          exact ih f p (off + i) t _ _ _ hp (by omega) (by omega) (by omega) (by omega) (by omega) (by omega)
        bound := fun i t m hi hm => by
          rw [recM, skipBinAt_drop] at hm
          have := skipBinAt_bound d p (off + i) t m (by omega) hm
          omega }
    clear ih
    by_cases hmap : t = T_MAP
    · exact map_case H (by omega) hmap
    · by_cases hlist : t = T_LIST ∨ t = T_SET
      · exact list_case H (by omega) hlist
      · by_cases hst : t = T_STRUCT
        · exact struct_case H (by omega) hst
        · exact leaf_case H hmap (not_or.mp hlist).1 (not_or.mp hlist).2 hst

/-- `BinaryProtocol.Skip`, whole function, translated from the Go source: the model `skipBin`, including every panic
    and every place where a pointer load could leave the slice (`oob`) -/
theorem Binary_Skip_sim (b : Bytes) (t : UInt8) (fuel : Nat) (hb : b.length < 2 ^ 62) (hf : b.length + 70 ≤ fuel) :
    Sim (Funcs.Binary_Skip fuel b (toI8 t.toNat)) (skipBin b t) := by
  unfold Funcs.Binary_Skip skipBin
  by_cases h0 : b.length = 0
  · have c : (len b = 0) := by unfold len; omega
    simp only [h0, c, decide_true, if_true, Out.pure_eq]
    exact Sim.short 0
  · have c : ¬ (len b = 0) := by unfold len; omega
    have hi : GoSem.idx b 0 = .ok ((b[0]'(by omega)).toNat : Int) := by
      have : 0 < b.length := by omega
      simp [GoSem.idx, this]
    simp only [h0, c, hi, decide_false, if_false, Bool.false_eq_true, Out.bind_eq, Out.bind_ok, Out.pure_eq, bind_ok_eta,
      defaultRecursionDepth_eq]
    exact skipType_sim 64 fuel b 0 t _ _ _ hb (by omega) (by omega) (by omega) (by simp) (by simp [len]) (by simp)

theorem Binary_Skip_eq (b : Bytes) (t : UInt8) (fuel : Nat) (hb : b.length < 2 ^ 62) (hf : b.length + 70 ≤ fuel) :
    liftSkip (Funcs.Binary_Skip fuel b (toI8 t.toNat)) = skipBin b t :=
  (Binary_Skip_sim b t fuel hb hf).lift

/-! ## the generated functions compute (non-vacuity) -/

-- an i32
example : Funcs.Binary_Skip 80 [0, 0, 0, 1] 8 = .ok (4, GoErr.nil) := by decide +kernel
-- a struct {1: i32 5}
example : Funcs.Binary_Skip 80 [8, 0, 1, 0, 0, 0, 5, 0] 12 = .ok (8, GoErr.nil) := by decide +kernel
-- list<string> ["a", ""] through the slow-path loop
example : Funcs.Binary_Skip 80 [11, 0, 0, 0, 2, 0, 0, 0, 1, 97, 0, 0, 0, 0] 15 = .ok (14, GoErr.nil) := by decide +kernel
-- map<string,i32> {"a": 7} through the slow-path loop with a fixed-size value
example : Funcs.Binary_Skip 80 [11, 8, 0, 0, 0, 1, 0, 0, 0, 1, 97, 0, 0, 0, 7] 13 = .ok (15, GoErr.nil) := by
  decide +kernel
-- errors: short buffer, negative size, unknown type, depth limit (65 nested structs)
example : Funcs.Binary_Skip 80 [0] 8 = .ok (0, GoErr.pe 1 "buffer too short") := by decide +kernel
example : Funcs.Binary_Skip 80 [255, 255, 255, 255] 11 = .ok (0, GoErr.pe 2 "negative size") := by decide +kernel
example : Funcs.Binary_Skip 80 [0] 1 = .ok (0, GoErr.pe 1 "") := by decide +kernel
example : liftSkip (Funcs.Binary_Skip 300 (List.replicate 200 12) 12) = .err errDepth := by decide +kernel
-- panics: fuel exhausted (excluded by `hf` in `Binary_Skip_eq`), table index out of range, and an out-of-bounds load
example : Funcs.Binary_Skip 0 [0] 8 = .panic "nofuel" := by decide +kernel
example : tblIdx Funcs.tbl_typeToSize 256 = .panic "index" := by decide +kernel
example : Funcs.thrift_p2i32 [1, 2, 3] 0 = .oob := by decide +kernel
example : skipBin [11, 8, 0, 0, 0, 1, 0, 0, 0, 1, 97, 0, 0, 0, 7] 13 = .ok 15 := by decide +kernel


end Verif.FuncsEq
