/-
  Lemmas/Funcs/BufioxRSD: `thrift.ReaderSkipDecoder` (protocol/thrift/skipdecoder.go) — `SkipN`, `Grow`, `growSlow`, `Reset`,
  `Release` as TRANSLATED from the Go source on every run (`Verif.Gen.BufioxRSD`, namespace `Verif.BufioxRSDGen`, over
  `Base/GoSemCap`) against the hand-written back end `readerBackend` over `ReaderDec` (Model/SkipStream.lean) that the
  skip properties use for the third back end of the generic skip decoder.

  * `absRSD` : generated receiver ↦ `ReaderDec` (`got` = `p.b[:p.n]`, `src` = the `io.Reader`, the model's scripted source).
  * invariant `RInv`: `0 ≤ n ≤ len(b) ≤ cap(b) ≤ 2^45`, the reader is not nil. Per call `n + k ≤ 2^44`, fuel ≥ the model's
    (`script.length + 2`).
  * `ReaderSkipDecoder_SkipN_sim`: the generated `SkipN(k)` returns what `readerBackend.skipN` returns — the `k` bytes (also
    when the last of them arrive together with io.EOF: `if i >= n { err = nil }`), or the source's error — and on success
    the abstraction of the receiver afterwards is the model state (`got` extended), invariant kept.
  The loop lemma is about ANY function satisfying the one-round equation (`FullStep`, shown for the generated loop at the
  use site); bounds are proved for any way of writing them.
-/
import Verif.Gen.BufioxRSD
import Verif.Lemmas.Funcs.BufioxR
import Verif.Model.SkipStream
import Verif.Lemmas.Funcs.TplG
namespace Verif.BufioxEq
open Verif Verif.GoSemCap Verif.BufioxRSDGen
open Verif.GoSem (GM wrap LoopR IT)
set_option linter.unusedSimpArgs false

abbrev RSD := S_ReaderSkipDecoder Src

def absRSD (g : RSD) : ReaderDec := { src := g.r.getD ⟨[], []⟩, got := g.b.mem.take g.n.toNat }

structure RInv (g : RSD) : Prop where
  n_nonneg : 0 ≤ g.n
  n_le : g.n ≤ g.b.len
  len_le : g.b.len ≤ g.b.mem.length
  cap_le : g.b.mem.length ≤ 2 ^ 45
  r_some : g.r.isSome

/-- `Reset(r)` / `Release()` -/
theorem ReaderSkipDecoder_Reset_eq (g : RSD) (r : Option Src) :
    ReaderSkipDecoder_Reset g r = .ok { g with r := r, n := 0 } := by
  simp [ReaderSkipDecoder_Reset]

theorem ReaderSkipDecoder_Release_eq (g : RSD) :
    ReaderSkipDecoder_Release g = .ok { g with r := none, n := 0 } := by
  simp [ReaderSkipDecoder_Release, ReaderSkipDecoder_Reset]

/-- after `Release` nothing is buffered: `p.b[:p.n]` is empty (the buffer itself is kept for reuse) -/
theorem Release_got (g : RSD) : ∃ g', ReaderSkipDecoder_Release g = .ok g' ∧ (absRSD g').got = [] ∧ g'.b = g.b :=
  ⟨_, ReaderSkipDecoder_Release_eq g, by simp [absRSD], rfl⟩

/-! ## Grow -/

/-- `Grow(k)`: room for `k` more bytes, what was read so far is kept -/
theorem Grow_post (O : Nat → Nat → Bytes) (g : RSD) (n k : Nat) (hn : g.n = (n : Int)) (hi : RInv g)
    (hk : k + n ≤ 2 ^ 44) :
    ∃ g1, ReaderSkipDecoder_Grow O g (k : Int) = .ok g1 ∧ RInv g1 ∧ g1.n = g.n ∧ g1.r = g.r ∧
      g1.b.mem.take n = g.b.mem.take n ∧ n + k ≤ g1.b.len := by
  have h0 := hi.n_nonneg; have h1 := hi.n_le; have h2 := hi.len_le; have h3 := hi.cap_le
  rw [hn] at h0 h1
  unfold ReaderSkipDecoder_Grow
  have hw : wrap .i64 (slen g.b - (n : Int)) = ((g.b.len - n : Nat) : Int) :=
      wrap_eq (by simp [slen]; omega)
  by_cases hfit : k ≤ g.b.len - n
  · exact ⟨g, by simp [hn, hw, hfit, Nat.not_lt.mpr hfit], hi, rfl, rfl, rfl, by omega⟩
  · have c2 := Nat.lt_of_not_le hfit
    have hwn : wrap .i64 ((n : Int) + (k : Int)) = ((n + k : Nat) : Int) := wrap_eq (by omega)
    have hwn' : wrap .i64 ((k : Int) + (n : Int)) = ((n + k : Nat) : Int) := wrap_eq (by omega)
    have hm := malloc1_ok (O 1) (n + k) (by omega)
    simp only [Int.natCast_add] at hm hwn hwn'
    have hs : ∀ hi' : Int, hi' = (n : Int) → sslice g.b 0 hi' = .ok { g.b with len := n } := by
      intro hi' e; subst e
      rw [sslice_ok _ _ _ (by omega) (by omega) (by simp [scap]; omega)]; simp
    have hcapge : n + k ≤ mcacheCap (n + k) := by
      rw [mcacheCap_eq _ (by omega)]; exact (pow2ceil_spec _ (by omega)).1
    have hcaple : mcacheCap (n + k) ≤ 2 ^ 45 := by
      rw [mcacheCap_eq _ (by omega)]; exact pow2ceil_le45 _ (by omega)
    refine ⟨{ g with b := ⟨g.b.mem.take n ++ (dirty (O 1) (mcacheCap (n + k))).drop n, n + k, true⟩ }, ?_, ?_, rfl, rfl, ?_, ?_⟩
    · simp [-Out.bind_ok, bind_ok_nr, hn, hw, hfit, c2, ReaderSkipDecoder_growSlow, hwn, hwn', hm]
      rw [hs _ rfl]
      have hmin : min (n + k) n = n := by omega
      simp [-Out.bind_ok, bind_ok_nr, copySl, hmin]
    · refine ⟨hi.n_nonneg, by simp [hn]; omega, ?_, ?_, hi.r_some⟩
      · simp [Nat.min_eq_left (show n ≤ g.b.mem.length by omega)]; omega
      · simp [Nat.min_eq_left (show n ≤ g.b.mem.length by omega)]; omega
    · simp [List.take_append_of_le_length, Nat.min_eq_left (show n ≤ g.b.mem.length by omega)]
    · simp

/-! ## the io.ReadFull loop of SkipN -/

/-- `d` stored at `buf[i:]` -/
def bufPut (buf : Sl) (i : Nat) (d : Bytes) : Sl :=
  { buf with mem := buf.mem.take i ++ d ++ buf.mem.drop (i + d.length) }

/-- `nn, err = p.r.Read(buf[i:])` written back to `buf`, `i += nn` -/
theorem readInto_ok (buf : Sl) (i : Nat) (s : Src) (hi : i ≤ buf.len) (hl : buf.len ≤ buf.mem.length)
    (_hc : buf.mem.length ≤ 2 ^ 45) :
    let p : Sl := { buf with mem := buf.mem.drop i, len := buf.len - i }
    let r := ioRead srcReader s p
    let d := (s.read (buf.len - i)).1
    ssliceFrom buf (i : Int) = .ok p ∧ putBack buf (i : Int) r.1 = bufPut buf i d ∧ r.2.1 = (d.length : Int) ∧
    r.2.2.1 = errCon (s.read (buf.len - i)).2.1 ∧ r.2.2.2 = (s.read (buf.len - i)).2.2 := by
  have hrl := Src.read_len s (buf.len - i)
  generalize hd : (s.read (buf.len - i)).1 = d at hrl
  refine ⟨?_, ?_, ?_, ?_, ?_⟩
  · unfold ssliceFrom; rw [sslice_ok _ _ _ (by omega) (by simp [slen]; omega) (by simp [slen, scap]; omega)]; simp [slen]
  · simp only [ioRead, srcReader, putBack, bufPut, hd, Int.toNat_natCast]
    have e1 : d.take (buf.len - i) = d := List.take_of_length_le hrl
    simp [e1, List.drop_drop]
    omega
  · simp [ioRead, srcReader, hd]
  · simp [ioRead, srcReader]
  · simp [ioRead, srcReader]

abbrev FullLoopT := Nat → RSD → Sl → Err → Int → GM (RSD × Sl × Err × Int)

/-- one round of `for i < n && err == nil { nn, err = p.r.Read(buf[i:]); i += nn }` in normal form — what ANY function
    must satisfy to be that loop (shown for the generated loop function at the use site) -/
def FullStep (L : FullLoopT) (k : Nat) : Prop :=
  (∀ (f : Nat) (g : RSD) (buf : Sl) (i : Nat) (s : Src), g.r = some s → i < k → buf.len = k → k ≤ buf.mem.length →
    buf.mem.length ≤ 2 ^ 45 →
    L (f + 1) g buf Err.nil (i : Int) =
      L f { g with r := some (s.read (k - i)).2.2 } (bufPut buf i (s.read (k - i)).1) (errCon (s.read (k - i)).2.1)
        ((i + (s.read (k - i)).1.length : Nat) : Int)) ∧
  (∀ (f : Nat) (g : RSD) (buf : Sl) (e : Err) (i : Nat), (k ≤ i ∨ e ≠ Err.nil) →
    L (f + 1) g buf e (i : Int) = .ok (g, buf, e, (i : Int)))

theorem bufPut_take (buf : Sl) (i : Nat) (d : Bytes) (hi : i ≤ buf.mem.length) :
    (bufPut buf i d).mem.take (i + d.length) = buf.mem.take i ++ d := by
  simp only [bufPut]
  rw [List.take_append_of_le_length (by simp [Nat.min_eq_left hi])]
  apply List.take_of_length_le; simp [Nat.min_eq_left hi]

/-- the ReadFull loop is the model's `readFullLoop` (any fuel at least the model's) -/
theorem full_loop_sim (L : FullLoopT) (k : Nat) (hL : FullStep L k) :
    ∀ (fuel : Nat) (s : Src) (g : RSD) (buf : Sl) (i : Nat), g.r = some s → i ≤ k → buf.len = k →
      k ≤ buf.mem.length → buf.mem.length ≤ 2 ^ 45 → s.script.length + 2 ≤ fuel → ∀ f, fuel ≤ f →
      ∃ buf', L f g buf Err.nil (i : Int) =
          .ok ({ g with r := some (readFullLoop fuel s k (buf.mem.take i)).2.2 }, buf',
               errCon (readFullLoop fuel s k (buf.mem.take i)).2.1,
               ((readFullLoop fuel s k (buf.mem.take i)).1.length : Int)) ∧
        buf'.mem.take (readFullLoop fuel s k (buf.mem.take i)).1.length = (readFullLoop fuel s k (buf.mem.take i)).1 ∧
        buf'.len = k ∧ buf'.mem.length = buf.mem.length ∧ (readFullLoop fuel s k (buf.mem.take i)).1.length ≤ k := by
  intro fuel
  induction fuel with
  | zero => intro s g buf i _ _ _ _ _ h; omega
  | succ fu ih =>
    intro s g buf i hr hik hbl hbm hbc hfu f hf
    obtain ⟨f, rfl⟩ : ∃ f', f = f' + 1 := ⟨f - 1, by omega⟩
    have hti : (buf.mem.take i).length = i := by simp; omega
    unfold readFullLoop
    by_cases hge : i ≥ k
    · have hik' : i = k := by omega
      simp only [hti, hge, if_true]
      refine ⟨buf, ?_, by simp, hbl, rfl, by omega⟩
      rw [hL.2 f g buf Err.nil i (Or.inl hge)]
      have : ({ g with r := some s } : RSD) = g := by rw [← hr]
      simp [this, errCon, hti]
    · have hlt : i < k := by omega
      have hrl := Src.read_len s (k - i)
      simp only [hti, hge, if_false]
      rw [hL.1 f g buf i s hr hlt hbl hbm hbc]
      generalize hres : s.read (k - i) = res at *
      have htake := bufPut_take buf i res.1 (by omega)
      have hml : (bufPut buf i res.1).mem.length = buf.mem.length := by
        simp [bufPut, Nat.min_eq_left (show i ≤ buf.mem.length by omega)]; omega
      have hmin : min i buf.mem.length = i := by omega
      cases he : res.2.1 with
      | some e =>
        -- the source failed (possibly with data): the loop stops
        obtain ⟨f, rfl⟩ : ∃ f', f = f' + 1 := ⟨f - 1, by omega⟩
        have hne : errCon (some e) ≠ Err.nil := by cases e <;> simp [errCon]
        refine ⟨bufPut buf i res.1, ?_, by simpa [hmin] using htake, hbl, hml, by simp [hmin]; omega⟩
        rw [hL.2 f _ _ _ _ (Or.inr hne)]
        simp [hmin]
      | none =>
        simp only []
        -- an answer without error consumed a script entry
        have hscr : res.2.2.script.length + 2 ≤ fu := by
          cases hsc : s.script with
          | nil => rw [← hres, Src.read_nil s _ hsc] at he; simp at he
          | cons r rest =>
            rw [← hres, Src.read_cons s _ r rest hsc]
            simp [hsc] at hfu ⊢; omega
        have := ih res.2.2 { g with r := some res.2.2 } (bufPut buf i res.1) (i + res.1.length) rfl (by omega) hbl
          (by rw [hml]; exact hbm) (by rw [hml]; exact hbc) hscr f (by omega)
        rw [htake] at this
        obtain ⟨buf', h1, h2, h3, h4, h5⟩ := this
        exact ⟨buf', by simpa [errCon] using h1, h2, h3, by rw [h4, hml], h5⟩

/-- the ReadFull loop ends without error only when all `k` bytes are there -/
theorem readFullLoop_none : ∀ (fuel : Nat) (s : Src) (k : Nat) (acc : Bytes),
    (readFullLoop fuel s k acc).2.1 = none → k ≤ (readFullLoop fuel s k acc).1.length := by
  intro fuel
  induction fuel with
  | zero => intro s k acc h; simp [readFullLoop] at h
  | succ f ih =>
    intro s k acc h
    unfold readFullLoop at h ⊢
    by_cases hge : acc.length ≥ k
    · simp only [hge, if_true]
    · simp only [hge, if_false] at h ⊢
      cases he : (s.read (k - acc.length)).2.1 with
      | some e => simp [he] at h
      | none => simp only [he] at h ⊢; exact ih _ _ _ h

theorem putBack_tail (b sub : Sl) (n : Nat) (hn : n ≤ b.mem.length) (hsub : sub.mem.length = b.mem.length - n) :
    putBack b (n : Int) sub = { b with mem := b.mem.take n ++ sub.mem } := by
  have : b.mem.drop (n + sub.mem.length) = [] := List.drop_of_length_le (by omega)
  simp [putBack, this]

theorem rinv_putBack (g : RSD) (hi : RInv g) (n : Nat) (sub : Sl) (r' : Src) (n' : Int) (hn : n ≤ g.b.len)
    (hsub : sub.mem.length = g.b.mem.length - n) (h0 : 0 ≤ n') (h1 : n' ≤ g.b.len) :
    RInv { g with r := some r', b := putBack g.b (n : Int) sub, n := n' } := by
  have hl := hi.len_le; have hc := hi.cap_le
  rw [putBack_tail g.b sub n (by omega) hsub]
  have hm : (g.b.mem.take n ++ sub.mem).length = g.b.mem.length := by
    rw [List.length_append, List.length_take, hsub]; omega
  exact ⟨h0, h1, by simp only [hm]; exact hl, by simp only [hm]; exact hc, rfl⟩

/-- the result `(buf, err)` and the receiver of a generated `SkipN` against the model back end -/
def SkipNOK (x : GM (RSD × Sl × Err)) (y : TOut (Bytes × ReaderDec)) : Prop :=
  match y with
  | .ok (bytes, s') => ∃ g' buf, x = .ok (g', buf, Err.nil) ∧ buf.data = bytes ∧ absRSD g' = s' ∧ RInv g'
  | .err (.raw e) => ∃ g' buf, x = .ok (g', buf, errCon (some e)) ∧ RInv g'
  | _ => False

/-- the loop call followed by the rest of SkipN: `L` and the continuation are found by unification with the goal -/
theorem full_bind_ok (L : FullLoopT) (k : Nat) (hL : FullStep L k) (s : Src) (g : RSD) (buf : Sl)
    (hr : g.r = some s) (hbl : buf.len = k) (hbm : k ≤ buf.mem.length) (hbc : buf.mem.length ≤ 2 ^ 45) (f : Nat)
    (hf : s.script.length + 2 ≤ f) (K : RSD × Sl × Err × Int → GM (RSD × Sl × Err)) (y : TOut (Bytes × ReaderDec))
    (h : ∀ buf' : Sl,
      buf'.mem.take (readFullLoop (s.script.length + 2) s k []).1.length = (readFullLoop (s.script.length + 2) s k []).1 →
      buf'.len = k → buf'.mem.length = buf.mem.length → (readFullLoop (s.script.length + 2) s k []).1.length ≤ k →
      SkipNOK (K ({ g with r := some (readFullLoop (s.script.length + 2) s k []).2.2 }, buf',
           errCon (readFullLoop (s.script.length + 2) s k []).2.1,
           ((readFullLoop (s.script.length + 2) s k []).1.length : Int))) y) :
    SkipNOK ((L f g buf Err.nil 0).bind K) y := by
  obtain ⟨buf', h1, h2, h3, h4, h5⟩ := full_loop_sim L k hL (s.script.length + 2) s g buf 0 hr (by omega) hbl hbm hbc
    (Nat.le_refl _) f hf
  simp only [List.take_zero, Int.natCast_zero] at h1 h2 h5
  rw [h1]
  exact h buf' h2 h3 h4 h5

theorem ReaderSkipDecoder_SkipN_sim (O : Nat → Nat → Bytes) (fuel : Nat) (g : RSD) (k : Nat) (hi : RInv g)
    (hk : k + g.n.toNat ≤ 2 ^ 44) (hfuel : (absRSD g).src.script.length + 2 ≤ fuel) :
    SkipNOK (ReaderSkipDecoder_SkipN srcReader O fuel g (k : Int)) (readerBackend.skipN (absRSD g) k) := by
  obtain ⟨n, hn⟩ : ∃ n : Nat, g.n = (n : Int) := ⟨g.n.toNat, by have := hi.n_nonneg; omega⟩
  obtain ⟨s, hs⟩ := Option.isSome_iff_exists.mp hi.r_some
  have hsrc : (absRSD g).src = s := by simp [absRSD, hs]
  have hgot : (absRSD g).got = g.b.mem.take n := by simp [absRSD, hn]
  rw [hsrc] at hfuel
  rw [hn] at hk; simp only [Int.toNat_natCast] at hk
  obtain ⟨g1, hgrow, hi1, hn1, hr1, htk, hroom⟩ := Grow_post O g n k hn hi hk
  have h1 := hi1.len_le; have h2 := hi1.cap_le
  rw [hn] at hn1; rw [hs] at hr1
  -- `buf = p.b[p.n : p.n+n]`, however the bound is written
  have hsl : ∀ hi' : Int, hi' = ((n + k : Nat) : Int) →
      sslice g1.b (n : Int) hi' = .ok { g1.b with mem := g1.b.mem.drop n, len := k } := by
    intro hi' e; subst e
    rw [sslice_ok _ _ _ (by omega) (by omega) (by simp [scap]; omega)]; simp; omega
  unfold ReaderSkipDecoder_SkipN
  simp [-Out.bind_ok, bind_ok_nr, hgrow, hn1]
  rw [hsl]
  rotate_left
  · rw [wrap_i64_id] <;> omega
  simp [-Out.bind_ok, bind_ok_nr]
  -- the model
  simp only [readerBackend, hsrc, hgot]
  refine full_bind_ok _ k ?step s g1 { g1.b with mem := g1.b.mem.drop n, len := k } hr1 rfl (by simp; omega)
    (by simp; omega) fuel hfuel _ _ ?_
  case step =>
    refine ⟨?_, ?_⟩
    · intro f g buf i s hr hik hbl hbm hbc
      obtain ⟨q1, q2, q3, q4, q5⟩ := readInto_ok buf i s (by omega) (by omega) hbc
      rw [hbl] at q1 q2 q3 q4 q5
      have hrl := Src.read_len s (k - i)
      have hw : wrap .i64 ((i : Int) + ((s.read (k - i)).1.length : Int)) = ((i + (s.read (k - i)).1.length : Nat) : Int) := wrap_eq (by omega)
      have hw' : wrap .i64 (((s.read (k - i)).1.length : Int) + (i : Int)) = ((i + (s.read (k - i)).1.length : Nat) : Int) := wrap_eq (by omega)
      rw [ReaderSkipDecoder_SkipN_loop1]
      simp [-Out.bind_ok, bind_ok_nr, hik, Nat.not_le.mpr hik, q1, hr, ifaceGet, q2, q3, q4, q5, hw, hw']
    · intro f g buf e i h
      rw [ReaderSkipDecoder_SkipN_loop1]
      rcases h with h | h
      · simp [h, Nat.not_lt.mpr h]
      · simp [h]
  intro buf' hb2 hb3 hb4 hb5
  have hnone := readFullLoop_none (s.script.length + 2) s k []
  generalize readFullLoop (s.script.length + 2) s k [] = res at *
  have hdl : (g1.b.mem.drop n).length = g1.b.mem.length - n := by simp
  simp only [hdl] at hb4
  have hsub : buf'.mem.length = g1.b.mem.length - n := hb4
  by_cases hfull : res.1.length ≥ k
  · -- all `k` bytes are there (an error that came with the last of them belongs to the next read)
    have hlen : res.1.length = k := by omega
    have hw : wrap .i64 ((n : Int) + (k : Int)) = ((n + k : Nat) : Int) := wrap_eq (by omega)
    have hw' : wrap .i64 ((k : Int) + (n : Int)) = ((n + k : Nat) : Int) := wrap_eq (by omega)
    simp only [hfull, if_true]
    refine ⟨{ g1 with r := some res.2.2, b := putBack g1.b (n : Int) buf', n := ((n + k : Nat) : Int) }, buf', ?_, ?_, ?_,
      rinv_putBack g1 hi1 n buf' res.2.2 _ (by omega) hsub (by omega) (by omega)⟩
    · simp [-Out.bind_ok, bind_ok_nr, hfull, Nat.not_lt.mpr hfull, hn1, hw, hw', ite_bind]
    · simp [Sl.data, hb3, ← hlen, hb2]
    · -- `p.b[:p.n]` afterwards: what was there, then the `k` bytes read
      have hl1 : (g1.b.mem.take n).length = n := List.length_take_of_le (by omega)
      simp only [absRSD, putBack_tail g1.b buf' n (by omega) hsub, Int.toNat_natCast, Option.getD_some]
      rw [List.take_append, hl1, List.take_of_length_le (by omega), Nat.add_sub_cancel_left, htk, ← hlen, hb2]
  · -- short: the source's error is returned, `p.n` stays
    have c2 := Nat.lt_of_not_le hfull
    simp only [hfull, if_false]
    cases he : res.2.1 with
    | none => exact absurd (hnone he) hfull
    | some e =>
      have hne : errCon (some e) ≠ Err.nil := by cases e <;> simp [errCon]
      refine ⟨{ g1 with r := some res.2.2, b := putBack g1.b (n : Int) buf' }, buf', ?_,
        rinv_putBack g1 hi1 n buf' res.2.2 g1.n (by omega) hsub hi1.n_nonneg hi1.n_le⟩
      simp [-Out.bind_ok, bind_ok_nr, hfull, c2, he, hne, ite_bind]

/-! ## the third back end of the generic skip decoder: `TplG.Impl`, and `Next` through the template -/

open Verif.FuncsEq in
/-- a Go error of the translation under an error naming of the template lemmas -/
def errG (N : ErrNaming) (e : Err) : GoSem.GoErr :=
  match errAbs e with
  | none => GoSem.GoErr.nil
  | some r => N.errOf (.raw r)

open Verif.FuncsEq in
/-- the translated `SkipN` as the `SkipDecoderIface` value the translated template takes -/
def ifR (N : ErrNaming) (O : Nat → Nat → Bytes) (fuel : Nat) : GoSem.SkipNI RSD :=
  { skipN := fun p n => do
      let r ← ReaderSkipDecoder_SkipN srcReader O fuel p n
      pure ((r.2.1.data, errG N r.2.2), r.1) }

/-- what the loop read comes off the stream; the script only gets shorter; never more than asked for -/
theorem readFullLoop_acct : ∀ (fuel : Nat) (s : Src) (k : Nat) (acc : Bytes), acc.length ≤ k →
    (readFullLoop fuel s k acc).1.length + (readFullLoop fuel s k acc).2.2.stream.length = acc.length + s.stream.length ∧
    (readFullLoop fuel s k acc).2.2.script.length ≤ s.script.length ∧ (readFullLoop fuel s k acc).1.length ≤ k := by
  intro fuel
  induction fuel with
  | zero => intro s k acc h; simp [readFullLoop]; exact h
  | succ f ih =>
    intro s k acc h
    unfold readFullLoop
    by_cases hge : acc.length ≥ k
    · simp only [hge, if_true]; exact ⟨trivial, Nat.le_refl _, h⟩
    · simp only [hge, if_false]
      have h1 := Src.read_stream s (k - acc.length)
      have h2 := Src.read_len s (k - acc.length)
      have h3 : (s.read (k - acc.length)).2.2.script.length ≤ s.script.length := by
        unfold Src.read; split <;> simp_all
      have h1' := congrArg List.length h1
      simp only [List.length_append] at h1'
      cases he : (s.read (k - acc.length)).2.1 with
      | some e => simp only []; refine ⟨by simp; omega, h3, by simp; omega⟩
      | none =>
        simp only []
        have := ih (s.read (k - acc.length)).2.2 k (acc ++ (s.read (k - acc.length)).1) (by simp; omega)
        simp only [List.length_append] at this
        exact ⟨by omega, by omega, this.2.2⟩

/-- the states on which the translated back end is used: small enough for Go's `int`, fuel for the script -/
def ReaderOK (fuel : Nat) (s : ReaderDec) : Prop :=
  s.got.length + s.src.stream.length ≤ 2 ^ 43 ∧ s.src.script.length + 2 ≤ fuel

theorem reader_meas (fuel : Nat) : FuncsEq.Meas readerBackend (fun s => s.src.stream.length) (ReaderOK fuel) := by
  constructor
  · intro s n b s' hp hn h
    have ha := readFullLoop_acct (s.src.script.length + 2) s.src n [] (Nat.zero_le _)
    have hnone := readFullLoop_none (s.src.script.length + 2) s.src n []
    simp only [readerBackend] at h
    generalize readFullLoop (s.src.script.length + 2) s.src n [] = res at *
    have hlen : n ≤ res.1.length := by
      by_cases hge : res.1.length ≥ n
      · exact hge
      · simp only [hge, if_false] at h
        cases he : res.2.1 with
        | none => exact hnone he
        | some e => simp [he] at h
    have hs' : s' = { src := res.2.2, got := s.got ++ res.1 } := by
      by_cases hge : res.1.length ≥ n
      · simp [hge] at h; exact h.2.symm
      · simp only [hge, if_false] at h
        cases he : res.2.1 with
        | none => simp [he] at h; exact h.2.symm
        | some e => simp [he] at h
    subst hs'
    obtain ⟨h1, h2⟩ := hp
    simp only [List.length_nil, Nat.zero_add] at ha
    refine ⟨⟨by simp; omega, by simp; omega⟩, by simp; omega⟩
  · intro s _; exact Nat.le_refl _

/-- the relation of the template lemmas: the invariant holds and the model state is the abstraction -/
def RR (p : RSD) (s : ReaderDec) : Prop := RInv p ∧ s = absRSD p

open Verif.FuncsEq in
/-- the translated `SkipN` implements the model's reader back end -/
theorem ifR_impl (N : ErrNaming) (O : Nat → Nat → Bytes) (fuel : Nat) :
    TplG.Impl N RR (ifR N O fuel) readerBackend (ReaderOK fuel) := by
  constructor
  intro p s n hR hp h0 hn
  obtain ⟨hi, rfl⟩ := hR
  obtain ⟨k, rfl⟩ : ∃ k : Nat, n = (k : Int) := ⟨n.toNat, by omega⟩
  obtain ⟨hp1, hp2⟩ := hp
  have hgl : (absRSD p).got.length = p.n.toNat := by
    have := hi.n_nonneg; have := hi.n_le; have := hi.len_le
    simp [absRSD]; omega
  have hsim := ReaderSkipDecoder_SkipN_sim O fuel p k hi (by omega) hp2
  simp only [Int.toNat_natCast, ifR]
  generalize readerBackend.skipN (absRSD p) k = y at hsim
  match y, hsim with
  | .ok (bytes, s'), ⟨g', buf, hx, hb, ha, hi'⟩ =>
    rw [hx]
    simp only [Out.bind_eq, Out.bind_ok, Out.pure_eq, errG, errAbs, hb]
    exact TplG.SSim.ok bytes g' s' ⟨hi', ha.symm⟩
  | .err (.raw e), ⟨g', buf, hx, hi'⟩ =>
    rw [hx]
    simp only [Out.bind_eq, Out.bind_ok, Out.pure_eq, errG, errAbs_errCon]
    have := TplG.SSim.err (N := N) (R := RR) buf.data g' (N.errOf (.raw e)) (N.ne_nil _)
    rwa [N.inv] at this

open Verif.FuncsEq in
/-- `ReaderSkipDecoder.Next`'s call of the generic skip decoder (`p.n = 0; NewSkipDecoderTpl(p).Skip(t, depth)`), with the
    translated `SkipN` as its back end, IS the model's `skipTplAt readerBackend` — and what `Next` returns, `p.b[:p.n]`
    with the source afterwards, is the model's `readerDecNext` -/
theorem RSD_Next_eq (N : ErrNaming) (O : Nat → Nat → Bytes) (f fuel : Nat) (p : RSD) (src : Src) (t : UInt8)
    (hi : RInv p) (hr : p.r = some src) (hsm : src.stream.length ≤ 2 ^ 43) (hf : src.script.length + 2 ≤ f)
    (hfuel : src.stream.length + 66 ≤ fuel) :
    (TplG.liftTplG N.absE absRSD
        (Funcs.Tpl_Skip (ifR N O f) fuel { p with n := 0 } (toI8 t.toNat) (Facts.defaultRecursionDepth : Nat))).bind
      (fun s => .ok (s.got, s.src)) = readerDecNext src t := by
  have hi0 : RInv { p with n := 0 } :=
    ⟨Int.le_refl 0, by simp, hi.len_le, hi.cap_le, hi.r_some⟩
  have habs : absRSD { p with n := 0 } = { src := src, got := [] } := by simp [absRSD, hr]
  have := Tpl_Skip_eqG N (R := RR) (α := absRSD) (fun _ _ h => h.2) (reader_meas f) (ifR_impl N O f)
    { p with n := 0 } { src := src, got := [] } t Facts.defaultRecursionDepth fuel ⟨hi0, habs.symm⟩
    ⟨by simp; omega, by simpa using hf⟩ (by simp [Facts.defaultRecursionDepth]) (by simp [Facts.defaultRecursionDepth]; omega)
  rw [this]
  rfl

/-! ## the generated decoder runs -/

/-- `SkipN(k)` for every `k` of the list on a fresh decoder: bytes and error of each call, `p.b[:p.n]` and the source after -/
def exSkips (src : Src) (ks : List Int) : GM (List (Bytes × Err) × Bytes × Option Src) :=
  let rec go (g : RSD) (acc : List (Bytes × Err)) : List Int → GM (List (Bytes × Err) × Bytes × Option Src)
    | [] => pure (acc.reverse, (absRSD g).got, g.r)
    | k :: ks => do
      let r ← ReaderSkipDecoder_SkipN srcReader exO 50 g k
      go r.1 ((r.2.1.data, r.2.2) :: acc) ks
  go { r := some src } [] ks

-- chunked delivery, two calls: the buffer grows (copy, then the old one is freed), what was skipped stays in `p.b[:p.n]`
example : exSkips ⟨[1, 2, 3, 4, 5, 6, 7], [⟨2, none⟩, ⟨0, none⟩, ⟨9, none⟩, ⟨9, none⟩]⟩ [3, 4] =
    .ok ([([1, 2, 3], Err.nil), ([4, 5, 6, 7], Err.nil)], [1, 2, 3, 4, 5, 6, 7], some ⟨[], []⟩) := by decide +kernel

-- the last bytes arrive together with io.EOF: no error (`if i >= n { err = nil }`, the F9 fix); the next call sees EOF
-- (its buffer is what mcache handed out: 0xA1)
example : exSkips ⟨[1, 2, 3], [⟨2, none⟩, ⟨1, some .eof⟩]⟩ [3, 1] =
    .ok ([([1, 2, 3], Err.nil), ([161], Err.eof)], [1, 2, 3], some ⟨[], []⟩) := by decide +kernel

-- a source error in the middle is returned (the bytes read so far are in the returned slice, `p.n` stays)
example : exSkips ⟨[1, 2, 3], [⟨1, none⟩, ⟨1, some (.src 7)⟩]⟩ [3] =
    .ok ([([1, 2, 161], Err.src 7)], [], some ⟨[3], []⟩) := by decide +kernel

-- a nil reader panics; Release resets and keeps the buffer
example : ReaderSkipDecoder_SkipN srcReader exO 50 ({} : RSD) 1 = .panic "nilderef" := by decide +kernel
example : (do let g ← ReaderSkipDecoder_Release { r := some (⟨[1], []⟩ : Src), n := 3, b := Sl.ofBytes [7, 8, 9] }
              pure ((absRSD g).got, g.r, g.b.len)) = .ok ([], none, 3) := by decide +kernel

end Verif.BufioxEq
