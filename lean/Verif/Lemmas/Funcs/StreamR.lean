/-
  Lemmas/Funcs/StreamR: the seventeen `BufferReader` methods of protocol/thrift/bufferreader.go that the translator
  (`extract/funcs.go`) turns into `Verif.Funcs.BR_next … BR_ReadSetBegin` over an ABSTRACT `bufiox.Reader`
  (`ReaderI ρ`) ARE, instantiated at the reader model (`iOfRd`, Funcs/RdI.lean), the hand-written stream-reader model
  functions the property theorems are about: `brNext`, `brSkipn`, `brReadI32` (Model/SkipStream.lean) and
  `Wire.brReadBool … Wire.brReadMessageBegin`, `Wire.brReadFull`, `Wire.brReadBinary` (Model/Wire.lean, monad `RM`).

      <F>_eq : WrapOK N → liftBRk N f (Funcs.<F> (iOfRd (rdOf N)) r …) = <model> … r        for EVERY reader state r

  Representation
  * errors. The model's `TErr` (`pe id` / `wrap e` / `raw e`) is named in Go by an `ErrNaming N` (Funcs/TplG.lean: an
    injection `N.errOf : TErr → GoErr` that never yields `nil`, with left inverse `N.absE`, protocol exceptions read by
    their type id). The reader hands out `rdOf N e = N.errOf (.raw e)` for its own error `e`; `WrapOK N` says that
    `NewProtocolExceptionWithErr` (`GoSem.wrapErr`) of that value is the value that names `TErr.wrap e` — what every
    BufferReader method does with a reader error. `stdNaming` (`raw e` ↦ `named "<name>"`, `wrap e` ↦
    `named "wrap:<name>"`, `pe id` ↦ `pe id ""`) is an instance (`wrapOK_std`); closed `_eq_std` instances at the end.
  * the lift `liftBRk N f` (k = number of values next to the error; all are `liftBRg`): a returned `(r', v…, err)` with
    `err == nil` ↦ `.ok (f v…, r')` (reader state carried), `err != nil` ↦ `.err (N.absE err)` — the model keeps no
    reader state next to an error, so the state and the (zero) values returned with an error are dropped —, a Go panic
    ↦ the same panic (`panic "nofuel"`, which only `iOfRd` produces when the reader MODEL runs out of its fuel, is the
    model's own `.panic "nofuel"`), `oob` ↦ `oob` (never produced).
  * values: `f = id` except: a double is its bit pattern (`Int.toNat`), a type byte is `TType` = `int8` in the
    translation and `UInt8` in the model (`tyByte`, Funcs/Read.lean), a container size is `int(uint32)` (`Int.toNat`);
    `readBinary(bs)` takes the view `(bs, off)` and returns the new `bs`: the model's result is the view's content
    afterwards (`bs'.drop off`), under `0 ≤ off ≤ len bs` (the view exists; `ReadBinary` calls it with `off = 0`).
    `ReadString` and `ReadBinary` are both `Wire.brReadBinary` (strings and byte slices are `Bytes`).
    `Readn` has no model function of its own: it is `Rd.readLen`, the reader untouched.

  No hypothesis on the reader state (no `Inv r`, no size bound) is needed anywhere:
  * a slice shorter than asked (the model's `.fail none` = `(nil, nil)`, or any `.ok b`) makes both sides index / slice
    it alike (`b[0]`, `b[1]`, `b[2:]`, `Uint32(b)`: the same panic kind in the same order) — the proofs treat the
    returned slice as arbitrary;
  * `ReadBinary` returns the whole `dirtmake.Bytes(sz)` slice in Go and the bytes COPIED in the model: they differ when
    the reader's `ReadBinary` reports a short count with a nil error. `SR.acquire_outcome` / `SR.readBinary_post` show,
    for every reader state (the content-level facts of `Lemmas/Reader.readLoop_post`, which need no invariant), that this
    does not happen: a nil error means `len(bs)` bytes were copied.
  Proof shape: a call followed by the rest of the function is compared with the model's call followed by its continuation
  by `SR.liftBRg_bind` (a call in tail position: `SR.liftBRg_tail`), which takes the callee's own `_eq` theorem and leaves
  the rest after a nil error and the return of a non-nil one; a primitive on the returned slice enters by
  `SR.liftBRg_prim` with its `_cases` lemma (the outcome on BOTH sides). No dependence on the position or polarity of a
  guard in the generated text.
-/
import Verif.Lemmas.Funcs.Read
import Verif.Lemmas.Funcs.Tpl
import Verif.Lemmas.Funcs.RdI
import Verif.Model.Wire
set_option linter.unusedSimpArgs false
namespace Verif.FuncsEq
open Verif Verif.GoSem

/-! ## errors and the lift -/

/-- the rendering of the reader's own errors that a naming `N` of the model's `TErr` values induces: the error `e` that
    `r.r.Next` returns is the Go value that names `TErr.raw e` -/
def rdOf (N : ErrNaming) : RErr → GoErr := fun e => N.errOf (.raw e)

/-- the naming agrees with `NewProtocolExceptionWithErr` (`GoSem.wrapErr`): wrapping the value that names `raw e` gives
    the value that names `wrap e` -/
def WrapOK (N : ErrNaming) : Prop := ∀ e, wrapErr (N.errOf (.raw e)) = N.errOf (.wrap e)

theorem wrapOK_std : WrapOK stdNaming := wrapErr_errOfStd

def liftBRg {τ β : Type} (N : ErrNaming) (st : τ → Rd) (er : τ → GoErr) (val : τ → β) (x : GM τ) : TOut (β × Rd) :=
  match x with
  | .ok t => if er t = GoErr.nil then .ok (val t, st t) else .err (N.absE (er t))
  | .panic s => .panic s
  | .oob => .oob
  | .err e => nomatch e

def liftBR0 (N : ErrNaming) (x : GM (Rd × GoErr)) : TOut (Unit × Rd) :=
  liftBRg N (fun t => t.1) (fun t => t.2) (fun _ => ()) x

def liftBR1 {α β : Type} (N : ErrNaming) (f : α → β) (x : GM (Rd × α × GoErr)) : TOut (β × Rd) :=
  liftBRg N (fun t => t.1) (fun t => t.2.2) (fun t => f t.2.1) x

def liftBR2 {α α' β : Type} (N : ErrNaming) (f : α → α' → β) (x : GM (Rd × α × α' × GoErr)) : TOut (β × Rd) :=
  liftBRg N (fun t => t.1) (fun t => t.2.2.2) (fun t => f t.2.1 t.2.2.1) x

def liftBR3 {α α' α'' β : Type} (N : ErrNaming) (f : α → α' → α'' → β) (x : GM (Rd × α × α' × α'' × GoErr)) :
    TOut (β × Rd) :=
  liftBRg N (fun t => t.1) (fun t => t.2.2.2.2) (fun t => f t.2.1 t.2.2.1 t.2.2.2.1) x

namespace SR

section liftg
variable {σ τ β γ : Type} (N : ErrNaming) (st : τ → Rd) (er : τ → GoErr) (val : τ → β)

theorem liftBRg_ok (t : τ) (h : er t = GoErr.nil) : liftBRg N st er val (.ok t) = .ok (val t, st t) := by
  simp [liftBRg, h]

theorem liftBRg_err (t : τ) (h : er t ≠ GoErr.nil) : liftBRg N st er val (.ok t) = .err (N.absE (er t)) := by
  simp [liftBRg, h]

theorem liftBRg_panic (s : String) : liftBRg N st er val (.panic s) = .panic s := rfl

variable {N st er val}

theorem liftBRg_bind {st' : σ → Rd} {er' : σ → GoErr} {val' : σ → γ} {x : GM σ} {F : σ → GM τ}
    {m : TOut (γ × Rd)} {k : γ × Rd → TOut (β × Rd)} (hx : liftBRg N st' er' val' x = m)
    (hok : ∀ t, er' t = GoErr.nil → liftBRg N st er val (F t) = k (val' t, st' t))
    (herr : ∀ t, er' t ≠ GoErr.nil → liftBRg N st er val (F t) = .err (N.absE (er' t))) :
    liftBRg N st er val (x >>= F) = m >>= k := by
  subst hx
  cases x with
  | ok t =>
    by_cases h : er' t = GoErr.nil
    · simpa [liftBRg, h] using hok t h
    · simpa [liftBRg, h] using herr t h
  | panic s => rfl
  | oob => rfl
  | err e => exact nomatch e

theorem liftBRg_tail {st' : σ → Rd} {er' : σ → GoErr} {val' : σ → β} {x : GM σ} {F : σ → GM τ}
    {m : TOut (β × Rd)} (hx : liftBRg N st' er' val' x = m)
    (hok : ∀ t, er' t = GoErr.nil → liftBRg N st er val (F t) = .ok (val' t, st' t))
    (herr : ∀ t, er' t ≠ GoErr.nil → liftBRg N st er val (F t) = .err (N.absE (er' t))) :
    liftBRg N st er val (x >>= F) = m := by
  rw [liftBRg_bind hx hok herr]
  cases m <;> rfl

theorem liftBRg_prim {α : Type} {p : GM α} {q : TOut γ} {f : γ → α} {P : γ → Prop} {F : α → GM τ}
    {k : γ → TOut (β × Rd)} (hpq : (∃ s, p = .panic s ∧ q = .panic s) ∨ ∃ c, p = .ok (f c) ∧ q = .ok c ∧ P c)
    (hok : ∀ c, P c → liftBRg N st er val (F (f c)) = k c) : liftBRg N st er val (p >>= F) = q >>= k := by
  rcases hpq with ⟨s, hp, hq⟩ | ⟨c, hp, hq, hc⟩
  · subst hp hq; rfl
  · subst hp hq; exact hok c hc

end liftg

section lifts
variable {α α' α'' β : Type} (N : ErrNaming)

theorem liftBR0_panic (s : String) : liftBR0 N (.panic s) = .panic s := rfl
theorem liftBR1_pe (f : α → β) (r : Rd) (v : α) (id : Int) (msg : String) :
    liftBR1 N f (.ok (r, v, GoErr.pe id msg)) = .err (.pe id) := by
  simp [liftBR1, liftBRg, N.pe]
theorem liftBR1_panic (f : α → β) (s : String) : liftBR1 N f (.panic s) = .panic s := rfl
theorem liftBR2_pe (f : α → α' → β) (r : Rd) (v : α) (v' : α') (id : Int) (msg : String) :
    liftBR2 N f (.ok (r, v, v', GoErr.pe id msg)) = .err (.pe id) := by
  simp [liftBR2, liftBRg, N.pe]
theorem liftBR2_panic (f : α → α' → β) (s : String) : liftBR2 N f (.panic s) = .panic s := rfl
theorem liftBR3_panic (f : α → α' → α'' → β) (s : String) : liftBR3 N f (.panic s) = .panic s := rfl
end lifts

/-- the value is a variable with the one fact needed of it: the proofs never look inside `rdNN b` -/
theorem u16_cases (b : Bytes) :
    (∃ s, beU16 b = .panic s ∧ Wire.u16of b = .panic s) ∨
    (∃ v : Nat, beU16 b = .ok (v : Int) ∧ Wire.u16of b = .ok v ∧ wrap .i16 (v : Int) = toI16 v) := by
  unfold beU16 Wire.u16of
  by_cases h : b.length < 2
  · left; have h' : ¬ 2 ≤ b.length := by omega
    simp [h, h']
  · right; have h' : 2 ≤ b.length := by omega
    exact ⟨rd16 b, by simp [h], by simp [h'], wrap_i16_nat _ (rd16_lt b)⟩

theorem u32_cases (b : Bytes) :
    (∃ s, beU32 b = .panic s ∧ u32of b = .panic s) ∨
    (∃ v : Nat, beU32 b = .ok (v : Int) ∧ u32of b = .ok v ∧ wrap .i32 (v : Int) = toI32 v) := by
  unfold beU32 u32of
  by_cases h : b.length < 4
  · left; have h' : ¬ 4 ≤ b.length := by omega
    simp [h, h']
  · right; have h' : 4 ≤ b.length := by omega
    exact ⟨rd32 b, by simp [h], by simp [h'], wrap_i32_nat _ (rd32_lt b)⟩

theorem u64_cases (b : Bytes) :
    (∃ s, beU64 b = .panic s ∧ Wire.u64of b = .panic s) ∨
    (∃ v : Nat, beU64 b = .ok (v : Int) ∧ Wire.u64of b = .ok v ∧ wrap .i64 (v : Int) = toI64 v) := by
  unfold beU64 Wire.u64of
  by_cases h : b.length < 8
  · left; have h' : ¬ 8 ≤ b.length := by omega
    simp [h, h']
  · right; have h' : 8 ≤ b.length := by omega
    exact ⟨rd64 b, by simp [h], by simp [h'], wrap_i64_nat _ (rd64_lt b)⟩

/-- `b[k]` (`ki` is the Go index, a literal) -/
theorem idx_cases (b : Bytes) (k : Nat) (ki : Int) (hk : ki = (k : Int)) :
    (∃ s, GoSem.idx b ki = .panic s ∧ Verif.idx b k = .panic s) ∨
    (∃ x : UInt8, GoSem.idx b ki = .ok (x.toNat : Int) ∧ Verif.idx b k = .ok x ∧
      wrap .i8 (x.toNat : Int) = toI8 x.toNat) := by
  subst hk
  rw [Tpl.gidx_nat]; unfold Verif.idx
  cases b[k]? with
  | none => left; exact ⟨_, rfl, rfl⟩
  | some x => right; exact ⟨x, rfl, rfl, wrap_i8_nat _ x.toNat_lt⟩

theorem sfrom_cases (b : Bytes) (k : Nat) (ki : Int) (hk : ki = (k : Int)) :
    (∃ s, sliceFrom b ki = .panic s ∧ Wire.sfrom b k = .panic s) ∨
    (∃ b', sliceFrom b ki = .ok b' ∧ Wire.sfrom b k = .ok b' ∧ b' = b.drop k) := by
  subst hk
  unfold sliceFrom Wire.sfrom len
  by_cases h : k > b.length
  · left
    have h' : ((k : Int) < 0 ∨ (k : Int) > (b.length : Int)) := by omega
    simp [h, h']
  · right
    have h' : ¬ ((k : Int) < 0 ∨ (k : Int) > (b.length : Int)) := by omega
    exact ⟨b.drop k, by rw [if_neg h']; simp, by rw [if_neg h], rfl⟩

end SR

/-! ## the seventeen functions -/

attribute [local simp] liftBR0 liftBR1 liftBR2 liftBR3 SR.liftBRg_ok SR.liftBRg_err SR.liftBRg_panic ErrNaming.ne_nil
  ErrNaming.inv ErrNaming.pe

theorem BR_next_eq (N : ErrNaming) (hw : WrapOK N) (r : Rd) (n : Int) :
    liftBR1 N id (Funcs.BR_next (iOfRd (rdOf N)) r n) = brNext n r := by
  unfold Funcs.BR_next brNext
  simp only [iOfRd, resI]
  generalize r.next n = p
  obtain ⟨res, r'⟩ := p
  cases res with
  | ok b => simp
  | fail e =>
    cases e with
    | none => simp
    | some e =>
      have hw' : wrapErr (N.errOf (.raw e)) = N.errOf (.wrap e) := hw e
      simp [rdOf, hw']
  | nofuel => simp

theorem BR_skipn_eq (N : ErrNaming) (hw : WrapOK N) (r : Rd) (n : Int) :
    liftBR0 N (Funcs.BR_skipn (iOfRd (rdOf N)) r n) = brSkipn n r := by
  unfold Funcs.BR_skipn brSkipn
  by_cases hn : n < 0
  · simp [hn, errNeg, Facts.peNEGATIVE_SIZE]
  · simp only [iOfRd]
    generalize r.skip n = p
    obtain ⟨res, r'⟩ := p
    cases res with
    | ok b => simp [hn]
    | fail e =>
      cases e with
      | none => simp [hn]
      | some e =>
        have hw' : wrapErr (N.errOf (.raw e)) = N.errOf (.wrap e) := hw e
        simp [hn, rdOf, hw']
    | nofuel => simp [hn]

/-- `Readn` is the model's `readLen` (the reader is not touched; no error result) -/
theorem BR_Readn_eq (errOf : RErr → GoErr) (r : Rd) :
    Funcs.BR_Readn (iOfRd errOf) r = .ok (r, (r.readLen : Int)) := rfl

theorem BR_ReadBool_eq (N : ErrNaming) (hw : WrapOK N) (r : Rd) :
    liftBR1 N id (Funcs.BR_ReadBool (iOfRd (rdOf N)) r) = Wire.brReadBool r := by
  unfold Funcs.BR_ReadBool Wire.brReadBool
  refine SR.liftBRg_bind (BR_next_eq N hw r 1) (fun t h => ?_) (fun t h => ?_)
  · simp [h]
    refine SR.liftBRg_prim (SR.idx_cases t.2.1 0 0 rfl) (fun v hv => ?_)
    simp [h, u8_int_eq_one]
  · simp [h]

theorem BR_ReadByte_eq (N : ErrNaming) (hw : WrapOK N) (r : Rd) :
    liftBR1 N id (Funcs.BR_ReadByte (iOfRd (rdOf N)) r) = Wire.brReadByte r := by
  unfold Funcs.BR_ReadByte Wire.brReadByte
  refine SR.liftBRg_bind (BR_next_eq N hw r 1) (fun t h => ?_) (fun t h => ?_)
  · simp [h]
    refine SR.liftBRg_prim (SR.idx_cases t.2.1 0 0 rfl) (fun v hv => ?_)
    simp [h, hv]
  · simp [h]

theorem BR_ReadI16_eq (N : ErrNaming) (hw : WrapOK N) (r : Rd) :
    liftBR1 N id (Funcs.BR_ReadI16 (iOfRd (rdOf N)) r) = Wire.brReadI16 r := by
  unfold Funcs.BR_ReadI16 Wire.brReadI16
  refine SR.liftBRg_bind (BR_next_eq N hw r 2) (fun t h => ?_) (fun t h => ?_)
  · simp [h]
    refine SR.liftBRg_prim (SR.u16_cases t.2.1) (fun v hv => ?_)
    simp [h, hv]
  · simp [h]

theorem BR_ReadI32_eq (N : ErrNaming) (hw : WrapOK N) (r : Rd) :
    liftBR1 N id (Funcs.BR_ReadI32 (iOfRd (rdOf N)) r) = brReadI32 r := by
  unfold Funcs.BR_ReadI32 brReadI32
  refine SR.liftBRg_bind (BR_next_eq N hw r 4) (fun t h => ?_) (fun t h => ?_)
  · simp [h]
    refine SR.liftBRg_prim (SR.u32_cases t.2.1) (fun v hv => ?_)
    simp [h, hv]
  · simp [h]

theorem BR_ReadI64_eq (N : ErrNaming) (hw : WrapOK N) (r : Rd) :
    liftBR1 N id (Funcs.BR_ReadI64 (iOfRd (rdOf N)) r) = Wire.brReadI64 r := by
  unfold Funcs.BR_ReadI64 Wire.brReadI64
  refine SR.liftBRg_bind (BR_next_eq N hw r 8) (fun t h => ?_) (fun t h => ?_)
  · simp [h]
    refine SR.liftBRg_prim (SR.u64_cases t.2.1) (fun v hv => ?_)
    simp [h, hv]
  · simp [h]

/-- a double is its 64-bit pattern: an `Int` in `[0, 2^64)` in the translation, a `Nat` in the model -/
theorem BR_ReadDouble_eq (N : ErrNaming) (hw : WrapOK N) (r : Rd) :
    liftBR1 N Int.toNat (Funcs.BR_ReadDouble (iOfRd (rdOf N)) r) = Wire.brReadDouble r := by
  unfold Funcs.BR_ReadDouble Wire.brReadDouble
  refine SR.liftBRg_bind (BR_next_eq N hw r 8) (fun t h => ?_) (fun t h => ?_)
  · simp [h]
    refine SR.liftBRg_prim (SR.u64_cases t.2.1) (fun v hv => ?_)
    simp [h]
  · simp [h]

/-! ## ReadBinary / ReadString -/

namespace SR

theorem acquire_outcome (r : Rd) (n m : Nat) (r' : Rd) (h : r.acquire n = some (m, r')) :
    (m = n ∧ n ≤ r'.buf.length - r'.ri) ∨ (m = r'.buf.length - r'.ri ∧ r'.err ≠ none) := by
  unfold Rd.acquire at h
  split at h
  · rename_i hfast
    simp only [Option.some.injEq, Prod.mk.injEq] at h
    obtain ⟨hm, hr⟩ := h; subst hm hr
    exact Or.inl ⟨rfl, hfast⟩
  · unfold Rd.acquireSlow at h
    split at h
    · rename_i herr
      simp only [Option.some.injEq, Prod.mk.injEq] at h
      obtain ⟨hm, hr⟩ := h; subst hm hr
      refine Or.inr ⟨rfl, ?_⟩
      intro hnone; rw [hnone] at herr; simp at herr
    · simp only [] at h
      rcases (readLoop_post _ _ _ _ _ _ h).outcome with ⟨h1, h2, _⟩ | ⟨h1, h2⟩
      · exact Or.inl ⟨h1, h2⟩
      · exact Or.inr ⟨h1, h2⟩

/-- what `ReadBinary(bs)` of the reader model reports, for EVERY reader state (no invariant): the bytes copied are `m ≤ k`
    in number, and a nil error means the slice was filled (`m = k`) -/
theorem readBinary_post (r : Rd) (k : Nat) (out : Bytes) (m : Nat) (e : Option RErr) (r' : Rd)
    (h : r.readBinary k = (some (out, m, e), r')) : out.length = m ∧ m ≤ k ∧ (e = none → m = k) := by
  unfold Rd.readBinary at h
  generalize hacq : r.acquire k = a at h
  cases a with
  | none => simp at h
  | some p =>
    obtain ⟨m0, r1⟩ := p
    simp only [Prod.mk.injEq, Option.some.injEq] at h
    obtain ⟨⟨ho, hm, he⟩, _⟩ := h
    have hout := acquire_outcome r k m0 r1 hacq
    subst ho hm
    by_cases hgt : m0 > k
    · simp only [hgt, if_true] at he ⊢
      refine ⟨?_, Nat.le_refl _, fun _ => by simp⟩
      simp only [List.length_take, List.length_drop]
      rcases hout with ⟨h1, h2⟩ | ⟨h1, _⟩ <;> omega
    · simp only [hgt, if_false] at he ⊢
      refine ⟨?_, by omega, ?_⟩
      · simp only [List.length_take, List.length_drop]
        rcases hout with ⟨h1, h2⟩ | ⟨h1, _⟩ <;> omega
      · intro hn
        by_cases hlt : k > m0
        · rw [if_pos hlt] at he
          rcases hout with ⟨h1, h2⟩ | ⟨h1, h2⟩
          · omega
          · rw [← he] at hn; exact absurd hn h2
        · omega

/-- `copy(bs[off:], out)` when `out` fills the view: the view afterwards is `out` -/
theorem vcopy_full (bs : Bytes) (off : Int) (out : Bytes) (h0 : 0 ≤ off) (h1 : off ≤ (bs.length : Int))
    (hl : out.length = bs.length - off.toNat) : (vcopy bs off out).1.drop off.toNat = out := by
  have hn : min (len bs - off).toNat out.length = out.length := by unfold len; omega
  have ht : (bs.take off.toNat).length = off.toNat := by simp; omega
  simp only [vcopy, vlen, hn, List.take_length, putAt, List.append_assoc]
  rw [List.drop_left' ht, List.drop_eq_nil_of_le (by omega)]
  simp

theorem dirty_ok (n : Int) (h : 0 ≤ n) : dirtyBytes n = .ok (List.replicate n.toNat 0) := by
  have : ¬ n < 0 := by omega
  simp [dirtyBytes, this]

end SR

/-- `readBinary(bs)`: the slice `bs` is the view `(bs, off)` with `0 ≤ off ≤ len bs` (the view exists: in Go the caller's
    `bs[off:]` would have panicked otherwise; ReadBinary calls it with `off = 0`); its content afterwards is what the model
    returns. The reported count is not part of the model's result. -/
theorem BR_readBinary_eq (N : ErrNaming) (hw : WrapOK N) (r : Rd) (bs : Bytes) (off : Int)
    (h0 : 0 ≤ off) (h1 : off ≤ (bs.length : Int)) :
    liftBR2 N (fun bs' _ => bs'.drop off.toNat) (Funcs.BR_readBinary (iOfRd (rdOf N)) r bs off) =
      Wire.brReadFull (bs.length - off.toNat) r := by
  unfold Funcs.BR_readBinary Wire.brReadFull
  have hk : ¬ (vlen bs off < 0) := by unfold vlen len; omega
  have hk' : (vlen bs off).toNat = bs.length - off.toNat := by unfold vlen len; omega
  simp only [iOfRd, hk, if_false, hk']
  generalize hp : r.readBinary (bs.length - off.toNat) = p
  obtain ⟨res, r'⟩ := p
  cases res with
  | none => simp
  | some t =>
    obtain ⟨out, m, e⟩ := t
    have hpost := SR.readBinary_post r _ out m e r' hp
    cases e with
    | some e =>
      have hw' : wrapErr (N.errOf (.raw e)) = N.errOf (.wrap e) := hw e
      simp [rdOf, hw']
    | none =>
      have hl : out.length = bs.length - off.toNat := by have := hpost.2.2 rfl; omega
      simp [SR.vcopy_full bs off out h0 h1 hl]

theorem BR_ReadBinary_eq (N : ErrNaming) (hw : WrapOK N) (r : Rd) :
    liftBR1 N id (Funcs.BR_ReadBinary (iOfRd (rdOf N)) r) = Wire.brReadBinary r := by
  unfold Funcs.BR_ReadBinary Wire.brReadBinary
  refine SR.liftBRg_bind (BR_ReadI32_eq N hw r) (fun t h => ?_) (fun t h => ?_)
  · by_cases hneg : t.2.1 < 0
    · simp [h, hneg, errNeg, Facts.peNEGATIVE_SIZE]
    · have hd := SR.dirty_ok t.2.1 (by omega)
      have hq := BR_readBinary_eq N hw t.1 (List.replicate t.2.1.toNat 0) 0 (by omega) (by omega)
      simp only [List.length_replicate, Int.toNat_zero, Nat.sub_zero, List.drop_zero] at hq
      simp [h, hneg, hd]
      refine SR.liftBRg_tail hq (fun u hu => ?_) (fun u hu => ?_)
      · simp [hu]
      · simp [hu]
  · simp [h]

/-- `ReadString` is `ReadBinary` (a Go string and a `[]byte` are both `Bytes`; the model has one function for the two) -/
theorem BR_ReadString_eq (N : ErrNaming) (hw : WrapOK N) (r : Rd) :
    liftBR1 N id (Funcs.BR_ReadString (iOfRd (rdOf N)) r) = Wire.brReadBinary r := by
  unfold Funcs.BR_ReadString
  refine SR.liftBRg_tail (BR_ReadBinary_eq N hw r) (fun t h => ?_) (fun t h => ?_)
  · simp [h]
  · simp [h]

/-! ## container headers -/

namespace SR

theorem tyByte_zero : tyByte 0 = T_STOP := by decide

theorem wrap_i8_stop : wrap .i8 (T_STOP.toNat : Int) = 0 := by decide

end SR

/-- a type byte is an `int8` (`TType`) in the translation and a `UInt8` in the model: `tyByte` (Funcs/Read.lean) -/
theorem BR_ReadFieldBegin_eq (N : ErrNaming) (hw : WrapOK N) (r : Rd) :
    liftBR2 N (fun t id => (tyByte t, id)) (Funcs.BR_ReadFieldBegin (iOfRd (rdOf N)) r) = Wire.brReadFieldBegin r := by
  unfold Funcs.BR_ReadFieldBegin Wire.brReadFieldBegin
  refine SR.liftBRg_bind (BR_next_eq N hw r 1) (fun t h => ?_) (fun t h => ?_)
  · simp [h]
    refine SR.liftBRg_prim (SR.idx_cases t.2.1 0 0 rfl) (fun x hx => ?_)
    by_cases hs : x = T_STOP
    · simp [h, hs, SR.wrap_i8_stop, SR.tyByte_zero]
    · have hz : ¬ wrap .i8 (x.toNat : Int) = 0 := by rw [hx]; exact fun hc => hs ((toI8_eq_0 x).mp hc)
      simp [h, hs, hz]
      refine SR.liftBRg_bind (BR_next_eq N hw t.1 2) (fun u hu => ?_) (fun u hu => ?_)
      · simp [hu]
        refine SR.liftBRg_prim (SR.u16_cases u.2.1) (fun v hv => ?_)
        simp [hu, hv, tyByte_wrap]
      · simp [hu]
  · simp [h]

/-- the size is `int(uint32)`: an `Int` in `[0, 2^32)` in the translation, a `Nat` in the model -/
theorem BR_ReadMapBegin_eq (N : ErrNaming) (hw : WrapOK N) (r : Rd) :
    liftBR3 N (fun kt vt n => (tyByte kt, tyByte vt, n.toNat)) (Funcs.BR_ReadMapBegin (iOfRd (rdOf N)) r) =
      Wire.brReadMapBegin r := by
  unfold Funcs.BR_ReadMapBegin Wire.brReadMapBegin
  refine SR.liftBRg_bind (BR_next_eq N hw r 6) (fun t h => ?_) (fun t h => ?_)
  · simp [h]
    refine SR.liftBRg_prim (SR.idx_cases t.2.1 0 0 rfl) (fun x _ => ?_)
    refine SR.liftBRg_prim (SR.idx_cases t.2.1 1 1 rfl) (fun y _ => ?_)
    refine SR.liftBRg_prim (SR.sfrom_cases t.2.1 2 2 rfl) (fun b' _ => ?_)
    refine SR.liftBRg_prim (SR.u32_cases b') (fun v _ => ?_)
    simp [h, tyByte_wrap]
  · simp [h]

theorem BR_ReadListBegin_eq (N : ErrNaming) (hw : WrapOK N) (r : Rd) :
    liftBR2 N (fun et n => (tyByte et, n.toNat)) (Funcs.BR_ReadListBegin (iOfRd (rdOf N)) r) =
      Wire.brReadListBegin r := by
  unfold Funcs.BR_ReadListBegin Wire.brReadListBegin
  refine SR.liftBRg_bind (BR_next_eq N hw r 5) (fun t h => ?_) (fun t h => ?_)
  · simp [h]
    refine SR.liftBRg_prim (SR.idx_cases t.2.1 0 0 rfl) (fun x _ => ?_)
    refine SR.liftBRg_prim (SR.sfrom_cases t.2.1 1 1 rfl) (fun b' _ => ?_)
    refine SR.liftBRg_prim (SR.u32_cases b') (fun v _ => ?_)
    simp [h, tyByte_wrap]
  · simp [h]

/-- `ReadSetBegin` has the body of `ReadListBegin` (the model functions are the same term). The proof covers both ways
    of writing it in Go: the body spelled out (first alternative: the ListBegin proof), or a call of `ReadListBegin`
    in tail position (second alternative). -/
theorem BR_ReadSetBegin_eq (N : ErrNaming) (hw : WrapOK N) (r : Rd) :
    liftBR2 N (fun et n => (tyByte et, n.toNat)) (Funcs.BR_ReadSetBegin (iOfRd (rdOf N)) r) =
      Wire.brReadSetBegin r := by
  unfold Funcs.BR_ReadSetBegin Wire.brReadSetBegin
  first
  | (refine SR.liftBRg_bind (BR_next_eq N hw r 5) (fun t h => ?_) (fun t h => ?_)
     · simp [h]
       refine SR.liftBRg_prim (SR.idx_cases t.2.1 0 0 rfl) (fun x _ => ?_)
       refine SR.liftBRg_prim (SR.sfrom_cases t.2.1 1 1 rfl) (fun b' _ => ?_)
       refine SR.liftBRg_prim (SR.u32_cases b') (fun v _ => ?_)
       simp [h, tyByte_wrap]
     · simp [h])
  | (refine SR.liftBRg_tail (BR_ReadListBegin_eq N hw r) (fun t h => ?_) (fun t h => ?_)
     · simp [h]
     · simp [h])

/-! ## ReadMessageBegin -/

namespace SR

/-- `uint32(header) & mask` on both sides -/
theorem hdr_band (v : Int) (m : Nat) (hm : m < 4294967296) :
    band .u32 (wrap .u32 v) (m : Int) = ((ofInt 32 v &&& m : Nat) : Int) := by
  rw [wrap_u32]; exact band_u32_nat _ _ (ofInt_lt 32 v) hm

end SR

theorem BR_ReadMessageBegin_eq (N : ErrNaming) (hw : WrapOK N) (r : Rd) :
    liftBR3 N (fun name typ seq => (name, typ, seq)) (Funcs.BR_ReadMessageBegin (iOfRd (rdOf N)) r) =
      Wire.brReadMessageBegin r := by
  unfold Funcs.BR_ReadMessageBegin Wire.brReadMessageBegin
  refine SR.liftBRg_bind (BR_ReadI32_eq N hw r) (fun t h => ?_) (fun t h => ?_)
  · have hv : band .u32 (wrap .u32 t.2.1) 4294901760 = ((ofInt 32 t.2.1 &&& 4294901760 : Nat) : Int) := by
      simpa using SR.hdr_band t.2.1 4294901760 (by omega)
    by_cases hver : ofInt 32 t.2.1 &&& 4294901760 = 2147549184
    · have hver' : ((ofInt 32 t.2.1 &&& 4294901760 : Nat) : Int) = 2147549184 := by omega
      have ht : band .u32 (wrap .u32 t.2.1) 65535 = ((ofInt 32 t.2.1 &&& 65535 : Nat) : Int) := by
        simpa using SR.hdr_band t.2.1 65535 (by omega)
      have htl : ofInt 32 t.2.1 &&& 65535 ≤ 65535 := Nat.and_le_right
      have hty : wrap .i32 ((ofInt 32 t.2.1 &&& 65535 : Nat) : Int) = ((ofInt 32 t.2.1 &&& 65535 : Nat) : Int) :=
        wrap_i32_of_range _ (by omega) (by omega)
      simp [h, hv, hver, hver', Facts.msgVersionMask, Facts.msgVersion1]
      refine SR.liftBRg_bind (BR_ReadString_eq N hw t.1) (fun u hu => ?_) (fun u hu => ?_)
      · simp [hu]
        refine SR.liftBRg_bind (BR_ReadI32_eq N hw u.1) (fun w hw' => ?_) (fun w hw' => ?_)
        · simp [hw', ht, hty, Facts.msgTypeMask]
        · simp [hw']
      · simp [hu]
    · have hver' : ¬ ((ofInt 32 t.2.1 &&& 4294901760 : Nat) : Int) = 2147549184 := by omega
      -- both orientations of the comparison (`a != b` / `b != a` in the source)
      have hver'' : ¬ (2147549184 : Int) = ((ofInt 32 t.2.1 &&& 4294901760 : Nat) : Int) := by omega
      simp [h, hv, hver, hver', hver'', Facts.msgVersionMask, Facts.msgVersion1, Wire.errBadVersion,
        Facts.peBAD_VERSION]
  · simp [h]

/-! ## the standard naming (`stdNaming`, Funcs/TplG.lean): closed instances -/

/-- reader errors by name: `io.EOF`, `io.ErrNoProgress`, `bufiox.errNegativeCount`, `src#k` -/
abbrev rdStd : RErr → GoErr := rdOf stdNaming

theorem BR_next_eq_std (r : Rd) (n : Int) : liftBR1 stdNaming id (Funcs.BR_next (iOfRd rdStd) r n) = brNext n r :=
  BR_next_eq stdNaming wrapOK_std r n
theorem BR_skipn_eq_std (r : Rd) (n : Int) : liftBR0 stdNaming (Funcs.BR_skipn (iOfRd rdStd) r n) = brSkipn n r :=
  BR_skipn_eq stdNaming wrapOK_std r n
theorem BR_ReadBool_eq_std (r : Rd) : liftBR1 stdNaming id (Funcs.BR_ReadBool (iOfRd rdStd) r) = Wire.brReadBool r :=
  BR_ReadBool_eq stdNaming wrapOK_std r
theorem BR_ReadI32_eq_std (r : Rd) : liftBR1 stdNaming id (Funcs.BR_ReadI32 (iOfRd rdStd) r) = brReadI32 r :=
  BR_ReadI32_eq stdNaming wrapOK_std r
theorem BR_ReadBinary_eq_std (r : Rd) :
    liftBR1 stdNaming id (Funcs.BR_ReadBinary (iOfRd rdStd) r) = Wire.brReadBinary r :=
  BR_ReadBinary_eq stdNaming wrapOK_std r
theorem BR_ReadMessageBegin_eq_std (r : Rd) :
    liftBR3 stdNaming (fun name typ seq => (name, typ, seq)) (Funcs.BR_ReadMessageBegin (iOfRd rdStd) r) =
      Wire.brReadMessageBegin r :=
  BR_ReadMessageBegin_eq stdNaming wrapOK_std r

/-! ## the generated functions compute (non-vacuity) -/
namespace SR

/-- what the examples show of a result: bytes consumed so far (`ReadLen`), value(s), error -/
def shown {α : Type} (x : GM (Rd × α)) : GM (Nat × α) := x.bind fun t => .ok (t.1.readLen, t.2)

/-- a BytesReader over `data` -/
def bytesRd (data : Bytes) : Rd := Rd.newBytes data data.length
/-- a DefaultReader over a source that delivers `data` in reads of at most `k` bytes, then `io.EOF` -/
def chunkRd (data : Bytes) (k : Nat) : Rd := Rd.newDefault ⟨data, List.replicate (data.length + 1) ⟨k, none⟩⟩

-- success
example : shown (Funcs.BR_ReadI32 (iOfRd rdStd) (bytesRd [0xff, 0xff, 0xff, 0xfe, 9])) = .ok (4, -2, .nil) := by
  decide +kernel
example : shown (Funcs.BR_ReadBool (iOfRd rdStd) (bytesRd [1])) = .ok (1, true, .nil) := by decide +kernel
example : shown (Funcs.BR_ReadFieldBegin (iOfRd rdStd) (bytesRd [8, 0xff, 0xff])) = .ok (3, 8, -1, .nil) := by
  decide +kernel
example : shown (Funcs.BR_ReadFieldBegin (iOfRd rdStd) (bytesRd [0, 7])) = .ok (1, 0, 0, .nil) := by decide +kernel
example : shown (Funcs.BR_ReadMapBegin (iOfRd rdStd) (bytesRd [11, 12, 0, 0, 1, 0])) = .ok (6, 11, 12, 256, .nil) := by
  decide +kernel
example : shown (Funcs.BR_ReadListBegin (iOfRd rdStd) (bytesRd [0x8b, 0xff, 0xff, 0xff, 0xff])) =
    .ok (5, -117, 4294967295, .nil) := by decide +kernel
example : shown (Funcs.BR_ReadString (iOfRd rdStd) (chunkRd [0, 0, 0, 2, 0x68, 0x69, 0x21] 3)) =
    .ok (6, [0x68, 0x69], .nil) := by decide +kernel
example : shown (Funcs.BR_ReadMessageBegin (iOfRd rdStd)
    (chunkRd [0x80, 1, 0, 1, 0, 0, 0, 1, 0x66, 0, 0, 0, 7] 5)) = .ok (13, [0x66], 1, 7, .nil) := by decide +kernel
example : liftBR3 stdNaming (fun name typ seq => (name, typ, seq)) (Funcs.BR_ReadMessageBegin (iOfRd rdStd)
    (bytesRd [0x80, 1, 0, 1, 0, 0, 0, 1, 0x66, 0, 0, 0, 7])) = Wire.brReadMessageBegin (bytesRd [0x80, 1, 0, 1, 0, 0, 0, 1, 0x66, 0, 0, 0, 7]) :=
  BR_ReadMessageBegin_eq_std _
example : shown (Funcs.BR_skipn (iOfRd rdStd) (bytesRd [1, 2, 3]) 2) = .ok (2, .nil) := by decide +kernel
example : Funcs.BR_Readn (iOfRd rdStd) (bytesRd [1, 2, 3]) = .ok (bytesRd [1, 2, 3], 0) := by decide +kernel
-- error values: the reader's io.EOF wrapped by NewProtocolExceptionWithErr; the protocol exceptions of BufferReader itself
example : shown (Funcs.BR_ReadI32 (iOfRd rdStd) (bytesRd [1, 2])) = .ok (0, 0, .named "wrap:io.EOF") := by decide +kernel
example : liftBR1 stdNaming id (Funcs.BR_ReadI32 (iOfRd rdStd) (bytesRd [1, 2])) = .err (.wrap .eof) := by decide +kernel
example : shown (Funcs.BR_ReadBinary (iOfRd rdStd) (bytesRd [0, 0, 0, 3, 0x68])) = .ok (5, [0x68, 0, 0], .named "wrap:io.EOF") := by
  decide +kernel
example : shown (Funcs.BR_ReadString (iOfRd rdStd) (bytesRd [0xff, 0xff, 0xff, 0xff])) =
    .ok (4, [], .pe 2 "negative size") := by decide +kernel
example : liftBR1 stdNaming id (Funcs.BR_ReadString (iOfRd rdStd) (bytesRd [0xff, 0xff, 0xff, 0xff])) = .err errNeg := by
  decide +kernel
example : liftBR3 stdNaming (fun name typ seq => (name, typ, seq)) (Funcs.BR_ReadMessageBegin (iOfRd rdStd)
    (bytesRd [0x80, 2, 0, 1, 0, 0, 0, 0])) = .err Wire.errBadVersion := by decide +kernel
example : shown (Funcs.BR_skipn (iOfRd rdStd) (bytesRd [1, 2, 3]) (-1)) = .ok (0, .pe 2 "negative size") := by decide +kernel
example : shown (Funcs.BR_skipn (iOfRd rdStd) (bytesRd [1, 2, 3]) 4) = .ok (0, .named "wrap:io.EOF") := by decide +kernel
-- panics. Over the reader MODEL no Read* panics (a count below the request always comes with a non-nil error:
-- `SR.acquire_outcome`, for every reader state); the generated code does panic over a reader that breaks the `Next`
-- contract (a short slice with a nil error), exactly as the Go code would, and `readBinary` on a view that does not exist
/-- a reader whose `Next` answers two bytes whatever was asked -/
def shortI : ReaderI Unit where
  next s _ := .ok (([1, 2], GoErr.nil), s)
  peek s _ := .ok (([], GoErr.nil), s)
  skip s _ := .ok (GoErr.nil, s)
  readBinary s _ := .ok (([], 0, GoErr.nil), s)
  readLen _ := 0
/-- a reader whose `Next` answers `(nil, nil)` (the model's `.fail none`) -/
def nilI : ReaderI Unit where
  next s _ := .ok (([], GoErr.nil), s)
  peek s _ := .ok (([], GoErr.nil), s)
  skip s _ := .ok (GoErr.nil, s)
  readBinary s _ := .ok (([], 0, GoErr.nil), s)
  readLen _ := 0
example : Funcs.BR_ReadI32 shortI () = .panic "index" := by decide +kernel
example : Funcs.BR_ReadI16 shortI () = .ok ((), 258, .nil) := by decide +kernel
example : Funcs.BR_ReadMapBegin shortI () = .panic "index" := by decide +kernel
example : Funcs.BR_ReadListBegin shortI () = .panic "index" := by decide +kernel
example : Funcs.BR_ReadBool nilI () = .panic "index" := by decide +kernel
example : Funcs.BR_readBinary (iOfRd rdStd) (bytesRd [1, 2, 3]) [0, 0] 3 = .panic "ReadBinary: negative length" := by
  decide +kernel
example : Funcs.BR_ReadBinary nilI () = .panic "index" := by decide +kernel

end SR

end Verif.FuncsEq
