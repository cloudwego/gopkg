/-
  Lemmas/SkipBRInst: the buffered reader of C04 (Model/Reader, lemmas Reader*.lean) satisfies the
  abstract reader contract `RdC` of Lemmas/SkipBR.lean:

    * `RdOK r`  :=  C04's invariant `Inv r`  ∧  `ri + |remaining r| ≤ 2^40`   (sizes in range:
      every request `n ≤ bigReq = 2^42` then satisfies C04's `InDomain`, hence `Small`)
    * over ANY source (`live := False`): every operation either returns exactly the requested bytes
      of `remaining` or fails with a non-nil error, consuming nothing   ⇒  soundness of the skippers
    * over a LIVE source (`Rd.Live`, C04: the stream is fully buffered/handed over, or no error has
      been seen and the rest of the script is `Steady`): failure only if fewer bytes are left
      ⇒  exactness of the skippers.
  The instance (`rdc_instL`) is stated for any live-source predicate `L` with the three properties
  `LiveLike L`, over states `RdPL L live`; C04 provides them for `Rd.Live` and for `Rd.Live2`.
  Then: BufferReader.Skip on that reader, and `RdOK` of the freshly constructed readers.
-/
import Verif.Lemmas.SkipBRBytes
import Verif.Lemmas.ReaderSteady
import Verif.Lemmas.ReaderAlloc
import Verif.Lemmas.ReaderChunks
namespace Verif

/-- 2^40: sizes for which allocation can succeed — mcache has 46 size classes, a capacity
    request above 2^45 panics in the real code (C04 audit: `Next(1<<46)` → `PANIC index`); with
    `ri + |remaining| ≤ 2^40` and requests `≤ 2^42` every request is in C04's `Rd.InDomain` (≤ 2^43) -/
def sizeBound : Nat := 1099511627776

/-- 2^42: the largest request the instance covers -/
def bigReq : Nat := 4398046511104

/-- reader states the skippers are proved on: C04's invariant, and sizes in range -/
def RdOK (r : Rd) : Prop := Inv r ∧ r.ri + r.remaining.length ≤ sizeBound

theorem RdOK.small {r : Rd} (h : RdOK r) (k : Nat) (hk : k ≤ bigReq) : r.Small k := by
  have := h.2
  unfold Rd.Small; unfold bigReq at hk; unfold sizeBound at this; omega

/-- every request the instance covers is in the domain where the model mirrors the code (C04) -/
theorem RdOK.inDomain {r : Rd} (h : RdOK r) (k : Nat) (hk : k ≤ bigReq) : r.InDomain k := by
  have := h.2
  unfold Rd.InDomain; unfold bigReq at hk; unfold sizeBound at this; omega

theorem advance_remaining (r : Rd) (k : Nat) (hk : k ≤ r.buf.length - r.ri) :
    ({ r with ri := r.ri + k } : Rd).remaining = r.remaining.drop k := by
  unfold Rd.remaining
  simp only []
  rw [List.drop_append_of_le_length (by simp only [List.length_drop]; omega), List.drop_drop]

/-- what the instance needs of a live-source predicate `L` (C04 exports these for `Rd.Live` and for
    the more general `Rd.Live2`): whatever fits is served, `acquire` and cursor moves keep it -/
structure LiveLike (L : Rd → Prop) : Prop where
  serve : ∀ r n, L r → n ≤ r.remaining.length → r.canServe n = true
  keeps : ∀ r n m r', Inv r → r.Small n → L r → r.acquire n = some (m, r') → L r'
  advance : ∀ r k, L r → L ({ r with ri := r.ri + k } : Rd)

theorem liveLike_live : LiveLike Rd.Live :=
  ⟨live_canServe, acquire_keeps_live, fun _ _ h => h.frame rfl rfl⟩

theorem liveLike_live2 : LiveLike Rd.Live2 :=
  ⟨live2_canServe, acquire_keeps_live2, fun _ k h => h.advance k⟩

/-- `RdOK`, plus `L` when `live` -/
def RdPL (L : Rd → Prop) (live : Prop) (r : Rd) : Prop := RdOK r ∧ (live → L r)

def RdP (live : Prop) (r : Rd) : Prop := RdPL Rd.Live live r

theorem acq_facts {L : Rd → Prop} (hL : LiveLike L) {live : Prop} (r : Rd) (k m : Nat) (r1 : Rd)
    (hp : RdPL L live r) (hk : k ≤ bigReq)
    (hacq : r.acquire k = some (m, r1)) (ha : AcqPost r k m r1) :
    r1.remaining = r.remaining ∧ r1.ri = r.ri ∧ (live → L r1) ∧
    (k > m → (∃ e, r1.err = some e) ∧ (live → r.remaining.length < k)) ∧
    (¬ k > m → k ≤ r1.buf.length - r1.ri ∧ k ≤ r.remaining.length) := by
  obtain ⟨⟨hinv, hsz⟩, hlive⟩ := hp
  have hs : r.Small k := RdOK.small ⟨hinv, hsz⟩ k hk
  have hrem := ha.remaining hinv.ri_le
  refine ⟨hrem, ha.ri, fun l => hL.keeps r k m r1 hinv hs (hlive l) hacq, ?_, ?_⟩
  · intro hgt
    have he := (ha.short hgt).1
    refine ⟨?_, fun l => ?_⟩
    · cases h : r1.err with
      | none => exact absurd h he
      | some e => exact ⟨e, rfl⟩
    · have hl := acquire_live r k m r1 hinv hs hacq
      by_cases hfit : k ≤ r.remaining.length
      · have := hl.mpr (hL.serve r k (hlive l) hfit); omega
      · omega
  · intro hge
    have h1 := ha.enough hge
    refine ⟨h1, ?_⟩
    rw [← hrem, remaining_length]; omega

theorem acq_advance {L : Rd → Prop} (hL : LiveLike L) {live : Prop} (r r1 : Rd) (k : Nat) (hp : RdPL L live r)
    (hinv : Inv r1) (hrem : r1.remaining = r.remaining) (hri : r1.ri = r.ri) (hl1 : live → L r1)
    (hk : k ≤ r1.buf.length - r1.ri) (hk2 : k ≤ r.remaining.length) :
    ({ r1 with ri := r1.ri + k } : Rd).remaining = r.remaining.drop k ∧
    ({ r1 with ri := r1.ri + k } : Rd).ri = r.ri + k ∧ RdPL L live { r1 with ri := r1.ri + k } := by
  have hrem' := advance_remaining r1 k hk
  rw [hrem] at hrem'
  refine ⟨hrem', by simp only []; omega, ⟨inv_advance r1 k hinv hk, ?_⟩, fun l => hL.advance r1 k (hl1 l)⟩
  have := hp.1.2
  rw [hrem', List.length_drop]
  simp only []
  omega

/-- THE INSTANCE: C04's reader satisfies the skippers' reader contract, for any source
    (`live := False`) and exactly (`live := True`) over live sources -/
theorem rdc_instL {L : Rd → Prop} (hL : LiveLike L) (live : Prop) : RdC (RdPL L live) live bigReq := by
  refine ⟨?_, ?_, ?_⟩
  · intro r n hp h0 hb
    rcases next_cases r n hp.1.1 (hp.1.small n.toNat hb) with ⟨hneg, _⟩ | ⟨_, m, r1, hacq, ha, hc⟩
    · omega
    · obtain ⟨hrem, hri, hl1, hfail, hok⟩ := acq_facts hL r n.toNat m r1 hp hb hacq ha
      rcases hc with ⟨hgt, he⟩ | ⟨hge, he⟩
      · obtain ⟨⟨e, hee⟩, hl⟩ := hfail hgt
        exact .inr ⟨e, r1, by rw [he, hee], hl⟩
      · obtain ⟨hk, hk2⟩ := hok hge
        obtain ⟨h1, h2, h3⟩ := acq_advance hL r r1 n.toNat hp ha.inv hrem hri hl1 hk hk2
        exact .inl ⟨_, by rw [he, take_eq_remaining_take r1 _ hk, hrem], hk2, h1, h2, h3⟩
  · intro r n hp h0 hb
    rcases skip_cases r n hp.1.1 (hp.1.small n.toNat hb) with ⟨hneg, _⟩ | ⟨_, m, r1, hacq, ha, hc⟩
    · omega
    · obtain ⟨hrem, hri, hl1, hfail, hok⟩ := acq_facts hL r n.toNat m r1 hp hb hacq ha
      rcases hc with ⟨hgt, he⟩ | ⟨hge, he⟩
      · obtain ⟨⟨e, hee⟩, hl⟩ := hfail hgt
        exact .inr ⟨e, r1, by rw [he, hee], hl⟩
      · obtain ⟨hk, hk2⟩ := hok hge
        obtain ⟨h1, h2, h3⟩ := acq_advance hL r r1 n.toNat hp ha.inv hrem hri hl1 hk hk2
        exact .inl ⟨[], _, he, hk2, h1, h2, h3⟩
  · intro r n hp h0 hb
    rcases peek_cases r n hp.1.1 (hp.1.small n.toNat hb) with ⟨hneg, _⟩ | ⟨_, m, r1, hacq, ha, hc⟩
    · omega
    · obtain ⟨hrem, hri, hl1, hfail, hok⟩ := acq_facts hL r n.toNat m r1 hp hb hacq ha
      rcases hc with ⟨hgt, he⟩ | ⟨hge, he⟩
      · obtain ⟨⟨e, hee⟩, hl⟩ := hfail hgt
        exact .inr ⟨e, r1, by rw [he, hee], hl⟩
      · obtain ⟨hk, hk2⟩ := hok hge
        exact .inl ⟨r1, by rw [he, take_eq_remaining_take r1 _ hk, hrem], hk2, hrem, hri,
          ⟨ha.inv, by rw [hrem, hri]; exact hp.1.2⟩, hl1⟩

theorem rdc_inst (live : Prop) : RdC (RdP live) live bigReq := rdc_instL liveLike_live live

/-- the same over C04's generalised live sources (`Rd.Live2`: `Live`, or a chunked script — chunks of
    any size, an error only on the last one — over a stream that fits the reader's first buffer) -/
theorem rdc_inst2 : RdC (RdPL Rd.Live2 True) True bigReq := rdc_instL liveLike_live2 True

/-! ## BufferReader.Skip on C04's reader -/

theorem skipBR_liveL {L : Rd → Prop} (hL : LiveLike L) (r : Rd) (t : UInt8) (h : RdOK r) (hl : L r) :
    match refBR Facts.defaultRecursionDepth t r.remaining with
    | some n => ∃ r', skipBR t r = .ok ((), r') ∧ r'.remaining = r.remaining.drop n ∧
        r'.readLen = r.readLen + n ∧ RdOK r' ∧ L r'
    | none => ∃ e, skipBR t r = .err e := by
  rcases skipBR_ref (rdc_instL hL True) (by decide) t r ⟨h, fun _ => hl⟩ with
    ⟨e, hx, hnone⟩ | ⟨k, r', ho, hx, hrem, hri, hp'⟩
  · rw [hnone trivial]; exact ⟨e, hx⟩
  · rw [ho]; exact ⟨r', hx, hrem, hri, hp'.1, hp'.2 trivial⟩

theorem skipBR_completeL {L : Rd → Prop} (hL : LiveLike L) (r : Rd) (t : UInt8) (n : Nat) (h : RdOK r) (hl : L r)
    (hn : refLen 64 t r.remaining = some n) :
    ∃ r', skipBR t r = .ok ((), r') ∧ r'.remaining = r.remaining.drop n ∧ r'.readLen = r.readLen + n ∧
      RdOK r' ∧ L r' := by
  have h2 := skipBR_liveL hL r t h hl
  rw [defaultRecursionDepth_eq, refLen_le_refBR 64 t _ n hn] at h2
  exact h2

theorem skipBR_exactL {L : Rd → Prop} (hL : LiveLike L) (r : Rd) (v rest : Bytes) (t : UInt8) (h : RdOK r)
    (hl : L r) (hrem : r.remaining = v ++ rest) (hv : refLen 64 t v = some v.length) :
    ∃ r', skipBR t r = .ok ((), r') ∧ r'.remaining = rest ∧ r'.readLen = r.readLen + v.length ∧
      RdOK r' ∧ L r' := by
  obtain ⟨r', hx, hrem', h'⟩ := skipBR_completeL hL r t v.length h hl (by rw [hrem]; exact refLen_append hv rest)
  exact ⟨r', hx, by rw [hrem', hrem, List.drop_left], h'⟩

/-- exactness over a live source: `skipBR t r` succeeds iff `refBR 64` accepts a prefix of what the
    reader still owes; then exactly that prefix is consumed and ReadLen grows by its length;
    otherwise an error (never a panic) -/
theorem skipBR_live (r : Rd) (t : UInt8) (h : RdOK r) (hl : r.Live) :
    match refBR Facts.defaultRecursionDepth t r.remaining with
    | some n => ∃ r', skipBR t r = .ok ((), r') ∧ r'.remaining = r.remaining.drop n ∧
        r'.readLen = r.readLen + n ∧ RdOK r' ∧ r'.Live
    | none => ∃ e, skipBR t r = .err e :=
  skipBR_liveL liveLike_live r t h hl

/-- exactness over C04's generalised live sources (`Rd.Live2`) -/
theorem skipBR_live2 (r : Rd) (t : UInt8) (h : RdOK r) (hl : r.Live2) :
    match refBR Facts.defaultRecursionDepth t r.remaining with
    | some n => ∃ r', skipBR t r = .ok ((), r') ∧ r'.remaining = r.remaining.drop n ∧
        r'.readLen = r.readLen + n ∧ RdOK r' ∧ r'.Live2
    | none => ∃ e, skipBR t r = .err e :=
  skipBR_liveL liveLike_live2 r t h hl

/-- soundness over ANY source (any fragmentation, any error behaviour): success means the grammar
    accepts, and exactly the accepted extent has been consumed -/
theorem skipBR_sound_any (r r' : Rd) (t : UInt8) (h : RdOK r) (hx : skipBR t r = .ok ((), r')) :
    ∃ n, refBR Facts.defaultRecursionDepth t r.remaining = some n ∧
      r'.remaining = r.remaining.drop n ∧ r'.readLen = r.readLen + n ∧ RdOK r' := by
  rcases skipBR_ref (rdc_inst False) (by decide) t r ⟨h, fun f => f.elim⟩ with
    ⟨e, hy, _⟩ | ⟨k, r1, ho, hy, hrem, hri, hp'⟩
  · rw [hy] at hx; cases hx
  · rw [hy] at hx; cases hx
    exact ⟨k, ho, hrem, hri, hp'.1⟩

/-- totality over ANY source: a result or an error — never a panic, never out of fuel -/
theorem skipBR_total_any (r : Rd) (t : UInt8) (h : RdOK r) :
    (∃ r', skipBR t r = .ok ((), r')) ∨ (∃ e, skipBR t r = .err e) := by
  rcases skipBR_ref (rdc_inst False) (by decide) t r ⟨h, fun f => f.elim⟩ with ⟨e, hy, _⟩ | ⟨k, r1, _, hy, _⟩
  · exact Or.inr ⟨e, hy⟩
  · exact Or.inl ⟨r1, hy⟩

theorem newBytes_ok (b : Bytes) (cap : Nat) (hcap : b.length ≤ cap) (hcap2 : cap ≤ 18446744073709551616)
    (hb : b.length ≤ sizeBound) : RdOK (Rd.newBytes b cap) := by
  obtain ⟨h1, h2⟩ := newBytes_remaining b cap hcap
  exact ⟨inv_newBytes b cap hcap hcap2, by rw [h1, h2]; omega⟩

theorem newDefault_ok (S : Bytes) (script : List Resp) (hS : S.length ≤ sizeBound) :
    RdOK (Rd.newDefault ⟨S, script⟩) :=
  ⟨inv_newDefault _, by simp [Rd.newDefault, Rd.remaining]; exact hS⟩

theorem newDefault_remaining (S : Bytes) (script : List Resp) :
    (Rd.newDefault ⟨S, script⟩).remaining = S ∧ (Rd.newDefault ⟨S, script⟩).ri = 0 := by
  simp [Rd.newDefault, Rd.remaining]

end Verif
