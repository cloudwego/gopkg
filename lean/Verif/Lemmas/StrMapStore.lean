/-
  Lemmas/StrMapStore: internal/strstore — Load packs `len32 ++ bytes` per string and returns the
  offsets; Get at such an offset returns exactly that string (no oob load, no slice panic).
  Str2Str: the ids stored in the StrMap lead back to the loaded values.
-/
import Verif.Lemmas.StrMapLoad
namespace Verif.SMap
open Verif

theorem le32_length (n : Nat) : (le32 n).length = 4 := rfl

theorem rdle32_le32 (n : Nat) (h : n < 4294967296) (r : Bytes) : rdle32 (le32 n ++ r) = n := by
  simp [le32, rdle32, UInt8.toNat_ofNat']; omega

/-- the only fact about the regenerated `strlenSize` that is used: the entry header has room for
    the uint32 length -/
theorem strlen_ge : u32Size ≤ Facts.strlenSize := by decide

theorem hdr_length (n : Nat) : (hdr n).length = Facts.strlenSize := by
  have := strlen_ge
  unfold u32Size at this
  simp [hdr, le32_length, u32Size]; omega

theorem rdle32_hdr (n : Nat) (h : n < 4294967296) (r : Bytes) : rdle32 (hdr n ++ r) = n := by
  unfold hdr; rw [List.append_assoc]; exact rdle32_le32 n h _

/-- Get at the offset of a packed entry -/
theorem storeGet_at (pre v post : Bytes) (hv : v.length ≤ maxU32) :
    storeGet ⟨pre ++ (hdr (v.length % two32) ++ v ++ post)⟩ (pre.length : Int) = .ok v := by
  have hge := strlen_ge
  unfold maxU32 at hv
  unfold u32Size at hge
  rw [Nat.mod_eq_of_lt (by unfold two32; omega)]
  have hlen : (pre ++ (hdr v.length ++ v ++ post)).length =
      pre.length + (Facts.strlenSize + v.length + post.length) := by
    simp only [List.length_append, hdr_length]
  have hrd : rdle32 ((pre ++ (hdr v.length ++ v ++ post)).drop pre.length) = v.length := by
    rw [List.drop_left, List.append_assoc]
    exact rdle32_hdr _ (by omega) _
  unfold storeGet
  simp only [Int.toNat_natCast, hrd, hlen, u32Size]
  rw [if_neg (by omega), if_neg (by omega), if_neg (by omega)]
  have hl : pre.length + Facts.strlenSize = (pre ++ hdr v.length).length := by
    rw [List.length_append, hdr_length]
  have : pre ++ (hdr v.length ++ v ++ post) = (pre ++ hdr v.length) ++ (v ++ post) := by
    simp only [List.append_assoc]
  rw [this, hl, List.drop_left, List.take_left]

theorem packLoop_length (vv : List Bytes) (off : Nat) : (packLoop vv off).2.length = vv.length := by
  induction vv generalizing off with
  | nil => rfl
  | cons v vv ih => simp [packLoop, ih]

/-- looking a key up in (keys zip offsets) and reading the store there is looking it up in
    (keys zip values) -/
theorem lookup_pack (s : Bytes) (kk vv : List Bytes) (off : Nat) (pre post : Bytes)
    (hlen : kk.length = vv.length) (hv : ∀ v ∈ vv, v.length ≤ maxU32) (hoff : pre.length = off) :
    (List.lookup s (kk.zip (packLoop vv off).2)).map (storeGet ⟨pre ++ ((packLoop vv off).1 ++ post)⟩) =
      (List.lookup s (kk.zip vv)).map .ok := by
  induction kk generalizing vv off pre with
  | nil => rfl
  | cons k kk ih =>
    cases vv with
    | nil => simp at hlen
    | cons v vv =>
      subst hoff
      simp only [packLoop, List.zip_cons_cons, List.lookup, List.append_assoc]
      cases s == k with
      | true => exact congrArg some (storeGet_at pre v _ (hv v List.mem_cons_self))
      | false =>
        have ih' := ih vv (pre.length + Facts.strlenSize + v.length) (pre ++ (hdr (v.length % two32) ++ v))
          (by simpa using hlen) (fun x hx => hv x (List.mem_cons_of_mem _ hx)) (by simp [hdr_length, Nat.add_assoc])
        simpa only [List.append_assoc] using ih'

end Verif.SMap
