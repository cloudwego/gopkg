/-
  Lemmas/FcNocopy: the generated writers of Base and BaseResp as realised segment lists (nil receiver
  included), and what follows for a whole buffer: copy path = printer; no-copy path spliced = printer.
-/
import Verif.Lemmas.FcLen
namespace Verif

theorem writeBase_realised (thr : Nat) (w : Bool) (p : Option Base) (it : SMap) :
    ∃ f sg, Realises thr w f sg ∧ encSegs sg = encBase p it ∧
      ∀ b, fastWriteNocopyBase thr w p it b = f (⟨b, []⟩, 0) := by
  cases p with
  | none => exact ⟨stStop, [.fixed [0]], stStop_realises thr w, rfl, fun _ => rfl⟩
  | some q =>
    exact ⟨_, _, base_realises thr w q it _ fastWriteHeadersBase_eq, encSegs_base q it, fun _ => rfl⟩

theorem writeResp_realised (thr : Nat) (w : Bool) (p : Option BaseResp) (it : SMap) :
    ∃ f sg, Realises thr w f sg ∧ encSegs sg = encBaseResp p it ∧
      ∀ b, fastWriteNocopyBaseResp thr w p it b = f (⟨b, []⟩, 0) := by
  cases p with
  | none => exact ⟨stStop, [.fixed [0]], stStop_realises thr w, rfl, fun _ => rfl⟩
  | some q =>
    exact ⟨_, _, resp_realises thr w q it _ fastWriteHeadersBaseResp_eq, encSegs_resp q it, fun _ => rfl⟩

/-- everything C15 says about one write, with a direct writer, of the encoding `enc` into a buffer that
    holds it -/
structure WriteFacts (enc b : Bytes) (res : TOut (WS × Nat)) : Prop where
  ok : ∃ ws n, res = .ok (ws, n) ∧
    (splice ws.buf ws.ds).take enc.length = enc ∧
    (∀ d ∈ ws.ds, d.1.length ≤ d.2) ∧
    n + (ws.ds.map (·.1.length)).sum = enc.length ∧
    ws.buf.length = b.length

theorem write_facts (thr : Nat) (w : Bool) (f : WStep) (sg : List Seg) (h : Realises thr w f sg) (b : Bytes)
    (hb : (encSegs sg).length ≤ b.length) : WriteFacts (encSegs sg) b (f (⟨b, []⟩, 0)) := by
  have hle := linSegs_length_le thr w sg
  refine ⟨_, _, realises_run thr w f sg h b (by omega), splice_run thr w sg b hb, ?_, ?_, ?_⟩
  · exact directsOf_room thr w b.length sg 0 (by omega)
  · exact lin_add_directs thr w b.length sg 0
  · simp; omega

/-- without a direct writer: the printer's bytes, then the untouched rest of the buffer; nothing direct -/
theorem write_copy (thr : Nat) (f : WStep) (sg : List Seg) (h : Realises thr false f sg) (b : Bytes)
    (hb : (encSegs sg).length ≤ b.length) :
    f (⟨b, []⟩, 0) = .ok (⟨encSegs sg ++ b.drop (encSegs sg).length, []⟩, (encSegs sg).length) := by
  have := realises_run thr false f sg h b (by rw [linSegs_nil_writer]; exact hb)
  rw [linSegs_nil_writer, directsOf_nil_writer] at this
  exact this

theorem run_of_realised (thr : Nat) (wr : Bool → Bytes → TOut (WS × Nat)) (enc : Bytes)
    (h : ∀ w, ∃ f sg, Realises thr w f sg ∧ encSegs sg = enc ∧ ∀ b, wr w b = f (⟨b, []⟩, 0))
    (b : Bytes) (hb : enc.length ≤ b.length) :
    WriteFacts enc b (wr true b) ∧ wr false b = .ok (⟨enc ++ b.drop enc.length, []⟩, enc.length) := by
  obtain ⟨f, sg, hr, rfl, hf⟩ := h true
  obtain ⟨g, sg', hgr, hge, hg⟩ := h false
  refine ⟨?_, ?_⟩
  · rw [hf b]
    exact write_facts thr true f sg hr b hb
  · rw [← hge] at hb ⊢
    rw [hg b]
    exact write_copy thr g sg' hgr b hb

theorem writeBase_run (thr : Nat) (p : Option Base) (it : SMap) (b : Bytes)
    (hb : (encBase p it).length ≤ b.length) :
    WriteFacts (encBase p it) b (fastWriteNocopyBase thr true p it b) ∧
    fastWriteNocopyBase thr false p it b
      = .ok (⟨encBase p it ++ b.drop (encBase p it).length, []⟩, (encBase p it).length) :=
  run_of_realised thr (fun w => fastWriteNocopyBase thr w p it) _ (fun w => writeBase_realised thr w p it) b hb

theorem writeResp_run (thr : Nat) (p : Option BaseResp) (it : SMap) (b : Bytes)
    (hb : (encBaseResp p it).length ≤ b.length) :
    WriteFacts (encBaseResp p it) b (fastWriteNocopyBaseResp thr true p it b) ∧
    fastWriteNocopyBaseResp thr false p it b
      = .ok (⟨encBaseResp p it ++ b.drop (encBaseResp p it).length, []⟩, (encBaseResp p it).length) :=
  run_of_realised thr (fun w => fastWriteNocopyBaseResp thr w p it) _ (fun w => writeResp_realised thr w p it) b hb

/-- FastMarshal: a writer that fills the first `n` bytes of any buffer with `enc`, run on `n` dirty bytes -/
theorem marshal_dirt (dirt : Nat → UInt8) (wr : Bytes → TOut (WS × Nat)) (n : Nat) (enc : Bytes)
    (hw : ∀ b, n ≤ b.length → wr b = .ok (⟨enc ++ b.drop n, []⟩, n)) :
    (wr (dirtBytes dirt n)).bind (fun r => .ok r.1.buf) = .ok enc := by
  have hl : (dirtBytes dirt n).length = n := by simp [dirtBytes]
  rw [hw _ (Nat.le_of_eq hl.symm), Out.bind_ok, List.drop_of_length_le (Nat.le_of_eq hl), List.append_nil]

end Verif
