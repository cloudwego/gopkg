/-
  Lemmas/SkipBenign: `benign` (lean/Drv/Skip.lean), the room-independent disjunct of the liveness flag
  `liveFor` by which the skip driver's verdict demands success on valid values, implies the predicates
  the theorems are stated for: C04's `Steady` (buffered reader: Props/C02 `skipBR_exact_stream`,
  `bufioxDec_exact_stream`) and `Delivers` (plain io.Reader: `readerDec_exact`).  Props/C02
  `verdict_must_succeed` covers the other disjuncts; together the verdict `bad:C02:rejected-valid`
  never demands more than what is proved of the model.

  This file imports the driver module (proof-only tie).
-/
import Drv.Skip
import Verif.Lemmas.SkipTplReader
import Verif.Lemmas.ReaderSteady
namespace Verif

/-- number of entries that deliver at least one byte -/
def prodCount (l : List Resp) : Nat := (l.filter (fun r => decide (r.k ≥ 1))).length

theorem prodCount_cons (r : Resp) (l : List Resp) :
    prodCount (r :: l) = (if r.k ≥ 1 then 1 else 0) + prodCount l := by
  unfold prodCount
  by_cases h : r.k ≥ 1
  · simp [h]; omega
  · simp [h]

theorem benignAux_steady : ∀ (script : List Resp) (z n0 slen : Nat),
    benignAux script z n0 = true → prodCount script ≥ slen →
    (∀ r, script.getLast? = some r → r.err.isNone = true ∨ (prodCount script = slen ∧ r.k ≥ 1)) →
    Steady Facts.maxConsecutiveEmptyReads script slen z = true := by
  intro script
  induction script with
  | nil =>
    intro z n0 slen _ hp _
    have : slen = 0 := by simp [prodCount] at hp; omega
    subst this; rfl
  | cons r rest ih =>
    intro z n0 slen hb hp hlast
    cases slen with
    | zero => exact steady_zero _ _ _
    | succ n =>
      simp only [benignAux, Bool.and_eq_true, decide_eq_true_eq] at hb
      obtain ⟨⟨⟨_, herr⟩, hz⟩, hrest⟩ := hb
      rw [prodCount_cons] at hp
      simp only [Steady]
      by_cases hk : r.k = 0
      · have hk1 : ¬ r.k ≥ 1 := by omega
        simp only [hk, if_true, Bool.and_eq_true, decide_eq_true_eq] at hz ⊢
        simp only [hk1, if_false, Nat.zero_add] at hp
        cases rest with
        | nil => simp [prodCount] at hp
        | cons r2 rest2 =>
          simp only [List.isEmpty_cons, Bool.or_false] at herr
          refine ⟨⟨herr, by omega⟩, ih (z + 1) 0 (n + 1) (by simpa [hk] using hrest) hp ?_⟩
          intro r' hr'
          have := hlast r' (by rw [List.getLast?_cons_cons]; exact hr')
          rw [prodCount_cons] at this
          simpa [hk1] using this
      · have hk1 : r.k ≥ 1 := by omega
        simp only [hk, if_false, Bool.and_eq_true, Bool.or_eq_true, decide_eq_true_eq] at hz ⊢
        simp only [hk1, if_true] at hp
        cases rest with
        | nil =>
          have hn : n = 0 := by simp [prodCount] at hp; omega
          subst hn
          exact ⟨Or.inr rfl, steady_zero _ _ _⟩
        | cons r2 rest2 =>
          simp only [List.isEmpty_cons, Bool.or_false] at herr
          refine ⟨Or.inl herr, ih 0 0 n (by simpa [hk] using hrest) (by omega) ?_⟩
          intro r' hr'
          have := hlast r' (by rw [List.getLast?_cons_cons]; exact hr')
          rw [prodCount_cons] at this
          simp only [hk1, if_true] at this
          rcases this with h1 | ⟨h1, h2⟩
          · exact Or.inl h1
          · exact Or.inr ⟨by omega, h2⟩


/-- the driver's `benign` scripts are `Steady` … -/
theorem benign_steady (s : Src) (h : benign s = true) :
    Steady Facts.maxConsecutiveEmptyReads s.script s.stream.length 0 = true := by
  
  simp only [benign, Bool.and_eq_true, decide_eq_true_eq] at h
  obtain ⟨⟨h1, h2⟩, h3⟩ := h
  refine benignAux_steady s.script 0 0 s.stream.length h1 h2 ?_
  intro r hr
  rw [hr] at h3
  simp only [Bool.or_eq_true, Bool.and_eq_true, beq_iff_eq, decide_eq_true_eq] at h3
  rcases h3 with h3 | ⟨⟨h4, h5⟩, _⟩
  · exact Or.inl h3
  · exact Or.inr ⟨h4, h5⟩

/-- … and deliver -/
theorem benign_delivers (s : Src) (h : benign s = true) : Delivers s.script s.stream.length = true :=
  steady_delivers _ _ _ _ (benign_steady s h)

end Verif
