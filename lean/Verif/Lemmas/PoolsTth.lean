/-
  Lemmas/PoolsTth: the header codec as a kind (Model/Pools `kTTH`) is `Good`: the frame produced by
  Encode + total length + Flush does not depend on what the memory handed out by the buffer pool held
  (every byte of every region is written: C06's `encode_raw`, plus the caller's length field), and
  Decode is a function of its argument.
-/
import Verif.Lemmas.Pools
import Verif.Lemmas.TthEnc
namespace Verif.Pools
open Verif Verif.TTH

theorem metaBytes_length (p : EncParam) (w : W) (sz : Nat) : (metaBytes p w sz).length = 14 := by
  simp [metaBytes, be32, be16]

theorem metaBytes_poke (p : EncParam) (w : W) (sz : Nat) (v : Bytes) (hv : v.length = 4) :
    poke (metaBytes p w sz) 0 v =
      v ++ be32 ((Facts.ttMagic + p.flags) % 4294967296) ++ be32 (ofInt 32 p.seq) ++ be16 ((sz / 4) % 65536) := by
  have h4 : (((List.range 14).map (w.dirt w.n)).take 4).length = 4 := by simp
  simp only [poke, List.take_zero, List.nil_append, Nat.zero_add, hv, metaBytes, List.append_assoc]
  rw [List.drop_append_of_le_length (by omega), List.drop_of_length_le (by omega)]
  simp

/-- the frame in closed form: no dirty byte in it -/
theorem tthEnc_closed (d : Dirty) (p : EncParam) :
    tthEnc d p =
      if rawSize p % 2 ^ Facts.ttEncodeSizeCheckBits > Facts.ttMaxHeaderSize then .err .size
      else
        let body := rawInfo p ++ List.replicate ((4 - (rawInfo p).length % 4) % 4) 0
        .ok (be32 ((14 + body.length - 4) % 4294967296) ++ be32 ((Facts.ttMagic + p.flags) % 4294967296)
              ++ be32 (ofInt 32 p.seq) ++ be16 ((rawSize p / 4) % 65536) ++ body) := by
  unfold tthEnc
  generalize hw : ({ items := [], n := 0, broken := false, dirt := d } : W) = w0
  have hwb : w0.broken = false := by rw [← hw]
  have hwn : w0.n = 0 := by rw [← hw]
  have hwy : w0.bytes = [] := by rw [← hw]; rfl
  -- `with_reducible`: otherwise the elaborator, looking whether the `if` this application proves is a function
  -- type, evaluates the comparison with MaxHeaderSize (65 537 steps of `Nat.ble`) before it gets stuck
  with_reducible have hr := encode_raw p w0 hwb
  by_cases hbig : rawSize p % 2 ^ Facts.ttEncodeSizeCheckBits > Facts.ttMaxHeaderSize
  · rw [if_pos hbig] at hr ⊢
    simp only [hr, Out.bind_err]
  · rw [if_neg hbig] at hr ⊢
    obtain ⟨L, he, hL⟩ := hr
    simp only [he, Out.bind_ok]
    generalize hmb : metaBytes p w0 (rawSize p) = mb
    have hml : mb.length = 14 := by rw [← hmb]; exact metaBytes_length _ _ _
    have hby : (w0.app (mb :: L)).bytes = mb ++ L.flatten := by
      rw [W.bytes_app, hwy]; simp
    simp only [setTotalLen, hby]
    rw [put_app' w0 mb L 0 _ (by rw [hml, be32_length]; omega)]
    simp only [Out.bind_ok, W.bytes_app, hwy, List.nil_append, List.flatten_cons]
    rw [← hmb, metaBytes_poke _ _ _ _ (be32_length _), hmb, hL]
    simp only [List.length_append, hml, List.append_assoc]

theorem tthEnc_dirt (d d' : Dirty) (p : EncParam) : tthEnc d p = tthEnc d' p := by
  rw [tthEnc_closed, tthEnc_closed]

def goodTTH : Good kTTH where
  Abs := Unit
  ainit _ := ()
  astep _ o := ((), (kTTH.step (fun _ _ => 0) () o).2.1)
  Ref _ _ := True
  Fresh _ := True            -- not an object-pool type: `Obj = Unit`
  zero_fresh _ := trivial
  init_ref _ _ _ := trivial
  step_ref d _ _ o _ := by
    refine ⟨trivial, ?_⟩
    cases o with
    | enc p => simp only [kTTH]; rw [tthEnc_dirt d (fun _ _ => 0) p]
    | dec b cap => rfl
  release_fresh _ _ _ := trivial

end Verif.Pools
