/- Lemmas/SkipBinCor: corollaries of the exact characterisation of Binary.Skip. -/
import Verif.Lemmas.SkipBin
import Verif.Lemmas.GrammarLocal
namespace Verif

theorem skipBin_ok_iff (b : Bytes) (t : UInt8) (n : Nat) :
    skipBin b t = .ok n ↔ refBin Facts.defaultRecursionDepth t b = some n := by
  have h := skipBin_matches b t
  unfold Matches at h
  cases hr : refBin Facts.defaultRecursionDepth t b with
  | none => rw [hr] at h; obtain ⟨e, he⟩ := h; simp [he]
  | some m => rw [hr] at h; simp [h]

theorem skipBin_total (b : Bytes) (t : UInt8) : (∃ n, skipBin b t = .ok n) ∨ (∃ e, skipBin b t = .err e) := by
  have h := skipBin_matches b t
  unfold Matches at h
  cases hr : refBin Facts.defaultRecursionDepth t b with
  | none => rw [hr] at h; exact Or.inr h
  | some m => rw [hr] at h; exact Or.inl ⟨m, h⟩

theorem refLen_unknown_type (d : Nat) (t : UInt8) (b : Bytes)
    (ht : fixedSize t = 0 ∧ t ≠ TT.STRING ∧ t ≠ TT.STRUCT ∧ t ≠ TT.MAP ∧ t ≠ TT.SET ∧ t ≠ TT.LIST) :
    refLen d t b = none := by
  cases d with
  | zero => rfl
  | succ d =>
    show layer (refLen d) t b = none
    unfold layer
    rw [if_neg (by omega), if_neg ht.2.1, if_neg ht.2.2.1, if_neg (fun h => h.elim ht.2.2.2.2.2 ht.2.2.2.2.1),
      if_neg ht.2.2.2.1]

theorem refLen_neg_string (d : Nat) (b : Bytes) (h : ¬ rd32 b < 2147483648) : refLen d TT.STRING b = none := by
  cases d with
  | zero => rfl
  | succ d =>
    show layer (refLen d) TT.STRING b = none
    unfold layer refStr
    rw [if_neg (by decide), if_pos rfl, if_neg (fun hc => h hc.2.1)]

theorem refLen_neg_list (d : Nat) (t et : UInt8) (rest : Bytes) (ht : t = TT.LIST ∨ t = TT.SET)
    (h : ¬ rd32 rest < 2147483648) : refLen d t (et :: rest) = none := by
  have hns : ¬ fixedSize t > 0 ∧ t ≠ TT.STRING ∧ t ≠ TT.STRUCT := by rcases ht with rfl | rfl <;> decide
  cases d with
  | zero => rfl
  | succ d =>
    show layer (refLen d) t (et :: rest) = none
    unfold layer
    rw [if_neg hns.1, if_neg hns.2.1, if_neg hns.2.2, if_pos ht]
    exact if_neg (fun hc => h hc.2)

theorem refLen_neg_map (d : Nat) (kt vt : UInt8) (rest : Bytes)
    (h : ¬ rd32 rest < 2147483648) : refLen d TT.MAP (kt :: vt :: rest) = none := by
  cases d with
  | zero => rfl
  | succ d =>
    show layer (refLen d) TT.MAP (kt :: vt :: rest) = none
    unfold layer
    rw [if_neg (by decide), if_neg (by decide), if_neg (by decide), if_neg (by decide), if_pos rfl]
    exact if_neg (fun hc => h hc.2)

end Verif
