/-
  Lemmas/GrammarG: the acceptance disciplines of the stream skipper (BufferReader.Skip) and of
  SkipDecoderTpl, expressed exactly as `layerG` (Lemmas/Grammar.lean) over element measures that inline
  fixed-size (and, for the stream skipper, string) values; each is sandwiched between refLen d and
  refLen (d+1).
-/
import Verif.Lemmas.Grammar
namespace Verif

/-- fixed-size element measured in line (no depth), everything else through E -/
def gFix (E : UInt8 → Bytes → Option Nat) (t : UInt8) (b : Bytes) : Option Nat :=
  if fixedSize t > 0 then fixedFn t b else E t b

theorem gFix_fixed (E : UInt8 → Bytes → Option Nat) {t : UInt8} (h : 0 < fixedSize t) : gFix E t = fixedFn t := by
  funext b; unfold gFix; rw [if_pos h]

theorem gFix_nested (E : UInt8 → Bytes → Option Nat) {t : UInt8} (h : ¬ 0 < fixedSize t) : gFix E t = E t := by
  funext b; unfold gFix; rw [if_neg h]

theorem gFix_inlines : Inlines gFix where
  mono := by
    intro E E' h t
    by_cases hf : 0 < fixedSize t
    · rw [gFix_fixed E hf, gFix_fixed E' hf]; exact LeF.refl _
    · rw [gFix_nested E hf, gFix_nested E' hf]; exact h t
  good := by
    intro E h t
    by_cases hf : 0 < fixedSize t
    · rw [gFix_fixed E hf]; exact fixedFn_good t hf
    · rw [gFix_nested E hf]; exact h t
  layer := by
    intro E t
    by_cases hf : 0 < fixedSize t
    · rw [gFix_fixed _ hf, fixedFn_eq_layer E hf]
    · rw [gFix_nested _ hf]

/-! ### SkipDecoderTpl: fixed-size list/set elements and maps whose key AND value are fixed-size are
    skipped in one step (no depth); everything else goes through Skip(.., maxdepth-1) -/

def tplK (E : UInt8 → Bytes → Option Nat) (kt vt : UInt8) : Bytes → Option Nat :=
  if fixedSize kt > 0 ∧ fixedSize vt > 0 then fixedFn kt else E kt
def tplV (E : UInt8 → Bytes → Option Nat) (kt vt : UInt8) : Bytes → Option Nat :=
  if fixedSize kt > 0 ∧ fixedSize vt > 0 then fixedFn vt else E vt

def refTpl : Nat → UInt8 → Bytes → Option Nat
  | 0, _, _ => none
  | d+1, t, b => layerG (refTpl d) (gFix (refTpl d)) (tplK (refTpl d)) (tplV (refTpl d)) t b

theorem tplKV_fixed (E : UInt8 → Bytes → Option Nat) {kt vt : UInt8} (hk : 0 < fixedSize kt)
    (hv : 0 < fixedSize vt) : tplK E kt vt = fixedFn kt ∧ tplV E kt vt = fixedFn vt := by
  unfold tplK tplV; rw [if_pos ⟨hk, hv⟩, if_pos ⟨hk, hv⟩]; exact ⟨rfl, rfl⟩

theorem tplKV_nested (E : UInt8 → Bytes → Option Nat) {kt vt : UInt8}
    (h : ¬ (0 < fixedSize kt ∧ 0 < fixedSize vt)) : tplK E kt vt = E kt ∧ tplV E kt vt = E vt := by
  unfold tplK tplV; rw [if_neg h, if_neg h]; exact ⟨rfl, rfl⟩

theorem tplK_inlines (vt : UInt8) : Inlines (fun E kt => tplK E kt vt) where
  mono := by
    intro E E' h kt
    by_cases hc : 0 < fixedSize kt ∧ 0 < fixedSize vt
    · show LeF (tplK E kt vt) (tplK E' kt vt)
      rw [(tplKV_fixed E hc.1 hc.2).1, (tplKV_fixed E' hc.1 hc.2).1]; exact LeF.refl _
    · show LeF (tplK E kt vt) (tplK E' kt vt)
      rw [(tplKV_nested E hc).1, (tplKV_nested E' hc).1]; exact h kt
  good := by
    intro E h kt
    by_cases hc : 0 < fixedSize kt ∧ 0 < fixedSize vt
    · show Good (tplK E kt vt)
      rw [(tplKV_fixed E hc.1 hc.2).1]; exact fixedFn_good kt hc.1
    · show Good (tplK E kt vt)
      rw [(tplKV_nested E hc).1]; exact h kt
  layer := by
    intro E kt
    by_cases hc : 0 < fixedSize kt ∧ 0 < fixedSize vt
    · show tplK (layer E) kt vt = layer E kt
      rw [(tplKV_fixed _ hc.1 hc.2).1, fixedFn_eq_layer E hc.1]
    · exact (tplKV_nested _ hc).1

theorem tplV_inlines (kt : UInt8) : Inlines (fun E vt => tplV E kt vt) where
  mono := by
    intro E E' h vt
    by_cases hc : 0 < fixedSize kt ∧ 0 < fixedSize vt
    · show LeF (tplV E kt vt) (tplV E' kt vt)
      rw [(tplKV_fixed E hc.1 hc.2).2, (tplKV_fixed E' hc.1 hc.2).2]; exact LeF.refl _
    · show LeF (tplV E kt vt) (tplV E' kt vt)
      rw [(tplKV_nested E hc).2, (tplKV_nested E' hc).2]; exact h vt
  good := by
    intro E h vt
    by_cases hc : 0 < fixedSize kt ∧ 0 < fixedSize vt
    · show Good (tplV E kt vt)
      rw [(tplKV_fixed E hc.1 hc.2).2]; exact fixedFn_good vt hc.2
    · show Good (tplV E kt vt)
      rw [(tplKV_nested E hc).2]; exact h vt
  layer := by
    intro E vt
    by_cases hc : 0 < fixedSize kt ∧ 0 < fixedSize vt
    · show tplV (layer E) kt vt = layer E vt
      rw [(tplKV_fixed _ hc.1 hc.2).2, fixedFn_eq_layer E hc.2]
    · exact (tplKV_nested _ hc).2

theorem refTpl_good : ∀ d t, Good (refTpl d t) :=
  Inlines.good_of_step .id gFix_inlines tplK_inlines tplV_inlines (fun _ _ => rfl) (fun _ _ _ => rfl)

theorem refLen_le_refTpl : ∀ d t, LeF (refLen d t) (refTpl d t) :=
  Inlines.refLen_le_of_step .id gFix_inlines tplK_inlines tplV_inlines (fun _ _ _ => rfl)

theorem refTpl_le_refLen : ∀ d t, LeF (refTpl d t) (refLen (d+1) t) :=
  Inlines.le_refLen_of_step .id gFix_inlines tplK_inlines tplV_inlines (fun _ _ => rfl) (fun _ _ _ => rfl)

/-! ### BufferReader.Skip: fixed-size and string elements of lists/sets/maps are skipped in line;
    struct fields: fixed-size in line, everything else (strings too) through skipType(.., maxdepth-1) -/

def refBR : Nat → UInt8 → Bytes → Option Nat
  | 0, _, _ => none
  | d+1, t, b => layerG (gFix (refBR d)) (gElem (refBR d))
      (fun kt _ => gElem (refBR d) kt) (fun _ vt => gElem (refBR d) vt) t b

theorem refBR_good : ∀ d t, Good (refBR d t) :=
  Inlines.good_of_step gFix_inlines gElem_inlines (fun _ => gElem_inlines) (fun _ => gElem_inlines)
    (fun _ _ => rfl) (fun _ _ _ => rfl)

theorem refLen_le_refBR : ∀ d t, LeF (refLen d t) (refBR d t) :=
  Inlines.refLen_le_of_step gFix_inlines gElem_inlines (fun _ => gElem_inlines) (fun _ => gElem_inlines)
    (fun _ _ _ => rfl)

theorem refBR_le_refLen : ∀ d t, LeF (refBR d t) (refLen (d+1) t) :=
  Inlines.le_refLen_of_step gFix_inlines gElem_inlines (fun _ => gElem_inlines) (fun _ => gElem_inlines)
    (fun _ _ => rfl) (fun _ _ _ => rfl)

end Verif
