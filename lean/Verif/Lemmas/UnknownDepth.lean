/-
  Lemmas/UnknownDepth: the instrumented reader erases to Model/Unknown, and its depth is bounded by maxdepth+1.
  Both facts travel together as one relation (`DRel`) through the loops and the type switch.
-/
import Verif.Model.UnknownDepth
namespace Verif

namespace DOut
variable {α β : Type}
@[simp] theorem lift_snd (x : UOut α) : (lift x).2 = x := rfl
@[simp] theorem lift_fst (x : UOut α) : (lift x).1 = 0 := rfl
@[simp] theorem frame_snd (x : DOut α) : (frame x).2 = x.2 := rfl
@[simp] theorem frame_fst (x : DOut α) : (frame x).1 = x.1 + 1 := rfl
end DOut

def DRel {α : Type} (k : Nat) (x : DOut α) (y : UOut α) : Prop := x.2 = y ∧ x.1 ≤ k

namespace DRel
variable {α β : Type} {k : Nat}

theorem lift (k : Nat) (x : UOut α) : DRel k (DOut.lift x) x := ⟨rfl, Nat.zero_le k⟩

theorem frame {x : DOut α} {y : UOut α} (h : DRel k x y) : DRel (k + 1) (DOut.frame x) y :=
  ⟨h.1, Nat.succ_le_succ h.2⟩

theorem bind {x : DOut α} {y : UOut α} {f : α → DOut β} {g : α → UOut β} (hx : DRel k x y)
    (hf : ∀ a, DRel k (f a) (g a)) : DRel k (x.bind f) (y.bind g) := by
  obtain ⟨d, r⟩ := x
  obtain ⟨rfl, hd⟩ := hx
  cases r with
  | ok a => exact ⟨(hf a).1, Nat.max_le.mpr ⟨hd, (hf a).2⟩⟩
  | err e => exact ⟨rfl, hd⟩
  | panic s => exact ⟨rfl, hd⟩
  | oob => exact ⟨rfl, hd⟩

theorem ite {c : Prop} [Decidable c] {x x' : DOut α} {y y' : UOut α} (h : c → DRel k x y)
    (h' : ¬c → DRel k x' y') : DRel k (if c then x else x') (if c then y else y') := by
  by_cases hc : c
  · rw [if_pos hc, if_pos hc]
    exact h hc
  · rw [if_neg hc, if_neg hc]
    exact h' hc

end DRel

theorem readElemsD_rel {α : Type} {k : Nat} {rd : Bytes → UInt16 → DOut (α × Nat)}
    {rd' : Bytes → UInt16 → UOut (α × Nat)} (H : ∀ s i, DRel k (rd s i) (rd' s i)) (b : Bytes) :
    ∀ cnt i off, DRel k (readElemsD rd cnt i b off) (readElems rd' cnt i b off)
  | 0, _, _ => .lift k _
  | cnt+1, i, off => by
    rw [readElemsD, readElems]
    exact .bind (.lift k _) fun s => .bind (H _ _) fun r => .bind (readElemsD_rel H b cnt _ _) fun rs => .lift k _

theorem readKVsD_rel {α : Type} {k : Nat} {rk rv : Bytes → UInt16 → DOut (α × Nat)}
    {rk' rv' : Bytes → UInt16 → UOut (α × Nat)} (HK : ∀ s i, DRel k (rk s i) (rk' s i))
    (HV : ∀ s i, DRel k (rv s i) (rv' s i)) (b : Bytes) :
    ∀ cnt i off, DRel k (readKVsD rk rv cnt i b off) (ufReadKVs rk' rv' cnt i b off)
  | 0, _, _ => .lift k _
  | cnt+1, i, off => by
    rw [readKVsD, ufReadKVs]
    exact .bind (.lift k _) fun s => .bind (HK _ _) fun kv => .bind (.lift k _) fun s' => .bind (HV _ _) fun v =>
      .bind (readKVsD_rel HK HV b cnt _ _) fun rs => .lift k _

theorem readFieldsD_rel {α : Type} {k : Nat} {rd : Bytes → UInt8 → UInt16 → DOut (α × Nat)}
    {rd' : Bytes → UInt8 → UInt16 → UOut (α × Nat)} (H : ∀ s t i, DRel k (rd s t i) (rd' s t i)) (b : Bytes) :
    ∀ fuel off, DRel k (readFieldsD rd fuel b off) (readFields rd' fuel b off)
  | 0, _ => .lift k _
  | fuel+1, off => by
    rw [readFieldsD, readFields]
    exact .bind (.lift k _) fun s => .bind (.lift k _) fun h => .ite (fun _ => .lift k _) fun _ =>
      .bind (.lift k _) fun s' => .bind (H _ _ _) fun r => .bind (readFieldsD_rel H b fuel _) fun rs => .lift k _

theorem convertLoopD_rel {α : Type} {k : Nat} {rd : Bytes → UInt8 → UInt16 → DOut (α × Nat)}
    {rd' : Bytes → UInt8 → UInt16 → UOut (α × Nat)} (H : ∀ s t i, DRel k (rd s t i) (rd' s t i)) (b : Bytes) :
    ∀ fuel off, DRel k (convertLoopD rd fuel b off) (convertLoop rd' fuel b off)
  | 0, _ => .lift k _
  | fuel+1, off => by
    rw [convertLoopD, convertLoop]
    exact .ite (fun _ => .lift k _) fun _ => .bind (.lift k _) fun s => .bind (.lift k _) fun h =>
      .bind (.lift k _) fun s' => .bind (H _ _ _) fun r => .bind (convertLoopD_rel H b fuel _) fun rs => .lift k _

theorem readListLikeD_rel {α : Type} {k : Nat} {rd : UInt8 → Bytes → UInt16 → DOut (α × Nat)}
    {rd' : UInt8 → Bytes → UInt16 → UOut (α × Nat)} (H : ∀ t s i, DRel k (rd t s i) (rd' t s i)) (id : UInt16)
    (t : UInt8) (b : Bytes) : DRel k (readListLikeD rd id t b) (readListLike rd' id t b) := by
  cases b with
  | nil => exact .lift k _
  | cons et rest =>
    rw [readListLikeD, readListLike]
    exact .ite (fun _ => .lift k _) fun _ => .bind (readElemsD_rel (H et) _ _ _ _) fun rs => .lift k _

theorem readMapLikeD_rel {α : Type} {k : Nat} {rd : UInt8 → Bytes → UInt16 → DOut (α × Nat)}
    {rd' : UInt8 → Bytes → UInt16 → UOut (α × Nat)} (H : ∀ t s i, DRel k (rd t s i) (rd' t s i)) (id : UInt16)
    (t : UInt8) (b : Bytes) : DRel k (readMapLikeD rd id t b) (readMapLike rd' id t b) := by
  match b with
  | [] => exact .lift k _
  | [_] => exact .lift k _
  | kt :: vt :: rest =>
    rw [readMapLikeD, readMapLike]
    exact .ite (fun _ => .lift k _) fun _ => .bind (readKVsD_rel (H kt) (H vt) _ _ _ _) fun rs => .lift k _

theorem readNodeD_rel {α : Type} {k : Nat} {rd : Bytes → UInt8 → UInt16 → DOut (α × Nat)}
    {rd' : Bytes → UInt8 → UInt16 → UOut (α × Nat)} (H : ∀ s t i, DRel k (rd s t i) (rd' s t i)) (b : Bytes)
    (t : UInt8) (id : UInt16) : DRel k (readNodeD rd b t id) (readNode rd' b t id) := by
  have HL := fun t s i => H s t i
  unfold readNodeD readNode
  exact .ite (fun _ => .lift k _) fun _ => .ite (fun _ => .lift k _) fun _ => .ite (fun _ => .lift k _) fun _ =>
    .ite (fun _ => .lift k _) fun _ => .ite (fun _ => .lift k _) fun _ => .ite (fun _ => .lift k _) fun _ =>
    .ite (fun _ => .lift k _) fun _ => .ite (fun _ => readListLikeD_rel HL _ _ _) fun _ =>
    .ite (fun _ => readListLikeD_rel HL _ _ _) fun _ => .ite (fun _ => readMapLikeD_rel HL _ _ _) fun _ =>
    .ite (fun _ => .bind (readFieldsD_rel H _ _ _) fun rs => .lift k _) fun _ => .lift k _

/-- m+1 frames, not m: the last one only rejects -/
theorem readUFD_rel : ∀ (m : Nat) (b : Bytes) (t : UInt8) (id : UInt16), DRel (m + 1) (readUFD m b t id) (readUF m b t id)
  | 0, _, _, _ => .frame (.lift 0 _)
  | m+1, b, t, id => .frame (readNodeD_rel (fun s t i => readUFD_rel m s t i) b t id)

theorem convertMD_rel (m : Nat) (b : Bytes) : DRel (m + 1) (convertMD m b) (convertM m b) := by
  unfold convertMD convertM
  exact .ite (fun _ => .lift _ _) fun _ => convertLoopD_rel (fun s t i => readUFD_rel m s t i) _ _ _

end Verif
