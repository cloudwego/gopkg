/-
  Lemmas/FcReadStructs: the generated FastRead loop on a printed field list followed by STOP
  (`genLoop_fields_run`), one printed field through the loop bodies of Base, BaseResp and
  ApplicationException (the dispatch of the hand-written ApplicationException switch included), and field
  order: updates of different fields commute, so a reader that assembles from left to right does not
  depend on it. Props/C11 puts them together per struct.
-/
import Verif.Lemmas.FcKey
import Verif.Lemmas.FcRead
namespace Verif

theorem encFields_length_ge (l : List Fld) : l.length ≤ (encFields l).length := by
  induction l with
  | nil => simp [encFields]
  | cons f r ih => rw [encFields_cons]; simp [Fld.enc]; omega

theorem genLoop_fields_run {α F : Type} (body : α → Bytes → Nat → Nat → UInt8 → TOut (RR α))
    (apply : α → F → α) (toFld : F → Fld) (Valid : F → Prop)
    (hbody : ∀ (p : α) (f : F) (b more : Bytes) (off : Nat), Valid f →
      sliceFrom b off = .ok ((toFld f).val ++ more) →
      body p b off (toFld f).id (toFld f).t = .ok ⟨apply p f, off + (toFld f).val.length, none⟩)
    (hhdr : ∀ f, Valid f → (toFld f).id < 65536 ∧ (toFld f).t ≠ 0)
    (p0 : α) (fs : List F) (rest : Bytes) (hv : ∀ f ∈ fs, Valid f) :
    genLoop body (encFields (fs.map toFld) ++ 0 :: rest) ((encFields (fs.map toFld) ++ 0 :: rest).length + 1) p0 0
      = .ok ⟨fs.foldl apply p0, (encFields (fs.map toFld)).length + 1, none⟩ := by
  have hfuel : fs.length < (encFields (fs.map toFld) ++ 0 :: rest).length + 1 := by
    have := encFields_length_ge (fs.map toFld)
    rw [List.length_map] at this
    rw [List.length_append]; omega
  rw [genLoop_fields body apply toFld Valid hbody hhdr fs _ rest 0 p0 _ hv hfuel (sliceFrom_ok _ 0 (Nat.zero_le _)),
    Nat.zero_add]

/-! ## Base -/

theorem baseFld_hdr (f : BaseFld) (hf : f.Valid) : f.toFld.id < 65536 ∧ f.toFld.t ≠ 0 := by
  cases f with
  | unknown id t v => exact ⟨hf.1.1, hf.1.2.1⟩
  | _ => simp [BaseFld.toFld, fStr, fMapSS, TT.STRING, TT.MAP]

theorem baseBody_field (p : Base) (f : BaseFld) (b more : Bytes) (off : Nat) (hf : f.Valid)
    (h : sliceFrom b off = .ok (f.toFld.val ++ more)) :
    baseBody p b off f.toFld.id f.toFld.t = .ok ⟨BaseFld.apply p f, off + f.toFld.val.length, none⟩ := by
  cases f with
  | logID s =>
    simp only [BaseFld.toFld, fStr, TT.STRING] at h ⊢
    rw [baseBody, caseIdx_base _ _ (by omega), if_pos (by decide)]
    exact caseStr_enc _ p b more s off h hf
  | caller s =>
    simp only [BaseFld.toFld, fStr, TT.STRING] at h ⊢
    rw [baseBody, caseIdx_base _ _ (by omega), if_neg (by decide), if_pos (by decide)]
    exact caseStr_enc _ p b more s off h hf
  | addr s =>
    simp only [BaseFld.toFld, fStr, TT.STRING] at h ⊢
    rw [baseBody, caseIdx_base _ _ (by omega), if_neg (by decide), if_neg (by decide), if_pos (by decide)]
    exact caseStr_enc _ p b more s off h hf
  | extra kvs =>
    simp only [BaseFld.toFld, fMapSS, TT.MAP] at h ⊢
    rw [baseBody, caseIdx_base _ _ (by omega), if_neg (by decide), if_neg (by decide), if_neg (by decide),
      if_pos (by decide)]
    exact caseMap_enc _ p b more kvs off h hf
  | unknown id t v =>
    obtain ⟨⟨hid, _, hv⟩, hk⟩ := hf
    simp only [BaseFld.isKnown, TT.STRING, TT.MAP, not_or] at hk
    simp only [BaseFld.toFld] at h ⊢
    rw [baseBody, caseIdx_base _ _ hid, if_neg hk.1, if_neg hk.2.1, if_neg hk.2.2.1, if_neg hk.2.2.2]
    exact caseSkip_enc p b more v t off h hv

/-! ## BaseResp -/

theorem respFld_hdr (f : RespFld) (hf : f.Valid) : f.toFld.id < 65536 ∧ f.toFld.t ≠ 0 := by
  cases f with
  | unknown id t v => exact ⟨hf.1.1, hf.1.2.1⟩
  | _ => simp [RespFld.toFld, fStr, fI32, fMapSS, TT.STRING, TT.MAP, TT.I32]

theorem respBody_field (p : BaseResp) (f : RespFld) (b more : Bytes) (off : Nat) (hf : f.Valid)
    (h : sliceFrom b off = .ok (f.toFld.val ++ more)) :
    respBody p b off f.toFld.id f.toFld.t = .ok ⟨RespFld.apply p f, off + f.toFld.val.length, none⟩ := by
  cases f with
  | msg s =>
    simp only [RespFld.toFld, fStr, TT.STRING] at h ⊢
    rw [respBody, caseIdx_resp _ _ (by omega), if_pos (by decide)]
    exact caseStr_enc _ p b more s off h hf
  | code v =>
    simp only [RespFld.toFld, fI32, TT.I32] at h ⊢
    rw [respBody, caseIdx_resp _ _ (by omega), if_neg (by decide), if_pos (by decide)]
    exact caseI32_enc _ p b more v off h hf
  | extra kvs =>
    simp only [RespFld.toFld, fMapSS, TT.MAP] at h ⊢
    rw [respBody, caseIdx_resp _ _ (by omega), if_neg (by decide), if_neg (by decide), if_pos (by decide)]
    exact caseMap_enc _ p b more kvs off h hf
  | unknown id t v =>
    obtain ⟨⟨hid, _, hv⟩, hk⟩ := hf
    simp only [RespFld.isKnown, TT.STRING, TT.MAP, TT.I32, not_or] at hk
    simp only [RespFld.toFld] at h ⊢
    rw [respBody, caseIdx_resp _ _ hid, if_neg hk.1, if_neg hk.2.1, if_neg hk.2.2]
    exact caseSkip_enc p b more v t off h hv

/-! ## ApplicationException -/

theorem exFld_hdr (f : ExFld) (hf : f.Valid) : f.toFld.id < 65536 ∧ f.toFld.t ≠ 0 := by
  cases f with
  | unknown id t v => exact ⟨hf.1.1, hf.1.2.1⟩
  | _ => simp [ExFld.toFld, fStr, fI32, TT.STRING, TT.I32]

/-- the switch conditions regenerated from the source are the IDL's (1, STRING) and (2, I32) -/
theorem appExcReadCases_eq : Facts.appExcReadCases = [(1, 11), (2, 8)] := by decide

theorem toI16_eq_small (n c : Nat) (hn : n < 65536) (hc : c < 32768) : toI16 n = (c : Int) ↔ n = c := by
  unfold toI16; split <;> omega

theorem toI8_eq_small (t c : UInt8) (hc : c.toNat < 128) : toI8 t.toNat = (c.toNat : Int) ↔ t = c := by
  have := t.toNat_lt
  rw [← UInt8.toNat_inj]
  unfold toI8; split <;> omega

/-- the hand-written switch of ApplicationException.FastRead with the regenerated conditions spelled out -/
theorem exBody_eq (e : AppEx) (b : Bytes) (off fid : Nat) (ftyp : UInt8) (hf : fid < 65536) :
    exBody e b off fid ftyp =
      if fid = 1 ∧ ftyp = 11 then caseStr (fun e s => { e with msg := s }) e b off
      else if fid = 2 ∧ ftyp = 8 then caseI32 (fun e v => { e with typ := v }) e b off
      else caseSkip e b off ftyp := by
  have h1 : toI16 fid = 1 ↔ fid = 1 := toI16_eq_small fid 1 hf (by omega)
  have h2 : toI16 fid = 2 ↔ fid = 2 := toI16_eq_small fid 2 hf (by omega)
  have t11 : toI8 ftyp.toNat = 11 ↔ ftyp = 11 := toI8_eq_small ftyp 11 (by decide)
  have t8 : toI8 ftyp.toNat = 8 ↔ ftyp = 8 := toI8_eq_small ftyp 8 (by decide)
  simp only [exBody, appExcReadCases_eq, h1, h2, t11, t8]

theorem exBody_field (e : AppEx) (f : ExFld) (b more : Bytes) (off : Nat) (hf : f.Valid)
    (h : sliceFrom b off = .ok (f.toFld.val ++ more)) :
    exBody e b off f.toFld.id f.toFld.t = .ok ⟨ExFld.apply e f, off + f.toFld.val.length, none⟩ := by
  cases f with
  | msg s =>
    simp only [ExFld.toFld, fStr, TT.STRING] at h ⊢
    rw [exBody_eq _ _ _ _ _ (by omega), if_pos (by decide)]
    exact caseStr_enc _ e b more s off h hf
  | typ v =>
    simp only [ExFld.toFld, fI32, TT.I32] at h ⊢
    rw [exBody_eq _ _ _ _ _ (by omega), if_neg (by decide), if_pos (by decide)]
    exact caseI32_enc _ e b more v off h hf
  | unknown id t v =>
    obtain ⟨⟨hid, _, hv⟩, hk⟩ := hf
    simp only [ExFld.isKnown, TT.STRING, TT.I32, not_or] at hk
    simp only [ExFld.toFld] at h ⊢
    rw [exBody_eq _ _ _ _ _ hid, if_neg hk.1, if_neg hk.2]
    exact caseSkip_enc e b more v t off h hv

/-! ## field order: updates of different fields commute -/

theorem baseFld_apply_comm (x y : BaseFld) (h : x.kind = y.kind → x.kind ≠ 0 → x = y) (z : Base) :
    BaseFld.apply (BaseFld.apply z x) y = BaseFld.apply (BaseFld.apply z y) x := by
  cases x <;> cases y <;> try rfl
  -- the same field twice: the two values agree
  all_goals cases h rfl nofun; rfl

theorem respFld_apply_comm (x y : RespFld) (h : x.kind = y.kind → x.kind ≠ 0 → x = y) (z : BaseResp) :
    RespFld.apply (RespFld.apply z x) y = RespFld.apply (RespFld.apply z y) x := by
  cases x <;> cases y <;> try rfl
  all_goals cases h rfl nofun; rfl

theorem exFld_apply_comm (x y : ExFld) (h : x.kind = y.kind → x.kind ≠ 0 → x = y) (z : AppEx) :
    ExFld.apply (ExFld.apply z x) y = ExFld.apply (ExFld.apply z y) x := by
  cases x <;> cases y <;> try rfl
  all_goals cases h rfl nofun; rfl

theorem read_order_independent {α F : Type} (read : α → Bytes → TOut (RR α)) (toFld : F → Fld)
    (apply : α → F → α) (Valid : F → Prop) (kind : F → Nat)
    (hread : ∀ (p0 : α) (fs : List F) (rest : Bytes), (∀ f ∈ fs, Valid f) →
      read p0 (encFields (fs.map toFld) ++ 0 :: rest)
        = .ok ⟨fs.foldl apply p0, (encFields (fs.map toFld)).length + 1, none⟩)
    (hcomm : ∀ x y, (kind x = kind y → kind x ≠ 0 → x = y) → ∀ z, apply (apply z x) y = apply (apply z y) x)
    (p0 : α) (fs fs' : List F) (rest rest' : Bytes) (hperm : fs.Perm fs') (hv : ∀ f ∈ fs, Valid f)
    (hdup : ∀ x ∈ fs, ∀ y ∈ fs, kind x = kind y → kind x ≠ 0 → x = y) :
    ∃ p, read p0 (encFields (fs.map toFld) ++ 0 :: rest) = .ok ⟨p, (encFields (fs.map toFld)).length + 1, none⟩ ∧
         read p0 (encFields (fs'.map toFld) ++ 0 :: rest')
           = .ok ⟨p, (encFields (fs'.map toFld)).length + 1, none⟩ := by
  refine ⟨fs.foldl apply p0, hread p0 fs rest hv, ?_⟩
  rw [hread p0 fs' rest' (fun f hf => hv f (hperm.mem_iff.mpr hf)),
    hperm.foldl_eq' (fun x hx y hy z => hcomm x y (hdup x hx y hy) z) p0]

end Verif
