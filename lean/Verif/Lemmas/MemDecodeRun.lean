/-
  Lemmas/MemDecodeRun: RUNS of decodes (C16).  State = span cache, heap, the inputs the user holds and
  the results returned so far.  `DecStep A` = one step while the user watches the result `A`:
  a decode (any configuration, any input that exists and respects the span reserve lines — an earlier
  result included), a failing decode, a user write into an input, a user write into / append to one of
  the OTHER results, an environment step, a new input buffer.  The invariant `DInv` (cache invariant,
  everything below the reserve lines, results pairwise disjoint and disjoint from the inputs) holds
  along every run, and the bytes of `A` never change.
-/
import Verif.Lemmas.MemDecode
namespace Verif.Mem
open Verif Verif.Heap

structure DSt where
  c : SpanCache
  h : Heap
  ins : List Slice
  res : List Slice

structure DInv (s : DSt) : Prop where
  cache : CacheInv s.c s.h
  ok : ∀ f, f ∈ s.ins ∨ f ∈ s.res → InputOK s.h f ∧ Below s.c s.h f
  rr : ∀ a ∈ s.res, ∀ b ∈ s.res, a ≠ b → a.CapDisjoint b
  ri : ∀ a ∈ s.res, ∀ i ∈ s.ins, a.CapDisjoint i

theorem CapDisjoint.symm {s t : Slice} (h : s.CapDisjoint t) : t.CapDisjoint s := by
  unfold Slice.CapDisjoint at *
  rcases h with h | h | h | h | h
  · exact Or.inr (Or.inl h)
  · exact Or.inl h
  · exact Or.inr (Or.inr (Or.inl (Ne.symm h)))
  · exact Or.inr (Or.inr (Or.inr (Or.inr h)))
  · exact Or.inr (Or.inr (Or.inr (Or.inl h)))

theorem InputOK.of_keeps {h h' : Heap} {f : Slice} (hi : InputOK h f) (hk : Keeps h h') : InputOK h' f := by
  obtain ⟨hl, x, hx, hb, hf⟩ := hi
  obtain ⟨x', hx', ho, _, hlen⟩ := hk _ x hx
  exact ⟨hl, x', hx', by omega, by rw [ho]; exact hf⟩

theorem keeps_userWrite (h : Heap) (f : Slice) (p : Nat) (d : Bytes) (hf : InputOK h f)
    (hp : f.off ≤ p ∧ p + d.length ≤ f.off + f.cap) : Keeps h (h.userWrite f.obj p d) := by
  obtain ⟨_, x, hx, hb, _⟩ := hf
  exact (setData_touches h f.obj p d x hx (by omega)).keeps

theorem goAppend_shape (h : Heap) (t : Slice) (d : Bytes) (slack : Nat) (ht : InputOK h t) :
    Keeps h (goAppend h t d slack).2 ∧ InputOK (goAppend h t d slack).2 (goAppend h t d slack).1 ∧
    (∀ c, CacheInv c h → Below c h t → Below c (goAppend h t d slack).2 (goAppend h t d slack).1) ∧
    (∀ f : Slice, f.obj < h.size → t.CapDisjoint f → (goAppend h t d slack).1.CapDisjoint f) := by
  obtain ⟨hl, x, hx, hb, hf⟩ := ht
  unfold goAppend
  by_cases hfit : t.len + d.length ≤ t.cap
  · rw [if_pos hfit]
    have hk := keeps_userWrite h t (t.off + t.len) d ⟨hl, x, hx, hb, hf⟩ (by omega)
    obtain ⟨x', hx', ho, _, hlen⟩ := hk _ x hx
    exact ⟨hk, ⟨hfit, x', hx', by show t.off + t.cap ≤ _; omega, ho ▸ hf⟩,
      fun c _ hbt => ⟨Nat.lt_of_lt_of_le hbt.1 hk.size, hbt.2⟩, fun f _ hd => hd⟩
  · rw [if_neg hfit]
    obtain ⟨y, hy, hyg, hyl⟩ := gcAlloc_new h (t.len + d.length) (t.len + d.length + slack)
    have hext := extends_gcAlloc h (t.len + d.length) (t.len + d.length + slack)
    have hvl : (h.view t).length ≤ t.len := bytes_length_le h _ _ _
    dsimp only [gcAlloc_obj, Heap.userWrite]
    generalize h.view t = v at hvl
    generalize (h.gcAlloc (t.len + d.length) (t.len + d.length + slack)).2 = h1 at hy hext
    have t1 := setData_touches h1 h.size 0 v y hy (by omega)
    obtain ⟨y1, hy1, ho1, _, hyl1⟩ := t1.shape.obj? _ y hy
    have t2 := setData_touches (h1.setData h.size 0 v) h.size t.len d y1 hy1 (by omega)
    obtain ⟨y2, hy2, ho2, _, hyl2⟩ := t2.shape.obj? _ y1 hy1
    exact ⟨(Keeps.of_extends hext).trans (t1.keeps.trans t2.keeps),
      ⟨Nat.le_add_right _ _, y2, hy2, by show 0 + (t.len + d.length + slack) ≤ _; omega, by rw [ho2, ho1, hyg]; decide⟩,
      fun c hc _ => Below.of_fresh hc (Nat.le_refl _) (obj?_lt _ _ y2 hy2),
      fun f hf _ => Or.inr (Or.inr (Or.inl (Nat.ne_of_gt hf)))⟩

/-- replace the slice header `t` by `t'` in a list of results -/
def replaceSlice (l : List Slice) (t t' : Slice) : List Slice := l.map (fun x => if x = t then t' else x)

theorem mem_replaceSlice {l : List Slice} {t t' f : Slice} (hf : f ∈ replaceSlice l t t') :
    (f = t' ∧ t ∈ l) ∨ (f ∈ l ∧ f ≠ t) := by
  unfold replaceSlice at hf
  obtain ⟨x, hx, rfl⟩ := List.mem_map.mp hf
  by_cases hxt : x = t
  · rw [if_pos hxt]; exact Or.inl ⟨rfl, hxt ▸ hx⟩
  · rw [if_neg hxt]; exact Or.inr ⟨hx, hxt⟩

theorem mem_replaceSlice_of_ne {l : List Slice} {t t' a : Slice} (ha : a ∈ l) (hne : a ≠ t) :
    a ∈ replaceSlice l t t' := by
  unfold replaceSlice
  exact List.mem_map.mpr ⟨a, ha, by rw [if_neg hne]⟩

/-- one step of a run while the result `A` is watched -/
inductive DecStep (A : Slice) : DSt → DSt → Prop
  | decode (st : DSt) (cfg : DecCfg) (buf s : Slice) (l : Nat) (c' : SpanCache) (h' : Heap)
      (hin : InputOK st.h buf) (hb : Below st.c st.h buf)
      (hrun : binReadBinary cfg st.c st.h buf = (.ok (s, l), c', h')) :
      DecStep A st ⟨c', h', st.ins, s :: st.res⟩
  | decodeErr (st : DSt) (cfg : DecCfg) (buf : Slice) (e : TErr × Nat) (c' : SpanCache) (h' : Heap)
      (hin : InputOK st.h buf) (hrun : binReadBinary cfg st.c st.h buf = (.error e, c', h')) :
      DecStep A st ⟨c', h', st.ins, st.res⟩
  /-- the user overwrites any part of the capacity region of one of its input buffers -/
  | writeInput (st : DSt) (i : Slice) (p : Nat) (d : Bytes) (hi : i ∈ st.ins)
      (hp : i.off ≤ p ∧ p + d.length ≤ i.off + i.cap) :
      DecStep A st ⟨st.c, st.h.userWrite i.obj p d, st.ins, st.res⟩
  /-- the user overwrites (a prefix of) another result -/
  | writeResult (st : DSt) (t : Slice) (d : Bytes) (ht : t ∈ st.res) (hne : t ≠ A) (hd : d.length ≤ t.len) :
      DecStep A st ⟨st.c, st.h.userWrite t.obj t.off d, st.ins, st.res⟩
  /-- the user appends to another result (in place or into a fresh allocation) -/
  | append (st : DSt) (t : Slice) (d : Bytes) (slack : Nat) (ht : t ∈ st.res) (hne : t ≠ A) :
      DecStep A st ⟨st.c, (goAppend st.h t d slack).2, st.ins, replaceSlice st.res t (goAppend st.h t d slack).1⟩
  | env (st : DSt) (h' : Heap) (he : Env st.h h') : DecStep A st ⟨st.c, h', st.ins, st.res⟩
  /-- the user obtains a new input buffer in memory allocated after everything so far -/
  | newInput (st : DSt) (f : Slice) (h' : Heap) (he : Extends st.h h') (hf : st.h.size ≤ f.obj)
      (hok : InputOK h' f) : DecStep A st ⟨st.c, h', f :: st.ins, st.res⟩

inductive DecSteps (A : Slice) : DSt → DSt → Prop
  | refl (a : DSt) : DecSteps A a a
  | cons {a b c : DSt} (s : DecStep A a b) (t : DecSteps A b c) : DecSteps A a c

/-- a heap change that keeps shapes (and only grows the heap) keeps the invariant of an unchanged state -/
theorem DInv.of_keeps {st : DSt} {h' : Heap} (hi : DInv st) (hk : Keeps st.h h') :
    DInv ⟨st.c, h', st.ins, st.res⟩ :=
  ⟨hi.cache.of_keeps hk, fun f hf => ⟨(hi.ok f hf).1.of_keeps hk, (hi.ok f hf).2.of_size hk.size⟩, hi.rr, hi.ri⟩

theorem DInv.decode {st : DSt} (hi : DInv st) (cfg : DecCfg) (buf s : Slice) (l : Nat) (c' : SpanCache) (h' : Heap)
    (hin : InputOK st.h buf) (hb : Below st.c st.h buf)
    (hrun : binReadBinary cfg st.c st.h buf = (.ok (s, l), c', h')) : DInv ⟨c', h', st.ins, s :: st.res⟩ := by
  obtain ⟨_, _, _, q4, _, _, _, q8, q9, q10, _, _, _, ⟨x, hx, hxg, hxb⟩, qk⟩ :=
    binReadBinary_ok cfg st.c st.h buf s l c' h' hi.cache hin hb hrun
  have hold : ∀ f, f ∈ st.ins ∨ f ∈ st.res → (InputOK h' f ∧ Below c' h' f) ∧ s.CapDisjoint f := fun f hf =>
    ⟨⟨(hi.ok f hf).1.of_keeps qk, (q8 f (hi.ok f hf).2).2⟩, (q8 f (hi.ok f hf).2).1⟩
  refine ⟨q10, fun f hf => ?_, fun x1 h1 x2 h2 hne => ?_, fun x1 h1 i hi' => ?_⟩
  · rcases hf with hf | hf
    · exact (hold f (Or.inl hf)).1
    · rcases List.mem_cons.mp hf with rfl | hf
      · exact ⟨⟨q4, x, hx, hxb, by rw [hxg]; decide⟩, q9⟩
      · exact (hold f (Or.inr hf)).1
  · rcases List.mem_cons.mp h1 with e1 | m1
    · rcases List.mem_cons.mp h2 with e2 | m2
      · exact absurd (e1.trans e2.symm) hne
      · exact e1 ▸ (hold x2 (Or.inr m2)).2
    · rcases List.mem_cons.mp h2 with e2 | m2
      · exact e2 ▸ CapDisjoint.symm (hold x1 (Or.inr m1)).2
      · exact hi.rr x1 m1 x2 m2 hne
  · rcases List.mem_cons.mp h1 with e1 | m1
    · exact e1 ▸ (hold i (Or.inl hi')).2
    · exact hi.ri x1 m1 i hi'

theorem DInv.userWrite {st : DSt} (hi : DInv st) {A f : Slice} (hA : A ∈ st.res) (hf : f ∈ st.ins ∨ f ∈ st.res)
    (hd : A.CapDisjoint f) (p : Nat) (d : Bytes) (hp : f.off ≤ p ∧ p + d.length ≤ f.off + f.cap) :
    DInv ⟨st.c, st.h.userWrite f.obj p d, st.ins, st.res⟩ ∧ A ∈ st.res ∧
      (st.h.userWrite f.obj p d).view A = st.h.view A := by
  have hfok := (hi.ok f hf).1
  obtain ⟨x, hx, hb, _⟩ := hfok.2
  exact ⟨hi.of_keeps (keeps_userWrite st.h f p d hfok hp), hA, userWrite_disjoint st.h f A p d hp
    (fun y hy => by cases hx.symm.trans hy; exact hb) hd (hi.ok A (Or.inr hA)).1.1⟩

theorem DecStep.ok {A : Slice} {a b : DSt} (s : DecStep A a b) (hi : DInv a) (hA : A ∈ a.res) :
    DInv b ∧ A ∈ b.res ∧ b.h.view A = a.h.view A := by
  have hAok := hi.ok A (Or.inr hA)
  cases s with
  | decode cfg buf s l c' h' hin hb hrun =>
    obtain ⟨_, _, _, q4, _, _, _, q8, _, _, q11, _⟩ :=
      binReadBinary_ok cfg a.c a.h buf s l c' h' hi.cache hin hb hrun
    exact ⟨hi.decode cfg buf s l c' h' hin hb hrun, List.mem_cons_of_mem _ hA,
      view_of_onlyWrote q11 hAok.2.1 hAok.1.1 (q8 A hAok.2).1 q4⟩
  | decodeErr cfg buf e c' h' hin hrun =>
    obtain ⟨rfl, rfl⟩ := binReadBinary_err cfg a.c a.h buf e c' h' hin hrun
    exact ⟨⟨hi.cache, hi.ok, hi.rr, hi.ri⟩, hA, rfl⟩
  | writeInput i p d hi' hp => exact hi.userWrite hA (Or.inl hi') (hi.ri A hA i hi') p d hp
  | writeResult t d ht hne hd =>
    exact hi.userWrite hA (Or.inr ht) (hi.rr A hA t ht (Ne.symm hne)) t.off d
      ⟨Nat.le_refl _, by have := (hi.ok t (Or.inr ht)).1.1; omega⟩
  | append t d slack ht hne =>
    have htok := (hi.ok t (Or.inr ht)).1
    obtain ⟨hk, hnew, hbelow, hdisj⟩ := goAppend_shape a.h t d slack htok
    have hsz := hk.size
    obtain ⟨_, x, hx, hb, _⟩ := htok
    have hview := (goAppend_ok a.h t d slack ⟨(hi.ok t (Or.inr ht)).1.1, x, hx, hb⟩).2
    replace hbelow := hbelow a.c hi.cache (hi.ok t (Or.inr ht)).2
    generalize goAppend a.h t d slack = ga at hk hnew hbelow hdisj hsz hview
    have hi' := hi.of_keeps hk
    refine ⟨⟨hi'.cache, ?_, ?_, ?_⟩, mem_replaceSlice_of_ne hA (Ne.symm hne), ?_⟩
    · intro f hf
      rcases hf with hf | hf
      · exact hi'.ok f (Or.inl hf)
      · rcases mem_replaceSlice hf with ⟨rfl, _⟩ | ⟨hf', _⟩
        · exact ⟨hnew, hbelow⟩
        · exact hi'.ok f (Or.inr hf')
    · intro x1 h1 x2 h2 hne12
      rcases mem_replaceSlice h1 with ⟨e1, _⟩ | ⟨h1', n1⟩
      · rcases mem_replaceSlice h2 with ⟨e2, _⟩ | ⟨h2', n2⟩
        · exact absurd (e1.trans e2.symm) hne12
        · rw [e1]; exact hdisj x2 (hi.ok x2 (Or.inr h2')).2.1 (hi.rr t ht x2 h2' (Ne.symm n2))
      · rcases mem_replaceSlice h2 with ⟨e2, _⟩ | ⟨h2', n2⟩
        · rw [e2]; exact CapDisjoint.symm (hdisj x1 (hi.ok x1 (Or.inr h1')).2.1 (hi.rr t ht x1 h1' (Ne.symm n1)))
        · exact hi.rr x1 h1' x2 h2' hne12
    · intro x1 h1 i hi'
      rcases mem_replaceSlice h1 with ⟨rfl, _⟩ | ⟨h1', _⟩
      · exact hdisj i (hi.ok i (Or.inl hi')).2.1 (hi.ri t ht i hi')
      · exact hi.ri x1 h1' i hi'
    · exact hview A hAok.2.1 hAok.1.1 (hi.rr A hA t ht (Ne.symm hne))
  | env h' he =>
    have hk := he.keeps
    obtain ⟨_, x, hx, _, hnf⟩ := hAok.1
    refine ⟨hi.of_keeps hk, hA, ?_⟩
    unfold Heap.view
    exact bytes_congr _ _ _ _ _ (fun q _ _ => he.byte? _ q x hx hnf)
  | newInput f h' he hf hok =>
    have hk := Keeps.of_extends he
    have hflt : f.obj < h'.size := by
      obtain ⟨_, y, hy, _, _⟩ := hok
      exact obj?_lt h' _ y hy
    obtain ⟨_, x, hx, _, _⟩ := hAok.1
    have hi' := hi.of_keeps hk
    refine ⟨⟨hi'.cache, ?_, hi.rr, ?_⟩, hA, ?_⟩
    · intro g hg
      rcases hg with hg | hg
      · rcases List.mem_cons.mp hg with rfl | hg
        · exact ⟨hok, Below.of_fresh hi.cache hf hflt⟩
        · exact hi'.ok g (Or.inl hg)
      · exact hi'.ok g (Or.inr hg)
    · intro x1 h1 i hi'
      rcases List.mem_cons.mp hi' with rfl | hi'
      · unfold Slice.CapDisjoint; right; right; left
        have := (hi.ok x1 (Or.inr h1)).2.1; omega
      · exact hi.ri x1 h1 i hi'
    · unfold Heap.view
      exact bytes_congr _ _ _ _ _ (fun q _ _ => he.byte? _ q x hx)

theorem DecSteps.ok {A : Slice} {a b : DSt} (t : DecSteps A a b) (hi : DInv a) (hA : A ∈ a.res) :
    DInv b ∧ A ∈ b.res ∧ b.h.view A = a.h.view A := by
  induction t with
  | refl a => exact ⟨hi, hA, rfl⟩
  | cons s _ ih =>
    obtain ⟨i1, a1, v1⟩ := s.ok hi hA
    obtain ⟨i2, a2, v2⟩ := ih i1 a1
    exact ⟨i2, a2, v2.trans v1⟩

/-- the state right after `NewSpanCache`, with any inputs that already exist -/
theorem DInv.init (h : Heap) (size : Nat) (hs : size < 4294967296) (ins : List Slice)
    (hins : ∀ f ∈ ins, InputOK h f) :
    DInv ⟨(SpanCache.new h size).1, (SpanCache.new h size).2, ins, []⟩ := by
  obtain ⟨hc, hb⟩ := cacheInv_new h size hs
  have hext : Extends h (SpanCache.new h size).2 := (newAux_ok size spanCacheSize h).2.2.1
  refine ⟨hc, fun f hf => ?_, fun a ha => by simp at ha, fun a ha => by simp at ha⟩
  rcases hf with hf | hf
  · obtain ⟨_, x, hx, _⟩ := hins f hf
    exact ⟨(hins f hf).of_keeps (Keeps.of_extends hext), hb f (obj?_lt h _ x hx)⟩
  · simp at hf

end Verif.Mem
