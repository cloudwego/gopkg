/-
  Lemmas/Funcs: umbrella over the equivalence theorems between the functions translated from the Go source on every
  run (`Verif.Gen.Funcs`) and the hand-written model functions (notes/Funcs.md):
    Funcs/Read   13 Binary.Read*                      = Wire.binRead*          (C01 C03 C12 C17)
    Funcs/Write  14 Binary.Write*                     = Wire.w*                (C01 C12)
    Funcs/Append 16 Binary.Append*/appendUint32/64, 16 *Length = Wire.a*, Wire.length (C01 C12 C15)
    Funcs/TTH    7 ttheader byte helpers              = TTH.bytes2Uint*, readString2BLen, isStreaming, isTTHeader (C03 C06 C10)
    Funcs/TTH2   readKVInfo (the `for {}` loop over info sections), readStrKVInfo, readIntKVInfo (counted loops),
                 readACLToken, checkProtocolID     = TTH.readKVInfo … checkProtocolID, by induction on the fuel (C03 C06 C10)
    Funcs/Skip   Binary.Skip / skipType (self-recursive, three loops, unsafe loads) / skipstr / p2i32
                                                   = skipBin, by induction on the depth, `oob` positions included (C02 C03 C08 C17)
    Funcs/Fc     (*Base).FastRead, (*BaseResp).FastRead, (*ApplicationException).FastRead/BLength/FastWrite
                                                   = fastReadBase, fastReadBaseResp, fastReadAppEx, bLengthAppEx, fastWriteAppEx (C03 C11)
    Funcs/Tpl    the generic SkipDecoderTpl.Skip over an abstract SkipN back end = skipTplAt, and its three instances (C02 C03 C08)
    Funcs/TTHDecode  ttheader.Decode over an abstract bufiox.Reader = decodeG, instances decodeRd / decodeCur (C03 C06 C10)
    Funcs/StreamW    the 14 BufferWriter.Write* over an abstract bufiox.Writer = Wire.bw* over the log model (C01 C12)
    Funcs/StreamR    the 17 BufferReader read methods (next, readBinary, skipn, Readn, 13 readers) over the reader model as a ReaderI
                     = brNext, brSkipn, Wire.brRead* (C01 C03 C12 C17)
    Funcs/StreamSkip BufferReader.next/skipn/skipstr/skipType/Skip over the reader model as a ReaderI (Funcs/RdI) = brNext, brSkipn,
                     brSkipStr, skipBRAt, skipBR (C02 C03 C08 C17)
    Funcs/Dec        BytesSkipDecoder.SkipN/Reset/Next = bytesBackend / bytesDecNext; SkipDecoder.SkipN/Next over the reader model
                     = bufioxBackend / bufioxDecNext, through the generalised template simulation Funcs/TplG (C02 C03 C08)
    Funcs/FcW        base.Base / base.BaseResp BLength, FastWrite, FastWriteNocopy and Binary.WriteStringNocopy/WriteBinaryNocopy
                     = bLength*, fastWrite*, fastWriteNocopy*, writeStringNocopy for every map iteration order, nil receiver, nil or real NocopyWriter (C11 C15)
    Funcs/TTHEncode  ttheader WriteByte/Uint16/Uint32/String/String2BLen, writeKVInfo, Encode over an abstract bufiox.Writer
                     = TTH.write*, writeKVInfo, encode over the writer log, for every iteration order of both maps (C06)
    Funcs/BufioxR    bufiox.DefaultReader (reset, acquire, acquireSlow, Next, Peek, Skip, ReadLen, ReadBinary, Release, maxSizeStats) translated by
                     extract/bufiox.go (slices WITH capacity: Base/GoSemCap) simulates the reader model Rd of Model/Reader (C04)
    Funcs/BufioxW    bufiox.DefaultWriter (acquire, acquireSlow, Malloc, WriteBinary, WrittenLen, Flush) simulates the writer model (C05)
    Funcs/BufioxRSD  thrift.ReaderSkipDecoder (SkipN, Grow, growSlow, Reset, Release), translated like BufioxR, simulates the back end
                     `readerBackend` of Model/SkipStream (C02 C03 C08)
    Funcs/StrMapEq   container/strmap translated by extract/strmap.go (Base/GoSemSM) = Model/StrMap under the representation invariant (C07)
  Imported through these: Funcs/Base (lifts, `go_simp`), Funcs/TplG (the simulation behind Tpl and Dec), Funcs/RdI (the reader model as a
  `ReaderI`). Funcs/Transfer{Read,Skip,TTH} (undoing the lifts) belong to Props/Translated.
-/
import Verif.Lemmas.Funcs.Read
import Verif.Lemmas.Funcs.Write
import Verif.Lemmas.Funcs.Append
import Verif.Lemmas.Funcs.TTH
import Verif.Lemmas.Funcs.TTH2
import Verif.Lemmas.Funcs.Skip
import Verif.Lemmas.Funcs.Fc
import Verif.Lemmas.Funcs.Tpl
import Verif.Lemmas.Funcs.TTHDecode
import Verif.Lemmas.Funcs.StreamW
import Verif.Lemmas.Funcs.StreamR
import Verif.Lemmas.Funcs.StreamSkip
import Verif.Lemmas.Funcs.Dec
import Verif.Lemmas.Funcs.FcW
import Verif.Lemmas.Funcs.TTHEncode
import Verif.Lemmas.Funcs.BufioxR
import Verif.Lemmas.Funcs.BufioxW
import Verif.Lemmas.Funcs.BufioxRSD
import Verif.Lemmas.Funcs.StrMapEq
namespace Verif.FuncsEq

/-- every whitelisted function was translated in this run (a refused one has no definition and no theorem) -/
theorem translated_all : Funcs.unsupported = [] := rfl

end Verif.FuncsEq
