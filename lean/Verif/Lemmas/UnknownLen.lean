/-
  Lemmas/UnknownLen: UnknownFieldsLength agrees with WriteUnknownFields on every tree the writer accepts.
-/
import Verif.Lemmas.UnknownBase
import Verif.Lemmas.UnknownEqns
namespace Verif

theorem lenList_of_writeList {α : Type} (w : α → UOut Bytes) (ln : α → UOut Nat)
    (h : ∀ v bs, w v = .ok bs → ln v = .ok bs.length) :
    ∀ vs bs, writeList w vs = .ok bs → lenList ln vs = .ok bs.length := by
  intro vs
  induction vs with
  | nil =>
    intro bs hw
    cases hw
    rfl
  | cons v vs ih =>
    intro bs hw
    obtain ⟨a, ha, hw⟩ := (Out.bind_eq_ok _ _ _).mp hw
    obtain ⟨r, hr, hb⟩ := (Out.bind_eq_ok _ _ _).mp hw
    cases hb
    rw [lenList, h v a ha, Out.bind_ok, ih r hr, Out.bind_ok, List.length_append]

theorem lenKVs_of_writeKVs {α : Type} (w : α → UOut Bytes) (ln : α → UOut Nat)
    (h : ∀ v bs, w v = .ok bs → ln v = .ok bs.length) :
    ∀ vs bs, writeKVs w vs = .ok bs → lenKVs ln vs = .ok bs.length
  | [], bs, hw => by
    cases hw
    rfl
  | [k], bs, hw => by
    obtain ⟨a, _, hw⟩ := (Out.bind_eq_ok _ _ _).mp hw
    cases hw
  | k :: v :: vs, bs, hw => by
    obtain ⟨a, ha, hw⟩ := (Out.bind_eq_ok _ _ _).mp hw
    obtain ⟨c, hc, hw⟩ := (Out.bind_eq_ok _ _ _).mp hw
    obtain ⟨r, hr, hb⟩ := (Out.bind_eq_ok _ _ _).mp hw
    cases hb
    rw [lenKVs, h k a ha, Out.bind_ok, h v c hc, Out.bind_ok, lenKVs_of_writeKVs w ln h vs r hr, Out.bind_ok,
      List.length_append, List.length_append]

theorem lenFields_of_writeFields {α : Type} (mt : α → UMeta) (w : α → UOut Bytes) (ln : α → UOut Nat)
    (h : ∀ v bs, w v = .ok bs → ln v = .ok bs.length) :
    ∀ vs bs, writeFields mt w vs = .ok bs → lenFields ln vs = .ok bs.length := by
  intro vs
  induction vs with
  | nil =>
    intro bs hw
    cases hw
    rfl
  | cons v vs ih =>
    intro bs hw
    obtain ⟨a, ha, hw⟩ := (Out.bind_eq_ok _ _ _).mp hw
    obtain ⟨r, hr, hb⟩ := (Out.bind_eq_ok _ _ _).mp hw
    cases hb
    rw [lenFields, h v a ha, Out.bind_ok, ih r hr, Out.bind_ok, List.length_append, List.length_append,
      List.length_cons, be16_length]

theorem lenUF_succ_of_writeUF (d : Nat) (ih : ∀ (f : UF d) (bs : Bytes), writeUF d f = .ok bs → lenUF d f = .ok bs.length) :
    ∀ (f : UF (d+1)) (bs : Bytes), writeUF (d+1) f = .ok bs → lenUF (d+1) f = .ok bs.length
  | (⟨id, typ, kt, vt⟩, v), bs, h => by
    rcases ttype_cases typ with rfl | rfl | rfl | rfl | rfl | rfl | rfl | hl | rfl | rfl | hno
    · rw [writeUF_BOOL] at h
      split at h <;> cases h
      rfl
    · rw [writeUF_BYTE] at h
      split at h <;> cases h
      rfl
    · rw [writeUF_I16] at h
      split at h <;> cases h
      rfl
    · rw [writeUF_I32] at h
      split at h <;> cases h
      rfl
    · rw [writeUF_I64] at h
      split at h <;> cases h
      rfl
    · rw [writeUF_DOUBLE] at h
      split at h <;> cases h
      rfl
    · rw [writeUF_STRING] at h
      split at h <;> cases h
      exact congrArg Out.ok (by rw [List.length_append, be32_length])
    · rw [writeUF_list d id kt vt v hl] at h
      rw [lenUF_list d id kt vt v hl]
      split at h
      · obtain ⟨r, hr, hb⟩ := (Out.bind_eq_ok _ _ _).mp h
        cases hb
        rw [lenList_of_writeList _ _ ih _ _ hr]
        exact congrArg Out.ok (by simp only [List.length_append, List.length_cons, be32_length])
      · cases h
    · rw [writeUF_MAP] at h
      rw [lenUF_MAP]
      split at h
      · obtain ⟨r, hr, hb⟩ := (Out.bind_eq_ok _ _ _).mp h
        cases hb
        rw [lenKVs_of_writeKVs _ _ ih _ _ hr]
        exact congrArg Out.ok (by simp only [List.length_append, List.length_cons, be32_length])
      · cases h
    · rw [writeUF_STRUCT] at h
      rw [lenUF_STRUCT]
      split at h
      · obtain ⟨r, hr, hb⟩ := (Out.bind_eq_ok _ _ _).mp h
        cases hb
        rw [lenFields_of_writeFields _ _ _ ih _ _ hr]
        exact congrArg Out.ok (by rw [List.length_append]; rfl)
      · cases h
    · exact absurd ((writeUF_other d (⟨id, typ, kt, vt⟩, v) hno).symm.trans h) nofun

/-- unknownFieldLength returns exactly the number of bytes writeUnknownField writes -/
theorem lenUF_of_writeUF : ∀ (d : Nat) (f : UF d) (bs : Bytes), writeUF d f = .ok bs → lenUF d f = .ok bs.length
  | 0, f, _, _ => f.elim
  | d+1, f, bs, h => lenUF_succ_of_writeUF d (lenUF_of_writeUF d) f bs h

/-- UnknownFieldsLength returns exactly the number of bytes WriteUnknownFields writes -/
theorem lenUFs_of_writeUFs (d : Nat) (fs : List (UF d)) (bs : Bytes) (h : writeUFs d fs = .ok bs) :
    lenUFs d fs = .ok bs.length :=
  lenFields_of_writeFields _ _ _ (lenUF_of_writeUF d) fs bs h

end Verif
