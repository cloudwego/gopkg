/-
  Lemmas/FcLen: BLength against the printer; Go-map facts (assigning the entries of a map with distinct
  keys to an empty map gives that map back); running a realised writer on a whole buffer.
-/
import Verif.Lemmas.FcSplice
namespace Verif

/-! ## Go maps -/

theorem SMap.set_notin (m : SMap) (k v : Bytes) (h : k ∉ m.map Prod.fst) : m.set k v = m ++ [(k, v)] := by
  induction m with
  | nil => rfl
  | cons kv r ih =>
    rw [List.map_cons, List.mem_cons, not_or] at h
    rw [SMap.set, if_neg (fun e => h.1 e.symm), ih h.2, List.cons_append]

theorem SMap.foldl_set_nodup (it m : SMap) (h : ((m ++ it).map Prod.fst).Nodup) :
    it.foldl (fun m kv => SMap.set m kv.1 kv.2) m = m ++ it := by
  induction it generalizing m with
  | nil => rw [List.foldl_nil, List.append_nil]
  | cons kv r ih =>
    have hnot : kv.1 ∉ m.map Prod.fst := fun hin => by
      rw [List.map_append, List.map_cons] at h
      exact (List.nodup_append.mp h).2.2 _ hin _ List.mem_cons_self rfl
    rw [List.foldl_cons, SMap.set_notin m kv.1 kv.2 hnot, ih _ (by rwa [List.append_assoc]), List.append_assoc]
    rfl

/-- a map read back from its own entries (in any iteration order) is that list of entries -/
theorem SMap.ofList_nodup (it : SMap) (h : (it.map Prod.fst).Nodup) : SMap.ofList it = it := by
  have := SMap.foldl_set_nodup it [] (by simpa using h)
  simpa [SMap.ofList] using this

theorem SMap.perm_wf {it m : SMap} (hp : it.Perm m) (hm : SMap.WF m) : (it.map Prod.fst).Nodup :=
  ((hp.map Prod.fst).nodup_iff).mpr hm

theorem kvsOK_perm {it m : SMap} (hp : it.Perm m) (hm : kvsOK m) : kvsOK it :=
  ⟨by rw [hp.length_eq]; exact hm.1, fun kv hkv => hm.2 kv (hp.mem_iff.mp hkv)⟩

/-! ## lengths -/

def kvLen (kv : Bytes × Bytes) : Nat := (4 + kv.1.length) + (4 + kv.2.length)

theorem encKVs_length (it : SMap) : (encKVs it).length = (it.map kvLen).sum := by
  induction it with
  | nil => rfl
  | cons kv r ih => simp [encKVs, kvLen] at ih ⊢; omega

theorem blenKVs_eq : ∀ (it : SMap) (off : Nat), blenKVs it off = off + (it.map kvLen).sum
  | [], off => by simp [blenKVs]
  | (k, v) :: r, off => by simp [blenKVs, blenKVs_eq r, kvLen]; omega

/-- the iteration sequence `it` enumerates the map of the optional field (nothing to say if absent) -/
def IterOf (extra : Option SMap) (it : SMap) : Prop := ∀ m, extra = some m → it.Perm m

theorem fStr_enc_length (id : Nat) (s : Bytes) : (fStr id s).enc.length = 7 + s.length := by
  simp [Fld.enc, fStr]; omega

theorem fI32_enc_length (id : Nat) (v : Int) : (fI32 id v).enc.length = 7 := by
  simp [Fld.enc, fI32]

theorem fMapSS_enc_length (id n : Nat) (kvs : List (Bytes × Bytes)) :
    (fMapSS id n kvs).enc.length = 9 + (kvs.map kvLen).sum := by
  simp [Fld.enc, fMapSS, encMapSS, encKVs_length]; omega

theorem encFields_length (fs : List Fld) : (encFields fs).length = (fs.map (·.enc.length)).sum := by
  induction fs with
  | nil => rfl
  | cons f r ih => rw [encFields, List.flatMap_cons, List.length_append, ← encFields, ih]; rfl

/-- BLength of the optional map field, whatever orders the two passes iterate in -/
theorem blenExtra_eq (id : Nat) (extra : Option SMap) (it1 it2 : SMap) (h1 : IterOf extra it1)
    (h2 : IterOf extra it2) (off : Nat) :
    blenExtra extra it1 off
      = off + (encFields (match (generalizing := false) extra with
          | none => [] | some m => [fMapSS id m.length it2])).length := by
  cases extra with
  | none => rfl
  | some m =>
    -- permutations of the same map: the entry lengths add up to the same
    have hp : (it1.map kvLen).sum = (it2.map kvLen).sum :=
      (((h1 m rfl).trans (h2 m rfl).symm).map kvLen).sum_nat
    simp only [blenExtra, blenKVs_eq, hp, encFields_length, fMapSS_enc_length, List.map_cons, List.map_nil,
      List.sum_cons, List.sum_nil]
    omega

theorem bLengthBase_eq (p : Option Base) (it1 it2 : SMap)
    (h1 : ∀ q, p = some q → IterOf q.extra it1) (h2 : ∀ q, p = some q → IterOf q.extra it2) :
    bLengthBase p it1 = (encBase p it2).length := by
  cases p with
  | none => rfl
  | some q =>
    rw [bLengthBase, blenExtra_eq 6 q.extra it1 it2 (h1 q rfl) (h2 q rfl), encBase, Base.fields, encFields_append,
      List.length_append, List.length_append]
    -- the optional field's summand is the same on both sides only up to unfolding: split it off first
    congr 2
    simp only [encFields_length, List.map_cons, List.map_nil, List.sum_cons, List.sum_nil, fStr_enc_length]
    omega

theorem bLengthBaseResp_eq (p : Option BaseResp) (it1 it2 : SMap)
    (h1 : ∀ q, p = some q → IterOf q.extra it1) (h2 : ∀ q, p = some q → IterOf q.extra it2) :
    bLengthBaseResp p it1 = (encBaseResp p it2).length := by
  cases p with
  | none => rfl
  | some q =>
    rw [bLengthBaseResp, blenExtra_eq 3 q.extra it1 it2 (h1 q rfl) (h2 q rfl), encBaseResp, BaseResp.fields,
      encFields_append, List.length_append, List.length_append]
    congr 2
    simp only [encFields_length, List.map_cons, List.map_nil, List.sum_cons, List.sum_nil, fStr_enc_length,
      fI32_enc_length]
    omega

theorem bLengthAppEx_eq (e : AppEx) : bLengthAppEx e = (encAppEx e).length := by
  rw [encAppEx, List.length_append, encFields_length, bLengthAppEx, AppEx.fields]
  simp only [List.map_cons, List.map_nil, List.sum_cons, List.sum_nil, fStr_enc_length, fI32_enc_length,
    List.length_cons, List.length_nil]
  omega

/-! ## running a realised writer on a whole buffer -/

theorem realises_run (thr : Nat) (w : Bool) (f : WStep) (sg : List Seg) (h : Realises thr w f sg) (b : Bytes)
    (hb : (linSegs thr w sg).length ≤ b.length) :
    f (⟨b, []⟩, 0) = .ok (⟨linSegs thr w sg ++ b.drop (linSegs thr w sg).length,
                            directsOf thr w b.length 0 sg⟩, (linSegs thr w sg).length) := by
  have := h [] b [] hb
  simpa using this

theorem linSegs_length_le (thr : Nat) (w : Bool) (sg : List Seg) :
    (linSegs thr w sg).length ≤ (encSegs sg).length := by
  have := lin_add_directs thr w 0 sg 0
  omega

/-- C15 in segment form: for every buffer that holds the encoding, splicing the direct writes into the
    linear buffer gives the encoding (followed by the untouched rest of the buffer) -/
theorem splice_run (thr : Nat) (w : Bool) (sg : List Seg) (b : Bytes) (hb : (encSegs sg).length ≤ b.length) :
    (splice (linSegs thr w sg ++ b.drop (linSegs thr w sg).length) (directsOf thr w b.length 0 sg)).take
        (encSegs sg).length = encSegs sg := by
  have hle := linSegs_length_le thr w sg
  have hlen : (linSegs thr w sg ++ b.drop (linSegs thr w sg).length).length = b.length := by
    rw [List.length_append, List.length_drop]; omega
  have h := spliceAux_segs thr w sg [] (b.drop (linSegs thr w sg).length) 0 b.length (Nat.le_refl _)
    (by rw [← hlen, List.length_append, List.length_nil, Nat.zero_add])
  rw [List.nil_append, List.drop_zero, List.nil_append, List.length_nil] at h
  rw [splice, h, List.take_take, hlen, Nat.min_eq_left hb, List.take_left' rfl]

end Verif
