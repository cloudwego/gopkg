/-
  Lemmas/ComposeMsg: MarshalFastMsg / UnmarshalFastMsg (Model/WireMsg, abstract payload `Codec`)
  instantiated with the shipped FastCodec structs Base / BaseResp of the fc family (Model/FastCodec).

  The abstract `CodecOK` of Lemmas/WireMsg demands `read t (enc x) = (x, …)` for EVERY target `t` and with
  the result EQUAL to `x`.  The generated readers do not satisfy that literally: FastRead does not reset
  its receiver (a map already present is merged into) and the map comes back in the order the writer
  iterated (the same map, another association list).  So the instance is made against the two facts
  MarshalFastMsg really needs (`BLength = length of the encoding`, `FastWriteNocopy stores exactly the
  encoding`) and the reader's own theorem (`C11.read_write_*`), for every pair of iteration orders.
-/
import Verif.Lemmas.WireMsg
import Verif.Props.C11
namespace Verif.Compose
open Verif Verif.Wire

/-- `x.FastWriteNocopy(buf[off:], nil)` seen from the caller's buffer: `buf[off:]` is a slice panic when
    `off > len(buf)`, the bytes below `off` are not touched -/
def cmpLiftWrite (f : Bytes → TOut (WS × Nat)) (buf : Bytes) (off : Nat) : TOut (Bytes × Nat) :=
  if off > buf.length then .panic "slice" else
  match f (buf.drop off) with
  | .ok r => .ok (buf.take off ++ r.1.buf, r.2)
  | .err e => .err e
  | .panic s => .panic s
  | .oob => .oob

/-- `x.FastRead(b)`: the receiver afterwards and `(off, err)` as the message level consumes it -/
def cmpLiftRead {α : Type} (f : α → Bytes → TOut (RR α)) (t : α) (b : Bytes) : α × TOut Nat :=
  match f t b with
  | .ok r => (r.p, match r.err with | none => .ok r.off | some e => .err e)
  | .err e => (t, .err e)
  | .panic s => (t, .panic s)
  | .oob => (t, .oob)

/-- (*Base) as a payload of MarshalFastMsg / UnmarshalFastMsg: `it1` is the order in which BLength walks
    the map, `it2` the order of the writer, `thr` the nocopy threshold (irrelevant with a nil writer) -/
def cmpBaseCodec (thr : Nat) (it1 it2 : SMap) : Codec Base where
  blength x := bLengthBase (some x) it1
  write x := cmpLiftWrite (fastWriteNocopyBase thr false (some x) it2)
  read := cmpLiftRead fastReadBase

def cmpBaseRespCodec (thr : Nat) (it1 it2 : SMap) : Codec BaseResp where
  blength x := bLengthBaseResp (some x) it1
  write x := cmpLiftWrite (fastWriteNocopyBaseResp thr false (some x) it2)
  read := cmpLiftRead fastReadBaseResp

/-- a writer that stores `e` at the start of any buffer of at least `n` bytes and leaves the rest alone,
    seen from the caller's buffer: `putAt` -/
theorem cmpLiftWrite_ok (f : Bytes → TOut (WS × Nat)) (e : Bytes) (n : Nat) (hn : e.length = n)
    (hf : ∀ b : Bytes, n ≤ b.length → f b = .ok (⟨e ++ b.drop n, []⟩, n))
    (buf : Bytes) (off : Nat) (h : off + n ≤ buf.length) :
    cmpLiftWrite f buf off = .ok (putAt buf off e, n) := by
  unfold cmpLiftWrite
  rw [if_neg (by omega), hf (buf.drop off) (by simp; omega)]
  simp only [putAt, List.drop_drop, hn, List.append_assoc]

theorem cmp_marshal_ok {α} (C : Codec α) (e : Bytes) (d : Nat → UInt8) (method : Bytes) (typ seq : Int) (msg : α)
    (hm : method ≠ []) (hlen : e.length = C.blength msg)
    (hw : ∀ buf off, off + C.blength msg ≤ buf.length → C.write msg buf off = .ok (putAt buf off e, C.blength msg)) :
    marshalFastMsg C d method typ seq msg = .ok (encM (.messageBegin method typ seq) ++ e) :=
  marshal_ok_of_write C e d method typ seq msg hm hlen hw

theorem cmpLiftRead_ok {α : Type} (f : α → Bytes → TOut (RR α)) (t x : α) (b : Bytes) (n : Nat)
    (h : f t b = .ok ⟨x, n, none⟩) : cmpLiftRead f t b = (x, .ok n) := by
  unfold cmpLiftRead; rw [h]

theorem cmpBaseCodec_read (thr : Nat) (it1 it2 : SMap) :
    (cmpBaseCodec thr it1 it2).read = cmpLiftRead fastReadBase := rfl
theorem cmpBaseRespCodec_read (thr : Nat) (it1 it2 : SMap) :
    (cmpBaseRespCodec thr it1 it2).read = cmpLiftRead fastReadBaseResp := rfl

/-- MarshalFastMsg of a *Base: header ++ encoding in the writer's order -/
theorem cmp_marshal_base (thr : Nat) (dirt : Nat → UInt8) (method : Bytes) (typ seq : Int) (p : Base)
    (it1 it2 : SMap) (hm : method ≠ []) (h1 : IterOf p.extra it1) (h2 : IterOf p.extra it2) :
    marshalFastMsg (cmpBaseCodec thr it1 it2) dirt method typ seq p
      = .ok (encM (.messageBegin method typ seq) ++ encBase (some p) it2) := by
  have hq1 : ∀ q, some p = some q → IterOf q.extra it1 := by intro q hq; cases hq; exact h1
  have hq2 : ∀ q, some p = some q → IterOf q.extra it2 := by intro q hq; cases hq; exact h2
  have hlen : (encBase (some p) it2).length = bLengthBase (some p) it1 :=
    (bLengthBase_eq (some p) it1 it2 hq1 hq2).symm
  have hw : ∀ buf off, off + bLengthBase (some p) it1 ≤ buf.length →
      cmpLiftWrite (fastWriteNocopyBase thr false (some p) it2) buf off
        = .ok (putAt buf off (encBase (some p) it2), bLengthBase (some p) it1) :=
    fun buf off h => cmpLiftWrite_ok _ _ _ hlen
      (fun b hb => (C11.blength_eq_write_base thr (some p) it1 it2 b hq1 hq2 hb).2) buf off h
  exact cmp_marshal_ok (cmpBaseCodec thr it1 it2) (encBase (some p) it2) dirt method typ seq p hm hlen hw

theorem cmp_marshal_baseresp (thr : Nat) (dirt : Nat → UInt8) (method : Bytes) (typ seq : Int) (p : BaseResp)
    (it1 it2 : SMap) (hm : method ≠ []) (h1 : IterOf p.extra it1) (h2 : IterOf p.extra it2) :
    marshalFastMsg (cmpBaseRespCodec thr it1 it2) dirt method typ seq p
      = .ok (encM (.messageBegin method typ seq) ++ encBaseResp (some p) it2) := by
  have hq1 : ∀ q, some p = some q → IterOf q.extra it1 := by intro q hq; cases hq; exact h1
  have hq2 : ∀ q, some p = some q → IterOf q.extra it2 := by intro q hq; cases hq; exact h2
  have hlen : (encBaseResp (some p) it2).length = bLengthBaseResp (some p) it1 :=
    (bLengthBaseResp_eq (some p) it1 it2 hq1 hq2).symm
  have hw : ∀ buf off, off + bLengthBaseResp (some p) it1 ≤ buf.length →
      cmpLiftWrite (fastWriteNocopyBaseResp thr false (some p) it2) buf off
        = .ok (putAt buf off (encBaseResp (some p) it2), bLengthBaseResp (some p) it1) :=
    fun buf off h => cmpLiftWrite_ok _ _ _ hlen
      (fun b hb => (C11.blength_eq_write_baseresp thr (some p) it1 it2 b hq1 hq2 hb).2) buf off h
  exact cmp_marshal_ok (cmpBaseRespCodec thr it1 it2) (encBaseResp (some p) it2) dirt method typ seq p hm hlen hw

/-- UnmarshalFastMsg of header ++ encoded *Base into a receiver without map -/
theorem cmp_unmarshal_base (thr : Nat) (method : Bytes) (typ seq : Int) (p target : Base) (it1 it2 : SMap)
    (hn : method.length < 2147483648) (hs : inI32 seq) (hne : msgType16 typ ≠ Facts.mEXCEPTION)
    (hp : BaseOK p) (h2 : IterOf p.extra it2) (h0 : target.extra = none) :
    unmarshalFastMsg (cmpBaseCodec thr it1 it2)
        (encM (.messageBegin method typ seq) ++ encBase (some p) it2) target
      = .ok ⟨method, seq, none, { p with extra := p.extra.map (fun _ => it2) }⟩ := by
  obtain ⟨hrd, _⟩ := C11.read_write_base target p it2 [] h0 hp h2
  rw [List.append_nil] at hrd
  have := cmpLiftRead_ok _ _ _ _ _ hrd
  rw [unmarshal_plain _ method _ typ seq target hn hs hne, cmpBaseCodec_read, this]

theorem cmp_unmarshal_baseresp (thr : Nat) (method : Bytes) (typ seq : Int) (p target : BaseResp)
    (it1 it2 : SMap) (hn : method.length < 2147483648) (hs : inI32 seq)
    (hne : msgType16 typ ≠ Facts.mEXCEPTION) (hp : BaseRespOK p) (h2 : IterOf p.extra it2)
    (h0 : target.extra = none) :
    unmarshalFastMsg (cmpBaseRespCodec thr it1 it2)
        (encM (.messageBegin method typ seq) ++ encBaseResp (some p) it2) target
      = .ok ⟨method, seq, none, { p with extra := p.extra.map (fun _ => it2) }⟩ := by
  obtain ⟨hrd, _⟩ := C11.read_write_baseresp target p it2 [] h0 hp h2
  rw [List.append_nil] at hrd
  have := cmpLiftRead_ok _ _ _ _ _ hrd
  rw [unmarshal_plain _ method _ typ seq target hn hs hne, cmpBaseRespCodec_read, this]

end Verif.Compose
