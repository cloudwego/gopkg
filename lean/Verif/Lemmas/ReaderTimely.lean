/-
  Lemmas/ReaderTimely: the model's failures are timely (Spec/Cursor `timely`): when the model
  reports a failure, the data has really run out —
  (a) everything it ever served is still there (`cr.hi ≤ delivered`), and
  (b) before the source's own error is seen, every productive script entry in front of it has
      handed over ≥ 1 byte (the reader offers room ≥ need ≥ 1 on every read).
-/
import Verif.Lemmas.ReaderRefine
namespace Verif

/-- (b) as an invariant.  `L = min (prodToErr s0) N`, `N = |S|`: bytes certainly out of the source
    before its own error can be seen; `N - slen` = bytes delivered so far. -/
structure TInv (L N : Nat) (r : Rd) : Prop where
  none : r.err = none → L + r.src.stream.length ≤ N + prodToErr r.src.script
  some : ∀ e, r.err = some e → e ≠ .noProgress → L + r.src.stream.length ≤ N

theorem TInv.frame {L N : Nat} {r r' : Rd} (h : TInv L N r) (he : r'.err = r.err) (hs : r'.src = r.src) :
    TInv L N r' := by
  constructor
  · rw [he, hs]; exact h.none
  · rw [he, hs]; exact h.some

/-- a productive entry hands over ≥ 1 byte while bytes are left and the reader offers room, so the
    bound moves on with the script -/
theorem took_productive {L N k room slen d q : Nat} (hd : d = min (min k room) slen)
    (hroom : 1 ≤ room) (hLN : L ≤ N) (hT : L + slen ≤ N + ((if k ≥ 1 then 1 else 0) + q)) :
    L + (slen - d) ≤ N + q := by
  split at hT <;> omega

theorem readLoop_timely {L N M need room i : Nat} {s s' : Src} {ok : Bool} {e : Option RErr}
    (h : Pull M need room i s s' ok e) (h0 : 0 < need) (hroom : need ≤ room) (hLN : L ≤ N)
    (hT : L + s.stream.length ≤ N + prodToErr s.script) :
    (e = none → L + s'.stream.length ≤ N + prodToErr s'.script) ∧
    (∀ e', e = some e' → e' ≠ .noProgress → L + s'.stream.length ≤ N) := by
  have h1 : 1 ≤ room := Nat.le_trans h0 hroom
  induction h with
  | stall _ => exact ⟨nofun, fun e' h hne => by cases h; exact absurd rfl hne⟩
  | eof _ hs =>
    rw [hs] at hT
    exact ⟨nofun, fun _ _ _ => by simpa [prodToErr] using hT⟩
  | err _ hs hd he =>
    rw [hs] at hT
    simp only [prodToErr, he, Option.isSome_some, if_true] at hT
    refine ⟨nofun, fun _ _ _ => ?_⟩
    rw [List.length_drop]
    exact took_productive hd h1 hLN hT
  | done _ hs hd he hge =>
    rw [hs] at hT
    simp only [prodToErr, he, Option.isSome_none, Bool.false_eq_true, if_false] at hT
    refine ⟨fun _ => ?_, nofun⟩
    rw [List.length_drop]
    exact took_productive hd h1 hLN hT
  | more _ hs hd he hlt _ ih =>
    rw [hs] at hT
    simp only [prodToErr, he, Option.isSome_none, Bool.false_eq_true, if_false] at hT
    refine ih (Nat.sub_pos_of_lt hlt) (Nat.sub_le_sub_right hroom _) ?_ ?_
    · rw [List.length_drop]
      exact took_productive hd h1 hLN hT
    · exact Nat.le_trans (Nat.sub_pos_of_lt hlt) (Nat.sub_le_sub_right hroom _)

theorem acquire_timely (L N : Nat) (r : Rd) (n m : Nat) (r' : Rd) (hinv : Inv r) (hs : r.Small n)
    (hLN : L ≤ N) (hT : TInv L N r) (h : r.acquire n = some (m, r')) : TInv L N r' := by
  rcases acquire_cases r n m r' hinv hs h with ⟨rfl, _⟩ | ⟨_, hnone, _, _, hroom, hp⟩
  · exact hT
  · obtain ⟨h1, h2⟩ := readLoop_timely hp (by omega) hroom hLN (hT.none hnone)
    exact ⟨h1, h2⟩

theorem tinv_newDefault (S : Bytes) (s0 : List Resp) :
    TInv (min (prodToErr s0) S.length) S.length (Rd.newDefault ⟨S, s0⟩) :=
  ⟨fun _ => by simp [Rd.newDefault]; omega, fun e he => by simp [Rd.newDefault] at he⟩

theorem tinv_newBytes (data : Bytes) (cap : Nat) :
    TInv (min (prodToErr []) data.length) data.length (Rd.newBytes data cap) := by
  unfold Rd.newBytes; split
  · exact ⟨fun _ => by simp [prodToErr], fun e he => by simp at he⟩
  · exact ⟨fun _ => by simp [prodToErr, Rd.newDefault], fun e he => by simp [Rd.newDefault] at he⟩

/-- bytes delivered so far = the contract's cursor + the buffered-unread bytes -/
theorem Abs.delivered {c : Cur} {r : Rd} (h : Abs c r) :
    c.pos + (r.buf.length - r.ri) + r.src.stream.length = c.S.length := by
  obtain ⟨pre, hS, hm⟩ := h.split
  have hri := h.inv.ri_le
  rw [hS, h.pos, hm]; simp; omega

theorem StepView.served {c : Cur} {r r' : Rd} {op : ROp} {res : RRes RErr} (hv : StepView r op res r')
    (habs : Abs c r) (hmono : r'.src.stream.length ≤ r.src.stream.length) :
    servedMark c op res + r'.src.stream.length ≤ c.S.length := by
  have hd := habs.delivered
  have hserved : ∀ {n m : Nat} {r1 : Rd}, AcqPost r n m r1 → ∀ k, k ≤ r1.buf.length - r1.ri →
      c.pos + k + r1.src.stream.length ≤ c.S.length := fun ha k hk => by
    have := (habs.acquire ha).delivered; omega
  cases hv with
  | neg hop => rcases hop with rfl | rfl | rfl <;> simp only [servedMark] <;> omega
  | short hop => rcases hop with rfl | rfl | rfl <;> simp only [servedMark] <;> omega
  | next _ _ ha hge =>
    simp only [servedMark, take_length_of_le _ _ (ha.enough hge)]
    exact hserved ha _ (ha.enough hge)
  | peek _ _ ha hge =>
    simp only [servedMark, take_length_of_le _ _ (ha.enough hge)]
    exact hserved ha _ (ha.enough hge)
  | skip _ _ ha hge => exact hserved ha _ (ha.enough hge)
  | readBinary _ ha =>
    exact hserved ha _ (by rcases ha.outcome with ⟨_, _, _⟩ | ⟨_, _⟩ <;> omega)
  | release => simp only [servedMark]; omega
  | readLen => simp only [servedMark]; omega

theorem step_marks (L : Nat) (c : Cur) (r : Rd) (op : ROp) (habs : Abs c r) (hs : r.Small op.size)
    (hLN : L ≤ c.S.length) (hT : TInv L c.S.length r) :
    TInv L c.S.length (r.step op).2 ∧
    (r.step op).2.src.stream.length ≤ r.src.stream.length ∧
    servedMark c op (r.step op).1 + (r.step op).2.src.stream.length ≤ c.S.length := by
  have hinv := habs.inv
  have hf := release_frame r
  have hv := step_view r op hinv hs
  have hmono : (r.step op).2.src.stream.length ≤ r.src.stream.length :=
    hv.state (fun r' => r'.src.stream.length ≤ r.src.stream.length)
      (fun _ => ⟨Nat.le_refl _, by rw [hf.2]; exact Nat.le_refl _⟩)
      (fun m r1 _ _ h => (acquire_post r _ m r1 hinv hs h).stream_le)
  exact ⟨hv.state (TInv L c.S.length) (fun _ => ⟨hT, hT.frame hf.1 hf.2⟩)
    (fun m r1 _ _ h => (acquire_timely L _ r _ m r1 hinv hs hLN hT h).frame rfl rfl), hmono,
    hv.served habs hmono⟩

theorem StepView.timely {s0 : List Resp} {cr : Credit} {c : Cur} {r r' : Rd} {op : ROp}
    {res : RRes RErr} {L : Nat} (hv : StepView r op res r') (habs : Abs c r)
    (hhi : cr.hi + r.src.stream.length ≤ c.S.length) (hL : L = min (prodToErr s0) c.S.length)
    (hT : TInv L c.S.length r') : Verif.timely s0 cr c op res = true := by
  -- after `acquire` all buffered bytes are counted: a count `m` that ends in error `e` is all there is
  have hshort : ∀ {n m : Nat} {r1 : Rd} {e : RErr}, AcqPost r n m r1 → n > m → r1.err = some e →
      (∀ e, r1.err = some e → e ≠ .noProgress → L + r1.src.stream.length ≤ c.S.length) →
      c.pos + m ≥ cr.hi ∧ (e = .noProgress ∨ c.pos + m ≥ L) := fun {n m r1 e} ha hgt he hT1 => by
    have hd := (habs.acquire ha).delivered
    have hm := (ha.short hgt).2
    have := ha.stream_le
    refine ⟨by omega, ?_⟩
    by_cases hnp : e = .noProgress
    · exact Or.inl hnp
    · exact Or.inr (by have := hT1 e he hnp; omega)
  cases hv with
  | neg hop hn => rcases hop with rfl | rfl | rfl <;> simp [Verif.timely, hn]
  | @short _ n m _ hop hn hacq ha hgt =>
    cases he : r'.err with
    | none => rcases hop with rfl | rfl | rfl <;> rfl
    | some e =>
      obtain ⟨h1, h2⟩ := hshort ha hgt he hT.some
      have : c.pos + n.toNat > cr.hi ∧ (e = .noProgress ∨ c.pos + n.toNat > min (prodToErr s0) c.S.length) :=
        ⟨by omega, h2.imp id (fun h => by omega)⟩
      rcases hop with rfl | rfl | rfl <;> simp [Verif.timely, this]
  | next => rfl
  | peek => rfl
  | skip => rfl
  | release => rfl
  | readLen => rfl
  | @readBinary k m r1 hacq ha =>
    by_cases hlt : k > min m k
    · rw [if_pos hlt]
      cases he : r1.err with
      | none => rfl
      | some e =>
        have hmk : min m k = m := by omega
        obtain ⟨h1, h2⟩ := hshort ha (by omega) he hT.some
        have : c.pos + m ≥ cr.hi ∧ (e = .noProgress ∨ c.pos + m ≥ min (prodToErr s0) c.S.length) :=
          ⟨h1, h2.imp id (fun h => by omega)⟩
        simp [Verif.timely, hmk, this]
    · rw [if_neg hlt]; rfl

end Verif
