/-
  Lemmas/MemReader: the ownership invariant `RInv` of the Mem-level bufiox reader, the protected
  region `Prot` (everything a slice handed out since the last Release may point into), and the step
  lemmas: every non-Release operation and every environment step keeps `RInv`, keeps `Prot` (it only
  grows) and leaves every protected byte unchanged; Release keeps `RInv` and never touches caller memory.
-/
import Verif.Lemmas.MemHeap
import Verif.Lemmas.Reader
import Verif.Model.MemReader
namespace Verif.Mem
open Verif Verif.Heap

/-! ## small facts -/

theorem growCap_ge (f c ri n : Nat) : c ≤ growCap f c ri n := by
  induction f generalizing c with
  | zero => simp [growCap]
  | succ f ih =>
    unfold growCap; split
    · exact Nat.le_trans (by omega) (ih (c * 2))
    · exact Nat.le_refl c

theorem mcap_pos (c : Nat) : 0 < Heap.mcap c := by
  unfold Heap.mcap; split
  · exact pow2ceil_pos c
  · have : (0:Nat) < 2 ^ 45 := Nat.two_pow_pos 45
    omega

/-! ## the invariant -/

structure RInv (r : MRd) (h : Heap) : Prop where
  nofault : h.faults = []
  ri_le : r.ri ≤ r.buf.len
  len_le : r.buf.len ≤ r.buf.cap
  nil_pend : r.buf.cap = 0 → r.pending = []
  buf_ok : 0 < r.buf.cap → ∃ x, h.obj? r.buf.obj = some x ∧ r.buf.off + r.buf.cap ≤ x.data.length ∧
      (r.readOnly = true → x.owner = .caller) ∧
      (r.readOnly = false → x.owner = .live ∧ r.buf.off = 0 ∧ r.buf.cap = x.data.length)
  ro_src : r.readOnly = true → r.src.script = []
  pend_ok : ∀ s ∈ r.pending, s.obj ≠ r.buf.obj ∧ ∃ x, h.obj? s.obj = some x ∧ x.owner = .live ∧
      s.off = 0 ∧ s.cap = x.data.length ∧ 0 < s.cap
  pend_nodup : (r.pending.map (·.obj)).Nodup

/-- positions a slice handed out since the last Release may point to -/
def Prot (r : MRd) (h : Heap) (o p : Nat) : Prop :=
  (∃ s ∈ r.pending, s.obj = o) ∨
  (0 < r.buf.cap ∧ r.buf.obj = o ∧ p < r.buf.off + r.buf.len) ∨
  (∃ x, h.obj? o = some x ∧ x.owner = .caller)

/-- protected positions stay protected and keep their byte -/
def Frame (r : MRd) (h : Heap) (r' : MRd) (h' : Heap) : Prop :=
  ∀ o p, Prot r h o p → Prot r' h' o p ∧ h'.byte? o p = h.byte? o p

theorem Frame.refl (r : MRd) (h : Heap) : Frame r h r h := fun _ _ hp => ⟨hp, rfl⟩
theorem Frame.trans {r1 r2 r3 : MRd} {h1 h2 h3 : Heap} (a : Frame r1 h1 r2 h2) (b : Frame r2 h2 r3 h3) :
    Frame r1 h1 r3 h3 := fun o p hp =>
  ⟨(b o p (a o p hp).1).1, ((b o p (a o p hp).1).2).trans (a o p hp).2⟩

theorem RInv.buf_owner {r : MRd} {h : Heap} (hi : RInv r h) (hc : 0 < r.buf.cap) {x : Obj}
    (hx : h.obj? r.buf.obj = some x) : x.owner ≠ .freed ∧ x.owner ≠ .gc := by
  obtain ⟨y, hy, _, hro, hnro⟩ := hi.buf_ok hc
  cases hx.symm.trans hy
  cases hr : r.readOnly
  · rw [(hnro hr).1]; decide
  · rw [hro hr]; decide

theorem Prot.obj {r : MRd} {h : Heap} (hi : RInv r h) {o p : Nat} (hp : Prot r h o p) :
    ∃ x, h.obj? o = some x ∧ x.owner ≠ .freed ∧ x.owner ≠ .gc := by
  rcases hp with ⟨s, hs, rfl⟩ | ⟨hc, rfl, _⟩ | ⟨x, hx, hc⟩
  · obtain ⟨_, x, hx, hl, _⟩ := hi.pend_ok s hs
    exact ⟨x, hx, by rw [hl]; decide⟩
  · obtain ⟨x, hx, _⟩ := hi.buf_ok hc
    exact ⟨x, hx, hi.buf_owner hc hx⟩
  · exact ⟨x, hx, by rw [hc]; decide⟩

/-- a protected position belongs to an existing object that is not freed -/
theorem Prot.exists {r : MRd} {h : Heap} (hi : RInv r h) {o p : Nat} (hp : Prot r h o p) :
    ∃ x, h.obj? o = some x ∧ x.owner ≠ .freed := by
  obtain ⟨x, hx, hf, _⟩ := hp.obj hi
  exact ⟨x, hx, hf⟩

/-- the invariant only looks at the fault log and at the shape of the objects -/
theorem RInv.of_keeps {r : MRd} {h h' : Heap} (hi : RInv r h) (hk : Keeps h h') (hf : h'.faults = []) :
    RInv r h' where
  nofault := hf
  ri_le := hi.ri_le
  len_le := hi.len_le
  nil_pend := hi.nil_pend
  buf_ok := fun hc => by
    obtain ⟨x, hx, hb, hro, hnro⟩ := hi.buf_ok hc
    obtain ⟨x', hx', ho, _, hl⟩ := hk _ x hx
    rw [← hl] at hb
    rw [← ho] at hro
    rw [← ho, ← hl] at hnro
    exact ⟨x', hx', hb, hro, hnro⟩
  ro_src := hi.ro_src
  pend_ok := fun s hsm => by
    obtain ⟨hne, x, hx, rest⟩ := hi.pend_ok s hsm
    obtain ⟨x', hx', ho, _, hl⟩ := hk _ x hx
    rw [← ho, ← hl] at rest
    exact ⟨hne, x', hx', rest⟩
  pend_nodup := hi.pend_nodup

theorem Prot.of_keeps {r : MRd} {h h' : Heap} {o p : Nat} (hk : Keeps h h') (hp : Prot r h o p) : Prot r h' o p := by
  rcases hp with hp | hp | ⟨x, hx, hc⟩
  · exact Or.inl hp
  · exact Or.inr (Or.inl hp)
  · obtain ⟨x', hx', ho, _⟩ := hk o x hx
    exact Or.inr (Or.inr ⟨x', hx', ho.trans hc⟩)

theorem Frame.of_keeps {r : MRd} {h h' : Heap} (hk : Keeps h h')
    (hb : ∀ o p, Prot r h o p → h'.byte? o p = h.byte? o p) : Frame r h r h' :=
  fun o p hp => ⟨hp.of_keeps hk, hb o p hp⟩

theorem Frame.of_extends {r : MRd} {h h' : Heap} (hi : RInv r h) (he : Extends h h') : Frame r h r h' :=
  Frame.of_keeps (Keeps.of_extends he) fun o p hp => by
    obtain ⟨x, hx, _⟩ := hp.exists hi
    exact he.byte? o p x hx

/-- environment steps keep the invariant and the protected bytes -/
theorem RInv.env {r : MRd} {h h' : Heap} (hi : RInv r h) (he : Env h h') : RInv r h' ∧ Frame r h r h' :=
  ⟨hi.of_keeps he.keeps (he.faults.trans hi.nofault), Frame.of_keeps he.keeps fun o p hp => by
    obtain ⟨x, hx, hnf⟩ := hp.exists hi
    exact he.byte? o p x hx hnf⟩

/-! ## acquireSlow, phase by phase -/

/-- what every phase of `acquire` guarantees -/
structure AcqOK (r : MRd) (h : Heap) (r' : MRd) (h' : Heap) : Prop where
  inv : RInv r' h'
  frame : Frame r h r' h'
  ri : r'.ri = r.ri
  keeps : Keeps h h'
  gckept : GcKept h h'

theorem AcqOK.size {r r' : MRd} {h h' : Heap} (a : AcqOK r h r' h') : h.size ≤ h'.size := a.keeps.size
theorem AcqOK.refl {r : MRd} {h : Heap} (hi : RInv r h) : AcqOK r h r h :=
  ⟨hi, Frame.refl r h, rfl, Keeps.refl _, GcKept.refl _⟩
theorem AcqOK.trans {r1 r2 r3 : MRd} {h1 h2 h3 : Heap} (a : AcqOK r1 h1 r2 h2) (b : AcqOK r2 h2 r3 h3) :
    AcqOK r1 h1 r3 h3 :=
  ⟨b.inv, a.frame.trans b.frame, b.ri.trans a.ri, a.keeps.trans b.keeps, a.gckept.trans b.gckept⟩

theorem firstAlloc_ok (r : MRd) (h : Heap) (n : Nat) (hi : RInv r h) :
    AcqOK r h (r.firstAlloc h n).1 (r.firstAlloc h n).2 ∧ 0 < (r.firstAlloc h n).1.buf.cap := by
  unfold MRd.firstAlloc
  by_cases hc : r.buf.cap = 0
  · rw [if_pos hc]
    simp only []
    generalize hm : doubleUntil 64 (if statsMax r.stats < Facts.defaultBufSize then Facts.defaultBufSize else statsMax r.stats) n = m2
    have hpend : r.pending = [] := hi.nil_pend hc
    have hcap : 0 < (h.malloc 0 m2).1.cap := by rw [malloc_cap]; exact mcap_pos _
    have hri : r.ri = 0 := by have := hi.ri_le; have := hi.len_le; omega
    refine ⟨⟨?_, ?_, rfl, Keeps.of_extends (extends_malloc h 0 m2), GcKept.of_extends (extends_malloc h 0 m2)⟩, hcap⟩
    · exact {
        nofault := by simp [hi.nofault]
        ri_le := by simp; omega
        len_le := by simp
        nil_pend := fun _ => hpend
        buf_ok := fun _ => by
          obtain ⟨x, hx, hl, hlen⟩ := malloc_new h 0 m2
          exact ⟨x, hx, by simp [hlen], fun hr => by simp at hr, fun _ => ⟨hl, rfl, hlen.symm⟩⟩
        ro_src := fun hr => by simp at hr
        pend_ok := fun s hs => by simp [hpend] at hs
        pend_nodup := by simp [hpend] }
    · intro o p hp
      obtain ⟨x, hx, _⟩ := hp.exists hi
      refine ⟨?_, (extends_malloc h 0 m2).byte? o p x hx⟩
      rcases hp with ⟨s, hs, _⟩ | ⟨hc', _⟩ | ⟨y, hy, hcl⟩
      · simp [hpend] at hs
      · omega
      · exact Or.inr (Or.inr ⟨y, extends_malloc h 0 m2 o y hy, hcl⟩)
  · rw [if_neg hc]
    exact ⟨AcqOK.refl hi, by show 0 < r.buf.cap; omega⟩

theorem grow_ok (r : MRd) (h : Heap) (n : Nat) (hi : RInv r h) (hpos : 0 < r.buf.cap) :
    AcqOK r h (r.grow h n).1 (r.grow h n).2 := by
  unfold MRd.grow
  by_cases hg : n > r.buf.cap - r.ri
  · rw [if_pos hg]
    have hncge : r.buf.cap * 2 ≤ growCap 64 (r.buf.cap * 2) r.ri n := growCap_ge _ _ _ _
    generalize growCap 64 (r.buf.cap * 2) r.ri n = ncap at hncge
    obtain ⟨xb, hxb, hbb, hro, hnro⟩ := hi.buf_ok hpos
    have hri := hi.ri_le
    have hlen := hi.len_le
    obtain ⟨xn, hxn, hxnl, hxnlen⟩ := malloc_new h ncap 0
    have hcapge : ncap ≤ (h.malloc ncap 0).1.cap := (malloc_cap_ge h ncap 0).1
    have hext0 := extends_malloc h ncap 0
    have hmf : (h.malloc ncap 0).2.faults = h.faults := rfl
    have ha : (h.malloc ncap 0).1 = ⟨h.size, 0, ncap, (h.malloc ncap 0).1.cap⟩ := rfl
    generalize (h.malloc ncap 0).1.cap = c2 at ha hcapge hxnlen
    dsimp only
    rw [ha]
    generalize (h.malloc ncap 0).2 = h1 at hxn hext0 hmf
    dsimp only
    rw [assert_of _ (show r.ri ≤ ncap by omega), assert_of _ hri,
      Nat.min_eq_right (show r.buf.len - r.ri ≤ ncap - r.ri by omega),
      assert_of _ (show r.ri + (r.buf.len - r.ri) ≤ c2 by omega), Nat.zero_add]
    -- the tail of the old buffer goes into the new object; everything older is untouched
    obtain ⟨hf2, hext, ⟨x2, hx2, ho2, hl2⟩, _⟩ := copy_new_ok hext0 r.ri r.buf.obj
      (r.buf.off + r.ri) (r.buf.len - r.ri) hxn hxnl (by omega) fun _ => ⟨xb, hxb, by omega, (hi.buf_owner hpos hxb).1⟩
    rw [hxnlen] at hl2
    generalize h1.copy h.size r.ri r.buf.obj (r.buf.off + r.ri) (r.buf.len - r.ri) = h2 at hf2 hext hx2
    have hlt : ∀ {o x}, h.obj? o = some x → o ≠ h.size := fun hx => Nat.ne_of_lt (obj?_lt h _ _ hx)
    have hpend : ∀ s, s ∈ (if r.readOnly = true then r.pending else r.pending ++ [r.buf]) ↔
        s ∈ r.pending ∨ (r.readOnly = false ∧ s = r.buf) := fun s => by
      cases r.readOnly <;> simp
    refine ⟨?_, ?_, rfl, Keeps.of_extends hext, GcKept.of_extends hext⟩
    · exact {
        nofault := hf2.trans (hmf.trans hi.nofault)
        ri_le := Nat.le_add_right _ _
        len_le := by show r.ri + (r.buf.len - r.ri) ≤ c2; omega
        nil_pend := fun hc => by have : c2 = 0 := hc; omega
        buf_ok := fun _ => ⟨x2, hx2, by show 0 + c2 ≤ _; omega, fun hr => Bool.noConfusion hr,
          fun _ => ⟨ho2.trans hxnl, rfl, hl2.symm⟩⟩
        ro_src := fun hr => Bool.noConfusion hr
        pend_ok := fun s hs => by
          rcases (hpend s).mp hs with hs' | ⟨hr, rfl⟩
          · obtain ⟨_, x, hx, rest⟩ := hi.pend_ok s hs'
            exact ⟨hlt hx, x, hext _ x hx, rest⟩
          · exact ⟨hlt hxb, xb, hext _ xb hxb, (hnro hr).1, (hnro hr).2.1, (hnro hr).2.2, hpos⟩
        pend_nodup := by
          show ((if r.readOnly = true then r.pending else r.pending ++ [r.buf]).map (·.obj)).Nodup
          cases r.readOnly
          · exact pairwise_map_snoc hi.pend_nodup fun s hs => (hi.pend_ok s hs).1
          · exact hi.pend_nodup }
    · intro o p hp
      obtain ⟨x, hx, _⟩ := hp.exists hi
      refine ⟨?_, hext.byte? o p x hx⟩
      rcases hp with ⟨s, hs, hso⟩ | ⟨_, hbo, _⟩ | ⟨y, hy, hcl⟩
      · exact Or.inl ⟨s, (hpend s).mpr (Or.inl hs), hso⟩
      · rcases Bool.eq_false_or_eq_true r.readOnly with hr | hr
        · exact Or.inr (Or.inr ⟨xb, hbo ▸ hext _ xb hxb, hro hr⟩)
        · exact Or.inl ⟨r.buf, (hpend _).mpr (Or.inr ⟨hr, rfl⟩), hbo⟩
      · exact Or.inr (Or.inr ⟨y, hext o y hy, hcl⟩)
  · rw [if_neg hg]
    exact AcqOK.refl hi

theorem prepare_ok (r : MRd) (h : Heap) (n : Nat) (hi : RInv r h) :
    AcqOK r h (r.prepare h n).1 (r.prepare h n).2 := by
  unfold MRd.prepare
  obtain ⟨a, hpos⟩ := firstAlloc_ok r h n hi
  exact a.trans (grow_ok _ _ n a.inv hpos)

theorem AcqOK.set_err {r r' : MRd} {h h' : Heap} (a : AcqOK r h r' h') (e : Option RErr) :
    AcqOK r h { r' with err := e } h' :=
  ⟨⟨a.inv.nofault, a.inv.ri_le, a.inv.len_le, a.inv.nil_pend, a.inv.buf_ok, a.inv.ro_src, a.inv.pend_ok,
    a.inv.pend_nodup⟩, a.frame, a.ri, a.keeps, a.gckept⟩

/-- one `Read` of the source into the spare capacity `buf[len:cap]`; a read-only reader (fakeIOReader
    behind it) is delivered nothing -/
theorem readStep_ok (r : MRd) (h : Heap) (hi : RInv r h) (d : Bytes) (src' : Src)
    (hdl : d.length ≤ r.buf.cap - r.buf.len) (hro : r.readOnly = true → d = [] ∧ src'.script = []) :
    AcqOK r h { r with buf := { r.buf with len := r.buf.len + d.length }, src := src' }
      (h.write r.buf.obj (r.buf.off + r.buf.len) d) := by
  have hri := hi.ri_le
  have hlen := hi.len_le
  have mono : ∀ {h' o p}, Prot r h' o p →
      Prot { r with buf := { r.buf with len := r.buf.len + d.length }, src := src' } h' o p := fun hp => by
    rcases hp with hp | ⟨a, b, c⟩ | hp
    · exact Or.inl hp
    · exact Or.inr (Or.inl ⟨a, b, Nat.lt_of_lt_of_le c (Nat.add_le_add_left (Nat.le_add_right _ _) _)⟩)
    · exact Or.inr (Or.inr hp)
  by_cases hd : d = []
  · subst hd
    rw [write_nil]
    exact ⟨⟨hi.nofault, hri, hlen, hi.nil_pend, hi.buf_ok, fun hr => (hro hr).2, hi.pend_ok, hi.pend_nodup⟩,
      fun o p hp => ⟨mono hp, rfl⟩, rfl, Keeps.refl _, GcKept.refl _⟩
  · -- something delivered: the reader is not read-only and its buffer is a live pool object
    have hdpos : 0 < d.length := List.length_pos_iff.mpr hd
    have hnro : r.readOnly = false := by
      cases hr : r.readOnly
      · rfl
      · exact absurd (hro hr).1 hd
    obtain ⟨xb, hxb, hbb, _, hl⟩ := hi.buf_ok (by omega)
    obtain ⟨hlive, hoff, hcapl⟩ := hl hnro
    have hb : r.buf.off + r.buf.len + d.length ≤ xb.data.length := by omega
    rw [write_eq h _ _ d xb hxb hb (by rw [hlive]; decide) (by rw [hlive]; intro hc; cases hc)]
    have t := setData_touches h _ _ d xb hxb hb
    have hinv := hi.of_keeps t.keeps hi.nofault
    have hother : ∀ {o x}, h.obj? o = some x → x.owner ≠ .live → o ≠ r.buf.obj := fun hx hnl heq => by
      subst heq; cases hx.symm.trans hxb; exact hnl hlive
    refine ⟨⟨hi.nofault, by show r.ri ≤ r.buf.len + d.length; omega, by show r.buf.len + d.length ≤ r.buf.cap; omega,
      hinv.nil_pend, hinv.buf_ok, fun hr => Bool.noConfusion (hnro.symm.trans hr), hinv.pend_ok, hinv.pend_nodup⟩,
      fun o p hp => ⟨mono (hp.of_keeps t.keeps), t.out o p ?_⟩, rfl, t.keeps,
      fun o x hx hg => (t.other o (hother hx (by rw [hg]; decide))).trans hx⟩
    rcases hp with ⟨s, hs, rfl⟩ | ⟨_, rfl, hlt⟩ | ⟨y, hy, hcl⟩
    · exact Or.inl (hi.pend_ok s hs).1
    · exact Or.inr (Or.inl hlt)
    · exact Or.inl (hother hy (by rw [hcl]; decide))

theorem readLoop_ok (fuel : Nat) : ∀ (i : Nat) (r : MRd) (h : Heap) (n m : Nat) (r' : MRd) (h' : Heap),
    RInv r h → MRd.readLoop fuel i r h n = some (m, r', h') →
    AcqOK r h r' h' ∧ m ≤ r'.buf.len - r'.ri := by
  induction fuel with
  | zero => intro i r h n m r' h' _ hrun; cases hrun
  | succ fuel ih =>
    intro i r h n m r' h' hi hrun
    unfold MRd.readLoop at hrun
    by_cases hmax : i ≥ Facts.maxConsecutiveEmptyReads
    · rw [if_pos hmax] at hrun
      cases hrun
      exact ⟨(AcqOK.refl hi).set_err _, Nat.le_refl _⟩
    · rw [if_neg hmax] at hrun
      dsimp only at hrun
      generalize hres : r.src.read (r.buf.cap - r.buf.len) = res at hrun
      have hstep := readStep_ok r h hi res.1 res.2.2 (hres ▸ Src.read_len _ _) fun hr => by
        rw [Src.read_nil r.src _ (hi.ro_src hr)] at hres
        subst hres
        exact ⟨rfl, hi.ro_src hr⟩
      generalize h.write r.buf.obj (r.buf.off + r.buf.len) res.1 = h1 at hrun hstep
      cases he : res.2.1 with
      | some e =>
        rw [he] at hrun
        cases hrun
        exact ⟨hstep.set_err _, Nat.le_refl _⟩
      | none =>
        rw [he] at hrun
        dsimp only at hrun
        by_cases hn : n ≤ r.buf.len + res.1.length - r.ri
        · rw [if_pos hn] at hrun
          cases hrun
          exact ⟨hstep, hn⟩
        · rw [if_neg hn] at hrun
          have key : ∀ i, MRd.readLoop fuel i _ h1 n = some (m, r', h') → _ := fun i hr =>
            let ⟨a, b⟩ := ih i _ _ _ _ _ _ hstep.inv hr
            (⟨hstep.trans a, b⟩ : AcqOK r h r' h' ∧ m ≤ r'.buf.len - r'.ri)
          by_cases hprog : res.1.length > 0
          · rw [if_pos hprog] at hrun; exact key _ hrun
          · rw [if_neg hprog] at hrun; exact key _ hrun

theorem acquire_ok (r : MRd) (h : Heap) (n m : Nat) (r' : MRd) (h' : Heap) (hi : RInv r h)
    (hrun : r.acquire h n = some (m, r', h')) : AcqOK r h r' h' ∧ m ≤ r'.buf.len - r'.ri := by
  unfold MRd.acquire at hrun
  by_cases hfast : n ≤ r.buf.len - r.ri
  · rw [if_pos hfast] at hrun
    cases hrun
    exact ⟨AcqOK.refl hi, hfast⟩
  · rw [if_neg hfast] at hrun
    unfold MRd.acquireSlow at hrun
    by_cases herr : r.err.isSome
    · rw [if_pos herr] at hrun
      cases hrun
      exact ⟨AcqOK.refl hi, Nat.le_refl _⟩
    · rw [if_neg herr] at hrun
      simp only [] at hrun
      have hp := prepare_ok r h n hi
      obtain ⟨a, b⟩ := readLoop_ok _ _ _ _ _ _ _ _ hp.inv hrun
      exact ⟨hp.trans a, b⟩

/-! ## the operations -/

/-- what every non-Release operation guarantees -/
structure StepOK (r : MRd) (h : Heap) (r' : MRd) (h' : Heap) : Prop where
  inv : RInv r' h'
  frame : Frame r h r' h'
  keeps : Keeps h h'

theorem StepOK.refl {r : MRd} {h : Heap} (hi : RInv r h) : StepOK r h r h :=
  ⟨hi, Frame.refl r h, Keeps.refl _⟩
theorem StepOK.trans {r1 r2 r3 : MRd} {h1 h2 h3 : Heap} (a : StepOK r1 h1 r2 h2) (b : StepOK r2 h2 r3 h3) :
    StepOK r1 h1 r3 h3 := ⟨b.inv, a.frame.trans b.frame, a.keeps.trans b.keeps⟩
theorem AcqOK.step {r r' : MRd} {h h' : Heap} (a : AcqOK r h r' h') : StepOK r h r' h' :=
  ⟨a.inv, a.frame, a.keeps⟩

/-- the slice lies in the protected region -/
def InProt (r : MRd) (h : Heap) (s : Slice) : Prop := ∀ p, s.off ≤ p → p < s.off + s.len → Prot r h s.obj p

/-- moving the read index keeps the invariant and the protected region -/
theorem advance_ok (r : MRd) (h : Heap) (k : Nat) (hi : RInv r h) (hk : r.ri + k ≤ r.buf.len) :
    StepOK r h { r with ri := r.ri + k } h :=
  ⟨⟨hi.nofault, hk, hi.len_le, hi.nil_pend, hi.buf_ok, hi.ro_src, hi.pend_ok, hi.pend_nodup⟩,
   fun _ _ hp => ⟨hp, rfl⟩, Keeps.refl _⟩

/-- a source the library may read: inside an existing object that has not been recycled -/
def Readable (h : Heap) (bs : Slice) : Prop :=
  ∃ x, h.obj? bs.obj = some x ∧ bs.off + bs.len ≤ x.data.length ∧ x.owner ≠ .freed

/-- the window `buf[ri : ri+k]` that Next and Peek hand out (wherever the read index goes afterwards) -/
theorem sub_ok (r : MRd) (h : Heap) (k : Nat) (hi : RInv r h) (hk : r.ri + k ≤ r.buf.len) (ri' : Nat) :
    InProt { r with ri := ri' } h (r.buf.sub r.ri (r.ri + k)) ∧ (r.buf.sub r.ri (r.ri + k)).len = k ∧
    (0 < (r.buf.sub r.ri (r.ri + k)).len → Readable h (r.buf.sub r.ri (r.ri + k))) := by
  have hlen := hi.len_le
  have hl : (r.buf.sub r.ri (r.ri + k)).len = k := Nat.add_sub_cancel_left ..
  refine ⟨fun p hp1 hp2 => ?_, hl, fun hpos => ?_⟩
  · rw [hl] at hp2
    exact Or.inr (Or.inl ⟨by show 0 < r.buf.cap; omega, rfl,
      by show p < r.buf.off + r.buf.len; exact Nat.lt_of_lt_of_le hp2 (by show r.buf.off + r.ri + k ≤ _; omega)⟩)
  · rw [hl] at hpos
    have hc : 0 < r.buf.cap := by omega
    obtain ⟨x, hx, hb, _⟩ := hi.buf_ok hc
    exact ⟨x, hx, by rw [hl]; show r.buf.off + r.ri + k ≤ _; omega, (hi.buf_owner hc hx).1⟩

/-- Next, Peek and Skip are one operation, up to whether a success hands out the window
    `buf[ri : ri+n]` (`win`; the slice expression carries the bounds check) and whether it moves the
    read index (`adv`) -/
def MRd.nps (win adv : Bool) (r : MRd) (h : Heap) (n : Int) : MRes × MRd × Heap :=
  if n < 0 then (.fail (some .negCount), r, h) else
  match r.acquire h n.toNat with
  | none => (.nofuel, r, h)
  | some (m, r1, h1) =>
    if n.toNat > m then (.fail r1.err, r1, h1)
    else (.ok (cond win (r1.buf.sub r1.ri (r1.ri + n.toNat)) Slice.nil),
          cond adv { r1 with ri := r1.ri + n.toNat } r1,
          cond win (h1.assert (decide (r1.ri + n.toNat ≤ r1.buf.cap))) h1)

theorem MRd.next_eq_nps (r : MRd) (h : Heap) (n : Int) : r.next h n = MRd.nps true true r h n := rfl
theorem MRd.peek_eq_nps (r : MRd) (h : Heap) (n : Int) : r.peek h n = MRd.nps true false r h n := rfl
theorem MRd.skip_eq_nps (r : MRd) (h : Heap) (n : Int) : r.skip h n = MRd.nps false true r h n := rfl

theorem nps_spec (win adv : Bool) (r : MRd) (h : Heap) (n : Int) (hi : RInv r h) :
    StepOK r h (MRd.nps win adv r h n).2.1 (MRd.nps win adv r h n).2.2 ∧
    GcKept h (MRd.nps win adv r h n).2.2 ∧
    (win = true → ∀ s, (MRd.nps win adv r h n).1 = .ok s →
      InProt (MRd.nps win adv r h n).2.1 (MRd.nps win adv r h n).2.2 s ∧ s.len = n.toNat ∧
      (0 < s.len → Readable (MRd.nps win adv r h n).2.2 s)) := by
  unfold MRd.nps
  by_cases hneg : n < 0
  · rw [if_pos hneg]; exact ⟨StepOK.refl hi, GcKept.refl _, fun _ s hs => nomatch hs⟩
  · rw [if_neg hneg]
    generalize n.toNat = k
    cases hacq : r.acquire h k with
    | none => exact ⟨StepOK.refl hi, GcKept.refl _, fun _ s hs => nomatch hs⟩
    | some res =>
      obtain ⟨m, r1, h1⟩ := res
      obtain ⟨a, hm⟩ := acquire_ok r h _ m r1 h1 hi hacq
      dsimp only
      by_cases hshort : k > m
      · rw [if_pos hshort]; exact ⟨a.step, a.gckept, fun _ s hs => nomatch hs⟩
      · rw [if_neg hshort]
        have hri := a.inv.ri_le
        have hk : r1.ri + k ≤ r1.buf.len := by omega
        have hh : cond win (h1.assert (decide (r1.ri + k ≤ r1.buf.cap))) h1 = h1 := by
          cases win
          · rfl
          · exact assert_of _ (Nat.le_trans hk a.inv.len_le)
        rw [hh]
        refine ⟨?_, a.gckept, fun hw s hs => ?_⟩
        · cases adv
          · exact a.step
          · exact a.step.trans (advance_ok r1 h1 k a.inv hk)
        · subst hw
          cases hs
          cases adv <;> exact sub_ok r1 h1 k a.inv hk _

theorem next_ok (r : MRd) (h : Heap) (n : Int) (hi : RInv r h) :
    StepOK r h (r.next h n).2.1 (r.next h n).2.2 ∧
    (∀ s, (r.next h n).1 = .ok s → InProt (r.next h n).2.1 (r.next h n).2.2 s ∧ s.len = n.toNat ∧
      (0 < s.len → Readable (r.next h n).2.2 s)) := by
  rw [MRd.next_eq_nps]
  exact ⟨(nps_spec true true r h n hi).1, (nps_spec true true r h n hi).2.2 rfl⟩

theorem peek_ok (r : MRd) (h : Heap) (n : Int) (hi : RInv r h) :
    StepOK r h (r.peek h n).2.1 (r.peek h n).2.2 ∧
    (∀ s, (r.peek h n).1 = .ok s → InProt (r.peek h n).2.1 (r.peek h n).2.2 s ∧ s.len = n.toNat ∧
      (0 < s.len → Readable (r.peek h n).2.2 s)) := by
  rw [MRd.peek_eq_nps]
  exact ⟨(nps_spec true false r h n hi).1, (nps_spec true false r h n hi).2.2 rfl⟩

theorem skip_ok (r : MRd) (h : Heap) (n : Int) (hi : RInv r h) :
    StepOK r h (r.skip h n).2.1 (r.skip h n).2.2 := by
  rw [MRd.skip_eq_nps]
  exact (nps_spec false true r h n hi).1

/-- a destination the library may write: a slice of a Go-heap object -/
def GcDst (h : Heap) (bs : Slice) : Prop :=
  ∃ x, h.obj? bs.obj = some x ∧ x.owner = .gc ∧ bs.off + bs.len ≤ x.data.length

theorem prot_not_gc {r : MRd} {h : Heap} (hi : RInv r h) {o p : Nat} (hp : Prot r h o p) (x : Obj)
    (hx : h.obj? o = some x) : x.owner ≠ .gc := by
  obtain ⟨y, hy, _, hg⟩ := hp.obj hi
  cases hx.symm.trans hy
  exact hg

theorem readBinary_ok (r : MRd) (h : Heap) (bs : Slice) (hi : RInv r h) (hbs : GcDst h bs) :
    StepOK r h (r.readBinary h bs).2.1 (r.readBinary h bs).2.2 := by
  unfold MRd.readBinary
  cases hacq : r.acquire h bs.len with
  | none => exact StepOK.refl hi
  | some res =>
    obtain ⟨m0, r1, h1⟩ := res
    obtain ⟨a, hm⟩ := acquire_ok r h _ m0 r1 h1 hi hacq
    simp only []
    generalize hmdef : (if m0 > bs.len then bs.len else m0) = m
    have hm1 : m ≤ bs.len ∧ m ≤ m0 := by rw [← hmdef]; split <;> omega
    have hri := a.inv.ri_le
    have hlen := a.inv.len_le
    rw [assert_of _ (show r1.ri + m ≤ r1.buf.cap by omega)]
    have hmin : min bs.len m = m := by omega
    rw [hmin]
    obtain ⟨xd, hxd, hgc, hbd⟩ := hbs
    obtain ⟨xd1, hxd1, ho1, _, hl1⟩ := a.keeps _ xd hxd
    refine a.step.trans ?_
    by_cases hm0 : m = 0
    · subst hm0
      rw [copy_zero]
      exact advance_ok r1 h1 0 a.inv (by omega)
    · -- the source is the reader's buffer
      have hpos : 0 < r1.buf.cap := by omega
      obtain ⟨xb, hxb, hbb, _⟩ := a.inv.buf_ok hpos
      have hbd1 : bs.off + m ≤ xd1.data.length := by omega
      obtain ⟨hl, e⟩ := copy_eq h1 bs.obj bs.off r1.buf.obj (r1.buf.off + r1.ri) m xb xd1 hxb hxd1 (by omega) hbd1
        (a.inv.buf_owner hpos hxb).1 (by rw [ho1, hgc]; decide) (by rw [ho1, hgc]; intro hc; cases hc)
      rw [e]
      have t := setData_touches h1 bs.obj bs.off _ xd1 hxd1 (hl.symm ▸ hbd1)
      have hinv := a.inv.of_keeps t.keeps a.inv.nofault
      refine ⟨⟨a.inv.nofault, by show r1.ri + m ≤ r1.buf.len; omega, hinv.len_le, hinv.nil_pend, hinv.buf_ok,
        hinv.ro_src, hinv.pend_ok, hinv.pend_nodup⟩, fun o p hp => ⟨hp.of_keeps t.keeps, ?_⟩, t.keeps⟩
      refine t.out o p (Or.inl fun heq => ?_)
      subst heq
      exact prot_not_gc a.inv hp xd1 hxd1 (by rw [ho1]; exact hgc)

/-! ## Release -/

/-- objects that are not live pool buffers (caller memory, Go-heap objects, buffers already recycled)
    are left exactly as they were -/
def NonLiveKept (h h' : Heap) : Prop := ∀ o x, h.obj? o = some x → x.owner ≠ .live → h'.obj? o = some x

theorem release_ok (r : MRd) (h : Heap) (hi : RInv r h) :
    RInv (r.release h).1 (r.release h).2 ∧ NonLiveKept h (r.release h).2 ∧
    (r.release h).2.size = h.size := by
  have hpl : ∀ s ∈ r.pending, ∃ x, h.obj? s.obj = some x ∧ x.owner = .live ∧ s.off = 0 ∧
      s.cap = x.data.length ∧ 0 < s.cap := fun s hs => (hi.pend_ok s hs).2
  obtain ⟨g1, g2, g3, g4⟩ := freeAll_ok r.pending h hpl hi.pend_nodup
  have hbufSame : (h.freeAll r.pending).obj? r.buf.obj = h.obj? r.buf.obj :=
    g3 _ (fun s hs => (hi.pend_ok s hs).1)
  have hnl1 : NonLiveKept h (h.freeAll r.pending) := by
    intro o x hx hnl
    rw [g3 o]; exact hx
    intro s hs heq
    obtain ⟨_, y, hy, hl, _⟩ := hi.pend_ok s hs
    rw [heq, hx] at hy; cases hy; exact hnl hl
  have hf1 : (h.freeAll r.pending).faults = [] := g1.trans hi.nofault
  have hri := hi.ri_le
  have hlen := hi.len_le
  unfold MRd.release
  simp only []
  by_cases hdrained : r.buf.len - r.ri = 0
  · rw [if_pos hdrained]
    simp only []
    by_cases hfree : (!r.readOnly) = true ∧ r.buf.cap > 0
    · rw [if_pos hfree]
      have hnro : r.readOnly = false := by simpa using hfree.1
      obtain ⟨xb, hxb, _, _, hl⟩ := hi.buf_ok hfree.2
      obtain ⟨hlive, hoff, hcapl⟩ := hl hnro
      obtain ⟨f1, _, f3, f4, _⟩ := free_live (h.freeAll r.pending) r.buf xb (hbufSame.trans hxb)
        hlive hoff hcapl hfree.2
      refine ⟨⟨f1.trans hf1, Nat.le_refl _, Nat.le_refl _, fun _ => rfl, fun hc => absurd hc (Nat.lt_irrefl 0),
        hi.ro_src, fun s hs => (nomatch hs), List.Pairwise.nil⟩, ?_, f3.trans g2⟩
      intro o x hx hnl
      rw [f4 o]; exact hnl1 o x hx hnl
      intro heq; subst heq; rw [hxb] at hx; cases hx; exact hnl hlive
    · rw [if_neg hfree]
      exact ⟨⟨hf1, Nat.le_refl _, Nat.le_refl _, fun _ => rfl, fun hc => absurd hc (Nat.lt_irrefl 0),
        hi.ro_src, fun s hs => (nomatch hs), List.Pairwise.nil⟩, hnl1, g2⟩
  · rw [if_neg hdrained]
    have hpos : 0 < r.buf.cap := by omega
    obtain ⟨xb, hxb, hbb, hro, hnro⟩ := hi.buf_ok hpos
    cases hr : r.readOnly
    · -- compaction inside the live buffer
      simp only [Bool.false_eq_true, if_false]
      obtain ⟨hlive, hoff, hcapl⟩ := hnro hr
      rw [assert_of _ hri]
      rw [Nat.min_eq_right (Nat.sub_le _ _)]
      have hxb1 : (h.freeAll r.pending).obj? r.buf.obj = some xb := hbufSame.trans hxb
      have hbd : r.buf.off + (r.buf.len - r.ri) ≤ xb.data.length := by omega
      obtain ⟨hl, e⟩ := copy_eq (h.freeAll r.pending) r.buf.obj r.buf.off r.buf.obj (r.buf.off + r.ri)
        (r.buf.len - r.ri) xb xb hxb1 hxb1 (by omega) hbd (by rw [hlive]; decide) (by rw [hlive]; decide)
        (by rw [hlive]; intro hc; cases hc)
      rw [e]
      have t := setData_touches (h.freeAll r.pending) r.buf.obj r.buf.off _ xb hxb1 (hl.symm ▸ hbd)
      obtain ⟨xb', hxb', ho', _, hl'⟩ := t.shape.obj? _ xb hxb1
      refine ⟨⟨hf1, Nat.zero_le _, by show r.buf.len - r.ri ≤ r.buf.cap; omega, fun hc => rfl, fun _ =>
          ⟨xb', hxb', by show r.buf.off + r.buf.cap ≤ _; omega, fun hr' => Bool.noConfusion hr',
            fun _ => ⟨ho'.trans hlive, hoff, hcapl.trans hl'.symm⟩⟩,
          fun hr' => Bool.noConfusion hr', fun s hs => (nomatch hs), List.Pairwise.nil⟩, ?_, t.shape.size.trans g2⟩
      intro o x hx hnl
      refine (t.other o fun heq => ?_).trans (hnl1 o x hx hnl)
      subst heq; rw [hxb] at hx; cases hx; exact hnl hlive
    · -- the caller's buffer: only the slice header moves
      simp only [if_true]
      rw [assert_of _ hri]
      exact ⟨⟨hf1, Nat.zero_le _, by show r.buf.len - r.ri ≤ r.buf.cap - r.ri; omega, fun _ => rfl, fun _ =>
          ⟨xb, hbufSame.trans hxb, by show r.buf.off + r.ri + (r.buf.cap - r.ri) ≤ _; omega, fun _ => hro hr,
            fun hr' => Bool.noConfusion hr'⟩,
          fun _ => hi.ro_src hr, fun s hs => (nomatch hs), List.Pairwise.nil⟩, hnl1, g2⟩

end Verif.Mem
