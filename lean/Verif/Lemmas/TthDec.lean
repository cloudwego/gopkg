/-
  Lemmas/TthDec: the model's decoder (Model/TTHeader, index arithmetic over the whole info slice) against
  the reference parser of Spec/Frame (which consumes a byte list): primitives, the two counted loops,
  the section loop (for every fuel), and the fact that the fuel never runs out.
-/
import Verif.Model.TTHeader
import Verif.Lemmas.TthRef
namespace Verif.TTH
open Verif.Frame (Sec takeStr2 refStrKVs refIntKVs refSecs)


/-- the length guards of the Go code are computed in `int`; on lengths and offsets they are the
    guards on natural numbers -/
theorem cast_sub_lt (l i n : Nat) (h : 0 < n ∨ i ≤ l) : (l : Int) - (i : Int) < (n : Int) ↔ l - i < n := by
  by_cases hle : i ≤ l
  · rw [← Int.ofNat_sub hle]
    exact Int.ofNat_lt
  · have hlt := Nat.lt_of_not_le hle
    exact iff_of_true (Int.lt_of_lt_of_le (Int.sub_neg_of_lt (Int.ofNat_lt.mpr hlt)) (Int.natCast_nonneg n))
      (Nat.sub_eq_zero_of_le (Nat.le_of_lt hlt) ▸ h.resolve_right hle)

theorem add_le_of_not_sub_lt {l i n : Nat} (hn : 0 < n) (h : ¬ l - i < n) : i + n ≤ l :=
  have hle := Nat.le_of_not_lt h
  Nat.add_le_of_le_sub' (Nat.le_of_lt (Nat.lt_of_sub_pos (Nat.lt_of_lt_of_le hn hle))) hle

theorem bytes2Uint8_drop (b : Bytes) (idx : Nat) :
    bytes2Uint8 b idx = .ok ((b.drop idx).head?.map UInt8.toNat) := by
  unfold bytes2Uint8 index
  rw [List.head?_drop]
  have hc : (b.length : Int) - (idx : Int) < 1 ↔ b.length - idx < 1 := cast_sub_lt _ _ 1 (.inl Nat.one_pos)
  by_cases h : b.length - idx < 1
  · rw [if_pos (hc.mpr h),
      List.getElem?_eq_none (Nat.le_of_sub_eq_zero (Nat.lt_one_iff.mp h))]
    rfl
  · rw [if_neg (mt hc.mp h),
      List.getElem?_eq_getElem (add_le_of_not_sub_lt Nat.one_pos h)]
    rfl

theorem bytes2Uint16_drop (b : Bytes) (idx : Nat) :
    bytes2Uint16 b idx = .ok (if (b.drop idx).length < 2 then none else some (rd16 (b.drop idx))) := by
  unfold bytes2Uint16 sliceFrom beU16
  rw [List.length_drop]
  have hc : (b.length : Int) - (idx : Int) < 2 ↔ b.length - idx < 2 := cast_sub_lt _ _ 2 (.inl Nat.two_pos)
  by_cases h : b.length - idx < 2
  · rw [if_pos h, if_pos (hc.mpr h)]
  · have hle : idx ≤ b.length := Nat.le_trans (Nat.le_add_right _ _) (add_le_of_not_sub_lt Nat.two_pos h)
    rw [if_neg h, if_neg (mt hc.mp h), if_neg (Nat.not_lt.mpr hle), Out.bind_ok,
      List.length_drop, if_neg h]
    rfl

theorem readString2BLen_drop (b : Bytes) (idx : Nat) :
    readString2BLen b idx = .ok ((takeStr2 (b.drop idx)).map fun x => (x.1, x.1.length + 2)) := by
  unfold readString2BLen
  rw [bytes2Uint16_drop, Out.bind_ok, takeStr2, List.drop_drop, List.length_drop, List.length_drop]
  by_cases h : b.length - idx < 2
  · rw [if_pos h, if_pos h]
    rfl
  have hle := add_le_of_not_sub_lt Nat.two_pos h
  have hc := cast_sub_lt b.length (idx + 2) (rd16 (b.drop idx)) (.inr hle)
  rw [if_neg h, if_neg h]
  by_cases h2 : b.length - (idx + 2) < rd16 (b.drop idx)
  · rw [if_pos h2]
    exact if_pos (hc.mpr h2)
  · have hn : ((b.drop (idx + 2)).take (rd16 (b.drop idx))).length = rd16 (b.drop idx) := by
      rw [List.length_take, List.length_drop, Nat.min_eq_left (Nat.le_of_not_lt h2)]
    rw [if_neg h2, Option.map_some, hn]
    show (if _ then _ else _) = _
    rw [if_neg (mt hc.mp h2), slice, if_neg (Nat.not_lt.mpr (Nat.add_le_of_le_sub' hle (Nat.le_of_not_lt h2))),
      if_neg (Nat.not_lt.mpr (Nat.le_add_right _ _)), Out.bind_ok, Nat.add_sub_cancel_left]

theorem takeStr2_drop_rest {b : Bytes} {idx : Nat} {x : Bytes × Bytes} (h : takeStr2 (b.drop idx) = some x) :
    x.2 = b.drop (idx + (x.1.length + 2)) := by
  obtain ⟨hb, _⟩ := Frame.takeStr2_some (s := x.1) (r := x.2) h
  rw [← List.drop_drop, hb, List.drop_left' (Frame.str2_length _)]

/-! ### counted loops -/

theorem readStrKVs_ref (b : Bytes) : ∀ (n idx : Nat) (m : StrMap),
    match refStrKVs n (b.drop idx) with
    | none => readStrKVs b n idx m = .err .section
    | some x => ∃ idx', readStrKVs b n idx m = .ok (idx', x.1.reverse ++ m) ∧ x.2 = b.drop idx' := by
  intro n
  induction n with
  | zero => exact fun idx m => ⟨idx, rfl, rfl⟩
  | succ n ih =>
    intro idx m
    simp only [refStrKVs, readStrKVs, readString2BLen_drop, Out.bind_ok]
    cases hk : takeStr2 (b.drop idx) with
    | none => rfl
    | some k =>
      simp only [Option.map_some, Option.bind_some, takeStr2_drop_rest hk]
      cases hv : takeStr2 (b.drop (idx + (k.1.length + 2))) with
      | none => rfl
      | some v =>
        simp only [Option.map_some, Option.bind_some, takeStr2_drop_rest hv]
        have h := ih (idx + (k.1.length + 2) + (v.1.length + 2)) ((k.1, v.1) :: m)
        generalize refStrKVs n (b.drop (idx + (k.1.length + 2) + (v.1.length + 2))) = o at h ⊢
        cases o with
        | none => exact h
        | some x =>
          obtain ⟨idx', h1, h2⟩ := h
          exact ⟨idx', by rw [h1, List.reverse_cons, List.append_assoc]; rfl, h2⟩

theorem readIntKVs_ref (b : Bytes) : ∀ (n idx : Nat) (m : IntMap),
    match refIntKVs n (b.drop idx) with
    | none => readIntKVs b n idx m = .err .section
    | some x => ∃ idx', readIntKVs b n idx m = .ok (idx', x.1.reverse ++ m) ∧ x.2 = b.drop idx' := by
  intro n
  induction n with
  | zero => exact fun idx m => ⟨idx, rfl, rfl⟩
  | succ n ih =>
    intro idx m
    simp only [refIntKVs, readIntKVs, readString2BLen_drop, bytes2Uint16_drop, Out.bind_ok, List.drop_drop]
    by_cases hk : (b.drop idx).length < 2
    · simp only [if_pos hk]
    · simp only [if_neg hk]
      cases hv : takeStr2 (b.drop (idx + 2)) with
      | none => rfl
      | some v =>
        simp only [Option.map_some, Option.bind_some, takeStr2_drop_rest hv]
        have h := ih (idx + 2 + (v.1.length + 2)) ((rd16 (b.drop idx), v.1) :: m)
        generalize refIntKVs n (b.drop (idx + 2 + (v.1.length + 2))) = o at h ⊢
        cases o with
        | none => exact h
        | some x =>
          obtain ⟨idx', h1, h2⟩ := h
          exact ⟨idx', by rw [h1, List.reverse_cons, List.append_assoc]; rfl, h2⟩

/-! ### the section loop -/

/-- what one section does to the model's maps (`none` = nil map) -/
def applyM (m : Maps) : Sec → Maps
  | .pad => m
  | .str kvs => { m with str := some (kvs.reverse ++ mk m.str) }
  | .int kvs => { m with int := some (kvs.reverse ++ mk m.int) }
  | .acl t => { m with str := some ((gdprKey, t) :: mk m.str) }

def applyMs (m : Maps) (secs : List Sec) : Maps := secs.foldl applyM m

theorem readStrKVInfo_ref (b : Bytes) (idx : Nat) (m : StrMap) (r : Bytes) (hr : b.drop idx = r) :
    match (if r.length < 2 then none else refStrKVs (rd16 r) (r.drop 2)) with
    | none => readStrKVInfo b idx m = .err .section
    | some x => ∃ idx', readStrKVInfo b idx m = .ok (idx', x.1.reverse ++ m) ∧ x.2 = b.drop idx' := by
  subst hr
  unfold readStrKVInfo
  rw [bytes2Uint16_drop, Out.bind_ok]
  by_cases h : (b.drop idx).length < 2
  · rw [if_pos h, if_pos h]
  rw [if_neg h, if_neg h, List.drop_drop]
  by_cases h0 : rd16 (b.drop idx) ≤ 0
  · rw [Nat.le_zero.mp h0]
    exact ⟨idx + 2, rfl, rfl⟩
  · simp only [if_neg h0]
    exact readStrKVs_ref b _ _ _

theorem readIntKVInfo_ref (b : Bytes) (idx : Nat) (m : IntMap) (r : Bytes) (hr : b.drop idx = r) :
    match (if r.length < 2 then none else refIntKVs (rd16 r) (r.drop 2)) with
    | none => readIntKVInfo b idx m = .err .section
    | some x => ∃ idx', readIntKVInfo b idx m = .ok (idx', x.1.reverse ++ m) ∧ x.2 = b.drop idx' := by
  subst hr
  unfold readIntKVInfo
  rw [bytes2Uint16_drop, Out.bind_ok]
  by_cases h : (b.drop idx).length < 2
  · rw [if_pos h, if_pos h]
  rw [if_neg h, if_neg h, List.drop_drop]
  by_cases h0 : rd16 (b.drop idx) ≤ 0
  · rw [Nat.le_zero.mp h0]
    exact ⟨idx + 2, rfl, rfl⟩
  · simp only [if_neg h0]
    exact readIntKVs_ref b _ _ _

theorem readACLToken_ref (b : Bytes) (idx : Nat) (m : StrMap) :
    match takeStr2 (b.drop idx) with
    | none => readACLToken b idx m = .err .section
    | some x => readACLToken b idx m = .ok (idx + (x.1.length + 2), (gdprKey, x.1) :: m)
                ∧ x.2 = b.drop (idx + (x.1.length + 2)) := by
  unfold readACLToken
  rw [readString2BLen_drop]
  cases h : takeStr2 (b.drop idx) with
  | none => simp
  | some x => simp [takeStr2_drop_rest h]

theorem u8_toNat_eq (x : UInt8) (n : Nat) (h : n < 256) : x.toNat = n ↔ x = OfNat.ofNat n := by
  constructor
  · intro hx; apply UInt8.toNat_inj.mp; rw [hx]; exact (Nat.mod_eq_of_lt h).symm
  · intro hx; rw [hx]; exact Nat.mod_eq_of_lt h

theorem readKVInfo_succ_ref (b : Bytes) (f idx : Nat) (m : Maps) (x : UInt8) (r : Bytes)
    (hb : b.drop idx = x :: r) :
    match Frame.refSec (x :: r) with
    | some s => ∃ idx', s.2 = b.drop idx' ∧ readKVInfo b (f + 1) idx m = readKVInfo b f idx' (applyM m s.1)
    | none => ∃ e, readKVInfo b (f + 1) idx m = .err e ∧ e ≠ .nofuel := by
  have hr : b.drop (idx + 1) = r := by rw [← List.drop_drop, hb]; rfl
  simp only [Frame.refSec, readKVInfo, bytes2Uint8_drop, hb, List.head?_cons, Option.map_some, Out.bind_ok,
    Facts.ttInfoPadding, Facts.ttInfoKeyValue, Facts.ttInfoIntKeyValue, Facts.ttInfoACLToken,
    u8_toNat_eq, Nat.reduceLT]
  by_cases h0 : x = 0
  · rw [if_pos h0, if_pos h0]
    exact ⟨idx + 1, hr.symm, rfl⟩
  rw [if_neg h0, if_neg h0]
  by_cases h1 : x = 1
  · rw [if_pos h1, if_pos h1]
    have hs := readStrKVInfo_ref b (idx + 1) (mk m.str) r hr
    generalize (if r.length < 2 then none else refStrKVs (rd16 r) (r.drop 2)) = o at hs ⊢
    cases o with
    | none => exact ⟨.section, by rw [hs]; rfl, DErr.noConfusion⟩
    | some y =>
      obtain ⟨idx', e1, e2⟩ := hs
      exact ⟨idx', e2, by rw [e1]; rfl⟩
  rw [if_neg h1, if_neg h1]
  by_cases h16 : x = 16
  · rw [if_pos h16, if_pos h16]
    have hs := readIntKVInfo_ref b (idx + 1) (mk m.int) r hr
    generalize (if r.length < 2 then none else refIntKVs (rd16 r) (r.drop 2)) = o at hs ⊢
    cases o with
    | none => exact ⟨.section, by rw [hs]; rfl, DErr.noConfusion⟩
    | some y =>
      obtain ⟨idx', e1, e2⟩ := hs
      exact ⟨idx', e2, by rw [e1]; rfl⟩
  rw [if_neg h16, if_neg h16]
  by_cases h17 : x = 17
  · rw [if_pos h17, if_pos h17]
    have hs := readACLToken_ref b (idx + 1) (mk m.str)
    rw [hr] at hs
    generalize takeStr2 r = o at hs ⊢
    cases o with
    | none => exact ⟨.section, by rw [hs]; rfl, DErr.noConfusion⟩
    | some y => exact ⟨_, hs.2, by rw [hs.1]; rfl⟩
  rw [if_neg h17, if_neg h17]
  exact ⟨.infoId, rfl, DErr.noConfusion⟩

/-- the model's section loop against the reference parser, for every fuel; with enough fuel the
    loop never reports `nofuel` (every iteration consumes at least one byte) -/
theorem readKVInfo_ref (b : Bytes) : ∀ (fuel idx : Nat) (m : Maps),
    match refSecs fuel (b.drop idx) with
    | some secs => readKVInfo b fuel idx m = .ok (applyMs m secs)
    | none => ∃ e, readKVInfo b fuel idx m = .err e ∧ ((b.drop idx).length < fuel → e ≠ .nofuel) := by
  intro fuel
  induction fuel with
  | zero => exact fun idx m => ⟨.nofuel, rfl, fun h => absurd h (Nat.not_lt_zero _)⟩
  | succ f ih =>
    intro idx m
    rw [Frame.refSecs_succ]
    cases hb : b.drop idx with
    | nil =>
      rw [if_pos rfl]
      simp only [readKVInfo, bytes2Uint8_drop, hb, List.head?_nil, Option.map_none, Out.bind_ok]
      rfl
    | cons x r =>
      rw [if_neg (List.cons_ne_nil _ _)]
      have h1 := readKVInfo_succ_ref b f idx m x r hb
      cases hs : Frame.refSec (x :: r) with
      | none =>
        rw [hs] at h1
        obtain ⟨e, he, hn⟩ := h1
        exact ⟨e, he, fun _ => hn⟩
      | some s =>
        rw [hs] at h1
        obtain ⟨idx', hs2, he⟩ := h1
        have h2 := ih idx' (applyM m s.1)
        rw [he, Option.bind_some, hs2]
        generalize refSecs f (b.drop idx') = o at h2 ⊢
        cases o with
        | none =>
          obtain ⟨e, he, hn⟩ := h2
          exact ⟨e, he, fun hlt =>
            hn (hs2 ▸ Nat.lt_of_lt_of_le (Frame.refSec_length_lt hs) (Nat.le_of_lt_succ hlt))⟩
        | some t => exact h2

end Verif.TTH
