/-
  Lemmas/WriterSim: the writer model refines the log spec.
  `WSim w l`: model state w and log l describe the same writer; every operation keeps `WSim` and
  returns the same observable result on both sides (`sim_step`), for every history (`sim_run`).
  What one operation does to a healthy log (`Compose.cmp_spec_*`) is stated on its own: the codecs of
  Lemmas/ComposeWriter run on the spec log alone and need the same facts.
  After `sim_run`: the spec never gets stuck (`specRun_not_stuck`), what a step leaves untouched
  (`step_frame`), flush-free histories (`run_noflush_frame`), bytes writers over whole histories
  (`bytes_run`).
-/
import Verif.Lemmas.WriterSteps
import Verif.Lemmas.WriterLog
namespace Verif
open WLog

/-- the operations of a history: the four API calls and the caller storing into a region -/
inductive WOp where
  | malloc (n : Int)
  | fill (rid off : Nat) (bs : Bytes)
  | wb (bs : Bytes)
  | flush
  | len
deriving Repr, DecidableEq

/-- what the caller observes from one operation -/
inductive WObs where
  | region (id n : Nat)      -- Malloc returned region number id of length n
  | wrote (n : Nat)          -- WriteBinary returned n
  | done                     -- Flush returned nil / a store happened
  | len (n : Nat)            -- WrittenLen
  | err (e : RErr)
  | stuck (why : String)     -- Go panic / hang (model only; proved unreachable)
deriving Repr, DecidableEq

def obsOfOut {α : Type} (f : α → WObs) : Out RErr α → WObs
  | .ok a => f a
  | .err e => .err e
  | .panic s => .stuck s
  | .oob => .stuck "oob"

def Wr.step (a : WAlloc) (w : Wr) : WOp → WObs × Wr
  | .malloc n => (obsOfOut (fun p => .region p.1 p.2.1) (w.malloc a n).1, (w.malloc a n).2)
  | .fill rid off bs => (.done, (w.fill rid off bs).2)
  | .wb bs => (obsOfOut (fun k => .wrote k) (w.writeBinary a bs).1, (w.writeBinary a bs).2)
  | .flush => (obsOfOut (fun _ => .done) w.flush.1, w.flush.2)
  | .len => (.len w.writtenLen, w)

/-- the log spec as a step function over the same operations (a negative count is answered with
    errNegativeCount and changes nothing, after the sticky-error check) -/
def specStep (l : Log RErr) : WOp → WObs × Log RErr
  | .malloc n =>
    match l.err with
    | some e => (.err e, l)
    | none =>
      if n < 0 then (.err .negCount, l) else
      ((match (l.malloc n.toNat).1 with | .ok id => .region id n.toNat | .error e => .err e),
       (l.malloc n.toNat).2)
  | .fill rid off bs => (.done, l.fill rid off bs)
  | .wb bs =>
    ((match (l.write bs).1 with | .ok k => .wrote k | .error e => .err e), (l.write bs).2)
  | .flush => ((match l.flush.1 with | none => .done | some e => .err e), l.flush.2)
  | .len => (.len l.writtenLen, l)

def Wr.run (a : WAlloc) (w : Wr) : List WOp → List WObs × Wr
  | [] => ([], w)
  | op :: ops => (((w.step a op).1 :: ((w.step a op).2.run a ops).1), ((w.step a op).2.run a ops).2)

def specRun (l : Log RErr) : List WOp → List WObs × Log RErr
  | [] => ([], l)
  | op :: ops => (((specStep l op).1 :: (specRun (specStep l op).2 ops).1), (specRun (specStep l op).2 ops).2)

def regTriple (r : WRegion) : Nat × Nat × Nat := (r.id, r.off, r.n)

structure WSim (w : Wr) (l : Log RErr) : Prop where
  inv : WInv w
  err : l.err = w.err
  content : Match w.logical (concat l.store l.items)
  lay : w.regions.map regTriple = layout 0 l.items
  ids : l.nextId = w.nextRegion
  ids_lt : ∀ t ∈ layout 0 l.items, t.1 < l.nextId
  ids_nodup : ((layout 0 l.items).map (·.1)).Nodup
  store_ok : StoreOK l.store l.items
  wlen : lenSum l.items = w.bufLen
  sunk : Match w.sunk l.emitted
  sink : w.disableCache = false → l.fail = w.sink.fail ∧ l.calls = w.sink.calls.length
  sinkB : w.disableCache = true → ∀ k, l.fail k = none
  nonempty : w.disableCache = false → ∀ v, w.buf = some v → 0 < v.len

namespace Compose

theorem logOK_of_sim {w : Wr} {l : Log RErr} (h : WSim w l) (he : w.err = none) : LogOK l :=
  ⟨by rw [h.err, he], h.ids_lt, h.ids_nodup, h.store_ok⟩

theorem cmp_spec_malloc (l : Log RErr) (h : LogOK l) (n : Nat) :
    ∃ l', specStep l (.malloc (n : Int)) = (.region l.nextId n, l') ∧ LogOK l' ∧
      l'.items = l.items ++ [.region l.nextId n] ∧
      concat l'.store l'.items = concat l.store l.items ++ List.replicate n none ∧
      l'.nextId = l.nextId + 1 ∧ l'.calls = l.calls ∧ l'.fail = l.fail ∧ l'.emitted = l.emitted := by
  have hn : ¬ ((n : Int) < 0) := by omega
  have hstep : specStep l (.malloc (n : Int)) = (.region l.nextId n,
      { l with items := l.items ++ [.region l.nextId n],
               store := fun i => if i = l.nextId then List.replicate n none else l.store i,
               nextId := l.nextId + 1 }) := by
    simp only [specStep, h.err, hn, if_false, Log.malloc, Int.toNat_natCast]
  -- the new id is fresh: the old items keep their contents
  have hold : ∀ t ∈ layout 0 l.items,
      (if t.1 = l.nextId then List.replicate n none else l.store t.1) = l.store t.1 :=
    fun t ht => if_neg (Nat.ne_of_lt (h.ids_lt t ht))
  refine ⟨_, hstep, ⟨h.err, ?_, ?_, ?_⟩, rfl, ?_, rfl, rfl, rfl, rfl⟩
  · intro t ht
    rw [layout_snoc_region] at ht
    rcases List.mem_append.mp ht with ht | ht
    · exact Nat.lt_succ_of_lt (h.ids_lt t ht)
    · cases List.mem_singleton.mp ht; exact Nat.lt_succ_self _
  · rw [layout_snoc_region, List.map_append, List.nodup_append]
    refine ⟨h.ids_nodup, by simp, fun x hx y hy => ?_⟩
    obtain ⟨t, ht, rfl⟩ := List.mem_map.mp hx
    cases List.mem_singleton.mp hy
    exact Nat.ne_of_lt (h.ids_lt t ht)
  · intro t ht
    rw [layout_snoc_region] at ht
    rcases List.mem_append.mp ht with ht | ht
    · exact (congrArg List.length (hold t ht)).trans (h.store_ok t ht)
    · cases List.mem_singleton.mp ht
      exact (congrArg List.length (if_pos rfl)).trans List.length_replicate
  · show concat _ (l.items ++ _) = _
    rw [concat_append, concat_congr l.store _ l.items hold]
    simp [concat, Item.content]

theorem cmp_spec_wb (l : Log RErr) (h : LogOK l) (bs : Bytes) :
    ∃ l', specStep l (.wb bs) = (.wrote bs.length, l') ∧ LogOK l' ∧
      l'.items = l.items ++ [.payload bs] ∧
      concat l'.store l'.items = concat l.store l.items ++ bs.map some ∧
      l'.nextId = l.nextId ∧ l'.calls = l.calls ∧ l'.fail = l.fail ∧ l'.emitted = l.emitted := by
  have hstep : specStep l (.wb bs) = (.wrote bs.length, { l with items := l.items ++ [.payload bs] }) := by
    simp only [specStep, Log.write, h.err]
  refine ⟨_, hstep, ⟨h.err, ?_, ?_, ?_⟩, rfl, ?_, rfl, rfl, rfl, rfl⟩
  · intro t ht; rw [layout_snoc_payload] at ht; exact h.ids_lt t ht
  · rw [layout_snoc_payload]; exact h.ids_nodup
  · intro t ht; rw [layout_snoc_payload] at ht; exact h.store_ok t ht
  · show concat _ (l.items ++ _) = _
    rw [concat_append]
    simp [concat, Item.content]

theorem cmp_spec_fill (l : Log RErr) (h : LogOK l) (rid p n off : Nat) (bs : Bytes)
    (hmem : (rid, p, n) ∈ layout 0 l.items) (hfit : off + bs.length ≤ n) :
    ∃ l', specStep l (.fill rid off bs) = (.done, l') ∧ LogOK l' ∧ l'.items = l.items ∧
      concat l'.store l'.items = overwrite (concat l.store l.items) (p + off) (bs.map some) ∧
      l'.nextId = l.nextId ∧ l'.calls = l.calls ∧ l'.fail = l.fail ∧ l'.emitted = l.emitted := by
  have hlen : (l.store rid).length = n := h.store_ok _ hmem
  have hfit' : off + (bs.map some).length ≤ (l.store rid).length := by rw [List.length_map, hlen]; exact hfit
  refine ⟨_, congrArg (Prod.mk WObs.done) (Log.fill_of_fits l rid off bs (by rw [hlen]; exact hfit)),
    ⟨h.err, h.ids_lt, h.ids_nodup, storeOK_fill h.store_ok rid off _ hfit'⟩, rfl, ?_, rfl, rfl, rfl, rfl⟩
  have := concat_fill l.store l.items 0 rid p n off (bs.map some) hmem h.ids_nodup h.store_ok
    (by rw [List.length_map]; exact hfit)
  rwa [Nat.sub_zero] at this

end Compose

/-! ## initial states -/

theorem stats_facts : emptyStats.length = Facts.statsBucketNum ∧ 0 < Facts.statsBucketNum := by
  constructor
  · simp [emptyStats]
  · decide

theorem winv_fresh {w : Wr} (hs : w.stats = emptyStats) (hi : w.statsIdx = 0) (hb : w.buf = none)
    (hp : w.pending = []) (hr : w.regions = []) : WInv w :=
  ⟨hs ▸ stats_facts.1, hi ▸ stats_facts.2,
    fun _ => ⟨hp, fun r h => (by rw [hr] at h; cases h), by rw [hr]; exact Nat.le_refl 0⟩,
    fun v h => (nomatch hb.symm.trans h)⟩

theorem sim_newDefault (fail : Nat → Option RErr) : WSim (Wr.newDefault fail) (Log.new fail []) :=
  have ok := Compose.logOK_new fail []
  ⟨winv_fresh rfl rfl rfl rfl rfl, rfl, match_nil, rfl, rfl, ok.ids_lt, ok.ids_nodup, ok.store_ok, rfl, match_nil,
    fun _ => ⟨rfl, rfl⟩, fun h => (nomatch h), fun _ _ h => (nomatch h)⟩

theorem sim_newBytesNil : WSim Wr.newBytesNil (Log.new (fun _ => none) []) :=
  have ok := Compose.logOK_new (fun _ => none) []
  ⟨winv_fresh rfl rfl rfl rfl rfl, rfl, match_nil, rfl, rfl, ok.ids_lt, ok.ids_nodup, ok.store_ok, rfl, match_nil,
    fun h => (nomatch h), fun _ _ => rfl, fun h => (nomatch h)⟩

theorem sim_newBytes (init spare : Bytes) : WSim (Wr.newBytes init spare) (Log.new (fun _ => none) init) := by
  have ok := Compose.logOK_new (fun _ => none) init
  refine ⟨WInv.of_buf rfl stats_facts.1 stats_facts.2 ?_, rfl, ?_, rfl, rfl, ok.ids_lt, ok.ids_nodup, ok.store_ok,
    ?_, match_nil, fun h => (nomatch h), fun _ _ => rfl, fun h => (nomatch h)⟩
  · exact ⟨Nat.le_add_right _ _, List.length_append, Nat.zero_lt_one, Nat.zero_le _, fun _ h => (nomatch h),
      fun _ h => (nomatch h), fun _ h => (nomatch h), List.nodup_nil, fun h => absurd rfl h, fun _ h => (nomatch h),
      Nat.zero_le _⟩
  · show Match (gslice (init ++ spare) 0 init.length) ((init.map some) ++ [])
    rw [List.append_nil, gslice, List.drop_zero, List.take_left' rfl]
    exact match_map_some init
  · exact Nat.add_zero _

/-! ## one step -/

theorem WSim.writtenLen {w : Wr} {l : Log RErr} (h : WSim w l) :
    w.writtenLen = l.writtenLen ∧ l.writtenLen = l.unflushed.length ∧ w.logical.length = w.writtenLen :=
  have hc : l.unflushed.length = l.writtenLen := length_concat _ _ h.store_ok
  ⟨h.wlen.symm, hc.symm, (Match.length_eq h.content).trans (hc.trans h.wlen)⟩

theorem sim_len (a : WAlloc) (w : Wr) (l : Log RErr) (h : WSim w l) :
    (w.step a .len).1 = (specStep l .len).1 ∧ WSim (w.step a .len).2 (specStep l .len).2 :=
  ⟨congrArg WObs.len h.writtenLen.1, h⟩

theorem WSim.sink_frame {w w2 : Wr} {l l' : Log RErr} (h : WSim w l)
    (hdc : w2.disableCache = w.disableCache) (hs : w2.sink = w.sink) (hem : l'.emitted = l.emitted)
    (hf : l'.fail = l.fail) (hc : l'.calls = l.calls) :
    Match w2.sunk l'.emitted ∧
    (w2.disableCache = false → l'.fail = w2.sink.fail ∧ l'.calls = w2.sink.calls.length) ∧
    (w2.disableCache = true → ∀ k, l'.fail k = none) := by
  rw [Wr.sunk, hs, hdc, hem, hf, hc]
  exact ⟨h.sunk, h.sink, h.sinkB⟩

/-- a default writer's buffer stays non-empty when n bytes are appended: a buffer that was nil is
    only allocated for n > 0 -/
theorem WSim.nonempty_append {w w2 : Wr} {l : Log RErr} (h : WSim w l)
    (hdc : w2.disableCache = w.disableCache) (n : Nat) (hlen : w2.bufLen = w.bufLen + n)
    (horig : w2.buf ≠ none → w.buf ≠ none ∨ 0 < n) :
    w2.disableCache = false → ∀ v, w2.buf = some v → 0 < v.len := by
  intro hd v2 hv2
  rw [hdc] at hd
  have hl2 : v2.len = w.bufLen + n := by rw [← hlen, Wr.bufLen, hv2]
  rcases horig (by rw [hv2]; exact Option.some_ne_none _) with hb | hb
  · cases hwb : w.buf with
    | none => exact absurd hwb hb
    | some v =>
      have := h.nonempty hd v hwb
      simp only [Wr.bufLen, hwb] at hl2
      omega
  · omega

theorem sim_malloc (a : WAlloc) (ha : a.Sound) (w : Wr) (l : Log RErr) (h : WSim w l) (n : Int) :
    (w.step a (.malloc n)).1 = (specStep l (.malloc n)).1 ∧
    WSim (w.step a (.malloc n)).2 (specStep l (.malloc n)).2 := by
  rcases Option.eq_none_or_eq_some w.err with he | ⟨e, he⟩
  · by_cases hn : n < 0
    · simp only [Wr.step, specStep, malloc_neg a w he n hn, h.err.trans he, hn, if_true, obsOfOut]
      exact ⟨trivial, h⟩
    · obtain ⟨k, rfl⟩ := Int.eq_ofNat_of_zero_le (Int.not_lt.mp hn)
      obtain ⟨w2, cap, R, hm, P⟩ := malloc_spec a ha w h.inv he k (Int.not_lt.mp hn)
      obtain ⟨l', hs, ok', hit, hcat, hnid, hcalls, hfail, hem⟩ :=
        Compose.cmp_spec_malloc l (Compose.logOK_of_sim h he) k
      rw [Int.toNat_natCast] at hm P
      obtain ⟨o, hreg⟩ := P.regions
      have hf := h.sink_frame P.dc P.sink hem hfail hcalls
      simp only [Wr.step, hm, hs, obsOfOut]
      refine ⟨by rw [h.ids], P.inv, ok'.err.trans (P.err.trans he).symm, ?_, ?_, ?_, ok'.ids_lt,
        ok'.ids_nodup, ok'.store_ok, ?_, hf.1, hf.2.1, hf.2.2, h.nonempty_append P.dc k P.len P.buf_origin⟩
      · rw [P.logical, hcat, ← P.rlen]
        exact match_append h.content (match_replicate_none R)
      · rw [hreg, hit, layout_snoc_region, List.map_append, h.lay, h.ids, h.wlen]; rfl
      · rw [hnid, P.nextRegion, h.ids]
      · rw [hit, lenSum_append, P.len, h.wlen]; rfl
  · simp only [Wr.step, specStep, malloc_stuck a w e he n, h.err.trans he, obsOfOut]
    exact ⟨trivial, h⟩

theorem sim_wb (a : WAlloc) (ha : a.Sound) (w : Wr) (l : Log RErr) (h : WSim w l) (bs : Bytes) :
    (w.step a (.wb bs)).1 = (specStep l (.wb bs)).1 ∧
    WSim (w.step a (.wb bs)).2 (specStep l (.wb bs)).2 := by
  rcases Option.eq_none_or_eq_some w.err with he | ⟨e, he⟩
  · obtain ⟨w2, hm, P⟩ := writeBinary_spec a ha w h.inv he bs
    obtain ⟨l', hs, ok', hit, hcat, hnid, hcalls, hfail, hem⟩ :=
      Compose.cmp_spec_wb l (Compose.logOK_of_sim h he) bs
    have hf := h.sink_frame P.dc P.sink hem hfail hcalls
    simp only [Wr.step, hm, hs, obsOfOut]
    refine ⟨trivial, P.inv, ok'.err.trans (P.err.trans he).symm, ?_, ?_, ?_, ok'.ids_lt, ok'.ids_nodup,
      ok'.store_ok, ?_, hf.1, hf.2.1, hf.2.2, h.nonempty_append P.dc bs.length P.len P.buf_origin⟩
    · rw [P.logical, hcat]
      exact match_append h.content (match_map_some bs)
    · rw [P.regions, hit, layout_snoc_payload]; exact h.lay
    · rw [hnid, P.nextRegion, h.ids]
    · rw [hit, lenSum_append, P.len, h.wlen]; rfl
  · simp only [Wr.step, specStep, writeBinary_stuck a w e he bs, h.err.trans he, obsOfOut, Log.write]
    exact ⟨trivial, h⟩

/-! ## the caller stores into a region -/

theorem mem_layout_of_region {w : Wr} {l : Log RErr} (h : WSim w l) {r : WRegion} (hr : r ∈ w.regions) :
    (r.id, r.off, r.n) ∈ layout 0 l.items := by
  rw [← h.lay]; exact List.mem_map_of_mem (f := regTriple) hr

theorem WSim.unflushed_nil {w : Wr} {l : Log RErr} (h : WSim w l) (hb : w.buf = none) :
    concat l.store l.items = [] := by
  have hm := h.content
  rw [Wr.logical_nil hb] at hm
  exact List.eq_nil_of_length_eq_zero (Match.length_eq hm).symm

/-- a store under an id that is not a region of the current epoch is invisible -/
theorem sim_store_irrelevant {w : Wr} {l : Log RErr} (h : WSim w l) (rid : Nat) (x : SBytes)
    (hid : rid ∉ (layout 0 l.items).map (·.1)) :
    WSim w { l with store := fun i => if i = rid then x else l.store i } := by
  have hne : ∀ t ∈ layout 0 l.items, t.1 ≠ rid := fun t ht e => hid (e ▸ List.mem_map_of_mem ht)
  refine ⟨h.inv, h.err, ?_, h.lay, h.ids, h.ids_lt, h.ids_nodup, ?_, h.wlen, h.sunk, h.sink, h.sinkB, h.nonempty⟩
  · dsimp only
    rw [concat_congr l.store _ l.items (fun t ht => by simp [hne t ht])]
    exact h.content
  · intro t ht
    dsimp only
    rw [if_neg (hne t ht)]
    exact h.store_ok t ht

theorem sim_fill (a : WAlloc) (w : Wr) (l : Log RErr) (h : WSim w l) (rid off : Nat) (bs : Bytes) :
    (w.step a (.fill rid off bs)).1 = (specStep l (.fill rid off bs)).1 ∧
    WSim (w.step a (.fill rid off bs)).2 (specStep l (.fill rid off bs)).2 := by
  refine ⟨rfl, ?_⟩
  simp only [Wr.step, specStep]
  rcases fill_spec w h.inv rid off bs with ⟨_, r, hfind, hfit, P⟩ | ⟨_, hsame, hno⟩
  · -- the store happens on both sides
    have hid : r.id = rid := by simpa using List.find?_some hfind
    have hlm := mem_layout_of_region h (List.mem_of_find?_eq_some hfind)
    rw [hid] at hlm
    have hsl : (l.store rid).length = r.n := h.store_ok _ hlm
    have hfit' : off + (bs.map some).length ≤ (l.store rid).length := by
      rw [List.length_map, hsl]; exact hfit
    have hf := h.sink_frame (l' := l) P.dc P.sink rfl rfl rfl
    rw [Log.fill_of_fits l rid off bs (by rw [hsl]; exact hfit)]
    refine ⟨P.inv, h.err.trans P.err.symm, ?_, by rw [P.regions]; exact h.lay,
      by rw [P.nextRegion]; exact h.ids, h.ids_lt, h.ids_nodup, storeOK_fill h.store_ok rid off _ hfit',
      ?_, hf.1, hf.2.1, hf.2.2, ?_⟩
    · show Match _ (concat _ l.items)
      rw [P.logical, concat_fill l.store l.items 0 rid r.off r.n off (bs.map some) hlm h.ids_nodup
        h.store_ok (by rw [List.length_map]; exact hfit), Nat.sub_zero]
      exact match_overwrite h.content _ bs
    · show lenSum l.items = _
      rw [h.wlen, Wr.bufLen, Wr.bufLen, P.buf]
    · intro hd v hv
      rw [P.dc] at hd; rw [P.buf] at hv
      exact h.nonempty hd v hv
  · -- no store in the model
    rw [hsame]
    cases hf : w.regions.find? (fun r => decide (r.id = rid)) with
    | some r =>
      -- a region of this epoch that the bytes do not fit into: the spec ignores the store too
      have hid : r.id = rid := by simpa using List.find?_some hf
      have hlm := mem_layout_of_region h (List.mem_of_find?_eq_some hf)
      rw [hid] at hlm
      rw [Log.fill, if_neg (by rw [h.store_ok _ hlm]; exact Nat.not_le.mpr (hno r hf))]
      exact h
    | none =>
      -- not a region of this epoch: whatever the spec stores under this id is invisible
      have hid : rid ∉ (layout 0 l.items).map (·.1) := by
        rw [← h.lay, List.map_map]
        intro hm
        obtain ⟨r, hr, e⟩ := List.mem_map.mp hm
        have hne : r.id ≠ rid := by simpa using List.find?_eq_none.mp hf r hr
        exact hne e
      unfold Log.fill
      split
      · exact sim_store_irrelevant h rid _ hid
      · exact h

/-! ## Flush -/

theorem accepted_snoc (calls : List (Bytes × Option RErr)) (fail : Nat → Option RErr) (d : Bytes)
    (r : Option RErr) :
    (WSink.accepted ⟨calls ++ [(d, r)], fail⟩) =
      WSink.accepted ⟨calls, fail⟩ ++ (if r.isNone then [d] else []) := by
  cases r <;> simp [WSink.accepted, List.filter_append]

theorem sunk_flushedOk (w : Wr) (heap1 : Nat → Bytes) (v : WView) (t : Option WView) :
    (w.flushedOk heap1 v t).sunk = w.sunk ++ w.logical := by
  simp [Wr.sunk, Wr.flushedOk, accepted_snoc]

theorem sunk_flushedErr (w : Wr) (heap1 : Nat → Bytes) (e : RErr) :
    (w.flushedErr heap1 e).sunk = w.sunk := by
  simp [Wr.sunk, Wr.flushedErr, accepted_snoc]

/-- WSim after a Flush that emptied the buffer (sink accepted, or nothing to write) -/
theorem sim_flushed {w w' : Wr} {l : Log RErr} (h : WSim w l) (calls' : Nat) (em' : SBytes)
    (hinv : WInv w') (herr : w'.err = w.err) (hbuf : w'.buf = none) (hreg : w'.regions = [])
    (hnr : w'.nextRegion = w.nextRegion) (hdc : w'.disableCache = w.disableCache)
    (hsunk : Match w'.sunk em') (hfail : w'.sink.fail = w.sink.fail)
    (hcalls : w.disableCache = false → calls' = w'.sink.calls.length) :
    WSim w' { l with calls := calls', items := [], emitted := em' } := by
  refine ⟨hinv, by rw [herr]; exact h.err, ?_, by rw [hreg]; rfl, by rw [hnr]; exact h.ids,
    fun t ht => (by cases ht), List.nodup_nil, fun t ht => (by cases ht), ?_, hsunk, ?_, ?_, ?_⟩
  · simp [Wr.logical, hbuf, concat, Match]
  · simp [lenSum, Wr.bufLen, hbuf]
  · intro hd; rw [hdc] at hd
    exact ⟨by rw [hfail]; exact (h.sink hd).1, hcalls hd⟩
  · intro hd; rw [hdc] at hd; exact h.sinkB hd
  · intro _ v hv; rw [hbuf] at hv; cases hv

theorem Log.flush_stuck (l : Log RErr) (e : RErr) (h : l.err = some e) : l.flush = (some e, l) := by
  simp only [Log.flush, h]

theorem Log.flush_zero (l : Log RErr) (h : l.err = none) (hz : l.writtenLen = 0) :
    l.flush = (none, { l with items := [] }) := by
  simp only [Log.flush, h, hz, if_true]

theorem Log.flush_refused (l : Log RErr) (h : l.err = none) (hz : ¬ l.writtenLen = 0) (e : RErr)
    (hf : l.fail (l.calls + 1) = some e) :
    l.flush = (some e, { l with calls := l.calls + 1, err := some e }) := by
  simp only [Log.flush, h, hz, if_false, hf]

theorem Log.flush_accepted (l : Log RErr) (h : l.err = none) (hz : ¬ l.writtenLen = 0)
    (hf : l.fail (l.calls + 1) = none) :
    l.flush = (none, { l with calls := l.calls + 1, items := [], emitted := l.emitted ++ l.unflushed }) := by
  simp only [Log.flush, h, hz, if_false, hf]

theorem sim_flush (a : WAlloc) (w : Wr) (l : Log RErr) (h : WSim w l) :
    (w.step a .flush).1 = (specStep l .flush).1 ∧ WSim (w.step a .flush).2 (specStep l .flush).2 := by
  have hwl : l.writtenLen = w.bufLen := h.wlen
  have hll : w.logical.length = l.writtenLen := h.writtenLen.2.2.trans h.writtenLen.1
  rcases flush_cases w h.inv with ⟨e, he, hfl⟩ | ⟨he, hb, hfl⟩ | ⟨v, heap1, t, he, hb, _, ht, hfl⟩ |
    ⟨v, heap1, e, he, hb, hdc, hf, hinv, hlog, hfl⟩
  · simp only [Wr.step, specStep, hfl, Log.flush_stuck l e (h.err.trans he), obsOfOut]
    exact ⟨trivial, h⟩
  · have hz : l.writtenLen = 0 := by rw [hwl, Wr.bufLen, hb]
    simp only [Wr.step, specStep, hfl, obsOfOut, Log.flush_zero l (h.err.trans he) hz]
    exact ⟨trivial, sim_flushed (w' := { w with regions := [] }) h l.calls l.emitted
      (flush_nil_inv w h.inv hb) rfl hb rfl rfl rfl h.sunk rfl (fun hd => (h.sink hd).2)⟩
  · have hvl : l.writtenLen = v.len := by rw [hwl, Wr.bufLen, hb]
    by_cases hz : l.writtenLen = 0
    · -- an empty buffer that is not nil: only a bytes writer has one; its fake sink gets zero bytes
      have hlog : w.logical = [] := List.eq_nil_of_length_eq_zero (hll.trans hz)
      simp only [Wr.step, specStep, hfl, obsOfOut, Log.flush_zero l (h.err.trans he) hz]
      refine ⟨trivial, sim_flushed (w' := w.flushedOk heap1 v t) h l.calls l.emitted
        (flushedOk_inv w h.inv heap1 v t) rfl rfl rfl rfl rfl
        (by rw [sunk_flushedOk, hlog, List.append_nil]; exact h.sunk) rfl ?_⟩
      intro hd
      have := h.nonempty hd v hb
      omega
    · have hlf : l.fail (l.calls + 1) = none := by
        rcases ht with ⟨hdc, _⟩ | ⟨hdc, _, hf⟩
        · exact h.sinkB hdc _
        · rw [(h.sink hdc).1, (h.sink hdc).2, hf]
      simp only [Wr.step, specStep, hfl, obsOfOut, Log.flush_accepted l (h.err.trans he) hz hlf]
      exact ⟨trivial, sim_flushed (w' := w.flushedOk heap1 v t) h (l.calls + 1) (l.emitted ++ l.unflushed)
        (flushedOk_inv w h.inv heap1 v t) rfl rfl rfl rfl rfl
        (by rw [sunk_flushedOk]; exact match_append h.sunk h.content) rfl
        (fun hd => by rw [(h.sink hd).2]; simp [Wr.flushedOk])⟩
  · have hvl : l.writtenLen = v.len := by rw [hwl, Wr.bufLen, hb]
    have hz : ¬ l.writtenLen = 0 := by
      have := h.nonempty hdc v hb
      omega
    have hlf : l.fail (l.calls + 1) = some e := by rw [(h.sink hdc).1, (h.sink hdc).2, hf]
    simp only [Wr.step, specStep, hfl, obsOfOut, Log.flush_refused l (h.err.trans he) hz e hlf]
    exact ⟨trivial, hinv, rfl, by rw [hlog]; exact h.content, h.lay, h.ids, h.ids_lt, h.ids_nodup,
      h.store_ok, h.wlen, by rw [sunk_flushedErr]; exact h.sunk,
      fun _ => ⟨(h.sink hdc).1, by rw [(h.sink hdc).2]; simp [Wr.flushedErr]⟩,
      fun hd => (by cases hdc.symm.trans hd), h.nonempty⟩

/-! ## every step, every history -/

theorem sim_step (a : WAlloc) (ha : a.Sound) (w : Wr) (l : Log RErr) (h : WSim w l) (op : WOp) :
    (w.step a op).1 = (specStep l op).1 ∧ WSim (w.step a op).2 (specStep l op).2 := by
  cases op with
  | malloc n => exact sim_malloc a ha w l h n
  | fill rid off bs => exact sim_fill a w l h rid off bs
  | wb bs => exact sim_wb a ha w l h bs
  | flush => exact sim_flush a w l h
  | len => exact sim_len a w l h

theorem sim_run (a : WAlloc) (ha : a.Sound) (w : Wr) (l : Log RErr) (h : WSim w l) (ops : List WOp) :
    (w.run a ops).1 = (specRun l ops).1 ∧ WSim (w.run a ops).2 (specRun l ops).2 := by
  induction ops generalizing w l with
  | nil => exact ⟨rfl, h⟩
  | cons op ops ih =>
    obtain ⟨h1, h2⟩ := sim_step a ha w l h op
    obtain ⟨h3, h4⟩ := ih _ _ h2
    simp only [Wr.run, specRun]
    exact ⟨by rw [h1, h3], h4⟩

theorem specStep_not_stuck (l : Log RErr) (op : WOp) (why : String) : (specStep l op).1 ≠ .stuck why := by
  cases op with
  | malloc n =>
    simp only [specStep]
    split
    · simp
    · split
      · simp
      · split <;> simp
  | fill rid off bs => simp [specStep]
  | wb bs => simp only [specStep]; split <;> simp
  | flush => simp only [specStep]; split <;> simp
  | len => simp [specStep]

theorem specRun_not_stuck (l : Log RErr) (ops : List WOp) :
    ∀ o ∈ (specRun l ops).1, ∀ why, o ≠ .stuck why := by
  induction ops generalizing l with
  | nil => intro o ho; cases ho
  | cons op ops ih =>
    intro o ho
    rcases List.mem_cons.mp ho with rfl | ho
    · exact specStep_not_stuck l op
    · exact ih _ o ho

/-! ## what a step never touches -/

/-- no operation changes the kind of the writer; only Flush touches the sink, the sticky error and
    the published target -/
theorem step_frame (a : WAlloc) (ha : a.Sound) (w : Wr) (hw : WInv w) (op : WOp) :
    (w.step a op).2.disableCache = w.disableCache ∧
    (op ≠ .flush → (w.step a op).2.target = w.target ∧ (w.step a op).2.err = w.err ∧
      (w.step a op).2.sink = w.sink) := by
  cases op with
  | len => exact ⟨rfl, fun _ => ⟨rfl, rfl, rfl⟩⟩
  | fill rid off bs =>
    simp only [Wr.step]
    rcases fill_spec w hw rid off bs with ⟨_, r, _, _, P⟩ | ⟨_, hsame, _⟩
    · exact ⟨P.dc, fun _ => ⟨P.target, P.err, P.sink⟩⟩
    · rw [hsame]; exact ⟨rfl, fun _ => ⟨rfl, rfl, rfl⟩⟩
  | malloc n =>
    simp only [Wr.step]
    rcases Option.eq_none_or_eq_some w.err with he | ⟨e, he⟩
    · by_cases hn : n < 0
      · rw [malloc_neg a w he n hn]; exact ⟨rfl, fun _ => ⟨rfl, rfl, rfl⟩⟩
      · obtain ⟨w2, cap, R, hm, P⟩ := malloc_spec a ha w hw he n (by omega)
        rw [hm]; exact ⟨P.dc, fun _ => ⟨P.target, P.err, P.sink⟩⟩
    · rw [malloc_stuck a w e he n]; exact ⟨rfl, fun _ => ⟨rfl, rfl, rfl⟩⟩
  | wb bs =>
    simp only [Wr.step]
    rcases Option.eq_none_or_eq_some w.err with he | ⟨e, he⟩
    · obtain ⟨w2, hm, P⟩ := writeBinary_spec a ha w hw he bs
      rw [hm]; exact ⟨P.dc, fun _ => ⟨P.target, P.err, P.sink⟩⟩
    · rw [writeBinary_stuck a w e he bs]; exact ⟨rfl, fun _ => ⟨rfl, rfl, rfl⟩⟩
  | flush =>
    refine ⟨?_, fun h => absurd rfl h⟩
    simp only [Wr.step]
    rcases flush_cases w hw with ⟨_, _, hfl⟩ | ⟨_, _, hfl⟩ | ⟨_, _, _, _, _, _, _, hfl⟩ |
      ⟨_, _, _, _, _, _, _, _, _, hfl⟩
    all_goals exact congrArg (·.2.disableCache) hfl

/-- a bytes writer never gets a sticky error: its sink is fakeIOWriter -/
theorem step_err_bytes (a : WAlloc) (ha : a.Sound) (w : Wr) (hw : WInv w) (hdc : w.disableCache = true)
    (he : w.err = none) (op : WOp) : (w.step a op).2.err = none := by
  by_cases hop : op = .flush
  · subst hop
    simp only [Wr.step]
    rcases flush_cases w hw with ⟨e, he', _⟩ | ⟨_, _, hfl⟩ | ⟨_, _, _, _, _, _, _, hfl⟩ |
      ⟨_, _, _, _, _, hdc', _⟩
    · rw [he] at he'; cases he'
    · rw [hfl]; exact he
    · rw [hfl]; exact he
    · rw [hdc] at hdc'; cases hdc'
  · rw [((step_frame a ha w hw op).2 hop).2.1]; exact he

theorem specStep_items (l : Log RErr) (op : WOp) (hop : op ≠ .flush) :
    ∃ t, (specStep l op).2.items = l.items ++ t := by
  have hsame : ∃ t, l.items = l.items ++ t := ⟨[], (List.append_nil _).symm⟩
  cases op with
  | flush => exact absurd rfl hop
  | len => exact hsame
  | fill rid off bs =>
    simp only [specStep, Log.fill]
    split
    · exact hsame
    · exact hsame
  | wb bs =>
    simp only [specStep, Log.write]
    split
    · exact hsame
    · exact ⟨_, rfl⟩
  | malloc n =>
    rcases Option.eq_none_or_eq_some l.err with he | ⟨e, he⟩
    · simp only [specStep, Log.malloc, he]
      split
      · exact hsame
      · exact ⟨_, rfl⟩
    · simp only [specStep, he]
      exact hsame

/-- flush-free histories only append to the log -/
theorem spec_noflush (l : Log RErr) (ops : List WOp) (hnf : ∀ op ∈ ops, op ≠ .flush) :
    ∃ tail, (specRun l ops).2.items = l.items ++ tail := by
  induction ops generalizing l with
  | nil => exact ⟨[], (List.append_nil _).symm⟩
  | cons op ops ih =>
    obtain ⟨t, ht⟩ := specStep_items l op (hnf op (List.mem_cons_self ..))
    obtain ⟨t2, ht2⟩ := ih (specStep l op).2 (fun o ho => hnf o (List.mem_cons_of_mem _ ho))
    exact ⟨t ++ t2, by rw [← List.append_assoc, ← ht]; exact ht2⟩

theorem run_noflush_frame (a : WAlloc) (ha : a.Sound) (w : Wr) (l : Log RErr) (h : WSim w l)
    (ops : List WOp) (hnf : ∀ op ∈ ops, op ≠ .flush) :
    (w.run a ops).2.sink = w.sink ∧ (w.run a ops).2.err = w.err ∧ (w.run a ops).2.target = w.target ∧
    (w.run a ops).2.disableCache = w.disableCache := by
  induction ops generalizing w l with
  | nil => exact ⟨rfl, rfl, rfl, rfl⟩
  | cons op ops ih =>
    obtain ⟨f1, f2⟩ := step_frame a ha w h.inv op
    obtain ⟨f2, f3, f4⟩ := f2 (hnf op (List.mem_cons_self ..))
    obtain ⟨i1, i2, i3, i4⟩ := ih _ _ (sim_step a ha w l h op).2 (fun o ho => hnf o (List.mem_cons_of_mem _ ho))
    exact ⟨i1.trans f4, i2.trans f3, i3.trans f2, i4.trans f1⟩

/-! ## bytes writers over whole histories (every flush epoch) -/

/-- a bytes writer stays a bytes writer without a sticky error, through every history -/
theorem bytes_run (a : WAlloc) (ha : a.Sound) (w : Wr) (l : Log RErr) (h : WSim w l)
    (hdc : w.disableCache = true) (he : w.err = none) (ops : List WOp) :
    (w.run a ops).2.disableCache = true ∧ (w.run a ops).2.err = none := by
  induction ops generalizing w l with
  | nil => exact ⟨hdc, he⟩
  | cons op ops ih =>
    have f1 := (step_frame a ha w h.inv op).1
    have f2 := step_err_bytes a ha w h.inv hdc he op
    have h2 := (sim_step a ha w l h op).2
    simp only [Wr.run]
    exact ih _ _ h2 (by rw [f1]; exact hdc) f2

theorem Compose.specRun_append (l : Log RErr) (xs ys : List WOp) :
    specRun l (xs ++ ys) =
      ((specRun l xs).1 ++ (specRun (specRun l xs).2 ys).1, (specRun (specRun l xs).2 ys).2) := by
  induction xs generalizing l with
  | nil => rfl
  | cons x xs ih => simp only [List.cons_append, specRun, ih]

/-- with a sink that never refuses, Flush always starts the log over -/
theorem Log.flush_items_nil (l : Log RErr) (he : l.err = none) (hf : ∀ k, l.fail k = none) :
    l.flush.2.items = [] := by
  by_cases hz : l.writtenLen = 0
  · rw [Log.flush_zero l he hz]
  · rw [Log.flush_accepted l he hz (hf _)]

end Verif
