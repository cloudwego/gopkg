/-
  Lemmas/Pools: the scheduler of Model/Pools — pool invariant, isolation by simulation: whatever the
  other instances do, instance `i` refines the allocator-free machine of its kind run on `i`'s own events.
-/
import Verif.Model.Pools
namespace Verif.Pools
open Verif

variable {K : Kind}

/-- the invariant of the shared state and of the live instances: everything in the object pool is
    `Fresh`, every live instance refines some state of the allocator-free machine -/
structure WF (G : Good K) (s : Sys K) : Prop where
  objs : ∀ o ∈ s.objs, G.Fresh o
  live : ∀ j x, s.live j = some x → ∃ a, G.Ref x a

theorem WF.empty (G : Good K) : WF G (Sys.empty : Sys K) :=
  ⟨fun _ h => (by cases h), fun _ _ h => (by cases h)⟩

theorem getObj_fresh (G : Good K) (objs : List K.Obj) (a : K.Arg) (pick : Option Nat)
    (h : ∀ o ∈ objs, G.Fresh o) :
    G.Fresh (getObj K objs a pick).1 ∧ ∀ o ∈ (getObj K objs a pick).2, G.Fresh o := by
  unfold getObj
  cases pick with
  | none => exact ⟨G.zero_fresh a, h⟩
  | some j =>
    simp only []
    cases hj : objs[j]? with
    | none => exact ⟨G.zero_fresh a, h⟩
    | some o =>
      simp only []
      split
      · exact ⟨h o (List.mem_of_getElem? hj), fun o' ho' => h o' (List.mem_of_mem_eraseIdx ho')⟩
      · exact ⟨G.zero_fresh a, h⟩

theorem WF.step (G : Good K) {s : Sys K} (h : WF G s) (e : Ev K) : WF G (s.step e) := by
  cases e with
  | create i a pick =>
    simp only [Sys.step]
    cases hl : s.live i with
    | some _ => exact h
    | none =>
      simp only []
      have hg := getObj_fresh G s.objs a pick h.objs
      refine ⟨hg.2, fun j x hx => ?_⟩
      simp only [] at hx
      split at hx
      · cases hx; exact ⟨_, G.init_ref _ a hg.1⟩
      · exact h.live j x hx
  | op i o picks fresh =>
    simp only [Sys.step]
    cases hl : s.live i with
    | none => exact h
    | some st =>
      simp only []
      obtain ⟨x, hx⟩ := h.live i st hl
      refine ⟨h.objs, fun j y hy => ?_⟩
      simp only [] at hy
      split at hy
      · cases hy; exact ⟨_, (G.step_ref _ st x o hx).1⟩
      · exact h.live j y hy
  | release i =>
    simp only [Sys.step]
    cases hl : s.live i with
    | none => exact h
    | some st =>
      simp only []
      obtain ⟨x, hx⟩ := h.live i st hl
      refine ⟨fun o ho => ?_, fun j y hy => ?_⟩
      · rcases List.mem_cons.mp ho with rfl | ho
        · exact G.release_fresh st x hx
        · exact h.objs o ho
      · simp only [] at hy
        split at hy
        · cases hy
        · exact h.live j y hy

theorem WF.run (G : Good K) {s : Sys K} (h : WF G s) (evs : List (Ev K)) : WF G (s.run evs) := by
  induction evs generalizing s with
  | nil => exact h
  | cons e evs ih => exact ih (h.step G e)

/-! ## an event of another instance does not touch instance `i` -/

theorem step_live_other (s : Sys K) (e : Ev K) (i : Nat) (hne : e.inst ≠ i) : (s.step e).live i = s.live i := by
  cases e with
  | create j a pick =>
    simp only [Ev.inst] at hne
    simp only [Sys.step]; split
    · rfl
    · simp only []; rw [if_neg (Ne.symm hne)]
  | op j o picks fresh =>
    simp only [Ev.inst] at hne
    simp only [Sys.step]; split
    · rfl
    · simp only []; rw [if_neg (Ne.symm hne)]
  | release j =>
    simp only [Ev.inst] at hne
    simp only [Sys.step]; split
    · rfl
    · simp only []; rw [if_neg (Ne.symm hne)]

theorem outputs_append (s : Sys K) (l : List (Nat × K.Out)) (i : Nat) :
    ({ s with log := s.log ++ l } : Sys K).outputs i =
      s.outputs i ++ l.filterMap (fun e => if e.1 = i then some e.2 else none) := by
  simp [Sys.outputs, List.filterMap_append]

theorem step_outputs_other (s : Sys K) (e : Ev K) (i : Nat) (hne : e.inst ≠ i) :
    (s.step e).outputs i = s.outputs i := by
  cases e with
  | create j a pick => simp only [Sys.step]; split <;> rfl
  | op j o picks fresh =>
    simp only [Ev.inst] at hne
    simp only [Sys.step]; split
    · rfl
    · simp [Sys.outputs, List.filterMap_append, hne]
  | release j => simp only [Sys.step]; split <;> rfl

/-! ## the simulation -/

/-- Instance `i` as its events alone determine it: its state in the allocator-free machine (`none`: not
    live) and the results it has seen.  The adversary's choices in the event are not looked at. -/
def absStep (G : Good K) (σ : Option G.Abs × List K.Out) : Ev K → Option G.Abs × List K.Out
  | .create _ a _ =>
    match σ.1 with
    | none => (some (G.ainit a), σ.2)
    | some _ => σ
  | .op _ o _ _ =>
    match σ.1 with
    | none => σ
    | some x => (some (G.astep x o).1, σ.2 ++ [(G.astep x o).2])
  | .release _ => (none, σ.2)

def absRun (G : Good K) (i : Nat) (σ : Option G.Abs × List K.Out) (evs : List (Ev K)) :
    Option G.Abs × List K.Out :=
  evs.foldl (fun σ e => if e.inst = i then absStep G σ e else σ) σ

structure Sim (G : Good K) (i : Nat) (s : Sys K) (σ : Option G.Abs × List K.Out) : Prop where
  wf : WF G s
  live : (s.live i = none ∧ σ.1 = none) ∨ (∃ x a, s.live i = some x ∧ σ.1 = some a ∧ G.Ref x a)
  out : s.outputs i = σ.2

theorem Sim.other (G : Good K) {i : Nat} {s : Sys K} {σ} (h : Sim G i s σ) (e : Ev K) (hne : e.inst ≠ i) :
    Sim G i (s.step e) σ :=
  ⟨h.wf.step G e, by rw [step_live_other s e i hne]; exact h.live,
   by rw [step_outputs_other s e i hne]; exact h.out⟩

theorem Sim.same (G : Good K) {i : Nat} {s : Sys K} {σ} (h : Sim G i s σ) (e : Ev K) (he : e.inst = i) :
    Sim G i (s.step e) (absStep G σ e) := by
  obtain ⟨ax, l⟩ := σ
  have hwf := h.wf.step G e
  -- (not live | live) × (create | op | release), `Sys.step` evaluated in each of the six
  rcases h.live with ⟨hs, hσ⟩ | ⟨x, a', hs, hσ, hx⟩ <;> cases hσ <;> cases e <;> cases he <;>
    simp only [Ev.inst] at hs <;> simp only [Sys.step, hs] at hwf ⊢
  · rename_i a pick
    exact ⟨hwf, .inr ⟨_, _, if_pos rfl, rfl, G.init_ref _ a (getObj_fresh G s.objs a pick h.wf.objs).1⟩, h.out⟩
  · exact h
  · exact h
  · exact h
  · rename_i j o picks fresh
    refine ⟨hwf, .inr ⟨_, _, if_pos rfl, rfl, (G.step_ref _ x a' o hx).1⟩, ?_⟩
    refine (outputs_append s [(j, _)] j).trans ?_
    simp only [List.filterMap_cons, List.filterMap_nil, if_true, (G.step_ref _ x a' o hx).2]
    exact congrArg (· ++ [(G.astep a' o).2]) h.out
  · exact ⟨hwf, .inl ⟨if_pos rfl, rfl⟩, h.out⟩

theorem Sim.run (G : Good K) (i : Nat) (evs : List (Ev K)) :
    ∀ {s : Sys K} {σ}, Sim G i s σ → Sim G i (s.run evs) (absRun G i σ evs) := by
  induction evs with
  | nil => exact id
  | cons e evs ih =>
    intro s σ h
    refine ih (?_ : Sim G i (s.step e) (if e.inst = i then absStep G σ e else σ))
    split
    · exact h.same G e ‹_›
    · exact h.other G e ‹_›

theorem Sim.start (G : Good K) (i : Nat) : Sim G i (Sys.empty : Sys K) (none, []) :=
  ⟨WF.empty G, .inl ⟨rfl, rfl⟩, rfl⟩

theorem solo_cons (i : Nat) (e : Ev K) (evs : List (Ev K)) :
    solo i (e :: evs) = if e.inst = i then e.solo :: solo i evs else solo i evs := by
  unfold solo
  by_cases h : e.inst = i <;> simp [h]

theorem absRun_solo (G : Good K) (i : Nat) (evs : List (Ev K)) :
    ∀ σ, absRun G i σ (solo i evs) = absRun G i σ evs := by
  induction evs with
  | nil => exact fun _ => rfl
  | cons e evs ih =>
    intro σ
    rw [solo_cons]
    by_cases he : e.inst = i
    · have h1 : e.solo.inst = i := by cases e <;> exact he
      have h2 : absStep G σ e.solo = absStep G σ e := by cases e <;> rfl
      rw [if_pos he]
      simp only [absRun, List.foldl_cons, if_pos he, if_pos h1, h2]
      exact ih _
    · rw [if_neg he]
      simp only [absRun, List.foldl_cons, if_neg he]
      exact ih _

theorem outputs_eq_abs (G : Good K) (evs : List (Ev K)) (i : Nat) :
    ((Sys.empty : Sys K).run evs).outputs i = (absRun G i (none, []) evs).2 :=
  ((Sim.start G i).run G i evs).out

/-- isolation for a good kind -/
theorem isolation_of_good (G : Good K) (evs : List (Ev K)) (i : Nat) :
    ((Sys.empty : Sys K).run evs).outputs i = alone i evs := by
  rw [outputs_eq_abs G evs i, alone, outputs_eq_abs G (solo i evs) i, absRun_solo]

theorem runGets_pure {M R : Type} (get : M → Bytes → M × R) (f : M → Bytes → R)
    (hget : ∀ m k, get m k = (m, f m k)) (m : M) (sched : List (Nat × Bytes)) :
    runGets get m sched = (m, sched.map fun gk => (gk.1, f m gk.2)) := by
  induction sched with
  | nil => rfl
  | cons gk rest ih => simp only [runGets, hget, ih, List.map_cons]

end Verif.Pools
