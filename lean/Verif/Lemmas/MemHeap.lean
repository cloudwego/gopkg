/-
  Lemmas/MemHeap: effect of the heap primitives (allocation, `write`, `copy`, `free`, `freeAll`) on
  the observable accessors (`obj?`, `byte?`, `bytes`, `faults`, `events`), and the relations between
  heaps in which the reader / writer / decoder invariants are stated: `Extends` (objects are only
  added), `SameShape` / `Keeps` (owner, write limit and capacity of every object stay), `Touches` (one
  range of one object changes), `GcKept` (Go-heap objects stay as they are); an environment step
  `Env` keeps shapes and every byte that is not freed.
-/
import Verif.Base.Mem
namespace Verif
namespace Heap

theorem pairwise_map_snoc {α β : Type} {R : β → β → Prop} {f : α → β} {l : List α} {a : α}
    (hl : (l.map f).Pairwise R) (ha : ∀ s ∈ l, R (f s) (f a)) : ((l ++ [a]).map f).Pairwise R := by
  rw [List.map_append, List.pairwise_append]
  refine ⟨hl, List.pairwise_singleton _ _, fun x hx y hy => ?_⟩
  obtain ⟨s, hs, rfl⟩ := List.mem_map.mp hx
  rw [List.mem_singleton.mp hy]
  exact ha s hs

/-! ## accessors -/

theorem byte?_of_obj? (h : Heap) (o p : Nat) (x : Obj) (hx : h.obj? o = some x) :
    h.byte? o p = x.data[p]? := by simp [byte?, hx]

theorem byte?_none_of_obj? (h : Heap) (o p : Nat) (hx : h.obj? o = none) : h.byte? o p = none := by
  simp [byte?, hx]

theorem bytes_getElem? (h : Heap) (o p n i : Nat) :
    (h.bytes o p n)[i]? = if i < n then h.byte? o (p + i) else none := by
  unfold bytes byte?
  cases h.obj? o with
  | none => exact (List.getElem?_nil).trans (ite_self _).symm
  | some x => rw [List.getElem?_take, List.getElem?_drop]; rfl

/-- equal bytes at every position of a range give equal `bytes` -/
theorem bytes_congr (h h' : Heap) (o p n : Nat)
    (hb : ∀ q, p ≤ q → q < p + n → h'.byte? o q = h.byte? o q) : h'.bytes o p n = h.bytes o p n := by
  apply List.ext_getElem?; intro i
  rw [bytes_getElem?, bytes_getElem?]
  split
  · exact hb _ (by omega) (by omega)
  · rfl

theorem bytes_append (h : Heap) (o p n m : Nat) : h.bytes o p (n + m) = h.bytes o p n ++ h.bytes o (p + n) m := by
  unfold bytes
  cases h.obj? o with
  | none => rfl
  | some x => dsimp only; rw [List.take_add, List.drop_drop]

theorem bytes_length_le (h : Heap) (o p n : Nat) : (h.bytes o p n).length ≤ n := by
  unfold bytes
  cases h.obj? o with
  | none => exact Nat.zero_le _
  | some x => dsimp only; rw [List.length_take]; exact Nat.min_le_left _ _

theorem bytes_length (h : Heap) (o p n : Nat) (x : Obj) (hx : h.obj? o = some x)
    (hb : p + n ≤ x.data.length) : (h.bytes o p n).length = n := by
  unfold bytes; rw [hx]; dsimp only; rw [List.length_take, List.length_drop]; omega

/-! ## objects are only ever added: "h' extends h" -/

/-- every object of `h` is still there, unchanged -/
def Extends (h h' : Heap) : Prop := ∀ o x, h.obj? o = some x → h'.obj? o = some x

theorem Extends.refl (h : Heap) : Extends h h := fun _ _ hx => hx
theorem Extends.trans {a b c : Heap} (h1 : Extends a b) (h2 : Extends b c) : Extends a c :=
  fun o x hx => h2 o x (h1 o x hx)

theorem Extends.byte? {h h' : Heap} (he : Extends h h') (o p : Nat) (x : Obj) (hx : h.obj? o = some x) :
    h'.byte? o p = h.byte? o p := by
  rw [byte?_of_obj? h' o p x (he o x hx), byte?_of_obj? h o p x hx]

theorem Extends.byte?_lt {h h' : Heap} (he : Extends h h') {o : Nat} (ho : o < h.size) (p : Nat) :
    h'.byte? o p = h.byte? o p :=
  he.byte? o p h.objs[o] (List.getElem?_eq_getElem ho)

theorem extends_fault (h : Heap) (f : Fault) : Extends h (h.fault f) := fun _ _ hx => hx
theorem extends_assert (h : Heap) (c : Bool) : Extends h (h.assert c) := fun o x hx => by
  rw [assert_obj?]; exact hx
theorem extends_chk (h : Heap) (o p n : Nat) (w : Bool) : Extends h (h.chk o p n w) := fun o' x hx => by
  rw [chk_obj?]; exact hx
theorem extends_push (h : Heap) (y : Obj) : Extends h (h.push y) := fun o x hx => by
  rw [push_obj?_lt h y o (obj?_lt h o x hx)]; exact hx

/-! ## malloc / gcAlloc / callerAlloc -/

@[simp] theorem malloc_faults (h : Heap) (a b : Nat) : (h.malloc a b).2.faults = h.faults := rfl
@[simp] theorem malloc_size (h : Heap) (a b : Nat) : (h.malloc a b).2.size = h.size + 1 := by
  simp [malloc, size, push]
@[simp] theorem malloc_obj (h : Heap) (a b : Nat) : (h.malloc a b).1.obj = h.size := rfl
@[simp] theorem malloc_off (h : Heap) (a b : Nat) : (h.malloc a b).1.off = 0 := rfl
@[simp] theorem malloc_len (h : Heap) (a b : Nat) : (h.malloc a b).1.len = a := rfl
theorem malloc_cap (h : Heap) (a b : Nat) : (h.malloc a b).1.cap = mcap (if b > a then b else a) := rfl
theorem malloc_cap_ge (h : Heap) (a b : Nat) : a ≤ (h.malloc a b).1.cap ∧ b ≤ (h.malloc a b).1.cap := by
  rw [malloc_cap]
  have := le_mcap (if b > a then b else a)
  by_cases hba : b > a
  · rw [if_pos hba] at this ⊢; constructor <;> omega
  · rw [if_neg hba] at this ⊢; constructor <;> omega
theorem extends_malloc (h : Heap) (a b : Nat) : Extends h (h.malloc a b).2 := fun o x hx => by
  have : (h.malloc a b).2.obj? o = (h.push ⟨h.fresh (mcap (if b > a then b else a)), .live, 0⟩).obj? o := rfl
  rw [this]; exact extends_push h _ o x hx
theorem malloc_new (h : Heap) (a b : Nat) :
    ∃ x, (h.malloc a b).2.obj? h.size = some x ∧ x.owner = .live ∧ x.data.length = (h.malloc a b).1.cap := by
  refine ⟨⟨h.fresh (mcap (if b > a then b else a)), .live, 0⟩, ?_, rfl, ?_⟩
  · exact push_obj?_new h _
  · simp [malloc_cap]
theorem malloc_events (h : Heap) (a b : Nat) :
    (h.malloc a b).2.events = .malloc h.size (h.malloc a b).1.cap :: h.events := rfl

@[simp] theorem gcAlloc_faults (h : Heap) (a b : Nat) : (h.gcAlloc a b).2.faults = h.faults := rfl
@[simp] theorem gcAlloc_events (h : Heap) (a b : Nat) : (h.gcAlloc a b).2.events = h.events := rfl
@[simp] theorem gcAlloc_size (h : Heap) (a b : Nat) : (h.gcAlloc a b).2.size = h.size + 1 := by
  simp [gcAlloc, size, push]
@[simp] theorem gcAlloc_obj (h : Heap) (a b : Nat) : (h.gcAlloc a b).1.obj = h.size := rfl
@[simp] theorem gcAlloc_off (h : Heap) (a b : Nat) : (h.gcAlloc a b).1.off = 0 := rfl
@[simp] theorem gcAlloc_len (h : Heap) (a b : Nat) : (h.gcAlloc a b).1.len = a := rfl
@[simp] theorem gcAlloc_cap (h : Heap) (a b : Nat) : (h.gcAlloc a b).1.cap = b := rfl
theorem extends_gcAlloc (h : Heap) (a b : Nat) : Extends h (h.gcAlloc a b).2 := fun o x hx =>
  extends_push h _ o x hx
theorem gcAlloc_new (h : Heap) (a b : Nat) :
    ∃ x, (h.gcAlloc a b).2.obj? h.size = some x ∧ x.owner = .gc ∧ x.data.length = b := by
  refine ⟨⟨h.fresh b, .gc, 0⟩, push_obj?_new h _, rfl, by simp⟩

theorem extends_callerAlloc (h : Heap) (d : Bytes) (l w : Nat) : Extends h (h.callerAlloc d l w).2 :=
  fun o x hx => extends_push h _ o x hx

/-! ## write: only the target range of the target object changes; shape is kept -/

/-- owner, write limit and capacity of an object -/
def shape (x : Obj) : Owner × Nat × Nat := (x.owner, x.wfrom, x.data.length)

/-- same objects with the same owner / wfrom / capacity (contents may differ) -/
def SameShape (h h' : Heap) : Prop := ∀ o, (h'.obj? o).map shape = (h.obj? o).map shape

theorem SameShape.refl (h : Heap) : SameShape h h := fun _ => rfl
theorem SameShape.trans {a b c : Heap} (h1 : SameShape a b) (h2 : SameShape b c) : SameShape a c :=
  fun o => (h2 o).trans (h1 o)

theorem SameShape.obj? {h h' : Heap} (hs : SameShape h h') (o : Nat) (x : Obj) (hx : h.obj? o = some x) :
    ∃ x', h'.obj? o = some x' ∧ x'.owner = x.owner ∧ x'.wfrom = x.wfrom ∧ x'.data.length = x.data.length := by
  have := hs o
  rw [hx] at this
  cases hx' : h'.obj? o with
  | none => rw [hx'] at this; simp at this
  | some x' =>
    rw [hx'] at this; simp [shape] at this
    exact ⟨x', rfl, this.1, this.2.1, this.2.2⟩

/-- every object of `h` still exists in `h'` with the same owner, write limit and capacity -/
def Keeps (h h' : Heap) : Prop := ∀ o x, h.obj? o = some x →
  ∃ x', h'.obj? o = some x' ∧ x'.owner = x.owner ∧ x'.wfrom = x.wfrom ∧ x'.data.length = x.data.length

theorem Keeps.refl (h : Heap) : Keeps h h := fun _ x hx => ⟨x, hx, rfl, rfl, rfl⟩
theorem Keeps.trans {a b c : Heap} (h1 : Keeps a b) (h2 : Keeps b c) : Keeps a c := fun o x hx => by
  obtain ⟨y, hy, a1, a2, a3⟩ := h1 o x hx
  obtain ⟨z, hz, b1, b2, b3⟩ := h2 o y hy
  exact ⟨z, hz, b1.trans a1, b2.trans a2, b3.trans a3⟩
theorem Keeps.of_extends {h h' : Heap} (he : Extends h h') : Keeps h h' :=
  fun o x hx => ⟨x, he o x hx, rfl, rfl, rfl⟩
theorem Keeps.of_sameShape {h h' : Heap} (hs : SameShape h h') : Keeps h h' :=
  fun o x hx => hs.obj? o x hx
theorem Keeps.size {h h' : Heap} (hk : Keeps h h') : h.size ≤ h'.size := by
  rcases Nat.lt_or_ge h'.size h.size with hlt | hge
  · exfalso
    have : h'.size < h.objs.length := hlt
    obtain ⟨x', hx', _⟩ := hk h'.size (h.objs[h'.size]) (by unfold Heap.obj?; exact List.getElem?_eq_getElem this)
    have := obj?_lt h' _ x' hx'; omega
  · exact hge

theorem SameShape.size {h h' : Heap} (hs : SameShape h h') : h'.size = h.size :=
  Nat.le_antisymm (Keeps.of_sameShape (h := h') (h' := h) fun o => (hs o).symm).size (Keeps.of_sameShape hs).size

theorem sameShape_of_extends_size {h h' : Heap} (he : Extends h h') (hs : h'.size = h.size) : SameShape h h' := by
  intro o
  cases hx : h.obj? o with
  | some x => rw [he o x hx]
  | none =>
    have : h.size ≤ o := by
      unfold Heap.obj? at hx; exact List.getElem?_eq_none_iff.mp hx
    rw [obj?_none h' o (by omega)]

theorem sameShape_fault (h : Heap) (f : Fault) : SameShape h (h.fault f) := fun _ => rfl
theorem sameShape_assert (h : Heap) (c : Bool) : SameShape h (h.assert c) := fun o => by rw [assert_obj?]
theorem sameShape_chk (h : Heap) (o p n : Nat) (w : Bool) : SameShape h (h.chk o p n w) := fun o' => by
  rw [chk_obj?]

/-- `h'` is `h` except for the bytes `[p, p+n)` of object `o` -/
structure Touches (h h' : Heap) (o p n : Nat) : Prop where
  shape : SameShape h h'
  other : ∀ o', o' ≠ o → h'.obj? o' = h.obj? o'
  out : ∀ o' q, o' ≠ o ∨ q < p ∨ p + n ≤ q → h'.byte? o' q = h.byte? o' q

theorem Touches.keeps {h h' : Heap} {o p n : Nat} (t : Touches h h' o p n) : Keeps h h' :=
  Keeps.of_sameShape t.shape

theorem setData_touches (h : Heap) (o p : Nat) (d : Bytes) (x : Obj) (hx : h.obj? o = some x)
    (hb : p + d.length ≤ x.data.length) : Touches h (h.setData o p d) o p d.length where
  shape := fun o' => by
    rw [setData_obj?]
    by_cases heq : o = o'
    · subst heq
      rw [hx, Option.map_some, if_pos rfl, Option.map_some, Option.map_some, Heap.shape, Heap.shape,
        splice_length _ _ _ hb]
    · cases h.obj? o' with
      | none => rfl
      | some y => rw [Option.map_some, if_neg heq]
  other := fun o' hne => setData_obj?_ne h o p d o' hne
  out := fun o' q hq => by
    unfold byte?
    by_cases heq : o' = o
    · subst heq
      rw [setData_obj?, hx, Option.map_some, if_pos rfl, Option.bind_some, Option.bind_some]
      exact splice_getElem?_out _ _ _ _ hb (hq.resolve_left fun hne => hne rfl)
    · rw [setData_obj?_ne h o p d o' heq]

/-- the written range holds the written bytes -/
theorem byte?_setData_in (h : Heap) (o p : Nat) (d : Bytes) (q : Nat) (x : Obj)
    (hx : h.obj? o = some x) (hb : p + d.length ≤ x.data.length) (hq : p ≤ q ∧ q < p + d.length) :
    (h.setData o p d).byte? o q = d[q - p]? := by
  unfold byte?
  rw [setData_obj?, hx, Option.map_some, if_pos rfl, Option.bind_some]
  exact splice_getElem?_in _ _ _ _ hb hq

theorem bytes_setData_same (h : Heap) (o p : Nat) (d : Bytes) (x : Obj)
    (hx : h.obj? o = some x) (hb : p + d.length ≤ x.data.length) :
    (h.setData o p d).bytes o p d.length = d := by
  apply List.ext_getElem?; intro i
  rw [bytes_getElem?]
  split
  · rw [byte?_setData_in h o p d (p + i) x hx hb (by omega), Nat.add_sub_cancel_left]
  · rw [List.getElem?_eq_none (by omega)]

theorem read_ok (h : Heap) (o p n : Nat)
    (hr : 0 < n → ∃ x, h.obj? o = some x ∧ p + n ≤ x.data.length ∧ x.owner ≠ .freed) : (h.read o p n).2 = h := by
  show h.chk o p n false = h
  rcases Nat.eq_zero_or_pos n with h0 | hpos
  · rw [h0, chk_zero]
  · obtain ⟨x, hx, hb, hf⟩ := hr hpos
    exact chk_read_ok h o p n x hx hb hf

theorem write_eq (h : Heap) (o p : Nat) (d : Bytes) (x : Obj) (hx : h.obj? o = some x)
    (hb : p + d.length ≤ x.data.length) (hf : x.owner ≠ .freed)
    (hc : x.owner = .caller → x.wfrom ≤ p) : h.write o p d = h.setData o p d := by
  unfold write; rw [chk_write_ok h o p d.length x hx hb hf hc]

theorem copy_eq (h : Heap) (dst dp src sp n : Nat) (xs xd : Obj)
    (hs : h.obj? src = some xs) (hd : h.obj? dst = some xd)
    (hbs : sp + n ≤ xs.data.length) (hbd : dp + n ≤ xd.data.length)
    (hfs : xs.owner ≠ .freed) (hfd : xd.owner ≠ .freed) (hc : xd.owner = .caller → xd.wfrom ≤ dp) :
    (h.bytes src sp n).length = n ∧ h.copy dst dp src sp n = h.setData dst dp (h.bytes src sp n) := by
  have hl := bytes_length h src sp n xs hs hbs
  refine ⟨hl, ?_⟩
  unfold copy
  rw [chk_read_ok h src sp n xs hs hbs hfs, write_eq h dst dp _ xd hd (hl.symm ▸ hbd) hfd hc]

theorem bytes_zero (h : Heap) (o p : Nat) : h.bytes o p 0 = [] :=
  List.eq_nil_of_length_eq_zero (Nat.le_zero.mp (bytes_length_le h o p 0))

theorem copy_zero (h : Heap) (dst dp src sp : Nat) : h.copy dst dp src sp 0 = h := by
  unfold copy; rw [bytes_zero, write_nil, chk_zero]

@[simp] theorem copy_events (h : Heap) (dst dp src sp n : Nat) : (h.copy dst dp src sp n).events = h.events := by
  unfold copy; rw [write_events, chk_events]

theorem copy_obj?_ne (h : Heap) (dst dp src sp n o : Nat) (hne : o ≠ dst) :
    (h.copy dst dp src sp n).obj? o = h.obj? o := by
  unfold copy; rw [write_obj?_ne _ _ _ _ _ hne, chk_obj?]

theorem copy_new_ok {h h1 : Heap} (he : Extends h h1) (dp src sp n : Nat) {xn : Obj}
    (hn : h1.obj? h.size = some xn) (hno : xn.owner = .live) (hbd : dp + n ≤ xn.data.length)
    (hsrc : 0 < n → ∃ xs, h.obj? src = some xs ∧ sp + n ≤ xs.data.length ∧ xs.owner ≠ .freed) :
    (h1.copy h.size dp src sp n).faults = h1.faults ∧ Extends h (h1.copy h.size dp src sp n) ∧
    (∃ x, (h1.copy h.size dp src sp n).obj? h.size = some x ∧ x.owner = xn.owner ∧
      x.data.length = xn.data.length) ∧
    (h1.copy h.size dp src sp n).bytes h.size dp n = h.bytes src sp n := by
  rcases Nat.eq_zero_or_pos n with rfl | hpos
  · rw [copy_zero, bytes_zero, bytes_zero]
    exact ⟨rfl, he, ⟨xn, hn, rfl, rfl⟩, rfl⟩
  obtain ⟨xs, hs, hbs, hfs⟩ := hsrc hpos
  obtain ⟨hl, e⟩ := copy_eq h1 h.size dp src sp n xs xn (he _ xs hs) hn hbs hbd hfs
    (by rw [hno]; decide) (by rw [hno]; intro hc; cases hc)
  have hd : h1.bytes src sp n = h.bytes src sp n := bytes_congr _ _ _ _ _ fun q _ _ => he.byte? _ q xs hs
  rw [e]
  generalize h1.bytes src sp n = d at hl hd
  have t := setData_touches h1 h.size dp d xn hn (hl.symm ▸ hbd)
  obtain ⟨x, hx, ho, _, hlx⟩ := t.shape.obj? _ xn hn
  exact ⟨rfl, fun o y hy => (t.other o (Nat.ne_of_lt (obj?_lt h o y hy))).trans (he o y hy), ⟨x, hx, ho, hlx⟩,
    hd ▸ hl ▸ bytes_setData_same h1 h.size dp d xn hn (hl.symm ▸ hbd)⟩

/-! ## free -/

theorem free_cap0 (h : Heap) (s : Slice) (hc : s.cap = 0) : h.free s = h := by
  unfold free; rw [if_pos hc]

/-- freeing the full slice of a live object: no fault, the object (only) becomes freed -/
theorem free_live (h : Heap) (s : Slice) (x : Obj) (hx : h.obj? s.obj = some x) (hl : x.owner = .live)
    (hoff : s.off = 0) (hcap : s.cap = x.data.length) (hpos : s.cap > 0) :
    (h.free s).faults = h.faults ∧
    (h.free s).events = .free s.obj s.cap :: h.events ∧
    (h.free s).size = h.size ∧
    (∀ o, o ≠ s.obj → (h.free s).obj? o = h.obj? o) ∧
    (h.free s).obj? s.obj = some { x with owner := .freed } := by
  have hne : ¬ s.cap = 0 := by omega
  have hobj : ({ h with events := Ev.free s.obj s.cap :: h.events } : Heap).obj? s.obj = some x := hx
  unfold free
  rw [if_neg hne]
  simp only []
  rw [hobj]
  simp only [hl]
  rw [if_pos ⟨hoff, hcap⟩]
  refine ⟨rfl, rfl, by simp [setOwner, size], ?_, ?_⟩
  · intro o hne'
    rw [setOwner_obj?]
    show Option.map _ (h.obj? o) = _
    cases h.obj? o <;> simp [Ne.symm hne']
  · rw [setOwner_obj?]
    show Option.map _ (h.obj? s.obj) = _
    rw [hx]; simp

/-- every `free` call with a non-empty capacity is a fault unless its argument is the full slice of a
    live object (this is what makes "no fault" mean: only own, only once, never the caller's) -/
theorem free_fault_unless_live (h : Heap) (s : Slice) (hpos : s.cap > 0)
    (hnf : (h.free s).faults = h.faults) :
    ∃ x, h.obj? s.obj = some x ∧ x.owner = .live ∧ s.off = 0 ∧ s.cap = x.data.length := by
  have hne : ¬ s.cap = 0 := by omega
  unfold free at hnf
  rw [if_neg hne] at hnf
  simp only [] at hnf
  have hobj : ∀ o, ({ h with events := Ev.free s.obj s.cap :: h.events } : Heap).obj? o = h.obj? o := fun _ => rfl
  rw [hobj] at hnf
  cases hx : h.obj? s.obj with
  | none => rw [hx] at hnf; simp [fault] at hnf
  | some x =>
    rw [hx] at hnf; simp only [] at hnf
    cases ho : x.owner with
    | caller => rw [ho] at hnf; simp [fault] at hnf
    | freed => rw [ho] at hnf; simp [fault] at hnf
    | gc => rw [ho] at hnf; simp [fault] at hnf
    | live =>
      rw [ho] at hnf; simp only [] at hnf
      by_cases hc : s.off = 0 ∧ s.cap = x.data.length
      · exact ⟨x, rfl, ho, hc.1, hc.2⟩
      · rw [if_neg hc] at hnf; simp [fault, setOwner] at hnf

/-- Go-heap objects are left exactly as they were -/
def GcKept (h h' : Heap) : Prop := ∀ o x, h.obj? o = some x → x.owner = .gc → h'.obj? o = some x

theorem GcKept.refl (h : Heap) : GcKept h h := fun _ _ hx _ => hx
theorem GcKept.trans {a b c : Heap} (h1 : GcKept a b) (h2 : GcKept b c) : GcKept a c :=
  fun o x hx hg => h2 o x (h1 o x hx hg) hg
theorem GcKept.of_extends {h h' : Heap} (he : Extends h h') : GcKept h h' := fun o x hx _ => he o x hx

/-! ## freeAll -/

theorem freeAll_ok (l : List Slice) : ∀ (h : Heap),
    (∀ s ∈ l, ∃ x, h.obj? s.obj = some x ∧ x.owner = .live ∧ s.off = 0 ∧ s.cap = x.data.length ∧ 0 < s.cap) →
    (l.map (·.obj)).Nodup →
    (h.freeAll l).faults = h.faults ∧ (h.freeAll l).size = h.size ∧
    (∀ o, (∀ s ∈ l, s.obj ≠ o) → (h.freeAll l).obj? o = h.obj? o) ∧
    (∀ s ∈ l, ∃ x, h.obj? s.obj = some x ∧ (h.freeAll l).obj? s.obj = some { x with owner := .freed }) := by
  induction l with
  | nil => intro h _ _; exact ⟨rfl, rfl, fun _ _ => rfl, fun s hs => by simp at hs⟩
  | cons a l ih =>
    intro h hl hnd
    obtain ⟨x, hx, hlive, hoff, hcap, hpos⟩ := hl a (by simp)
    obtain ⟨f1, f2, f3, f4, f5⟩ := free_live h a x hx hlive hoff hcap hpos
    simp only [List.map_cons, List.nodup_cons] at hnd
    have hl' : ∀ s ∈ l, ∃ x, (h.free a).obj? s.obj = some x ∧ x.owner = .live ∧ s.off = 0 ∧
        s.cap = x.data.length ∧ 0 < s.cap := by
      intro s hs
      obtain ⟨y, hy, rest⟩ := hl s (by simp [hs])
      have hne : s.obj ≠ a.obj := by
        intro heq; apply hnd.1; rw [← heq]; exact List.mem_map_of_mem hs
      exact ⟨y, by rw [f4 _ hne]; exact hy, rest⟩
    obtain ⟨g1, g2, g3, g4⟩ := ih (h.free a) hl' hnd.2
    have hfa : h.freeAll (a :: l) = (h.free a).freeAll l := rfl
    rw [hfa]
    refine ⟨g1.trans f1, g2.trans f3, ?_, ?_⟩
    · intro o ho
      rw [g3 o (fun s hs => ho s (by simp [hs])), f4 o (Ne.symm (ho a (by simp)))]
    · intro s hs
      simp only [List.mem_cons] at hs
      rcases hs with rfl | hs
      · refine ⟨x, hx, ?_⟩
        rw [g3 _ (fun t ht heq => hnd.1 (by rw [← heq]; exact List.mem_map_of_mem ht)), f5]
      · obtain ⟨y, hy, hy'⟩ := g4 s hs
        have hne : s.obj ≠ a.obj := by
          intro heq; apply hnd.1; rw [← heq]; exact List.mem_map_of_mem hs
        exact ⟨y, by rw [← f4 _ hne]; exact hy, hy'⟩

/-! ## the environment -/

theorem Env.refl (h : Heap) : Env h h :=
  ⟨rfl, rfl, Nat.le_refl _, fun _ x hx => ⟨x, hx, rfl, rfl, rfl, fun _ => rfl⟩⟩

/-- the co-tenant overwriting a recycled object is an environment step -/
theorem Env.overwrite (h : Heap) (o : Nat) (x : Obj) (d : Bytes) (hx : h.obj? o = some x)
    (hf : x.owner = .freed) (hd : d.length = x.data.length) : Env h (h.setData o 0 d) := by
  have hss := (setData_touches h o 0 d x hx (by omega)).shape
  refine ⟨rfl, rfl, by rw [hss.size]; exact Nat.le_refl _, fun o' y hy => ?_⟩
  obtain ⟨y', hy', a, b, c⟩ := hss.obj? o' y hy
  refine ⟨y', hy', a, b, c, fun hnf => ?_⟩
  have hne : o' ≠ o := by
    intro heq; subst heq; rw [hx] at hy; cases hy; exact hnf hf
  rw [setData_obj?_ne h o 0 d o' hne, hy] at hy'
  cases hy'; rfl

end Heap

theorem Env.keeps {h h' : Heap} (he : Env h h') : Heap.Keeps h h' := fun o x hx => by
  obtain ⟨x', hx', a1, a2, a3, _⟩ := he.keep o x hx
  exact ⟨x', hx', a1, a2, a3⟩

theorem Env.byte? {h h' : Heap} (he : Env h h') (o p : Nat) (x : Obj) (hx : h.obj? o = some x)
    (hf : x.owner ≠ .freed) : h'.byte? o p = h.byte? o p := by
  obtain ⟨x', hx', _, _, _, hd⟩ := he.keep o x hx
  rw [Heap.byte?_of_obj? h' o p x' hx', Heap.byte?_of_obj? h o p x hx, hd hf]

end Verif
