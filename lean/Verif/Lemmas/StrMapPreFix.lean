/-
  Lemmas/StrMapPreFix: defect F13 of container/strmap (DESIGN §5) as a theorem about the version of
  `LoadFromSlice` that has it, so that the repair's effect is machine-checked and a reverse patch is a
  proved violation.

  F13 (repaired by 3480123): `LoadFromSlice` before that commit checks `len(k) > math.MaxUint32` inside the
  append loop, AFTER data/items/hashtable have been truncated, so the error return "key too large" leaves
  the map with the pairs before the offending key in `items`, an empty table, and the previous content
  lost. Below: that version of the function and the proof that a failed load changes the map (for every
  hash, sorter, previous state and position of the offending key). The other repaired defect of the
  package, F8 (`Get` without the `len(hashtable) == 0` guard), is `C07.never_loaded_needs_guard`.
-/
import Verif.Lemmas.StrMapLoad
namespace Verif.SMap.PreFix
open Verif Verif.SMap

variable {V : Type}

/-- the append loop before 3480123: returns (error?, bytes appended, items appended) -/
def appendLoopOld (h : Bytes → Nat) : List (Bytes × V) → Nat → Option LErr × Bytes × List (Item V)
  | [], _ => (none, [], [])
  | kv :: r, off =>
    if kv.1.length > maxU32 then (some .keyTooLarge, [], [])
    else
      let t := appendLoopOld h r (off + kv.1.length)
      (t.1, kv.1 ++ t.2.1, ⟨off, kv.1.length % two32, h kv.1 % two32, kv.2⟩ :: t.2.2)

/-- `LoadFromSlice` before 3480123 -/
def loadFromSliceOld (h : Bytes → Nat) (sorter : List (Item V) → List (Item V))
    (m : StrMap V) (kk : List Bytes) (vv : List V) : Out LErr Unit × StrMap V :=
  if kk.length ≠ vv.length then (.err .kvLen, m)
  else
    let t := appendLoopOld h (kk.zip vv) 0
    let m1 : StrMap V := ⟨t.2.1, t.2.2, #[], m.ht ++ m.spare⟩
    match t.1 with
    | some e => (.err e, m1)
    | none => makeHashtable sorter m1

/-- F13: with the check inside the loop, a load failing with "key too large" returns the error and leaves
    `Len()` = number of pairs before the offending key, every `Get` absent: the previous content
    (whatever it was) is gone. Witness replayed on the real code before the repair:
    {a:1,b:2}; LoadFromSlice(["c", 4GiB+1 bytes], [3,4]) → err, Len 1, Get a/c absent. -/
theorem key_too_large_changed (h : Bytes → Nat) (sorter : List (Item V) → List (Item V))
    (st : StrMap V) (pre : List (Bytes × V)) (big : Bytes × V) (post : List (Bytes × V)) (s : Bytes)
    (hpre : ∀ kv ∈ pre, kv.1.length ≤ maxU32) (hbig : big.1.length > maxU32) :
    let r := loadFromSliceOld h sorter st ((pre ++ big :: post).map (·.1)) ((pre ++ big :: post).map (·.2))
    r.1 = .err .keyTooLarge ∧ len r.2 = pre.length ∧ get h r.2 s = .ok none := by
  have key : ∀ (l : List (Bytes × V)) (off : Nat), (∀ kv ∈ l, kv.1.length ≤ maxU32) →
      (appendLoopOld h (l ++ big :: post) off).1 = some .keyTooLarge ∧
      (appendLoopOld h (l ++ big :: post) off).2.2.length = l.length := by
    intro l
    induction l with
    | nil => intro off _; simp [appendLoopOld, hbig]
    | cons kv l ih =>
      intro off hl
      have h1 : ¬ (kv.1.length > maxU32) := by have := hl kv List.mem_cons_self; omega
      have := ih (off + kv.1.length) (fun x hx => hl x (List.mem_cons_of_mem _ hx))
      simp only [List.cons_append, appendLoopOld, h1, if_false, List.length_cons, this.1, this.2]
      exact ⟨trivial, trivial⟩
  obtain ⟨k1, k2⟩ := key pre 0 hpre
  intro r
  have hl : ¬ (((pre ++ big :: post).map (·.1)).length ≠ ((pre ++ big :: post).map (·.2)).length) := by simp
  simp only [r, loadFromSliceOld, hl, if_false, zip_fst_snd, k1]
  refine ⟨trivial, k2, ?_⟩
  simp [SMap.get]

/-- … hence "a failed load changes nothing" is false of that version: a concrete loaded map whose
    key is lost -/
theorem failed_load_changed_old (big : Bytes) (hbig : big.length > maxU32) :
    ∃ (st : StrMap Nat) (kk : List Bytes) (vv : List Nat) (s : Bytes),
      (∃ v, get (fun _ => 0) st s = .ok (some v)) ∧
      (loadFromSliceOld (fun _ => 0) msort st kk vv).1 = .err .keyTooLarge ∧
      get (fun _ => 0) (loadFromSliceOld (fun _ => 0) msort st kk vv).2 s = .ok none := by
  obtain ⟨st, hst, hL⟩ := loadFromSlice_pairs (fun _ => 0) msort msort_isSlotSort StrMap.init [([97], 1)]
    (by decide) (by decide)
  refine ⟨st, [big], [7], [97], ⟨1, ?_⟩, ?_, ?_⟩
  · rw [hL.get_eq (by decide) [97]]; rfl
  · exact (key_too_large_changed (fun _ => 0) msort st [] (big, 7) [] [97] (by intro kv hkv; cases hkv) hbig).1
  · exact (key_too_large_changed (fun _ => 0) msort st [] (big, 7) [] [97] (by intro kv hkv; cases hkv) hbig).2.2

end Verif.SMap.PreFix
