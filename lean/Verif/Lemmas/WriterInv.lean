/-
  Lemmas/WriterInv: the notions the delayed-copy invariant of the writer model is made of (DESIGN
  Appendix A; the invariant `WInv` itself is in Lemmas/WriterOps).

  With pending buffers (o₁,ℓ₁)…(o_k,ℓ_k) and current buffer (o, len):
    Chain      ℓ₁ ≤ … ≤ ℓ_k ≤ len
    logical    = o₁[0:ℓ₁] ++ o₂[ℓ₁:ℓ₂] ++ … ++ o[ℓ_k:len]    — what Flush will stitch and write
    Owned      a region (obj, a, n) lies entirely inside the range its object contributes
  Frame lemmas: how `logical` changes under the four kinds of memory writes (caller fill,
  WriteBinary copy, growth = nothing, Flush stitching = nothing).
-/
import Verif.Lemmas.WriterList
import Verif.Lemmas.Reader
namespace Verif
open WLog

/-! ## doubling loops terminate with room for n (fuel n suffices) -/

theorem w_doubleUntil_spec (fuel c n : Nat) (hc : 1 ≤ c) (hf : n ≤ fuel + c) :
    n ≤ doubleUntil fuel c n ∧ c ≤ doubleUntil fuel c n := by
  induction fuel generalizing c with
  | zero => simp only [doubleUntil]; omega
  | succ f ih =>
    simp only [doubleUntil]
    split
    · have := ih (c * 2) (by omega) (by omega); omega
    · omega

theorem growCap_spec (fuel c ri n : Nat) (hc : 1 ≤ c) (hr : ri ≤ c) (hf : n ≤ fuel + (c - ri)) :
    n ≤ growCap fuel c ri n - ri ∧ c ≤ growCap fuel c ri n := by
  induction fuel generalizing c with
  | zero => simp only [growCap]; omega
  | succ f ih =>
    simp only [growCap]
    split
    · have := ih (c * 2) (by omega) (by omega) (by omega); omega
    · omega

/-- mcache's rounding gives at least the requested capacity (below 2^64, where its fuel lasts) -/
theorem pow2ceil_ge (n : Nat) (h : n ≤ 2 ^ 64) : n ≤ pow2ceil n :=
  (pow2ceil_spec n (two_pow_64 ▸ h)).1

/-! ## the chain of parked lengths, ownership, the logical content -/

/-- lo ≤ ℓ₁ ≤ … ≤ ℓ_k ≤ hi -/
def Chain : Nat → List (Nat × Nat) → Nat → Prop
  | lo, [], hi => lo ≤ hi
  | lo, (_, l) :: ps, hi => lo ≤ l ∧ Chain l ps hi

/-- the region [a, a+n) of object o lies inside the range that o contributes to the flushed bytes:
    [ℓ_{j-1}, ℓ_j) if o is the j-th parked buffer, [ℓ_k, len) if o is the current one -/
def Owned (cur len : Nat) : Nat → List (Nat × Nat) → Nat → Nat → Nat → Prop
  | lo, [], o, a, n => o = cur ∧ lo ≤ a ∧ a + n ≤ len
  | lo, (p, l) :: ps, o, a, n => (o = p ∧ lo ≤ a ∧ a + n ≤ l) ∨ Owned cur len l ps o a n

/-- what Flush will hand to the sink: every parked buffer contributes [ℓ_{j-1}, ℓ_j), the current one the rest -/
def logicalFrom (heap : Nat → Bytes) (cur len : Nat) : Nat → List (Nat × Nat) → Bytes
  | lo, [] => gslice (heap cur) lo len
  | lo, (p, l) :: ps => gslice (heap p) lo l ++ logicalFrom heap cur len l ps

def Wr.logical (w : Wr) : Bytes :=
  match w.buf with
  | none => []
  | some v => logicalFrom w.heap v.obj v.len 0 w.pending

theorem Wr.logical_nil {w : Wr} (hb : w.buf = none) : w.logical = [] := by
  rw [Wr.logical, hb]

/-- regions in hand-out order are consecutive and disjoint: lo ≤ off₁, off₁+n₁ ≤ off₂, …, ≤ hi -/
def RChain : Nat → List WRegion → Nat → Prop
  | lo, [], hi => lo ≤ hi
  | lo, r :: rs, hi => lo ≤ r.off ∧ RChain (r.off + r.n) rs hi

theorem Chain.le {lo hi : Nat} {ps : List (Nat × Nat)} (h : Chain lo ps hi) : lo ≤ hi := by
  induction ps generalizing lo with
  | nil => exact h
  | cons p ps ih => obtain ⟨p, l⟩ := p; have := ih h.2; have := h.1; omega

theorem Chain.snoc {lo hi : Nat} {ps : List (Nat × Nat)} (h : Chain lo ps hi) (o : Nat) :
    Chain lo (ps ++ [(o, hi)]) hi := by
  induction ps generalizing lo with
  | nil => exact ⟨h, Nat.le_refl _⟩
  | cons p ps ih => obtain ⟨p, l⟩ := p; exact ⟨h.1, ih h.2⟩

theorem Chain.mono {lo hi hi' : Nat} {ps : List (Nat × Nat)} (h : Chain lo ps hi) (hh : hi ≤ hi') :
    Chain lo ps hi' := by
  induction ps generalizing lo with
  | nil => exact Nat.le_trans h hh
  | cons p ps ih => obtain ⟨p, l⟩ := p; exact ⟨h.1, ih h.2⟩

theorem RChain.le {lo hi : Nat} {rs : List WRegion} (h : RChain lo rs hi) : lo ≤ hi := by
  induction rs generalizing lo with
  | nil => exact h
  | cons r rs ih => have := ih h.2; have := h.1; omega

theorem RChain.snoc {lo hi : Nat} {rs : List WRegion} (h : RChain lo rs hi) (id o n : Nat) :
    RChain lo (rs ++ [⟨id, o, hi, n⟩]) (hi + n) := by
  induction rs generalizing lo with
  | nil => exact ⟨h, Nat.le_refl _⟩
  | cons r rs ih => exact ⟨h.1, ih h.2⟩

theorem RChain.mono {lo hi hi' : Nat} {rs : List WRegion} (h : RChain lo rs hi) (hh : hi ≤ hi') :
    RChain lo rs hi' := by
  induction rs generalizing lo with
  | nil => exact Nat.le_trans h hh
  | cons r rs ih => exact ⟨h.1, ih h.2⟩

/-- regions in an `RChain` are pairwise disjoint: an earlier one ends before a later one starts -/
theorem RChain.pairwise {lo hi : Nat} {rs : List WRegion} (h : RChain lo rs hi) :
    rs.Pairwise (fun r s => r.off + r.n ≤ s.off) := by
  induction rs generalizing lo with
  | nil => exact List.Pairwise.nil
  | cons r rs ih =>
    refine List.Pairwise.cons ?_ (ih h.2)
    have aux : ∀ (lo' : Nat) (l : List WRegion), RChain lo' l hi → ∀ s ∈ l, lo' ≤ s.off := by
      intro lo' l
      induction l generalizing lo' with
      | nil => intro _ s hs; cases hs
      | cons t l ih2 =>
        intro hc s hs
        rcases List.mem_cons.mp hs with rfl | hs
        · exact hc.1
        · have := ih2 _ hc.2 s hs; have := hc.1; omega
    exact aux _ _ h.2

/-- a region that is owned lies above `lo`, inside the written length, and its object is a buffer -/
theorem Owned.bounds {cur len lo : Nat} {ps : List (Nat × Nat)} {o a n : Nat}
    (h : Owned cur len lo ps o a n) (hc : Chain lo ps len) :
    lo ≤ a ∧ a + n ≤ len ∧ (o = cur ∨ o ∈ ps.map Prod.fst) := by
  induction ps generalizing lo with
  | nil => exact ⟨h.2.1, h.2.2, Or.inl h.1⟩
  | cons p ps ih =>
    obtain ⟨p, l⟩ := p
    rcases h with ⟨h1, h2, h3⟩ | h
    · have := hc.2.le
      exact ⟨h2, by omega, Or.inr (by simp [h1])⟩
    · obtain ⟨i1, i2, i3⟩ := ih h hc.2
      have := hc.1
      refine ⟨by omega, i2, ?_⟩
      rcases i3 with i3 | i3
      · exact Or.inl i3
      · exact Or.inr (by simp only [List.map_cons, List.mem_cons]; exact Or.inr i3)

theorem Owned.snoc {cur len lo : Nat} {ps : List (Nat × Nat)} {o a n : Nat}
    (h : Owned cur len lo ps o a n) (cur' : Nat) :
    Owned cur' len lo (ps ++ [(cur, len)]) o a n := by
  induction ps generalizing lo with
  | nil => exact Or.inl h
  | cons p ps ih =>
    obtain ⟨p, l⟩ := p
    rcases h with h | h
    · exact Or.inl h
    · exact Or.inr (ih h)

theorem Owned.mono {cur len len' lo : Nat} {ps : List (Nat × Nat)} {o a n : Nat}
    (h : Owned cur len lo ps o a n) (hh : len ≤ len') : Owned cur len' lo ps o a n := by
  induction ps generalizing lo with
  | nil => exact ⟨h.1, h.2.1, by have := h.2.2; omega⟩
  | cons p ps ih =>
    obtain ⟨p, l⟩ := p
    rcases h with h | h
    · exact Or.inl h
    · exact Or.inr (ih h)

/-- the region Malloc hands out at the end of the current buffer is owned -/
theorem Owned.last {cur len lo : Nat} {ps : List (Nat × Nat)} (hc : Chain lo ps len) (n : Nat) :
    Owned cur (len + n) lo ps cur len n := by
  induction ps generalizing lo with
  | nil => exact ⟨rfl, hc, Nat.le_refl _⟩
  | cons p ps ih => obtain ⟨p, l⟩ := p; exact Or.inr (ih hc.2)

/-! ## logical content: length and congruence -/

theorem length_logicalFrom (heap : Nat → Bytes) (cur len lo : Nat) (ps : List (Nat × Nat))
    (hc : Chain lo ps len) (hl : ∀ p ∈ ps, p.2 ≤ (heap p.1).length) (hcur : len ≤ (heap cur).length) :
    (logicalFrom heap cur len lo ps).length = len - lo := by
  induction ps generalizing lo with
  | nil => simp only [logicalFrom]; exact length_gslice _ _ _ hcur
  | cons p ps ih =>
    obtain ⟨p, l⟩ := p
    simp only [logicalFrom, List.length_append]
    rw [ih _ hc.2 (fun q hq => hl q (List.mem_cons_of_mem _ hq)),
      length_gslice _ _ _ (hl (p, l) (List.mem_cons_self ..))]
    have := hc.1; have := hc.2.le; omega

/-- `logical` only reads the current object and the parked objects -/
theorem logicalFrom_congr (heap heap' : Nat → Bytes) (cur len lo : Nat) (ps : List (Nat × Nat))
    (hcur : heap' cur = heap cur) (hp : ∀ p ∈ ps, heap' p.1 = heap p.1) :
    logicalFrom heap' cur len lo ps = logicalFrom heap cur len lo ps := by
  induction ps generalizing lo with
  | nil => simp only [logicalFrom, hcur]
  | cons p ps ih =>
    obtain ⟨p, l⟩ := p
    simp only [logicalFrom]
    rw [ih _ (fun q hq => hp q (List.mem_cons_of_mem _ hq)), hp (p, l) (List.mem_cons_self ..)]

/-! ## frame lemmas -/

/-- a store into the current object below `lo` (Flush stitching) is invisible above `lo` -/
theorem logicalFrom_write_below (heap : Nat → Bytes) (cur len lo : Nat) (ps : List (Nat × Nat))
    (x : Nat) (bs : Bytes) (hx : x + bs.length ≤ lo) (hc : Chain lo ps len)
    (hcur : len ≤ (heap cur).length) (hne : ∀ p ∈ ps, p.1 ≠ cur) :
    logicalFrom (hwrite heap cur x bs) cur len lo ps = logicalFrom heap cur len lo ps := by
  induction ps generalizing lo with
  | nil =>
    simp only [logicalFrom, hwrite_same]
    exact gslice_overwrite_out _ _ _ _ _ (Or.inl hx) (by have := hc; simp only [Chain] at this; omega)
  | cons p ps ih =>
    obtain ⟨p, l⟩ := p
    simp only [logicalFrom]
    rw [ih _ (by have := hc.1; omega) hc.2 (fun q hq => hne q (List.mem_cons_of_mem _ hq)),
      hwrite_other _ _ _ _ _ (hne (p, l) (List.mem_cons_self ..))]

/-- THE frame lemma of the delayed copy: a store inside an owned region shows up in the logical
    content at the same offset (logical position = buffer offset), and nowhere else -/
theorem logicalFrom_fill (heap : Nat → Bytes) (cur len lo : Nat) (ps : List (Nat × Nat))
    (o a n x : Nat) (bs : Bytes)
    (hown : Owned cur len lo ps o a n) (hx1 : a ≤ x) (hx2 : x + bs.length ≤ a + n)
    (hc : Chain lo ps len) (hcur : len ≤ (heap cur).length)
    (hl : ∀ p ∈ ps, p.2 ≤ (heap p.1).length)
    (hne : ∀ p ∈ ps, p.1 ≠ cur) (hnd : (ps.map Prod.fst).Nodup) :
    logicalFrom (hwrite heap o x bs) cur len lo ps
      = overwrite (logicalFrom heap cur len lo ps) (x - lo) bs := by
  induction ps generalizing lo with
  | nil =>
    obtain ⟨h1, h2, h3⟩ := hown
    subst h1
    simp only [logicalFrom, hwrite_same]
    exact gslice_overwrite_in _ _ _ _ _ (by omega) (by omega) hcur
  | cons p ps ih =>
    obtain ⟨p, l⟩ := p
    have hpl : l ≤ (heap p).length := hl (p, l) (List.mem_cons_self ..)
    obtain ⟨(hpn : p ∉ ps.map Prod.fst), hnd'⟩ := List.nodup_cons.mp hnd
    have hlo : lo ≤ l := hc.1
    have hl' : ∀ q ∈ ps, q.2 ≤ (heap q.1).length := fun q hq => hl q (List.mem_cons_of_mem _ hq)
    have hlen : (gslice (heap p) lo l).length = l - lo := length_gslice _ _ _ hpl
    simp only [logicalFrom]
    rcases hown with ⟨h1, h2, h3⟩ | hown
    · -- the region lives in the parked buffer p: only p's segment changes
      subst h1
      rw [hwrite_same, gslice_overwrite_in _ _ _ _ _ (by omega) (by omega) hpl,
        logicalFrom_congr heap (hwrite heap o x bs) cur len l ps
          (hwrite_other _ _ _ _ _ (fun e => hne (o, l) (List.mem_cons_self ..) e.symm))
          (fun q hq => hwrite_other _ _ _ _ _ (fun e => hpn (e ▸ List.mem_map_of_mem (f := Prod.fst) hq))),
        overwrite_append_left _ _ _ _ (by rw [hlen]; omega)]
    · -- the region lives further right: p's segment is untouched
      obtain ⟨b1, b2, b3⟩ := hown.bounds hc.2
      have hop : p ≠ o := by
        rcases b3 with b3 | b3
        · rw [b3]; exact hne (p, l) (List.mem_cons_self ..)
        · exact fun e => hpn (e ▸ b3)
      have hlx : l ≤ x := Nat.le_trans b1 hx1
      rw [hwrite_other _ _ _ _ _ hop,
        ih _ hown hc.2 hl' (fun q hq => hne q (List.mem_cons_of_mem _ hq)) hnd',
        overwrite_append_of_le _ _ _ _ (by rw [hlen]; exact Nat.sub_le_sub_right hlx lo), hlen,
        Nat.sub_sub_sub_cancel_right hlo]

/-- growth: the old buffer is parked, the new one is fresh — the logical content does not change -/
theorem logicalFrom_grow (heap heap' : Nat → Bytes) (cur len lo nw : Nat) (ps : List (Nat × Nat))
    (hh : ∀ i, i ≠ nw → heap' i = heap i) (hcur : cur ≠ nw) (hp : ∀ p ∈ ps, p.1 ≠ nw) :
    logicalFrom heap' nw len lo (ps ++ [(cur, len)]) = logicalFrom heap cur len lo ps := by
  induction ps generalizing lo with
  | nil =>
    simp only [List.nil_append, logicalFrom]
    rw [hh _ hcur, gslice_empty _ _ _ (Nat.le_refl _), List.append_nil]
  | cons p ps ih =>
    obtain ⟨p, l⟩ := p
    simp only [List.cons_append, logicalFrom]
    rw [ih _ (fun q hq => hp q (List.mem_cons_of_mem _ hq)), hh _ (hp (p, l) (List.mem_cons_self ..))]

/-- Malloc: the written length grows by n; the new bytes are whatever the current object holds there -/
theorem logicalFrom_extend (heap : Nat → Bytes) (cur len lo n : Nat) (ps : List (Nat × Nat))
    (hc : Chain lo ps len) (hcur : len + n ≤ (heap cur).length) :
    logicalFrom heap cur (len + n) lo ps
      = logicalFrom heap cur len lo ps ++ gslice (heap cur) len (len + n) := by
  induction ps generalizing lo with
  | nil =>
    simp only [logicalFrom]
    exact gslice_split _ _ _ _ hc (by omega) hcur
  | cons p ps ih =>
    obtain ⟨p, l⟩ := p
    simp only [logicalFrom]
    rw [ih _ hc.2, List.append_assoc]

/-- WriteBinary: the copy lands right after the written length -/
theorem logicalFrom_append (heap : Nat → Bytes) (cur len lo : Nat) (ps : List (Nat × Nat)) (bs : Bytes)
    (hc : Chain lo ps len) (hcur : len + bs.length ≤ (heap cur).length) (hne : ∀ p ∈ ps, p.1 ≠ cur) :
    logicalFrom (hwrite heap cur len bs) cur (len + bs.length) lo ps
      = logicalFrom heap cur len lo ps ++ bs := by
  have hlen : ((hwrite heap cur len bs) cur).length = (heap cur).length := by
    rw [hwrite_same, length_overwrite _ _ _ hcur]
  rw [logicalFrom_extend _ _ _ _ _ _ hc (by rw [hlen]; exact hcur)]
  congr 1
  · -- the old part is untouched: the copy is above len
    clear hlen
    induction ps generalizing lo with
    | nil =>
      simp only [logicalFrom, hwrite_same]
      exact gslice_overwrite_out _ _ _ _ _ (Or.inr (Nat.le_refl _)) hcur
    | cons p ps ih =>
      obtain ⟨p, l⟩ := p
      simp only [logicalFrom]
      rw [ih _ hc.2 (fun q hq => hne q (List.mem_cons_of_mem _ hq)),
        hwrite_other _ _ _ _ _ (hne (p, l) (List.mem_cons_self ..))]
  · rw [hwrite_same]; exact gslice_overwrite_exact _ _ _ hcur

end Verif
