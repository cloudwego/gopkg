/-
  Lemmas/SkipBRSource: BufferReader.Skip over C04's buffered reader — the wrapped error is the SOURCE's.
  Composes the provenance of Lemmas/SkipBRWrap.lean (every `.wrap se` is the error of the first failing
  Next/Skip call of the reader, every request is within 0…2^35) with C04's provenance of the reader's
  own errors (Lemmas/ReaderProv.lean `step_prov`): `se` is the first error of the source's script
  (io.EOF once the script is exhausted), or io.ErrNoProgress after `maxConsecutiveEmptyReads` quiet reads.
-/
import Verif.Lemmas.SkipBRWrap
import Verif.Lemmas.SkipBRInst
import Verif.Lemmas.ReaderProv
namespace Verif

/-- reader states over a source with script `s0`: C04's invariant with sizes in range, and C04's
    provenance of the reader's error field -/
def SrcInv (s0 : List Resp) (r : Rd) : Prop := RdOK r ∧ Prov s0 r

theorem brReq_le_bigReq : brReq ≤ bigReq := by decide

theorem rdStep_keeps {s0 : List Resp} {r r' : Rd} (h : SrcInv s0 r) (st : RdStep r r') : SrcInv s0 r' := by
  have hP : RdP False r := ⟨h.1, fun f => f.elim⟩
  have hb : ∀ {n : Int}, ReqOK n → n.toNat ≤ bigReq := fun hn => Nat.le_trans hn.2 brReq_le_bigReq
  cases st with
  | @next n b _ hn hx =>
    have hp := (step_prov s0 r (.next n) h.1.1 (h.1.small n.toNat (hb hn)) h.2).1
    rw [show (r.step (.next n)).2 = r' by simp [Rd.step, hx]] at hp
    rcases (rdc_inst False).next r n hP hn.1 (hb hn) with ⟨r1, hx1, _, _, _, hP1⟩ | ⟨e, r1, hx1, _⟩
    · rw [hx] at hx1; cases hx1; exact ⟨hP1.1, hp⟩
    · rw [hx] at hx1; cases hx1
  | @nextNil n _ hn hx =>
    rcases (rdc_inst False).next r n hP hn.1 (hb hn) with ⟨r1, hx1, _⟩ | ⟨e, r1, hx1, _⟩
    · rw [hx] at hx1; cases hx1
    · rw [hx] at hx1; cases hx1
  | @skip n b _ hn hx =>
    have hp := (step_prov s0 r (.skip n) h.1.1 (h.1.small n.toNat (hb hn)) h.2).1
    rw [show (r.step (.skip n)).2 = r' by simp [Rd.step, hx]] at hp
    rcases (rdc_inst False).skip r n hP hn.1 (hb hn) with ⟨b1, r1, hx1, _, _, _, hP1⟩ | ⟨e, r1, hx1, _⟩
    · rw [hx] at hx1; cases hx1; exact ⟨hP1.1, hp⟩
    · rw [hx] at hx1; cases hx1
  | @skipNil n _ hn hx =>
    rcases (rdc_inst False).skip r n hP hn.1 (hb hn) with ⟨b1, r1, hx1, _⟩ | ⟨e, r1, hx1, _⟩
    · rw [hx] at hx1; cases hx1
    · rw [hx] at hx1; cases hx1

theorem rdReach_keeps {s0 : List Resp} {r r' : Rd} (h : SrcInv s0 r) (hr : RdReach r r') : SrcInv s0 r' := by
  induction hr with
  | refl => exact h
  | step st _ ih => exact ih (rdStep_keeps h st)

/-- the errors the source can hand over: its first scripted error (io.EOF after the script), or
    io.ErrNoProgress when the script has `maxConsecutiveEmptyReads` error-free entries in a row -/
def SrcErrOf (s0 : List Resp) (se : RErr) : Prop :=
  se = firstErr s0 ∨ (se = .noProgress ∧ quietRun Facts.maxConsecutiveEmptyReads s0 0 = true)

theorem rdFails_source {s0 : List Resp} {r : Rd} {se : RErr} (h : SrcInv s0 r) (hf : RdFails r se) :
    SrcErrOf s0 se := by
  obtain ⟨n, r', hn, hx⟩ := hf
  have hb : n.toNat ≤ bigReq := Nat.le_trans hn.2 brReq_le_bigReq
  have hnn : ¬ n < 0 := by have := hn.1; omega
  have conv : ∀ (x : Bool), ((se == firstErr s0 || (se == RErr.noProgress && x)) = true) →
      (se = firstErr s0 ∨ (se = .noProgress ∧ x = true)) := by
    intro x hx
    simpa [Bool.or_eq_true, Bool.and_eq_true, beq_iff_eq] using hx
  rcases hx with hx | hx
  · have := (step_prov s0 r (.next n) h.1.1 (h.1.small n.toNat hb) h.2).2 se (by simp [Rd.step, hx, RdRes.toRes, RRes.err])
    simp only [errAllowed, hnn, if_false] at this
    exact conv _ this
  · have := (step_prov s0 r (.skip n) h.1.1 (h.1.small n.toNat hb) h.2).2 se (by simp [Rd.step, hx, RdRes.toRes, RRes.err])
    simp only [errAllowed, hnn, if_false] at this
    exact conv _ this

/-- every error of BufferReader.Skip over a reader on a source with script `s0`: the source's own error
    wrapped, or a grammar exception -/
theorem skipBR_err_source_any (s0 : List Resp) (r : Rd) (h : SrcInv s0 r) (t : UInt8) (e : TErr)
    (hx : skipBR t r = .err e) :
    (∃ se, e = .wrap se ∧ SrcErrOf s0 se) ∨ e = errNeg ∨ e = errDepth ∨ e = errUnknownType := by
  cases (skipBR_prov t r).2 e hx with
  | wrap hr hf => exact .inl ⟨_, rfl, rdFails_source (rdReach_keeps h hr) hf⟩
  | neg => exact .inr (.inl rfl)
  | depth => exact .inr (.inr (.inl rfl))
  | unknownType => exact .inr (.inr (.inr rfl))

theorem srcInv_newDefault (S : Bytes) (script : List Resp) (hS : S.length ≤ sizeBound) :
    SrcInv script (Rd.newDefault ⟨S, script⟩) := ⟨newDefault_ok S script hS, prov_newDefault S script⟩

theorem srcInv_newBytes (b : Bytes) (cap : Nat) (hcap : b.length ≤ cap) (hcap2 : cap ≤ 18446744073709551616)
    (hb : b.length ≤ sizeBound) : SrcInv [] (Rd.newBytes b cap) :=
  ⟨newBytes_ok b cap hcap hcap2 hb, prov_newBytes b cap⟩

end Verif
