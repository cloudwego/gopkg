/-
  Lemmas/ReaderOps: the reader model, part 2: acquire, and the six operations against `remaining`.
-/
import Verif.Lemmas.Reader
import Verif.Lemmas.ReaderStep
namespace Verif

/-- postcondition of `acquire n` -/
structure AcqPost (r : Rd) (n m : Nat) (r' : Rd) : Prop where
  data : ∃ d, r'.buf = r.buf ++ d ∧ r.src.stream = d ++ r'.src.stream
  ri : r'.ri = r.ri
  stats : r'.stats = r.stats
  statsIdx : r'.statsIdx = r.statsIdx
  outcome : (m = n ∧ n ≤ r'.buf.length - r'.ri ∧ r'.err = r.err) ∨
            (m = r'.buf.length - r'.ri ∧ r'.err ≠ none)
  inv : Inv r'

/-- the range in which the MODEL is well behaved: `n + ri ≤ 2^63` (its fuel-64 doubling loops reach
    their targets).  This is a fact about the model only: the Go code panics inside mcache for
    capacity requests above 2^45 and spins for `n > 2^62` — the domain in which the model mirrors the
    code is `Rd.InDomain` (`n + ri ≤ 2^43`, Lemmas/ReaderAlloc.lean), which the Props/C04 theorems
    about an operation that may allocate carry. -/
def Rd.Small (r : Rd) (n : Nat) : Prop := n + r.ri ≤ reqMax

/-- size of the request an operation makes -/
def ROp.size : ROp → Nat
  | .next n | .peek n | .skip n => n.toNat
  | .readBinary n => n
  | _ => 0

theorem acquire_total (r : Rd) (n : Nat) : (r.acquire n).isSome := by
  unfold Rd.acquire
  split
  · rfl
  · unfold Rd.acquireSlow
    split
    · rfl
    · apply readLoop_fuel
      simp only [Nat.sub_zero, Nat.mul_succ]
      omega

theorem acquire_post (r : Rd) (n m : Nat) (r' : Rd) (hinv : Inv r) (hs : r.Small n)
    (h : r.acquire n = some (m, r')) : AcqPost r n m r' := by
  unfold Rd.acquire at h
  split at h
  · rename_i hfast
    simp only [Option.some.injEq, Prod.mk.injEq] at h
    obtain ⟨hm, hr⟩ := h; subst hm hr
    exact ⟨⟨[], by simp, by simp⟩, rfl, rfl, rfl, Or.inl ⟨rfl, hfast, rfl⟩, hinv⟩
  · unfold Rd.acquireSlow at h
    split at h
    · rename_i herr
      simp only [Option.some.injEq, Prod.mk.injEq] at h
      obtain ⟨hm, hr⟩ := h; subst hm hr
      refine ⟨⟨[], by simp, by simp⟩, rfl, rfl, rfl, Or.inr ⟨rfl, ?_⟩, hinv⟩
      intro hnone; rw [hnone] at herr; simp at herr
    · simp only [] at h
      have hp := prepare_spec r n hinv hs
      have hl := readLoop_post _ _ _ _ _ _ h
      obtain ⟨d, hd1, hd2⟩ := hl.data
      refine ⟨⟨d, ?_, ?_⟩, ?_, ?_, ?_, ?_, ?_⟩
      · rw [hd1, hp.buf]
      · rw [← hp.src, hd2]
      · rw [hl.ri, hp.ri]
      · rw [hl.stats, hp.stats]
      · rw [hl.statsIdx, hp.statsIdx]
      · rw [← hp.err]; exact hl.outcome
      · have h1 := hl.len_le hp.len_le
        constructor
        · rw [hl.ri, hp.ri, hd1, hp.buf, List.length_append]; have := hinv.ri_le; omega
        · exact h1
        · rw [hl.cap]; exact hp.cap_le
        · rw [hl.stats, hp.stats]; exact hinv.stats_le

/-- the ways through `acquire`: nothing is read (enough is buffered, or an error is pending), or the
    read loop runs on the prepared state, with room for what is missing -/
theorem acquire_cases (r : Rd) (n m : Nat) (r' : Rd) (hinv : Inv r) (hs : r.Small n)
    (h : r.acquire n = some (m, r')) :
    (r' = r ∧ ((n ≤ r.buf.length - r.ri ∧ m = n) ∨
               (¬ n ≤ r.buf.length - r.ri ∧ r.err ≠ none ∧ m = r.buf.length - r.ri))) ∨
    (¬ n ≤ r.buf.length - r.ri ∧ r.err = none ∧ r'.cap = (r.prepare n).cap ∧
      r'.readOnly = (r.prepare n).readOnly ∧
      n - (r.buf.length - r.ri) ≤ (r.prepare n).cap - r.buf.length ∧
      Pull Facts.maxConsecutiveEmptyReads (n - (r.buf.length - r.ri))
        ((r.prepare n).cap - r.buf.length) 0 r.src r'.src (decide (n ≤ m)) r'.err) := by
  unfold Rd.acquire at h
  split at h
  · rename_i hfast
    simp only [Option.some.injEq, Prod.mk.injEq] at h
    exact Or.inl ⟨h.2.symm, Or.inl ⟨hfast, h.1.symm⟩⟩
  · rename_i hslow
    unfold Rd.acquireSlow at h
    split at h
    · rename_i herr
      simp only [Option.some.injEq, Prod.mk.injEq] at h
      refine Or.inl ⟨h.2.symm, Or.inr ⟨hslow, ?_, h.1.symm⟩⟩
      intro hnone; rw [hnone] at herr; exact absurd herr (by decide)
    · rename_i herr
      have hnone : r.err = none := by
        cases he : r.err with
        | none => rfl
        | some e => rw [he] at herr; exact absurd rfl herr
      simp only [] at h
      have hp := prepare_spec r n hinv hs
      have hl := readLoop_post _ _ _ _ _ _ h
      have hri := hinv.ri_le
      have hfits := hp.fits
      have := readLoop_pull _ 0 _ n m r' (by rw [hp.ri, hp.buf]; exact hri)
        (by rw [hp.ri, hp.buf]; exact hslow) (by rw [hp.err]; exact hnone) h
      rw [hp.ri, hp.buf, hp.src] at this
      rw [hp.ri] at hfits
      exact Or.inr ⟨hslow, hnone, hl.cap, hl.readOnly, by omega, this⟩

/-- acquire never loses, duplicates or reorders: what the reader still owes is unchanged -/
theorem AcqPost.remaining {r r' : Rd} {n m : Nat} (h : AcqPost r n m r') (hri : r.ri ≤ r.buf.length) :
    r'.remaining = r.remaining := by
  obtain ⟨d, hd1, hd2⟩ := h.data
  unfold Rd.remaining
  rw [h.ri, hd1, hd2, List.drop_append_of_le_length hri, List.append_assoc]

theorem AcqPost.stream_le {r r' : Rd} {n m : Nat} (h : AcqPost r n m r') :
    r'.src.stream.length ≤ r.src.stream.length := by
  obtain ⟨d, _, hd⟩ := h.data
  rw [hd, List.length_append]; omega

/-- a count below the request comes with a non-nil error -/
theorem AcqPost.short {r r' : Rd} {n m : Nat} (h : AcqPost r n m r') (hlt : n > m) :
    r'.err ≠ none ∧ m = r'.buf.length - r'.ri := by
  rcases h.outcome with ⟨hm, _, _⟩ | ⟨hm, he⟩
  · omega
  · exact ⟨he, hm⟩

/-- a count that covers the request means the bytes are buffered -/
theorem AcqPost.enough {r r' : Rd} {n m : Nat} (h : AcqPost r n m r') (hge : ¬ n > m) :
    n ≤ r'.buf.length - r'.ri := by
  rcases h.outcome with ⟨_, hn, _⟩ | ⟨hm, _⟩ <;> omega

theorem remaining_length (r : Rd) :
    r.remaining.length = (r.buf.length - r.ri) + r.src.stream.length := by
  unfold Rd.remaining; simp

theorem remaining_split (r : Rd) (k : Nat) :
    r.remaining = (r.buf.drop r.ri).take k ++ ({ r with ri := r.ri + k } : Rd).remaining := by
  unfold Rd.remaining
  simp only []
  rw [← List.append_assoc, ← List.drop_drop, List.take_append_drop]

theorem take_length_of_le (r : Rd) (k : Nat) (hk : k ≤ r.buf.length - r.ri) :
    ((r.buf.drop r.ri).take k).length = k := by
  simp only [List.length_take, List.length_drop]; omega

theorem take_eq_remaining_take (r : Rd) (k : Nat) (hk : k ≤ r.buf.length - r.ri) :
    (r.buf.drop r.ri).take k = r.remaining.take k := by
  unfold Rd.remaining
  rw [List.take_append_of_le_length (by simp only [List.length_drop]; omega)]

theorem inv_advance (r : Rd) (k : Nat) (h : Inv r) (hk : k ≤ r.buf.length - r.ri) :
    Inv { r with ri := r.ri + k } := by
  have := h.ri_le
  exact ⟨by simp only []; omega, h.len_le, h.cap_le, h.stats_le⟩

/-! ## Next / Peek / Skip -/

/-- Next, Peek and Skip are one operation, up to what a success reports and whether it moves the
    cursor (`ok`) -/
def Rd.nps (ok : Rd → Nat → RdRes × Rd) (r : Rd) (n : Int) : RdRes × Rd :=
  if n < 0 then (.fail (some .negCount), r) else
  match r.acquire n.toNat with
  | none => (.nofuel, r)
  | some (m, r1) => if n.toNat > m then (.fail r1.err, r1) else ok r1 n.toNat

def Rd.nextOk (r : Rd) (k : Nat) : RdRes × Rd :=
  (.ok ((r.buf.drop r.ri).take k), { r with ri := r.ri + k })
def Rd.peekOk (r : Rd) (k : Nat) : RdRes × Rd := (.ok ((r.buf.drop r.ri).take k), r)
def Rd.skipOk (r : Rd) (k : Nat) : RdRes × Rd := (.ok [], { r with ri := r.ri + k })

theorem Rd.next_eq_nps (r : Rd) (n : Int) : r.next n = Rd.nps Rd.nextOk r n := rfl
theorem Rd.peek_eq_nps (r : Rd) (n : Int) : r.peek n = Rd.nps Rd.peekOk r n := rfl
theorem Rd.skip_eq_nps (r : Rd) (n : Int) : r.skip n = Rd.nps Rd.skipOk r n := rfl

theorem nps_cases (ok : Rd → Nat → RdRes × Rd) (r : Rd) (n : Int) (hinv : Inv r)
    (hs : r.Small n.toNat) :
    (n < 0 ∧ Rd.nps ok r n = (.fail (some .negCount), r)) ∨
    (0 ≤ n ∧ ∃ m r1, r.acquire n.toNat = some (m, r1) ∧ AcqPost r n.toNat m r1 ∧
      ((n.toNat > m ∧ Rd.nps ok r n = (.fail r1.err, r1)) ∨
       (¬ n.toNat > m ∧ Rd.nps ok r n = ok r1 n.toNat))) := by
  unfold Rd.nps
  by_cases hneg : n < 0
  · exact Or.inl ⟨hneg, if_pos hneg⟩
  · right
    refine ⟨by omega, ?_⟩
    have ht := acquire_total r n.toNat
    generalize hacq : r.acquire n.toNat = a at ht
    cases a with
    | none => simp at ht
    | some p =>
      obtain ⟨m, r1⟩ := p
      refine ⟨m, r1, rfl, acquire_post r _ m r1 hinv hs hacq, ?_⟩
      by_cases hgt : n.toNat > m
      · left; exact ⟨hgt, by simp only [hneg, if_false, hgt, if_true]⟩
      · right; exact ⟨hgt, by simp only [hneg, if_false, hgt]⟩

theorem nps_fail (ok : Rd → Nat → RdRes × Rd) (hok : ∀ r k e r', ok r k ≠ (.fail e, r'))
    (r : Rd) (n : Int) (e : Option RErr) (r' : Rd) (hinv : Inv r) (hs : r.Small n.toNat)
    (hr : Rd.nps ok r n = (.fail e, r')) :
    e ≠ none ∧ r'.remaining = r.remaining ∧ r'.readLen = r.readLen ∧ Inv r' := by
  rcases nps_cases ok r n hinv hs with ⟨_, he⟩ | ⟨_, m, r1, _, ha, ⟨hgt, he⟩ | ⟨_, he⟩⟩
  · rw [he] at hr; cases hr; exact ⟨nofun, rfl, rfl, hinv⟩
  · rw [he] at hr; cases hr
    exact ⟨(ha.short hgt).1, ha.remaining hinv.ri_le, ha.ri, ha.inv⟩
  · rw [he] at hr; exact absurd hr (hok _ _ _ _)

theorem nps_ok (ok : Rd → Nat → RdRes × Rd) (r : Rd) (n : Int) (b : Bytes) (r' : Rd) (hinv : Inv r)
    (hs : r.Small n.toNat) (hr : Rd.nps ok r n = (.ok b, r')) :
    0 ≤ n ∧ ∃ m r1, AcqPost r n.toNat m r1 ∧ n.toNat ≤ r1.buf.length - r1.ri ∧
      ok r1 n.toNat = (.ok b, r') := by
  rcases nps_cases ok r n hinv hs with ⟨_, he⟩ | ⟨hpos, m, r1, _, ha, ⟨_, he⟩ | ⟨hge, he⟩⟩
  · rw [he] at hr; cases hr
  · rw [he] at hr; cases hr
  · exact ⟨hpos, m, r1, ha, ha.enough hge, he ▸ hr⟩

theorem nps_total (ok : Rd → Nat → RdRes × Rd) (hok : ∀ r k, (ok r k).1 ≠ .nofuel) (r : Rd)
    (n : Int) : (Rd.nps ok r n).1 ≠ .nofuel := by
  have ht := acquire_total r n.toNat
  unfold Rd.nps
  split
  · nofun
  · cases ha : r.acquire n.toNat with
    | none => rw [ha] at ht; cases ht
    | some p =>
      simp only []
      split
      · nofun
      · exact hok _ _

theorem next_cases (r : Rd) (n : Int) (hinv : Inv r) (hs : r.Small n.toNat) :
    (n < 0 ∧ r.next n = (.fail (some .negCount), r)) ∨
    (0 ≤ n ∧ ∃ m r1, r.acquire n.toNat = some (m, r1) ∧ AcqPost r n.toNat m r1 ∧
      ((n.toNat > m ∧ r.next n = (.fail r1.err, r1)) ∨
       (¬ n.toNat > m ∧ r.next n = (.ok ((r1.buf.drop r1.ri).take n.toNat),
          { r1 with ri := r1.ri + n.toNat })))) := by
  rw [Rd.next_eq_nps]; exact nps_cases Rd.nextOk r n hinv hs

theorem peek_cases (r : Rd) (n : Int) (hinv : Inv r) (hs : r.Small n.toNat) :
    (n < 0 ∧ r.peek n = (.fail (some .negCount), r)) ∨
    (0 ≤ n ∧ ∃ m r1, r.acquire n.toNat = some (m, r1) ∧ AcqPost r n.toNat m r1 ∧
      ((n.toNat > m ∧ r.peek n = (.fail r1.err, r1)) ∨
       (¬ n.toNat > m ∧ r.peek n = (.ok ((r1.buf.drop r1.ri).take n.toNat), r1)))) := by
  rw [Rd.peek_eq_nps]; exact nps_cases Rd.peekOk r n hinv hs

theorem skip_cases (r : Rd) (n : Int) (hinv : Inv r) (hs : r.Small n.toNat) :
    (n < 0 ∧ r.skip n = (.fail (some .negCount), r)) ∨
    (0 ≤ n ∧ ∃ m r1, r.acquire n.toNat = some (m, r1) ∧ AcqPost r n.toNat m r1 ∧
      ((n.toNat > m ∧ r.skip n = (.fail r1.err, r1)) ∨
       (¬ n.toNat > m ∧ r.skip n = (.ok [], { r1 with ri := r1.ri + n.toNat })))) := by
  rw [Rd.skip_eq_nps]; exact nps_cases Rd.skipOk r n hinv hs

theorem readBinary_cases (r : Rd) (k : Nat) (hinv : Inv r) (hs : r.Small k) :
    ∃ m r1, r.acquire k = some (m, r1) ∧ AcqPost r k m r1 ∧
      r.readBinary k = (some ((r1.buf.drop r1.ri).take (min m k), min m k,
                               if k > min m k then r1.err else none),
                        { r1 with ri := r1.ri + min m k }) := by
  have ht := acquire_total r k
  generalize hacq : r.acquire k = a at ht
  cases a with
  | none => simp at ht
  | some p =>
    obtain ⟨m, r1⟩ := p
    refine ⟨m, r1, rfl, acquire_post r _ m r1 hinv hs hacq, ?_⟩
    have hmin : (if m > k then k else m) = min m k := by
      split <;> omega
    simp only [Rd.readBinary, hacq, hmin]

/-- `StepView r op res r'`: the report and the state after `op`.  A negative count and a request cut
    short by an error look the same for Next, Peek and Skip. -/
inductive StepView (r : Rd) : ROp → RRes RErr → Rd → Prop
  | neg {op n} (hop : op = .next n ∨ op = .peek n ∨ op = .skip n) (hn : n < 0) :
      StepView r op (.fail (some .negCount)) r
  | short {op n m r1} (hop : op = .next n ∨ op = .peek n ∨ op = .skip n) (hn : 0 ≤ n)
      (hacq : r.acquire n.toNat = some (m, r1)) (ha : AcqPost r n.toNat m r1) (hgt : n.toNat > m) :
      StepView r op (.fail r1.err) r1
  | next {n m r1} (hn : 0 ≤ n) (hacq : r.acquire n.toNat = some (m, r1))
      (ha : AcqPost r n.toNat m r1) (hge : ¬ n.toNat > m) :
      StepView r (.next n) (.bytes ((r1.buf.drop r1.ri).take n.toNat)) { r1 with ri := r1.ri + n.toNat }
  | peek {n m r1} (hn : 0 ≤ n) (hacq : r.acquire n.toNat = some (m, r1))
      (ha : AcqPost r n.toNat m r1) (hge : ¬ n.toNat > m) :
      StepView r (.peek n) (.bytes ((r1.buf.drop r1.ri).take n.toNat)) r1
  | skip {n m r1} (hn : 0 ≤ n) (hacq : r.acquire n.toNat = some (m, r1))
      (ha : AcqPost r n.toNat m r1) (hge : ¬ n.toNat > m) :
      StepView r (.skip n) .done { r1 with ri := r1.ri + n.toNat }
  | readBinary {k m r1} (hacq : r.acquire k = some (m, r1)) (ha : AcqPost r k m r1) :
      StepView r (.readBinary k) (.rb ((r1.buf.drop r1.ri).take (min m k)) (min m k)
        (if k > min m k then r1.err else none)) { r1 with ri := r1.ri + min m k }
  | release (e) : StepView r (.release e) .done r.release
  | readLen : StepView r .readLen (.len r.ri) r

theorem step_view (r : Rd) (op : ROp) (hinv : Inv r) (hs : r.Small op.size) :
    StepView r op (r.step op).1 (r.step op).2 := by
  cases op with
  | next n =>
    rcases next_cases r n hinv hs with ⟨hneg, he⟩ | ⟨hn, m, r1, hacq, ha, ⟨hgt, he⟩ | ⟨hge, he⟩⟩
    · simp only [Rd.step, he]; exact .neg (Or.inl rfl) hneg
    · simp only [Rd.step, he]; exact .short (Or.inl rfl) hn hacq ha hgt
    · simp only [Rd.step, he]; exact .next hn hacq ha hge
  | peek n =>
    rcases peek_cases r n hinv hs with ⟨hneg, he⟩ | ⟨hn, m, r1, hacq, ha, ⟨hgt, he⟩ | ⟨hge, he⟩⟩
    · simp only [Rd.step, he]; exact .neg (Or.inr (Or.inl rfl)) hneg
    · simp only [Rd.step, he]; exact .short (Or.inr (Or.inl rfl)) hn hacq ha hgt
    · simp only [Rd.step, he]; exact .peek hn hacq ha hge
  | skip n =>
    rcases skip_cases r n hinv hs with ⟨hneg, he⟩ | ⟨hn, m, r1, hacq, ha, ⟨hgt, he⟩ | ⟨hge, he⟩⟩
    · simp only [Rd.step, he]; exact .neg (Or.inr (Or.inr rfl)) hneg
    · simp only [Rd.step, he]; exact .short (Or.inr (Or.inr rfl)) hn hacq ha hgt
    · simp only [Rd.step, he]; exact .skip hn hacq ha hge
  | readBinary k =>
    obtain ⟨m, r1, hacq, ha, he⟩ := readBinary_cases r k hinv hs
    simp only [Rd.step, he]; exact .readBinary hacq ha
  | release e => exact .release e
  | readLen => exact .readLen

/-- whatever `acquire` establishes (for any cursor advance behind it) and, without a request,
    `Release` keeps, holds after the step -/
theorem StepView.state {r r' : Rd} {op : ROp} {res : RRes RErr} (hv : StepView r op res r')
    (P : Rd → Prop) (hidle : op.req = none → P r ∧ P r.release)
    (hacq : ∀ m r1 k, op.req = some op.size → r.acquire op.size = some (m, r1) →
      P { r1 with ri := r1.ri + k }) : P r' := by
  have hreq : ∀ n : Int, 0 ≤ n → (if n < 0 then none else some n.toNat) = some n.toNat :=
    fun n hn => if_neg (by omega)
  cases hv with
  | neg hop hn => rcases hop with rfl | rfl | rfl <;> exact (hidle (if_pos hn)).1
  | short hop hn hacq' => rcases hop with rfl | rfl | rfl <;> exact hacq _ _ 0 (hreq _ hn) hacq'
  | next hn hacq' => exact hacq _ _ _ (hreq _ hn) hacq'
  | peek hn hacq' => exact hacq _ _ 0 (hreq _ hn) hacq'
  | skip hn hacq' => exact hacq _ _ _ (hreq _ hn) hacq'
  | readBinary hacq' => exact hacq _ _ _ rfl hacq'
  | release => exact (hidle rfl).2
  | readLen => exact (hidle rfl).1

/-! ## Release -/

theorem release_remaining (r : Rd) (hinv : Inv r) : r.release.remaining = r.remaining := by
  have hri := hinv.ri_le
  unfold Rd.release Rd.remaining
  split
  · rename_i h0
    have : r.buf.drop r.ri = [] := by
      apply List.eq_nil_of_length_eq_zero; simp only [List.length_drop]; omega
    simp [this]
  · split <;> simp

theorem release_readLen (r : Rd) : r.release.readLen = 0 := by
  unfold Rd.release Rd.readLen; split
  · rfl
  · split <;> rfl

theorem release_frame (r : Rd) : r.release.err = r.err ∧ r.release.src = r.src := by
  unfold Rd.release; split
  · exact ⟨rfl, rfl⟩
  · split <;> exact ⟨rfl, rfl⟩

theorem listSet_le (l : List Nat) (i v B : Nat) (hl : ∀ s ∈ l, s ≤ B) (hv : v ≤ B) :
    ∀ s ∈ listSet l i v, s ≤ B := by
  intro s hs
  unfold listSet at hs
  rcases List.mem_or_eq_of_mem_set hs with h | h
  · exact hl s h
  · omega

theorem release_inv (r : Rd) (hinv : Inv r) : Inv r.release := by
  have hri := hinv.ri_le; have hlen := hinv.len_le; have hcap := hinv.cap_le
  unfold Rd.release
  split
  · exact ⟨by simp, by simp, by simp, listSet_le _ _ _ _ hinv.stats_le hcap⟩
  · split
    · refine ⟨by simp, ?_, ?_, hinv.stats_le⟩
      · simp only [List.length_drop]; omega
      · simp only []; omega
    · refine ⟨by simp, ?_, hcap, hinv.stats_le⟩
      simp only [List.length_drop]; omega

end Verif
