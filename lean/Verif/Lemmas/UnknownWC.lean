/-
  Lemmas/UnknownWC (Write after Convert): bytes → tree → bytes. Reading a well-formed value succeeds and
  consumes exactly its extent; if moreover its booleans are canonical (Spec `encLen`), the tree is well typed and writing it
  reproduces the bytes. Both come from one traversal: the statements carry a proposition `canon`, and
  everything about writing back sits behind `canon →` (`canon = False` for the grammar `refLen`,
  `canon = True` for `encLen`). Loop lemmas are generic in the element reader/writer; the step from depth m
  to m+1 is generic in the measure of the children.
-/
import Verif.Lemmas.UnknownBase
import Verif.Lemmas.UnknownEqns
import Verif.Lemmas.UnknownEnc
namespace Verif

/-- what reading one element that `g` measures delivers: `rd` reads it with that extent; if `canon`, the
    element is well typed (`p`), carries the id and type it was read under, and `wr` writes it back -/
def UfElemOK {α : Type} (canon : Prop) (g : Bytes → Option Nat) (rd : Bytes → UInt16 → UOut (α × Nat))
    (wr : α → UOut Bytes) (mt : α → UMeta) (p : α → Bool) (t : UInt8) : Prop :=
  ∀ s k i, g s = some k → k ≤ s.length ∧ ∃ f, rd s i = .ok (f, k) ∧
    (canon → wr f = .ok (s.take k) ∧ p f = true ∧ (mt f).id = i ∧ (mt f).typ = t)

theorem take_take_drop (s : Bytes) (a c : Nat) : s.take a ++ (s.drop a).take c = s.take (a + c) := by
  rw [List.take_add]

theorem take_drop_append (b : Bytes) (off a c : Nat) :
    (b.drop off).take a ++ (b.drop (off + a)).take c = (b.drop off).take (a + c) := by
  rw [← List.drop_drop, take_take_drop]

theorem readElems_of_refN {α : Type} (canon : Prop) (g : Bytes → Option Nat) (rd : Bytes → UInt16 → UOut (α × Nat))
    (wr : α → UOut Bytes) (mt : α → UMeta) (p : α → Bool) (t : UInt8) (H : UfElemOK canon g rd wr mt p t)
    (b : Bytes) :
    ∀ n i off k, off ≤ b.length → refN g n (b.drop off) = some k →
      off + k ≤ b.length ∧ ∃ fs, readElems rd n i b off = .ok (fs, off + k) ∧
        (canon → writeList wr fs = .ok ((b.drop off).take k) ∧ fs.length = n ∧ elemsOK mt p t i fs = true) := by
  intro n
  induction n with
  | zero =>
    intro i off k ho h
    cases h
    exact ⟨ho, [], rfl, fun _ => ⟨rfl, rfl, rfl⟩⟩
  | succ n ih =>
    intro i off k ho h
    obtain ⟨k1, r, hg, hr, rfl⟩ := refN_succ_some h
    obtain ⟨hk1, f, hrd, hc⟩ := H _ _ (UInt16.ofNat i) hg
    rw [List.length_drop] at hk1
    rw [List.drop_drop] at hr
    obtain ⟨hle, fs, hfs, hcs⟩ := ih (i+1) (off + k1) r (Nat.add_le_of_le_sub' ho hk1) hr
    refine ⟨Nat.add_assoc _ _ _ ▸ hle, f :: fs, ?_, fun c => ?_⟩
    · rw [readElems, ufSliceFrom_ok b off ho, Out.bind_ok, hrd, Out.bind_ok, hfs, Out.bind_ok, Nat.add_assoc]
    · obtain ⟨hwr, hp, hid, hty⟩ := hc c
      obtain ⟨hws, hlen, hok⟩ := hcs c
      refine ⟨?_, congrArg (· + 1) hlen, ?_⟩
      · rw [writeList, hwr, Out.bind_ok, hws, Out.bind_ok, take_drop_append]
      · exact elemsOK_cons.mpr ⟨hid, hty, hp, hok⟩

theorem readKVs_of_refKV {α : Type} (canon : Prop) (gk gv : Bytes → Option Nat)
    (rk rv : Bytes → UInt16 → UOut (α × Nat)) (wr : α → UOut Bytes) (mt : α → UMeta) (p : α → Bool) (kt vt : UInt8)
    (HK : UfElemOK canon gk rk wr mt p kt) (HV : UfElemOK canon gv rv wr mt p vt) (b : Bytes) :
    ∀ n i off k, off ≤ b.length → refKV gk gv n (b.drop off) = some k →
      off + k ≤ b.length ∧ ∃ fs, ufReadKVs rk rv n i b off = .ok (fs, off + k) ∧
        (canon → writeKVs wr fs = .ok ((b.drop off).take k) ∧ fs.length / 2 = n ∧ ufKvsOK mt p kt vt i fs = true) := by
  intro n
  induction n with
  | zero =>
    intro i off k ho h
    cases h
    exact ⟨ho, [], rfl, fun _ => ⟨rfl, Nat.zero_div 2, rfl⟩⟩
  | succ n ih =>
    intro i off k ho h
    obtain ⟨k1, v1, r, hg, hg2, hr, rfl⟩ := refKV_succ_some h
    obtain ⟨hk1, f, hrd, hc⟩ := HK _ _ (UInt16.ofNat i) hg
    obtain ⟨hv1, f', hrd', hc'⟩ := HV _ _ (UInt16.ofNat i) hg2
    rw [List.drop_drop] at hr hrd' hc' hv1
    rw [List.length_drop] at hk1 hv1
    have ho1 : off + k1 ≤ b.length := Nat.add_le_of_le_sub' ho hk1
    obtain ⟨hle, fs, hfs, hcs⟩ :=
      ih (i+1) (off + (k1 + v1)) r (Nat.add_assoc _ _ _ ▸ Nat.add_le_of_le_sub' ho1 hv1) hr
    refine ⟨Nat.add_assoc _ _ _ ▸ hle, f :: f' :: fs, ?_, fun c => ?_⟩
    · rw [ufReadKVs, ufSliceFrom_ok b off ho, Out.bind_ok, hrd, Out.bind_ok, ufSliceFrom_ok b (off + k1) ho1,
        Out.bind_ok, hrd', Out.bind_ok, Nat.add_assoc off k1 v1, hfs, Out.bind_ok, Nat.add_assoc]
    · obtain ⟨hwr, hp, hid, hty⟩ := hc c
      obtain ⟨hwr', hp', hid', hty'⟩ := hc' c
      obtain ⟨hws, hlen, hok⟩ := hcs c
      refine ⟨?_, ?_, ?_⟩
      · rw [writeKVs, hwr, Out.bind_ok, hwr', Out.bind_ok, hws, Out.bind_ok, take_drop_append, take_drop_append]
      · rw [List.length_cons, List.length_cons, Nat.add_assoc, Nat.add_div_right _ (by decide), hlen]
      · exact ufKvsOK_cons_cons.mpr ⟨⟨hid, hty, hp⟩, ⟨hid', hty', hp'⟩, hok⟩

/-- `UfElemOK` for every element type `t` at once, the reader and the measure taking `t` as an argument -/
def FieldOK {α : Type} (canon : Prop) (g : UInt8 → Bytes → Option Nat)
    (rd : Bytes → UInt8 → UInt16 → UOut (α × Nat)) (wr : α → UOut Bytes) (mt : α → UMeta) (p : α → Bool) : Prop :=
  ∀ s k t i, g t s = some k → k ≤ s.length ∧ ∃ f, rd s t i = .ok (f, k) ∧
    (canon → wr f = .ok (s.take k) ∧ p f = true ∧ (mt f).id = i ∧ (mt f).typ = t)

theorem elemOK_of_fieldOK {α : Type} {canon : Prop} {g : UInt8 → Bytes → Option Nat}
    {rd : Bytes → UInt8 → UInt16 → UOut (α × Nat)} {wr : α → UOut Bytes} {mt : α → UMeta} {p : α → Bool}
    (H : FieldOK canon g rd wr mt p) (t : UInt8) : UfElemOK canon (g t) (fun s i => rd s t i) wr mt p t :=
  fun s k i h => H s k t i h

theorem drop_field {b : Bytes} {off : Nat} {t : UInt8} {rest : Bytes} (hs : b.drop off = t :: rest) (j : Nat) :
    b.drop (off + 3 + j) = rest.drop (2 + j) := by
  rw [Nat.add_assoc, Nat.add_comm 3 j, ← Nat.add_assoc j 2 1, Nat.add_comm j 2]
  exact drop_of_cons hs (2 + j)

theorem field_bytes {b : Bytes} {off : Nat} {t : UInt8} {rest : Bytes} (hs : b.drop off = t :: rest)
    (h2 : 2 ≤ rest.length) (k1 r : Nat) (tl : Bytes) (htl : tl = (b.drop (off + 3 + k1)).take r) :
    t :: be16 (UInt16.ofNat (rd16 rest)).toNat ++ (rest.drop 2).take k1 ++ tl = (t :: rest).take (3 + k1 + r) := by
  rw [htl, u16_ofNat_rd16, be16_rd16 rest h2, drop_field hs k1, show 3 + k1 + r = (2 + k1 + r) + 1 by omega, List.take_succ_cons, List.cons_append,
    List.cons_append, take_take_drop, take_take_drop]

theorem readFields_of_refFields {α : Type} (canon : Prop) (g : UInt8 → Bytes → Option Nat)
    (rd : Bytes → UInt8 → UInt16 → UOut (α × Nat)) (wr : α → UOut Bytes) (mt : α → UMeta) (p : α → Bool)
    (H : FieldOK canon g rd wr mt p) (b : Bytes) :
    ∀ fuel fuel2 off k, off ≤ b.length → b.length - off + 1 ≤ fuel2 → refFields g fuel (b.drop off) = some k →
      off + k ≤ b.length ∧ ∃ fs, readFields rd fuel2 b off = .ok (fs, off + k) ∧
        (canon → ∃ bs, writeFields mt wr fs = .ok bs ∧ bs ++ [0] = (b.drop off).take k ∧ fs.all p = true) := by
  intro fuel
  induction fuel with
  | zero => exact fun _ _ _ _ _ h => nomatch h
  | succ fuel ih =>
    intro fuel2 off k ho hf h
    obtain ⟨fuel2, rfl⟩ : ∃ n, fuel2 = n + 1 := ⟨fuel2 - 1, by omega⟩
    generalize hs : b.drop off = s at h
    cases s with
    | nil => cases h
    | cons t rest =>
      have hlen := length_of_drop_cons hs
      by_cases ht : t = 0
      · subst ht
        cases h
        exact ⟨by omega, [], readFields_stop rd fuel2 ho hs, fun _ => ⟨[], rfl, rfl, rfl⟩⟩
      · obtain ⟨h2, k1, r, hg, hrr, rfl⟩ := refFields_cons_some ht h
        obtain ⟨hk1, f, hrd, hc⟩ := H _ _ t (UInt16.ofNat (rd16 rest)) hg
        rw [List.length_drop] at hk1
        have e4 : b.drop (off + 3 + k1) = rest.drop (2 + k1) := drop_field hs k1
        rw [← e4] at hrr
        have hnext : off + 3 + k1 ≤ b.length ∧ b.length - (off + 3 + k1) + 1 ≤ fuel2 := by omega
        obtain ⟨hle, fs, hfs, hcs⟩ := ih fuel2 (off + 3 + k1) r hnext.1 hnext.2 hrr
        have e : off + 3 + k1 + r = off + (3 + k1 + r) := by simp only [Nat.add_assoc]
        rw [e] at hle hfs
        refine ⟨hle, f :: fs, ?_, fun c => ?_⟩
        · rw [readFields_field rd fuel2 hs ht h2, hrd, Out.bind_ok, hfs, Out.bind_ok]
        · obtain ⟨hwr, hp, hid, hty⟩ := hc c
          obtain ⟨bs, hws, hbs, hall⟩ := hcs c
          refine ⟨_, by rw [writeFields, hwr, Out.bind_ok, hws, Out.bind_ok], ?_,
            by rw [List.all_cons, hp, hall, Bool.and_self]⟩
          rw [hid, hty, List.append_assoc, hbs]
          exact field_bytes hs h2 k1 r _ rfl

theorem convertLoop_of_encSeq {α : Type} (canon : Prop) (g : UInt8 → Bytes → Option Nat)
    (rd : Bytes → UInt8 → UInt16 → UOut (α × Nat)) (wr : α → UOut Bytes) (mt : α → UMeta) (p : α → Bool)
    (H : FieldOK canon g rd wr mt p) (b : Bytes) :
    ∀ fuel fuel2 off, off ≤ b.length → b.length - off + 1 ≤ fuel2 → encSeq g fuel (b.drop off) = true →
      ∃ fs, convertLoop rd fuel2 b off = .ok fs ∧
        (canon → writeFields mt wr fs = .ok (b.drop off) ∧ fs.all p = true ∧ (off < b.length → fs ≠ [])) := by
  intro fuel
  induction fuel with
  | zero => exact fun _ _ _ _ h => nomatch h
  | succ fuel ih =>
    intro fuel2 off ho hf h
    obtain ⟨fuel2, rfl⟩ : ∃ n, fuel2 = n + 1 := ⟨fuel2 - 1, by omega⟩
    generalize hs : b.drop off = s at h
    cases s with
    | nil =>
      have hoff : off = b.length := by
        have := congrArg List.length hs
        rw [List.length_drop, List.length_nil] at this
        omega
      subst hoff
      exact ⟨[], convertLoop_end rd fuel2 b, fun _ => ⟨rfl, rfl, fun h => absurd h (Nat.lt_irrefl _)⟩⟩
    | cons t rest =>
      have hlen := length_of_drop_cons hs
      obtain ⟨ht, h2, k1, hg, hrr⟩ := encSeq_cons_true h
      obtain ⟨hk1, f, hrd, hc⟩ := H _ _ t (UInt16.ofNat (rd16 rest)) hg
      rw [List.length_drop] at hk1
      have e4 : b.drop (off + 3 + k1) = rest.drop (2 + k1) := drop_field hs k1
      rw [← e4] at hrr
      have hnext : off + 3 + k1 ≤ b.length ∧ b.length - (off + 3 + k1) + 1 ≤ fuel2 := by omega
      obtain ⟨fs, hfs, hcs⟩ := ih fuel2 (off + 3 + k1) hnext.1 hnext.2 hrr
      refine ⟨f :: fs, ?_, fun c => ?_⟩
      · rw [convertLoop_field rd fuel2 hs ht h2, hrd, Out.bind_ok, hfs, Out.bind_ok]
      · obtain ⟨hwr, hp, hid, hty⟩ := hc c
        obtain ⟨hws, hall, _⟩ := hcs c
        refine ⟨?_, by rw [List.all_cons, hp, hall, Bool.and_self], fun _ => List.cons_ne_nil _ _⟩
        rw [writeFields, hwr, Out.bind_ok, hws, Out.bind_ok, hid, hty, e4, u16_ofNat_rd16, be16_rd16 rest h2]
        refine congrArg Out.ok ?_
        rw [List.cons_append, List.cons_append, take_take_drop, List.take_append_drop]

theorem readUF_succ_of_layer (canon : Prop) (E : UInt8 → Bytes → Option Nat) (m : Nat)
    (H : FieldOK canon E (fun s t id => readUF m s t id) (writeUF m) (ufMeta m) (wt m))
    (s : Bytes) (k : Nat) (t : UInt8) (i : UInt16) (h : layer E t s = some k)
    (hb : canon → t = TT.BOOL → ∃ x r, s = x :: r ∧ (x = 0 ∨ x = 1)) :
    k ≤ s.length ∧ ∃ f, readUF (m+1) s t i = .ok (f, k) ∧
      (canon → writeUF (m+1) f = .ok (s.take k) ∧ wt (m+1) f = true ∧ f.1.id = i ∧ f.1.typ = t) := by
  rcases ttype_cases t with rfl | rfl | rfl | rfl | rfl | rfl | rfl | hl | rfl | rfl | hno
  · obtain ⟨hl, rfl⟩ := layer_fixed 0 rfl h
    match s, hl with
    | x :: r, hl =>
      refine ⟨hl, (⟨i, TT.BOOL, 0, 0⟩, .bool (x == 1)), readUF_BOOL m _ i, fun c => ⟨?_, rfl, rfl, rfl⟩⟩
      obtain ⟨x', r', e, hx⟩ := hb c rfl
      cases e
      rcases hx with rfl | rfl <;> rfl
  · obtain ⟨hl, rfl⟩ := layer_fixed 0 rfl h
    match s, hl with
    | x :: r, hl => exact ⟨hl, (⟨i, TT.BYTE, 0, 0⟩, .i8 x), readUF_BYTE m _ i, fun _ => ⟨rfl, rfl, rfl, rfl⟩⟩
  · obtain ⟨hl, rfl⟩ := layer_fixed 1 rfl h
    refine ⟨hl, (⟨i, TT.I16, 0, 0⟩, .i16 (UInt16.ofNat (rd16 s))), ?_, fun _ => ⟨?_, rfl, rfl, rfl⟩⟩
    · exact (readUF_I16 m s i).trans (congrArg (scalarUF i TT.I16) (rdI16_ok s hl))
    · exact (writeUF_I16 m i 0 0 _).trans
        (congrArg Out.ok ((congrArg be16 (u16_ofNat_rd16 s)).trans (be16_rd16 s hl)))
  · obtain ⟨hl, rfl⟩ := layer_fixed 3 rfl h
    refine ⟨hl, (⟨i, TT.I32, 0, 0⟩, .i32 (UInt32.ofNat (rd32 s))), ?_, fun _ => ⟨?_, rfl, rfl, rfl⟩⟩
    · exact (readUF_I32 m s i).trans (congrArg (scalarUF i TT.I32) (rdI32_ok s hl))
    · exact (writeUF_I32 m i 0 0 _).trans
        (congrArg Out.ok ((congrArg be32 (u32_ofNat_rd32 s)).trans (be32_rd32 s hl)))
  · obtain ⟨hl, rfl⟩ := layer_fixed 7 rfl h
    refine ⟨hl, (⟨i, TT.I64, 0, 0⟩, .i64 (UInt64.ofNat (rd64 s))), ?_, fun _ => ⟨?_, rfl, rfl, rfl⟩⟩
    · exact (readUF_I64 m s i).trans (congrArg (scalarUF i TT.I64) (rdI64_ok s hl))
    · exact (writeUF_I64 m i 0 0 _).trans
        (congrArg Out.ok ((congrArg be64 (u64_ofNat_rd64 s)).trans (be64_rd64 s hl)))
  · obtain ⟨hl, rfl⟩ := layer_fixed 7 rfl h
    refine ⟨hl, (⟨i, TT.DOUBLE, 0, 0⟩, .f64 (UInt64.ofNat (rd64 s))), ?_, fun _ => ⟨?_, rfl, rfl, rfl⟩⟩
    · exact (readUF_DOUBLE m s i).trans (congrArg (scalarUF i TT.DOUBLE) (rdDouble_ok s hl))
    · exact (writeUF_DOUBLE m i 0 0 _).trans
        (congrArg Out.ok ((congrArg be64 (u64_ofNat_rd64 s)).trans (be64_rd64 s hl)))
  · obtain ⟨h4, hn, hle, rfl⟩ := refStr_some (b := s) h
    have hlen : ((s.drop 4).take (rd32 s)).length = rd32 s := by
      rw [List.length_take, List.length_drop]
      omega
    refine ⟨hle, (⟨i, TT.STRING, 0, 0⟩, .str ((s.drop 4).take (rd32 s))), ?_, fun _ => ⟨?_, ?_, rfl, rfl⟩⟩
    · exact (readUF_STRING m s i).trans (congrArg (scalarUF i TT.STRING) (rdStr_ok s h4 hn hle))
    · refine (writeUF_STRING m i 0 0 _).trans (congrArg Out.ok ?_)
      rw [hlen, u32, Nat.mod_eq_of_lt (rd32_lt s), be32_rd32 s h4]
      exact take_take_drop s 4 (rd32 s)
    · exact (congrArg (fun n => decide (n < 2147483648)) hlen).trans (decide_eq_true hn)
  · obtain ⟨et, rest, r, rfl, h4, hn, hr, rfl⟩ := layer_list hl h
    obtain ⟨hle, fs, hrd, hc⟩ :=
      readElems_of_refN canon _ _ _ _ _ _ (elemOK_of_fieldOK H et) (et :: rest) (rd32 rest) 0 5 r
        (by rw [List.length_cons]; omega) hr
    refine ⟨hle, (⟨i, t, 0, et⟩, .fields fs), ?_, fun c => ?_⟩
    · rw [readUF_list m _ i hl, readListLike, if_neg (Nat.not_lt.mpr h4), hrd]
      rfl
    · obtain ⟨hwr, hlen, hok⟩ := hc c
      have h32 := rd32_lt rest
      refine ⟨?_, ?_, rfl, rfl⟩
      · refine (writeUF_list m i 0 et _ hl).trans ?_
        show ((writeList (writeUF m) fs).bind fun r => .ok (et :: be32 (u32 fs.length) ++ r)) = _
        rw [hwr, Out.bind_ok, hlen, u32, Nat.mod_eq_of_lt h32, be32_rd32 rest h4, List.cons_append,
          List.drop_succ_cons, take_take_drop, show 5 + r = (4 + r) + 1 by omega, List.take_succ_cons]
      · have e : wt (m+1) (⟨i, t, 0, et⟩, .fields fs) =
            (decide (fs.length < 4294967296) && elemsOK (ufMeta m) (wt m) et 0 fs) := by
          rcases hl with rfl | rfl <;> rfl
        rw [e, hok, hlen, decide_eq_true h32]
        rfl
  · obtain ⟨kt, vt, rest, r, rfl, h4, hn, hr, rfl⟩ := layer_map h
    obtain ⟨hle, fs, hrd, hc⟩ :=
      readKVs_of_refKV canon _ _ _ _ _ _ _ _ _ (elemOK_of_fieldOK H kt) (elemOK_of_fieldOK H vt)
        (kt :: vt :: rest) (rd32 rest) 0 6 r (by rw [List.length_cons, List.length_cons]; omega) hr
    refine ⟨hle, (⟨i, TT.MAP, kt, vt⟩, .fields fs), ?_, fun c => ?_⟩
    · rw [readUF_MAP, readMapLike, if_neg (Nat.not_lt.mpr h4), hrd]
      rfl
    · obtain ⟨hwr, hlen, hok⟩ := hc c
      have h32 := rd32_lt rest
      refine ⟨?_, ?_, rfl, rfl⟩
      · refine (writeUF_MAP m i kt vt _).trans ?_
        show ((writeKVs (writeUF m) fs).bind fun r => .ok (kt :: vt :: be32 (u32 (fs.length / 2)) ++ r)) = _
        rw [hwr, Out.bind_ok, hlen, u32, Nat.mod_eq_of_lt h32, be32_rd32 rest h4, List.cons_append, List.cons_append,
          List.drop_succ_cons, List.drop_succ_cons, take_take_drop, show 6 + r = (4 + r) + 1 + 1 by omega,
          List.take_succ_cons, List.take_succ_cons]
      · show (decide (fs.length / 2 < 4294967296) && ufKvsOK (ufMeta m) (wt m) kt vt 0 fs) = true
        rw [hok, hlen, decide_eq_true h32]
        rfl
  · obtain ⟨hle, fs, hrd, hc⟩ :=
      readFields_of_refFields canon E _ _ _ _ H s (s.length + 1) (s.length + 1) 0 k (Nat.zero_le _) (Nat.le_refl _) h
    rw [Nat.zero_add] at hle hrd
    refine ⟨hle, (⟨i, TT.STRUCT, 0, 0⟩, .fields fs), ?_, fun c => ?_⟩
    · rw [readUF_STRUCT, hrd]
      rfl
    · obtain ⟨bs, hwr, hbs, hall⟩ := hc c
      refine ⟨?_, hall, rfl, rfl⟩
      refine (writeUF_STRUCT m i 0 0 _).trans ?_
      show ((writeFields (ufMeta m) (writeUF m) fs).bind fun r => .ok (r ++ [UT.STOP])) = _
      rw [hwr, Out.bind_ok, UT.STOP_eq, hbs]
      rfl
  · rw [layer_other hno] at h
    cases h

/-- readUnknownField(maxdepth = m) reads every well-formed value of nesting ≤ m, consuming its extent -/
theorem readUF_of_refLen : ∀ m,
    FieldOK False (refLen m) (fun s t id => readUF m s t id) (writeUF m) (ufMeta m) (wt m)
  | 0 => fun _ _ _ _ h => nomatch h
  | m+1 => fun s k t i h => readUF_succ_of_layer False _ m (readUF_of_refLen m) s k t i h nofun

/-- and if its booleans are canonical, writeUnknownField gives the bytes back from a well-typed tree -/
theorem readUF_of_encLen : ∀ m, FieldOK True (encLen m) (fun s t id => readUF m s t id) (writeUF m) (ufMeta m) (wt m)
  | 0 => fun _ _ _ _ h => nomatch h
  | m+1 => fun s k t i h =>
    readUF_succ_of_layer True _ m (readUF_of_encLen m) s k t i (encLen_succ h).1 fun _ => (encLen_succ h).2

/-- whatever Binary.Skip accepts with its 64 levels, ConvertUnknownFields converts with maxRecursionDepth = 65:
    the reason for that constant -/
theorem convertM_of_skipAccepted (d m : Nat) (hm : d + 1 ≤ m) (b : Bytes) (hne : b ≠ [])
    (h : encSeq (refBin d) (b.length + 1) b = true) : ∃ fs, convertM m b = .ok fs := by
  have H : FieldOK False (refBin d) (fun s t id => readUF m s t id) (writeUF m) (ufMeta m) (wt m) :=
    fun s k t i hk => readUF_of_refLen m s k t i (refLen_mono hm t s k (refBin_le_refLen d t s k hk))
  obtain ⟨fs, hc, _⟩ :=
    convertLoop_of_encSeq False _ _ _ _ _ H b (b.length + 1) (b.length + 1) 0 (Nat.zero_le _) (Nat.le_refl _) h
  have hpos : 0 < b.length := List.length_pos_iff.mpr hne
  rw [convertM, if_neg (Nat.ne_of_gt hpos)]
  exact ⟨fs, hc⟩

end Verif
