/-
  Lemmas/PoolsKinds: the instance kinds of Model/Pools are `Good` (isolated): each refines a machine
  that has neither a pooled object nor an allocator.
    kDR   the reader model itself (content level: buffers are values, no dirty memory in it)
    kBR   BufferReader: `NewBufferReader` overwrites the only field
    kBSD  BytesSkipDecoder: `Reset(b)` overwrites both fields
    kSD   SkipDecoder: `New` leaves `rn` as found in the pool; `Next` starts with `p.rn = 0`
    kRSD  ReaderSkipDecoder: `Reset(r)` leaves the BUFFER as found in the pool, and growing takes
          dirty memory from the shared pool; by `rsdNext_spec` neither ever shows
    kDW, kBW  DefaultWriter / BufferWriter: in Lemmas/PoolsWriter (refine the append-only log)
    kTTH  the header codec: in Lemmas/PoolsTth (stateless; its frame holds no byte of the pool's memory)
  and `Good` is closed under `Kind.sum` (systems with instances of several types): `Readers` is the sum
  of the five reading kinds, `All` the sum of all eight, with `goodReaders` and `goodAll`.
-/
import Verif.Lemmas.Pools
import Verif.Lemmas.PoolsRsd
import Verif.Lemmas.PoolsWriter
import Verif.Lemmas.PoolsTth
namespace Verif.Pools
open Verif

/-- a kind whose operations ignore the pool's memory and whose `New…` ignores the object it got;
    `Fresh` = what an object at rest in the pool looks like (established by `release`) -/
def Good.ofEq (K : Kind) (ainit : K.Arg → K.St) (Fresh : K.Obj → Prop)
    (hzero : ∀ a, Fresh (K.zero a)) (hrel : ∀ s, Fresh (K.release s).1)
    (hinit : ∀ o a, K.init o a = ainit a)
    (hstep : ∀ d s o, (K.step d s o).1 = (K.step (fun _ _ => 0) s o).1 ∧
                      (K.step d s o).2.1 = (K.step (fun _ _ => 0) s o).2.1) : Good K where
  Abs := K.St
  ainit := ainit
  astep x o := ((K.step (fun _ _ => 0) x o).1, (K.step (fun _ _ => 0) x o).2.1)
  Ref s x := s = x
  Fresh := Fresh
  zero_fresh := hzero
  init_ref o a _ := hinit o a
  step_ref d s x o h := by subst h; exact hstep d s o
  release_fresh s _ _ := hrel s

/-- DefaultReader is not an object-pool type (`Obj = Unit`): nothing of it rests in a pool -/
def goodDR : Good kDR :=
  Good.ofEq kDR (fun src => Rd.newDefault src) (fun _ => True) (fun _ => trivial) (fun _ => trivial)
    (fun _ _ => rfl) (fun _ _ _ => ⟨rfl, rfl⟩)

/-- a BufferReader at rest holds no reader: `r == nil` (its only field) -/
def goodBR : Good kBR :=
  Good.ofEq kBR (fun src => some ⟨some (Rd.newDefault src)⟩) (fun o => o.r = none) (fun _ => rfl)
    (fun s => by cases s <;> rfl) (fun _ _ => rfl) (fun _ _ _ => ⟨rfl, rfl⟩)

/-- a BytesSkipDecoder at rest: `n == 0`, `b == nil` (both fields) -/
def goodBSD : Good kBSD :=
  Good.ofEq kBSD (fun b => some ⟨0, b⟩) (fun o => o.n = 0 ∧ o.b = []) (fun _ => ⟨rfl, rfl⟩)
    (fun s => by cases s <;> exact ⟨rfl, rfl⟩) (fun _ _ => rfl) (fun _ _ _ => ⟨rfl, rfl⟩)

/-! ### SkipDecoder: a stale `rn` is never read -/

theorem sdNext_congr (p q : SkipDecoderObj) (t : UInt8) (h : p.r = q.r) : sdNext p t = sdNext q t := by
  unfold sdNext; rw [h]

def goodSD : Good kSD where
  Abs := Option SkipDecoderObj
  ainit src := some ⟨some (Rd.newDefault src), 0⟩
  astep x t := ((kSD.step (fun _ _ => 0) x t).1, (kSD.step (fun _ _ => 0) x t).2.1)
  Ref s x := s.map (·.r) = x.map (·.r)
  Fresh o := o.r = none ∧ o.rn = 0          -- a SkipDecoder at rest is `SkipDecoder{}` (both fields)
  zero_fresh _ := ⟨rfl, rfl⟩
  init_ref _ _ _ := rfl
  step_ref d s x t h := by
    have : kSD.step d s t = kSD.step (fun _ _ => 0) x t := by
      cases s with
      | none => cases x with
        | none => rfl
        | some q => simp at h
      | some p => cases x with
        | none => simp at h
        | some q =>
          simp only [Option.map_some, Option.some.injEq] at h
          simp only [kSD, liftT, sdNext_congr p q t h]
    rw [this]; exact ⟨rfl, rfl⟩
  release_fresh s _ _ := by cases s <;> exact ⟨rfl, rfl⟩

/-! ### ReaderSkipDecoder -/

/-- the allocator-free, buffer-free machine: the source, or `none` after a failed call -/
def rsdAStep (a : Option Src) (t : UInt8) : Option Src × TOut (Bytes × Nat) :=
  match a with
  | none => (none, .panic "used-after-failure")
  | some src =>
    match readerDecNext src t with
    | .ok y => (some y.2, .ok (y.1, y.2.stream.length))
    | .err e => (none, .err e)
    | .panic s => (none, .panic s)
    | .oob => (none, .oob)

def rsdRef (s : Option ReaderSkipDecoderObj) (a : Option Src) : Prop :=
  match s, a with
  | none, none => True
  | some p, some src => p.r = some src
  | _, _ => False

theorem rsd_step_ref (d : Dirty) (s : Option ReaderSkipDecoderObj) (a : Option Src) (t : UInt8)
    (h : rsdRef s a) :
    rsdRef (kRSD.step d s t).1 (rsdAStep a t).1 ∧ (kRSD.step d s t).2.1 = (rsdAStep a t).2 := by
  cases s with
  | none => cases a with
    | none => exact ⟨trivial, rfl⟩
    | some src => exact h.elim
  | some p => cases a with
    | none => exact h.elim
    | some src =>
      have hp : p.r = some src := h
      have hs := rsdNext_spec d p src t hp
      simp only [kRSD, liftT, rsdAStep]
      generalize rsdNext d p t = x at hs
      generalize readerDecNext src t = y at hs
      exact hs.cases (fun r y h => ⟨h.2, congrArg Out.ok h.1⟩) (fun _ => ⟨trivial, rfl⟩) (fun _ => ⟨trivial, rfl⟩)
        ⟨trivial, rfl⟩

def goodRSD : Good kRSD where
  Abs := Option Src
  ainit src := some src
  astep := rsdAStep
  Ref := rsdRef
  -- a ReaderSkipDecoder at rest: `r == nil`, `n == 0`; the field `b` (its private mcache buffer, any
  -- length, any content) is the ONE thing the code retains on purpose
  Fresh o := o.r = none ∧ o.n = 0
  zero_fresh _ := ⟨rfl, rfl⟩
  init_ref _ _ _ := rfl
  step_ref d s x t h := rsd_step_ref d s x t h
  release_fresh s _ _ := by cases s <;> exact ⟨rfl, rfl⟩

/-! ### systems with instances of several types -/

def Good.sum {K1 K2 : Kind} (G1 : Good K1) (G2 : Good K2) : Good (Kind.sum K1 K2) where
  Abs := G1.Abs ⊕ G2.Abs
  ainit := fun
    | .inl a => .inl (G1.ainit a)
    | .inr a => .inr (G2.ainit a)
  astep := fun x o =>
    match x, o with
    | .inl x, .inl o => (.inl (G1.astep x o).1, some (.inl (G1.astep x o).2))
    | .inr x, .inr o => (.inr (G2.astep x o).1, some (.inr (G2.astep x o).2))
    | x, _ => (x, none)
  Ref := fun s x =>
    match s, x with
    | .inl s, .inl x => G1.Ref s x
    | .inr s, .inr x => G2.Ref s x
    | _, _ => False
  Fresh := fun
    | .inl o => G1.Fresh o
    | .inr o => G2.Fresh o
  zero_fresh := fun
    | .inl a => G1.zero_fresh a
    | .inr a => G2.zero_fresh a
  init_ref := fun o a h => by
    cases o <;> cases a
    · exact G1.init_ref _ _ h
    · exact G2.init_ref _ _ (G2.zero_fresh _)
    · exact G1.init_ref _ _ (G1.zero_fresh _)
    · exact G2.init_ref _ _ h
  step_ref := fun d s x o h => by
    cases s <;> cases x <;> cases o <;> first | exact h.elim | skip
    · exact ⟨(G1.step_ref d _ _ _ h).1, by simp only [Kind.sum]; rw [(G1.step_ref d _ _ _ h).2]⟩
    · exact ⟨h, rfl⟩
    · exact ⟨h, rfl⟩
    · exact ⟨(G2.step_ref d _ _ _ h).1, by simp only [Kind.sum]; rw [(G2.step_ref d _ _ _ h).2]⟩
  release_fresh := fun s x h => by
    cases s <;> cases x <;> first | exact h.elim | skip
    · exact G1.release_fresh _ _ h
    · exact G2.release_fresh _ _ h

/-- a system with instances of all the reading kinds at once: DefaultReader, BufferReader,
    SkipDecoder, BytesSkipDecoder, ReaderSkipDecoder -/
def Readers : Kind := Kind.sum kDR (Kind.sum kBR (Kind.sum kSD (Kind.sum kBSD kRSD)))

def goodReaders : Good Readers := goodDR.sum (goodBR.sum (goodSD.sum (goodBSD.sum goodRSD)))

/-- … and of every kind: the five reading kinds, DefaultWriter, BufferWriter and the header codec -/
def All : Kind := Kind.sum Readers (Kind.sum kDW (Kind.sum kBW kTTH))

def goodAll : Good All := goodReaders.sum (goodDW.sum (goodBW.sum goodTTH))

end Verif.Pools
