/-
  Lemmas/MemSkip: the skip decoders over `Mem`.
  * a generic fact about the grammar walker `skipTplAt`: any reflexive-transitive relation on back-end
    states that every successful `SkipN` respects is respected by a whole successful `Skip`;
  * SkipDecoder over bufiox: `Next` is a Release-free sequence of reader operations and its result lies
    in the protected region (so `slice_stable` applies to it);
  * ReaderSkipDecoder: `growSlow` copies then frees; the invariant (own live buffer, no fault) holds
    along `Next`, whatever the source does.
-/
import Verif.Lemmas.MemReader
import Verif.Model.MemDecode
namespace Verif.Mem
open Verif Verif.Heap

section Tpl
variable {σ : Type} {R : σ → σ → Prop}

def Reaches (R : σ → σ → Prop) (s : σ) (x : TOut σ) : Prop := ∀ s', x = .ok s' → R s s'

theorem Reaches.ok {s s' : σ} (h : R s s') : Reaches R s (.ok s') := fun _ e => by cases e; exact h
theorem Reaches.err {s : σ} (e : TErr) : Reaches R s (.err e) := fun _ h => nomatch h

theorem Reaches.ite {s : σ} {c : Prop} [Decidable c] {x y : TOut σ} (hx : c → Reaches R s x)
    (hy : ¬c → Reaches R s y) : Reaches R s (if c then x else y) := by
  split
  · exact hx ‹c›
  · exact hy ‹¬c›

theorem Reaches.bind {α : Type} {s : σ} {x : TOut α} {f : α → TOut σ} (hf : ∀ a, Reaches R s (f a)) :
    Reaches R s (x.bind f) := fun s' h => by
  obtain ⟨a, _, h⟩ := Out.bind_ok_inv h
  exact hf a s' h

theorem Reaches.andThen {s : σ} {x : TOut σ} {f : σ → TOut σ} (hx : Reaches R s x)
    (hf : ∀ s1, R s s1 → Reaches R s (f s1)) : Reaches R s (x.bind f) := fun s' h => by
  obtain ⟨s1, h1, h⟩ := Out.bind_ok_inv h
  exact hf s1 (hx s1 h1) s' h

variable (B : Backend σ) (htrans : ∀ a b c, R a b → R b c → R a c)
  (hstep : ∀ s k b s', B.skipN s k = .ok (b, s') → R s s')
include htrans hstep

theorem Reaches.skipN {s s0 : σ} (h0 : R s s0) (k : Nat) {f : Bytes × σ → TOut σ}
    (hf : ∀ b s1, R s s1 → Reaches R s (f (b, s1))) : Reaches R s ((B.skipN s0 k).bind f) := fun s' h => by
  obtain ⟨⟨b, s1⟩, h1, h⟩ := Out.bind_ok_inv h
  exact hf b s1 (htrans _ _ _ h0 (hstep _ _ _ _ h1)) s' h

omit htrans hstep in
theorem tplMapLoop_reaches {rec : UInt8 → σ → TOut σ} (hrec : ∀ t s s0, R s s0 → Reaches R s (rec t s0))
    (kt vt : UInt8) : ∀ (cnt : Nat) (s s0 : σ), R s s0 → Reaches R s (tplMapLoop rec kt vt cnt s0)
  | 0, _, _, h0 => Reaches.ok h0
  | cnt+1, s, s0, h0 =>
    (hrec kt s s0 h0).andThen fun _ h1 => (hrec vt s _ h1).andThen fun _ h2 =>
      tplMapLoop_reaches hrec kt vt cnt s _ h2

omit htrans hstep in
theorem tplListLoop_reaches {rec : UInt8 → σ → TOut σ} (hrec : ∀ t s s0, R s s0 → Reaches R s (rec t s0))
    (vt : UInt8) : ∀ (cnt : Nat) (s s0 : σ), R s s0 → Reaches R s (tplListLoop rec vt cnt s0)
  | 0, _, _, h0 => Reaches.ok h0
  | cnt+1, s, s0, h0 => (hrec vt s s0 h0).andThen fun _ h1 => tplListLoop_reaches hrec vt cnt s _ h1

theorem tplStructLoop_reaches {rec : UInt8 → σ → TOut σ} (hrec : ∀ t s s0, R s s0 → Reaches R s (rec t s0)) :
    ∀ (fuel : Nat) (s s0 : σ), R s s0 → Reaches R s (tplStructLoop B rec fuel s0)
  | 0, _, _, _ => fun _ h => nomatch h
  | fuel+1, s, s0, h0 => by
    unfold tplStructLoop
    exact Reaches.skipN B htrans hstep h0 1 fun b s1 h1 => Reaches.bind fun tp =>
      Reaches.ite (fun _ => Reaches.ok h1) fun _ =>
        Reaches.skipN B htrans hstep h1 2 fun _ s2 h2 => (hrec tp s s2 h2).andThen fun _ h3 =>
          tplStructLoop_reaches hrec fuel s _ h3

theorem skipTplAt_reaches : ∀ (d : Nat) (t : UInt8) (s s0 : σ), R s s0 → Reaches R s (skipTplAt B d t s0)
  | 0, _, _, _, _ => Reaches.err _
  | d+1, t, s, s0, h0 => by
    have ih := skipTplAt_reaches d
    unfold skipTplAt
    refine Reaches.bind fun sz => Reaches.ite
      (fun _ => Reaches.skipN B htrans hstep h0 _ fun _ _ h1 => Reaches.ok h1) fun _ => ?_
    refine Reaches.ite (fun _ => ?_) fun _ => Reaches.ite (fun _ => ?_) fun _ => Reaches.ite (fun _ => ?_) fun _ =>
      Reaches.ite (fun _ => ?_) fun _ => Reaches.err _
    · -- STRING
      exact Reaches.skipN B htrans hstep h0 4 fun b s1 h1 => Reaches.bind fun v =>
        Reaches.ite (fun _ => Reaches.err _) fun _ =>
          Reaches.skipN B htrans hstep h1 _ fun _ _ h2 => Reaches.ok h2
    · -- STRUCT
      exact tplStructLoop_reaches B htrans hstep ih _ s s0 h0
    · -- MAP
      exact Reaches.skipN B htrans hstep h0 6 fun b s1 h1 => Reaches.bind fun kt => Reaches.bind fun vt =>
        Reaches.bind fun v => Reaches.ite (fun _ => Reaches.err _) fun _ =>
          Reaches.bind fun ksz => Reaches.bind fun vsz => Reaches.ite
            (fun _ => Reaches.skipN B htrans hstep h1 _ fun _ _ h2 => Reaches.ok h2)
            fun _ => tplMapLoop_reaches ih kt vt _ s s1 h1
    · -- SET / LIST
      exact Reaches.skipN B htrans hstep h0 5 fun b s1 h1 => Reaches.bind fun vt => Reaches.bind fun v =>
        Reaches.ite (fun _ => Reaches.err _) fun _ => Reaches.bind fun vsz => Reaches.ite
          (fun _ => Reaches.skipN B htrans hstep h1 _ fun _ _ h2 => Reaches.ok h2)
          fun _ => tplListLoop_reaches ih vt _ s s1 h1

theorem skipTplAt_rel (hrefl : ∀ s, R s s) {d : Nat} {t : UInt8} {s s' : σ} (h : skipTplAt B d t s = .ok s') :
    R s s' :=
  skipTplAt_reaches B htrans hstep d t s s (hrefl s) s' h

end Tpl

/-! ## SkipDecoder over a bufiox reader -/

/-- one SkipN of the SkipDecoder is a Peek plus a (checked) look at the window -/
theorem memBufiox_skipN_ok (s : MSkipDec) (k : Nat) (b : Bytes) (s' : MSkipDec)
    (hrun : memBufioxBackend.skipN s k = .ok (b, s')) (hi : RInv s.r s.h) : StepOK s.r s.h s'.r s'.h := by
  unfold memBufioxBackend at hrun
  simp only [] at hrun
  have hp := peek_ok s.r s.h ((s.rn + k : Nat) : Int) hi
  generalize s.r.peek s.h ((s.rn + k : Nat) : Int) = res at hrun hp
  obtain ⟨res1, r', h'⟩ := res
  cases res1 with
  | ok buf =>
    simp only [] at hrun
    by_cases hrn : s.rn > buf.len
    · rw [if_pos hrn] at hrun; cases hrun
    · rw [if_neg hrn] at hrun
      cases hrun
      obtain ⟨_, _, hread⟩ := hp.2 buf rfl
      -- the look at the window `buf[rn:]` is a read inside the slice Peek returned
      show StepOK s.r s.h r' (h'.read (buf.sub s.rn buf.len).obj (buf.sub s.rn buf.len).off (buf.sub s.rn buf.len).len).2
      rw [read_ok h' _ _ _ fun hpos => by
        have hpos' : 0 < buf.len - s.rn := hpos
        obtain ⟨x, hx, hb, hf⟩ := hread (by omega)
        exact ⟨x, hx, by show buf.off + s.rn + (buf.len - s.rn) ≤ _; omega, hf⟩]
      exact hp.1
  | fail e =>
    cases e with
    | some e => cases hrun
    | none =>
      simp only [] at hrun
      by_cases hrn : s.rn > 0
      · rw [if_pos hrn] at hrun; cases hrun
      · rw [if_neg hrn] at hrun
        cases hrun
        exact hp.1
  | nofuel => cases hrun

/-- SkipDecoder.Next: a Release-free step of the reader whose result lies in the protected region -/
theorem memSkipDecNext_ok (r : MRd) (h : Heap) (t : UInt8) (s : Slice) (r' : MRd) (h' : Heap)
    (hrun : memSkipDecNext r h t = .ok (s, r', h')) (hi : RInv r h) :
    StepOK r h r' h' ∧ InProt r' h' s := by
  unfold memSkipDecNext at hrun
  simp only [Out.bind_eq] at hrun
  obtain ⟨s1, h1, hrun⟩ := Out.bind_ok_inv hrun
  have hrel := skipTplAt_rel (R := fun (a b : MSkipDec) => RInv a.r a.h → StepOK a.r a.h b.r b.h) memBufioxBackend
    (fun a b c hab hbc hi => (hab hi).trans (hbc (hab hi).inv)) memBufiox_skipN_ok
    (fun a hi => StepOK.refl hi) h1 hi
  have hn := next_ok s1.r s1.h (s1.rn : Int) hrel.inv
  generalize s1.r.next s1.h (s1.rn : Int) = res at hrun hn
  obtain ⟨res1, r2, h2⟩ := res
  cases res1 with
  | ok b =>
    cases hrun
    exact ⟨hrel.trans hn.1, (hn.2 _ rfl).1⟩
  | fail e =>
    cases e with
    | some e => cases hrun
    | none =>
      cases hrun
      exact ⟨hrel.trans hn.1, fun p h1 h2 => absurd h2 (Nat.not_lt.mpr h1)⟩
  | nofuel => cases hrun

/-! ## ReaderSkipDecoder -/

/-- the decoder owns at most one pool buffer, which is live, and has logged no fault -/
structure RsdInv (p : MRsd) : Prop where
  nofault : p.h.faults = []
  n_le : p.n ≤ p.b.len
  len_le : p.b.len ≤ p.b.cap
  buf_ok : 0 < p.b.cap → ∃ x, p.h.obj? p.b.obj = some x ∧ x.owner = .live ∧ p.b.off = 0 ∧ p.b.cap = x.data.length

theorem RsdInv.of_keeps {p : MRsd} {h' : Heap} (hi : RsdInv p) (hk : Keeps p.h h') (hf : h'.faults = []) :
    RsdInv { p with h := h' } :=
  ⟨hf, hi.n_le, hi.len_le, fun hc => by
    obtain ⟨x, hx, rest⟩ := hi.buf_ok hc
    obtain ⟨x', hx', ho, _, hl⟩ := hk _ x hx
    rw [← ho, ← hl] at rest
    exact ⟨x', hx', rest⟩⟩

/-- readerSkip_copy_then_free, one growSlow: the new buffer is a fresh live pool object holding the `n`
    bytes read so far; the old buffer (if any) is freed AFTER the copy and is never touched again in
    this call (no fault); nothing else changes. -/
theorem growSlow_ok (p : MRsd) (k : Nat) (hi : RsdInv p) :
    RsdInv (p.growSlow k) ∧ (p.growSlow k).n = p.n ∧ (p.growSlow k).src = p.src ∧
    p.n + k ≤ (p.growSlow k).b.len ∧ (p.growSlow k).b.obj = p.h.size ∧
    (p.growSlow k).h.bytes (p.growSlow k).b.obj (p.growSlow k).b.off p.n = p.h.bytes p.b.obj p.b.off p.n ∧
    (0 < p.b.cap → ∃ x, (p.growSlow k).h.obj? p.b.obj = some x ∧ x.owner = .freed) := by
  have hn := hi.n_le
  have hl := hi.len_le
  unfold MRsd.growSlow
  obtain ⟨xn, hxn, hxnl, hxnlen⟩ := malloc_new p.h (p.n + k) 0
  have hcapge := (malloc_cap_ge p.h (p.n + k) 0).1
  have hml : (p.h.malloc (p.n + k) 0).1.len = p.n + k := rfl
  dsimp only [malloc_obj, malloc_off]
  rw [assert_of _ (show p.n ≤ p.b.cap by omega),
    Nat.min_eq_right (show p.n ≤ (p.h.malloc (p.n + k) 0).1.len by omega)]
  -- the copy is fault-free, touches nothing older, and the new buffer holds the old prefix
  obtain ⟨hf2, hext, ⟨xn2, hxn2, ho2, hl2⟩, hbytes⟩ := copy_new_ok (extends_malloc p.h (p.n + k) 0) 0 p.b.obj
    p.b.off p.n hxn hxnl (by omega) fun hpos => by
      obtain ⟨xb, hxb, hlive, _, hcapl⟩ := hi.buf_ok (by omega)
      exact ⟨xb, hxb, by omega, by rw [hlive]; decide⟩
  replace hf2 : _ = [] := hf2.trans hi.nofault
  replace ho2 := ho2.trans hxnl
  replace hl2 := hl2.trans hxnlen
  generalize (p.h.malloc (p.n + k) 0).2.copy p.h.size 0 p.b.obj p.b.off p.n = h2 at hf2 hext hxn2 hbytes
  by_cases hc0 : p.b.cap = 0
  · -- nothing to free
    rw [free_cap0 h2 p.b hc0]
    exact ⟨⟨hf2, Nat.le_add_right _ _, hcapge, fun _ => ⟨xn2, hxn2, ho2, rfl, hl2.symm⟩⟩, rfl, rfl, Nat.le_refl _, rfl,
      hbytes, fun hpos => absurd hc0 (Nat.ne_of_gt hpos)⟩
  · have hpos : 0 < p.b.cap := Nat.pos_of_ne_zero hc0
    obtain ⟨xb, hxb, hlive, hoff, hcapl⟩ := hi.buf_ok hpos
    have hne : p.h.size ≠ p.b.obj := Nat.ne_of_gt (obj?_lt p.h _ xb hxb)
    obtain ⟨f1, _, _, f4, f5⟩ := free_live h2 p.b xb (hext _ xb hxb) hlive hoff hcapl hpos
    refine ⟨⟨f1.trans hf2, Nat.le_add_right _ _, hcapge, fun _ => ⟨xn2, (f4 _ hne).trans hxn2, ho2, rfl, hl2.symm⟩⟩,
      rfl, rfl, Nat.le_refl _, rfl, ?_, fun _ => ⟨_, f5, rfl⟩⟩
    rw [← hbytes]
    exact bytes_congr _ _ _ _ _ fun q _ _ => by unfold Heap.byte?; rw [f4 _ hne]

theorem grow_ok_rsd (p : MRsd) (k : Nat) (hi : RsdInv p) :
    RsdInv (p.grow k) ∧ (p.grow k).n = p.n ∧ p.n + k ≤ (p.grow k).b.len := by
  unfold MRsd.grow
  by_cases hg : p.b.len - p.n ≥ k
  · rw [if_pos hg]; have := hi.n_le; exact ⟨hi, rfl, by omega⟩
  · rw [if_neg hg]
    obtain ⟨a, b, _, d, _⟩ := growSlow_ok p k hi
    exact ⟨a, b, d⟩

/-- the ReadFull loop writes inside the window `[base, base + k)` of the decoder's own live buffer -/
theorem rsdReadFull_ok (fuel : Nat) : ∀ (p : MRsd) (base k i : Nat), RsdInv p → i ≤ k →
    p.b.off + p.n ≤ base → base + k ≤ p.b.off + p.b.cap →
    RsdInv (rsdReadFull fuel p base k i).2.2 ∧ (rsdReadFull fuel p base k i).2.2.b = p.b ∧
    (rsdReadFull fuel p base k i).2.2.n = p.n := by
  induction fuel with
  | zero => intro p base k i hi _ _ _; exact ⟨hi, rfl, rfl⟩
  | succ fuel ih =>
    intro p base k i hi hik hb1 hb2
    unfold rsdReadFull
    by_cases hdone : i ≥ k
    · rw [if_pos hdone]; exact ⟨hi, rfl, rfl⟩
    · rw [if_neg hdone]
      simp only []
      generalize hres : p.src.read (k - i) = res
      have hdl : res.1.length ≤ k - i := by rw [← hres]; exact Src.read_len _ _
      have hpos : 0 < p.b.cap := by omega
      obtain ⟨x, hx, hlive, hoff, hcapl⟩ := hi.buf_ok hpos
      have hbd : base + i + res.1.length ≤ x.data.length := by omega
      rw [write_eq p.h _ _ _ x hx hbd (by rw [hlive]; decide) (by rw [hlive]; intro hc; cases hc)]
      have q := hi.of_keeps (setData_touches p.h p.b.obj (base + i) res.1 x hx hbd).keeps hi.nofault
      have hi1 : RsdInv { p with src := res.2.2, h := p.h.setData p.b.obj (base + i) res.1 } :=
        ⟨q.nofault, q.n_le, q.len_le, q.buf_ok⟩
      cases he : res.2.1 with
      | some e => exact ⟨hi1, rfl, rfl⟩
      | none =>
        simp only []
        exact ih _ base k (i + res.1.length) hi1 (by omega) hb1 hb2

theorem memReader_skipN_ok (p : MRsd) (k : Nat) (b : Bytes) (p' : MRsd)
    (hrun : memReaderBackend.skipN p k = .ok (b, p')) (hi : RsdInv p) : RsdInv p' := by
  unfold memReaderBackend at hrun
  simp only [] at hrun
  obtain ⟨g1, g2, g3⟩ := grow_ok_rsd p k hi
  generalize p.grow k = p1 at hrun g1 g2 g3
  have hl1 := g1.len_le
  rw [assert_of _ (show p1.n + k ≤ p1.b.cap by omega)] at hrun
  obtain ⟨pb, pn, psrc, ph⟩ := p1
  simp only [] at hrun g1 g2 g3 hl1
  obtain ⟨r1, r2, r3⟩ := rsdReadFull_ok (psrc.script.length + 2) ⟨pb, pn, psrc, ph⟩ (pb.off + pn) k 0 g1 (Nat.zero_le _)
    (Nat.le_refl _) (by show pb.off + pn + k ≤ pb.off + pb.cap; omega)
  simp only [] at r2 r3
  split at hrun
  · simp at hrun
  · cases hrun
    generalize (rsdReadFull (psrc.script.length + 2) ⟨pb, pn, psrc, ph⟩ (pb.off + pn) k 0).2.2 = q at r1 r2 r3
    show RsdInv { q with n := q.n + k, h := (q.h.read q.b.obj (q.b.off + q.n) k).2 }
    rw [read_ok _ _ _ k fun hk0 => by
      obtain ⟨x, hx, hlive, hoff, hcapl⟩ := r1.buf_ok (by rw [r2]; omega)
      exact ⟨x, hx, by rw [r2, r3]; rw [r2] at hcapl hoff; omega, by rw [hlive]; decide⟩]
    exact ⟨r1.nofault, by show q.n + k ≤ q.b.len; rw [r2, r3]; omega, r1.len_le, r1.buf_ok⟩

/-- ReaderSkipDecoder.Next keeps the invariant (whatever the source delivers, however often the buffer
    is reallocated) and returns a slice of the decoder's own live buffer -/
theorem memReaderDecNext_ok (p : MRsd) (t : UInt8) (s : Slice) (p' : MRsd)
    (hrun : memReaderDecNext p t = .ok (s, p')) (hi : RsdInv p) :
    RsdInv p' ∧ s = p'.b.sub 0 p'.n ∧
    (0 < s.len → ∃ x, p'.h.obj? s.obj = some x ∧ x.owner = .live ∧ s.off + s.len ≤ x.data.length) := by
  unfold memReaderDecNext at hrun
  simp only [Out.bind_eq] at hrun
  obtain ⟨p1, h1, hrun⟩ := Out.bind_ok_inv hrun
  have hi0 : RsdInv { p with n := 0 } := ⟨hi.nofault, Nat.zero_le _, hi.len_le, hi.buf_ok⟩
  have hrel := skipTplAt_rel (R := fun (a b : MRsd) => RsdInv a → RsdInv b) memReaderBackend
    (fun a b c hab hbc hi => hbc (hab hi)) memReader_skipN_ok (fun a hi => hi) h1 hi0
  cases hrun
  have hn := hrel.n_le
  have hl := hrel.len_le
  rw [assert_of _ (show p1.n ≤ p1.b.cap by omega)]
  refine ⟨hrel, rfl, fun hpos => ?_⟩
  have hpn : 0 < p1.n := by simpa [Slice.sub] using hpos
  obtain ⟨x, hx, hlive, hoff, hcapl⟩ := hrel.buf_ok (by omega)
  exact ⟨x, hx, hlive, by simp [Slice.sub]; omega⟩

/-- environment steps between two calls: the decoder's buffer is live, so neither the invariant nor
    the bytes of the slice last returned change -/
theorem RsdInv.env {p : MRsd} {h' : Heap} (hi : RsdInv p) (he : Env p.h h') :
    RsdInv { p with h := h' } ∧ h'.view (p.b.sub 0 p.n) = p.h.view (p.b.sub 0 p.n) := by
  refine ⟨hi.of_keeps he.keeps (he.faults.trans hi.nofault), ?_⟩
  · unfold Heap.view
    apply bytes_congr
    intro q h1 h2
    simp only [Slice.sub] at h1 h2 ⊢
    have hn := hi.n_le
    have hl := hi.len_le
    obtain ⟨x, hx, hlive, _⟩ := hi.buf_ok (by omega)
    exact he.byte? _ q x hx (by rw [hlive]; decide)

theorem RsdInv.init (src : Src) (h : Heap) (hf : h.faults = []) : RsdInv ⟨Slice.nil, 0, src, h⟩ :=
  ⟨hf, Nat.le_refl _, Nat.le_refl _, fun hc => by simp [Slice.nil] at hc⟩

/-- histories of one ReaderSkipDecoder: successful `Next` calls, Release + re-get of the same pooled
    decoder (the buffer is retained, nothing is freed), environment steps.  (A failing `Next` ends the
    modelled history: the error outcome carries no state.) -/
inductive RsdStep : MRsd → MRsd → Prop
  | next (p : MRsd) (t : UInt8) (s : Slice) (p' : MRsd) (hrun : memReaderDecNext p t = .ok (s, p')) : RsdStep p p'
  | release (p : MRsd) : RsdStep p p.release
  | env (p : MRsd) (h' : Heap) (he : Env p.h h') : RsdStep p { p with h := h' }

inductive RsdSteps : MRsd → MRsd → Prop
  | refl (p : MRsd) : RsdSteps p p
  | cons {a b c : MRsd} (s : RsdStep a b) (t : RsdSteps b c) : RsdSteps a c

theorem RsdStep.inv : ∀ {a b : MRsd}, RsdStep a b → RsdInv a → RsdInv b
  | _, _, .next p t s p' hrun, hi => (memReaderDecNext_ok p t s p' hrun hi).1
  | _, _, .release _, hi => ⟨hi.nofault, Nat.zero_le _, hi.len_le, hi.buf_ok⟩
  | _, _, .env _ _ he, hi => (hi.env he).1

theorem RsdSteps.inv {a b : MRsd} (t : RsdSteps a b) (hi : RsdInv a) : RsdInv b := by
  induction t with
  | refl p => exact hi
  | cons s _ ih => exact ih (s.inv hi)

end Verif.Mem
