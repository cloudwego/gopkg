/- Lemmas/WireMsg: ApplicationException's FastCodec, MarshalFastMsg / UnmarshalFastMsg. -/
import Verif.Lemmas.WireR
namespace Verif.Wire

theorem tstring11 : T_STRING = 11 := by decide
theorem ti32_8 : T_I32 = 8 := by decide

/-- the bytes of an ApplicationException, in the model's vocabulary -/
def appExEncM (e : AppEx) : Bytes :=
  encM (.fieldBegin 11 1) ++ encM (.str e.m) ++ encM (.fieldBegin 8 2) ++ encM (.i32 e.t) ++ encM .fieldStop

theorem appExEncM_length (e : AppEx) : (appExEncM e).length = appExBLength e := by
  simp [appExEncM, encM, appExBLength]; omega

theorem drop_drop' (b : Bytes) (i j : Nat) (x : Bytes) (h : b.drop i = x) : b.drop (i + j) = x.drop j := by
  rw [← h, List.drop_drop]

theorem step_str (fuel : Nat) (e : AppEx) (b : Bytes) (off : Nat) (m rest : Bytes) (hm : m.length < 2147483648)
    (hd : b.drop off = 11 :: (be16 (ofInt 16 1) ++ (be32 m.length ++ (m ++ rest)))) :
    appExReadLoop (fuel + 1) e b off = appExReadLoop fuel { e with m := m } b (off + 3 + (4 + m.length)) := by
  have hlen : (b.drop off).length = 3 + (4 + m.length + rest.length) := by rw [hd]; simp; omega
  have hl : b.length - off = 3 + (4 + m.length + rest.length) := by simpa using hlen
  have hd3 : b.drop (off + 3) = be32 m.length ++ (m ++ rest) := by
    rw [drop_drop' b off 3 _ hd]; simp [be16]
  rw [appExReadLoop]
  rw [if_neg (by omega), hd, binReadFieldBegin_enc 11 1 (by decide) (by decide)]
  simp only [tstop, tstring11]
  rw [if_neg (by decide), if_neg (by omega), if_pos (by decide), hd3,
    binReadBinary_enc m rest (by simpa using hm)]

theorem step_i32 (fuel : Nat) (e : AppEx) (b : Bytes) (off : Nat) (t : Int) (rest : Bytes) (ht : inI32 t)
    (hd : b.drop off = 8 :: (be16 (ofInt 16 2) ++ (be32 (ofInt 32 t) ++ rest))) :
    appExReadLoop (fuel + 1) e b off = appExReadLoop fuel { e with t := t } b (off + 3 + 4) := by
  have hlen : (b.drop off).length = 3 + (4 + rest.length) := by rw [hd]; simp; omega
  have hl : b.length - off = 3 + (4 + rest.length) := by simpa using hlen
  have hd3 : b.drop (off + 3) = be32 (ofInt 32 t) ++ rest := by
    rw [drop_drop' b off 3 _ hd]; simp [be16]
  rw [appExReadLoop]
  rw [if_neg (by omega), hd, binReadFieldBegin_enc 8 2 (by decide) (by decide)]
  simp only [tstop, tstring11, ti32_8]
  rw [if_neg (by decide), if_neg (by omega), if_neg (by decide), if_pos (by decide), hd3,
    binReadI32_be _ (ofInt32_lt t), toI32_ofInt t ht.1 ht.2]

theorem step_stop (fuel : Nat) (e : AppEx) (b : Bytes) (off : Nat) (rest : Bytes)
    (hd : b.drop off = 0 :: rest) :
    appExReadLoop (fuel + 1) e b off = (e, .ok (off + 1)) := by
  have hlen : (b.drop off).length = 1 + rest.length := by rw [hd]; simp; omega
  have hl : b.length - off = 1 + rest.length := by simpa using hlen
  rw [appExReadLoop]
  rw [if_neg (by omega), hd, binReadFieldBegin_char]
  simp [tstop]

/-- FastRead of an encoded exception, into any target struct, returns that exception -/
theorem appExRead_enc (e0 e : AppEx) (rest : Bytes) (hm : e.m.length < 2147483648) (ht : inI32 e.t) :
    appExRead e0 (appExEncM e ++ rest) = (e, .ok (appExBLength e)) := by
  unfold appExRead
  generalize hb : appExEncM e ++ rest = b
  have hlen : b.length = appExBLength e + rest.length := by subst hb; simp [appExEncM_length]
  have d0 : b.drop 0 = 11 :: (be16 (ofInt 16 1) ++ (be32 e.m.length ++ (e.m ++
      (8 :: (be16 (ofInt 16 2) ++ (be32 (ofInt 32 e.t) ++ (0 :: rest))))))) := by
    subst hb; simp [appExEncM, encM]
  have hf : b.length + 1 = (b.length - 2) + 1 + 1 + 1 := by unfold appExBLength at hlen; omega
  rw [hf, step_str _ e0 b 0 e.m _ hm d0]
  have d1 : b.drop (0 + 3 + (4 + e.m.length)) = 8 :: (be16 (ofInt 16 2) ++ (be32 (ofInt 32 e.t) ++ (0 :: rest))) := by
    have e0' : 0 + 3 + (4 + e.m.length) = 0 + (3 + (4 + e.m.length)) := by omega
    rw [e0', drop_drop' b 0 (3 + (4 + e.m.length)) _ d0]
    have : ∀ (x : Bytes), List.drop (3 + (4 + e.m.length))
        (11 :: (be16 (ofInt 16 1) ++ (be32 e.m.length ++ (e.m ++ x)))) = x := by
      intro x
      have e1 : (11 :: (be16 (ofInt 16 1) ++ (be32 e.m.length ++ (e.m ++ x)))) =
          (11 :: (be16 (ofInt 16 1) ++ be32 e.m.length ++ e.m)) ++ x := by simp
      rw [e1, List.drop_left' (by simp; omega)]
    rw [this]
  rw [step_i32 _ _ b _ e.t _ ht d1]
  have d2 : b.drop (0 + 3 + (4 + e.m.length) + 3 + 4) = 0 :: rest := by
    rw [show 0 + 3 + (4 + e.m.length) + 3 + 4 = (0 + 3 + (4 + e.m.length)) + 7 by omega,
      drop_drop' b _ 7 _ d1]
    simp [be16, be32]
  rw [step_stop _ _ b _ rest d2]
  simp [appExBLength]

/-- FastWrite into a buffer with room for BLength bytes stores exactly the encoding -/
theorem appExWrite_ok (e : AppEx) (buf : Bytes) (off : Nat) (h : off + appExBLength e ≤ buf.length) :
    appExWrite e buf off = .ok (putAt buf off (appExEncM e), appExBLength e) := by
  unfold appExBLength at h
  have n1 : (encM (.fieldBegin 11 1)).length = 3 := rfl
  have n2 : (encM (.str e.m)).length = 4 + e.m.length := by simp [encM]
  have n3 : (encM (.fieldBegin 8 2)).length = 3 := rfl
  have n4 : (encM (.i32 e.t)).length = 4 := rfl
  have n5 : (encM (.i8 0)).length = 1 := rfl
  have w1 : wFieldBegin buf off 11 1 = _ := write_encM buf off (.fieldBegin 11 1) (by omega)
  have w2 : wBinary _ (off + 3) e.m = _ :=
    write_step buf off (encM (.fieldBegin 11 1)) (.str e.m) _ rfl (by omega)
  have w3 : wFieldBegin _ (off + (3 + (4 + e.m.length))) 8 2 = _ :=
    write_step buf off (encM (.fieldBegin 11 1) ++ encM (.str e.m)) (.fieldBegin 8 2) _
      (by rw [List.length_append, n1, n2]) (by rw [List.length_append]; omega)
  have w4 : wI32 _ (off + (3 + (4 + e.m.length) + 3)) e.t = _ :=
    write_step buf off (encM (.fieldBegin 11 1) ++ encM (.str e.m) ++ encM (.fieldBegin 8 2)) (.i32 e.t) _
      (by rw [List.length_append, List.length_append, n1, n2, n3])
      (by rw [List.length_append, List.length_append]; omega)
  have w5 : wByte _ (off + (3 + (4 + e.m.length) + 3 + 4)) 0 = _ :=
    write_step buf off (encM (.fieldBegin 11 1) ++ encM (.str e.m) ++ encM (.fieldBegin 8 2) ++ encM (.i32 e.t))
      (.i8 0) _ (by rw [List.length_append, List.length_append, List.length_append, n1, n2, n3, n4])
      (by rw [List.length_append, List.length_append, List.length_append]; omega)
  have hs : ((Facts.tSTOP : Nat) : Int) = 0 := by decide
  simp only [appExWrite, tstring11, ti32_8, hs, Out.bind_eq, Out.pure_eq, w1, Out.bind_ok, n1, w2, n2, w3, n3,
    w4, n4, w5, n5]
  rfl

/-- what the message-level theorems need of a payload codec, on a domain of values: BLength is the
    length of its encoding, FastWrite stores exactly that encoding when there is room for BLength
    bytes, FastRead of the encoding (into any target) yields the value -/
structure CodecOK {α : Type} (C : Codec α) (dom : α → Prop) (encP : α → Bytes) : Prop where
  len : ∀ x, dom x → (encP x).length = C.blength x
  write : ∀ x buf off, dom x → off + C.blength x ≤ buf.length →
    C.write x buf off = .ok (putAt buf off (encP x), C.blength x)
  read : ∀ x t, dom x → C.read t (encP x) = (x, .ok (C.blength x))

def AppEx.wf (e : AppEx) : Prop := e.m.length < 2147483648 ∧ inI32 e.t

theorem appExCodec_read : appExCodec.read = appExRead := rfl
theorem appExCodec_blength : appExCodec.blength = appExBLength := rfl
theorem appExCodec_write : appExCodec.write = appExWrite := rfl

theorem appExCodecOK : CodecOK appExCodec AppEx.wf appExEncM where
  len x _ := by rw [appExCodec_blength]; exact appExEncM_length x
  write x buf off _ h := by
    rw [appExCodec_blength] at h
    rw [appExCodec_write, appExCodec_blength]; exact appExWrite_ok x buf off h
  read x t hx := by
    have := appExRead_enc t x [] hx.1 hx.2
    rw [List.append_nil] at this
    rw [appExCodec_read, appExCodec_blength, this]

theorem marshal_ok_of_write {α} (C : Codec α) (e : Bytes) (d : Nat → UInt8) (method : Bytes) (typ seq : Int)
    (msg : α) (hm : method ≠ []) (hlen : e.length = C.blength msg)
    (hw : ∀ buf off, off + C.blength msg ≤ buf.length → C.write msg buf off = .ok (putAt buf off e, C.blength msg)) :
    marshalFastMsg C d method typ seq msg = .ok (encM (.messageBegin method typ seq) ++ e) := by
  unfold marshalFastMsg
  rw [if_neg hm]
  dsimp only
  generalize hb : (List.range (lenMessageBegin method + C.blength msg)).map d = b
  have hl : b.length = lenMessageBegin method + C.blength msg := by subst hb; simp
  have hh : (encM (.messageBegin method typ seq)).length = lenMessageBegin method := encM_length _
  have w1 : wMessageBegin b 0 method typ seq = _ := write_encM b 0 (.messageBegin method typ seq) (by omega)
  have w2 := hw (putAt b 0 (encM (.messageBegin method typ seq))) (encM (.messageBegin method typ seq)).length
    (by rw [putAt_length _ _ _ (by omega)]; omega)
  simp only [w1, w2]
  rw [putAt_putAt b 0 _ e _ (by omega) (by omega), putAt_full _ _ (by rw [List.length_append]; omega)]

theorem marshal_ok {α} (C : Codec α) (dom : α → Prop) (encP : α → Bytes) (hC : CodecOK C dom encP)
    (d : Nat → UInt8) (method : Bytes) (typ seq : Int) (msg : α) (hm : method ≠ []) (hx : dom msg) :
    marshalFastMsg C d method typ seq msg = .ok (encM (.messageBegin method typ seq) ++ encP msg) :=
  marshal_ok_of_write C (encP msg) d method typ seq msg hm (hC.len msg hx) (fun buf off => hC.write msg buf off hx)

theorem unmarshal_plain_gen {α} (C : Codec α) (b : Bytes) (msg : α) (method : Bytes) (typ seq : Int) (i : Nat)
    (h : binReadMessageBegin b = .ok (method, typ, seq, i)) (hi : ¬ i > b.length)
    (ht : ¬ typ = ((Facts.mEXCEPTION : Nat) : Int)) :
    unmarshalFastMsg C b msg =
      match (C.read msg (b.drop i)).2 with
      | .ok _ => .ok ⟨method, seq, none, (C.read msg (b.drop i)).1⟩
      | .err e => .ok ⟨method, seq, some (.t e), (C.read msg (b.drop i)).1⟩
      | .panic s => .panic s
      | .oob => .oob := by
  unfold unmarshalFastMsg
  simp only [h, if_neg hi, if_neg ht]
  generalize (C.read msg (List.drop i b)).2 = x
  cases x <;> rfl

theorem unmarshal_exc_gen {α} (C : Codec α) (b : Bytes) (msg : α) (method : Bytes) (typ seq : Int) (i : Nat)
    (ex : AppEx) (n : Nat)
    (h : binReadMessageBegin b = .ok (method, typ, seq, i)) (hi : ¬ i > b.length)
    (ht : typ = ((Facts.mEXCEPTION : Nat) : Int))
    (hr : appExRead ⟨Facts.aeUNKNOWN, []⟩ (b.drop i) = (ex, .ok n)) :
    unmarshalFastMsg C b msg = .ok ⟨method, seq, some (.appEx ex.t ex.m), msg⟩ := by
  unfold unmarshalFastMsg
  simp only [h, if_neg hi, if_pos ht, hr]

theorem header_body (method body : Bytes) (typ seq : Int) (hn : method.length < 2147483648) (hs : inI32 seq) :
    binReadMessageBegin (encM (.messageBegin method typ seq) ++ body) =
      .ok (method, (msgType16 typ : Int), seq, 12 + method.length) ∧
    (encM (.messageBegin method typ seq) ++ body).drop (12 + method.length) = body ∧
    ¬ 12 + method.length > (encM (.messageBegin method typ seq) ++ body).length := by
  have hl : (encM (.messageBegin method typ seq)).length = 12 + method.length := by
    rw [encM_length]; show 4 + (4 + method.length) + 4 = _; omega
  exact ⟨binReadMessageBegin_enc method body typ seq (by simpa using hn) hs, List.drop_left' hl,
    by rw [List.length_append, hl]; omega⟩

/-- UnmarshalFastMsg on header ++ body, for a header that is not of type EXCEPTION -/
theorem unmarshal_plain {α} (C : Codec α) (method body : Bytes) (typ seq : Int) (msg : α)
    (hn : method.length < 2147483648) (hs : inI32 seq) (ht : msgType16 typ ≠ Facts.mEXCEPTION) :
    unmarshalFastMsg C (encM (.messageBegin method typ seq) ++ body) msg =
      match (C.read msg body).2 with
      | .ok _ => .ok ⟨method, seq, none, (C.read msg body).1⟩
      | .err e => .ok ⟨method, seq, some (.t e), (C.read msg body).1⟩
      | .panic s => .panic s
      | .oob => .oob := by
  obtain ⟨hr, hd, hl⟩ := header_body method body typ seq hn hs
  have hne : ¬ ((msgType16 typ : Nat) : Int) = ((Facts.mEXCEPTION : Nat) : Int) := by
    intro h; exact ht (by exact_mod_cast h)
  rw [unmarshal_plain_gen C _ msg method _ seq _ hr hl hne, hd]

/-- UnmarshalFastMsg on an EXCEPTION header followed by an encoded exception -/
theorem unmarshal_exception {α} (C : Codec α) (method : Bytes) (typ seq : Int) (ex : AppEx) (msg : α)
    (hn : method.length < 2147483648) (hs : inI32 seq) (ht : msgType16 typ = Facts.mEXCEPTION) (hx : ex.wf) :
    unmarshalFastMsg C (encM (.messageBegin method typ seq) ++ appExEncM ex) msg =
      .ok ⟨method, seq, some (.appEx ex.t ex.m), msg⟩ := by
  obtain ⟨hr, hd, hl⟩ := header_body method (appExEncM ex) typ seq hn hs
  have hrd := appExRead_enc ⟨Facts.aeUNKNOWN, []⟩ ex [] hx.1 hx.2
  rw [List.append_nil, ← hd] at hrd
  exact unmarshal_exc_gen C _ msg method _ seq _ ex _ hr hl (by rw [ht]) hrd

theorem rd32_short (b : Bytes) (h : b.length < 4) : rd32 b = 0 := by
  match b, h with
  | [], _ | [_], _ | [_, _], _ | [_, _, _], _ => rfl

/-- every strict prefix of an encoded message header fails with INVALID_DATA (l = 0) -/
theorem msg_prefix_err (name : Bytes) (typ seq : Int) (hn : name.length < 2147483648) (k : Nat)
    (hk : k < 12 + name.length) :
    binReadMessageBegin ((be32 (msgHeader typ) ++ be32 name.length ++ name ++ be32 (ofInt 32 seq)).take k)
      = .err (errShort, 0) := by
  have hh : msgHeader typ < 4294967296 := by rw [msgHeader_eq]; have := msgType16_lt typ; omega
  generalize he : be32 (msgHeader typ) ++ be32 name.length ++ name ++ be32 (ofInt 32 seq) = e
  have hel : e.length = 12 + name.length := by subst he; simp; omega
  have r0 : rd32 e = msgHeader typ := by
    subst he; simp only [List.append_assoc]; exact rd32_be32 _ hh _
  have r4 : rd32 (e.drop 4) = name.length := by
    have : e.drop 4 = be32 name.length ++ (name ++ be32 (ofInt 32 seq)) := by
      subst he
      have e1 : be32 (msgHeader typ) ++ be32 name.length ++ name ++ be32 (ofInt 32 seq) =
        be32 (msgHeader typ) ++ (be32 name.length ++ (name ++ be32 (ofInt 32 seq))) := by simp
      rw [e1, List.drop_left' (by simp)]
    rw [this]; exact rd32_be32 _ (by omega) _
  have hpl : (e.take k).length = k := by simp; omega
  -- the name length, if the prefix reaches it, asks for more bytes than the prefix has
  have hn1 : ¬ (rd32 (e.take k) / 65536 = 0x8001 ∧ rd32 ((e.take k).drop 4) < 2147483648 ∧
      12 + rd32 ((e.take k).drop 4) ≤ (e.take k).length) := by
    rintro ⟨_, _, h3⟩
    rw [hpl, List.drop_take] at h3
    by_cases h8 : k < 8
    · rw [rd32_short _ (by simp; omega)] at h3; omega
    · rw [rd32_take _ _ (by omega), r4] at h3; omega
  have hn2 : ¬ (4 ≤ (e.take k).length ∧ rd32 (e.take k) / 65536 ≠ 0x8001) := by
    rintro ⟨h4, hv⟩
    rw [hpl] at h4
    rw [rd32_take e k h4, r0, msgHeader_eq] at hv
    have := msgType16_lt typ; omega
  rw [binReadMessageBegin_char, if_neg hn1, if_neg hn2]

/-- whatever ReadMessageBegin accepts is exactly an encoded header: the consumed bytes are the
    encoding of the returned name, type and seq -/
theorem msg_accept_exact (b name : Bytes) (typ seq : Int) (l : Nat)
    (h : binReadMessageBegin b = .ok (name, typ, seq, l)) :
    b.take l = enc (.messageBegin name typ seq) ∧ (Val.messageBegin name typ seq).wf := by
  obtain ⟨hv, hn, hl, h1, h2, h3, h5⟩ := binReadMessageBegin_inv b name typ seq l h
  have hq := rd32_lt (b.drop (8 + rd32 (b.drop 4)))
  have hlen : name.length = rd32 (b.drop 4) := by rw [h1, List.length_take, List.length_drop]; omega
  constructor
  · have hty : msgType16 typ = rd32 b % 65536 := by rw [h2]; unfold msgType16; omega
    have e0 : (0x80010000 : Nat) + msgType16 typ = rd32 b := by rw [hty]; omega
    simp only [enc, u32_eq, e0, hlen]
    rw [h3, twos32_toI32 _ hq]
    rw [be32_rd32 b (by omega), be32_rd32 (b.drop 4) (by rw [List.length_drop]; omega),
      be32_rd32 (b.drop (8 + rd32 (b.drop 4))) (by rw [List.length_drop]; omega), h1, h5]
    generalize rd32 (b.drop 4) = n
    rw [show 12 + n = 4 + (4 + (n + 4)) by omega, List.take_add, List.take_add, List.take_add, List.drop_drop,
      List.drop_drop, show 4 + 4 = 8 from rfl, List.append_assoc, List.append_assoc]
  · have hs : inI32 seq := by rw [h3]; exact inI32_toI32 _ hq
    refine ⟨by rw [hlen]; simpa using hn, by omega, by omega, hs⟩

end Verif.Wire
