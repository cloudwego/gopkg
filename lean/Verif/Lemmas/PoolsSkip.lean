/-
  Lemmas/PoolsSkip: two back ends of the grammar walker `skipTplAt` that are related step by step
  (same bytes out of every `SkipN`, related states) give related walks. Lemmas/PoolsRsd uses it for
  `ReaderSkipDecoder` with its retained buffer and the pool's dirty memory (Model/Pools `rsdBackend`)
  against the content-level decoder without any buffer (Model/SkipStream `readerBackend`).
-/
import Verif.Model.Pools
namespace Verif.Pools
open Verif

/-- two outcomes of the same kind, with related values -/
def OutRel {α β : Type} (R : α → β → Prop) : TOut α → TOut β → Prop
  | .ok a, .ok b => R a b
  | .err e, .err e' => e = e'
  | .panic s, .panic s' => s = s'
  | .oob, .oob => True
  | _, _ => False

@[elab_as_elim]
theorem OutRel.cases {α β : Type} {R : α → β → Prop} {motive : TOut α → TOut β → Prop} {x : TOut α} {y : TOut β}
    (h : OutRel R x y) (ok : ∀ a b, R a b → motive (.ok a) (.ok b)) (err : ∀ e, motive (.err e) (.err e))
    (panic : ∀ s, motive (.panic s) (.panic s)) (oob : motive .oob .oob) : motive x y := by
  cases x <;> cases y <;> try exact False.elim h
  · exact ok _ _ h
  · exact (h : _ = _) ▸ err _
  · exact (h : _ = _) ▸ panic _
  · exact oob

theorem OutRel.bind {α β α' β' : Type} {R : α → β → Prop} {R' : α' → β' → Prop}
    {x : TOut α} {y : TOut β} {f : α → TOut α'} {g : β → TOut β'}
    (h : OutRel R x y) (hf : ∀ a b, R a b → OutRel R' (f a) (g b)) :
    OutRel R' (x.bind f) (y.bind g) :=
  h.cases (motive := fun x y => OutRel R' (x.bind f) (y.bind g)) hf (fun _ => rfl) (fun _ => rfl) trivial

theorem OutRel.bind_same {γ α' β' : Type} {R' : α' → β' → Prop} (x : TOut γ)
    {f : γ → TOut α'} {g : γ → TOut β'} (hf : ∀ c, OutRel R' (f c) (g c)) :
    OutRel R' (x.bind f) (x.bind g) := by
  cases x with
  | ok c => exact hf c
  | err e => exact rfl
  | panic s => exact rfl
  | oob => exact trivial

theorem OutRel.ite {α β : Type} {R : α → β → Prop} (c : Prop) [Decidable c] {x x' : TOut α} {y y' : TOut β}
    (ht : c → OutRel R x y) (he : ¬ c → OutRel R x' y') :
    OutRel R (if c then x else x') (if c then y else y') := by
  split
  · exact ht ‹_›
  · exact he ‹_›

section Sim
variable {σ τ : Type} (B : Backend σ) (C : Backend τ) (R : σ → τ → Prop)
  (hskip : ∀ s u k, R s u → OutRel (fun x y => x.1 = y.1 ∧ R x.2 y.2) (B.skipN s k) (C.skipN u k))
  (havail : ∀ s u, R s u → B.avail s = C.avail u)

include hskip in
theorem skipN_sim {s : σ} {u : τ} (h : R s u) (k : Nat) {f : Bytes × σ → TOut σ} {g : Bytes × τ → TOut τ}
    (hfg : ∀ b s1 u1, R s1 u1 → OutRel R (f (b, s1)) (g (b, u1))) :
    OutRel R ((B.skipN s k).bind f) ((C.skipN u k).bind g) :=
  OutRel.bind (hskip s u k h) fun x y hxy => by
    obtain ⟨b, s1⟩ := x
    obtain ⟨b', u1⟩ := y
    obtain rfl : b = b' := hxy.1
    exact hfg b s1 u1 hxy.2

theorem tplMapLoop_sim (recB : UInt8 → σ → TOut σ) (recC : UInt8 → τ → TOut τ)
    (hrec : ∀ t s u, R s u → OutRel R (recB t s) (recC t u)) (kt vt : UInt8) :
    ∀ (cnt : Nat) (s : σ) (u : τ), R s u →
      OutRel R (tplMapLoop recB kt vt cnt s) (tplMapLoop recC kt vt cnt u)
  | 0, _, _, h => h
  | n + 1, _, _, h =>
    OutRel.bind (hrec _ _ _ h) fun _ _ hab => OutRel.bind (hrec _ _ _ hab) fun _ _ hab' =>
      tplMapLoop_sim recB recC hrec kt vt n _ _ hab'

theorem tplListLoop_sim (recB : UInt8 → σ → TOut σ) (recC : UInt8 → τ → TOut τ)
    (hrec : ∀ t s u, R s u → OutRel R (recB t s) (recC t u)) (vt : UInt8) :
    ∀ (cnt : Nat) (s : σ) (u : τ), R s u →
      OutRel R (tplListLoop recB vt cnt s) (tplListLoop recC vt cnt u)
  | 0, _, _, h => h
  | n + 1, _, _, h => OutRel.bind (hrec _ _ _ h) fun _ _ hab => tplListLoop_sim recB recC hrec vt n _ _ hab

include hskip in
theorem tplStructLoop_sim (recB : UInt8 → σ → TOut σ) (recC : UInt8 → τ → TOut τ)
    (hrec : ∀ t s u, R s u → OutRel R (recB t s) (recC t u)) :
    ∀ (fuel : Nat) (s : σ) (u : τ), R s u →
      OutRel R (tplStructLoop B recB fuel s) (tplStructLoop C recC fuel u)
  | 0, _, _, _ => rfl
  | n + 1, _, _, h =>
    skipN_sim B C R hskip h 1 fun _ _ _ hr => OutRel.bind_same _ fun _ => OutRel.ite _ (fun _ => hr) fun _ =>
      skipN_sim B C R hskip hr 2 fun _ _ _ hr2 => OutRel.bind (hrec _ _ _ hr2) fun _ _ hab =>
        tplStructLoop_sim recB recC hrec n _ _ hab

include hskip havail in
theorem skipTplAt_sim : ∀ (d : Nat) (t : UInt8) (s : σ) (u : τ), R s u →
    OutRel R (skipTplAt B d t s) (skipTplAt C d t u)
  | 0, _, _, _, _ => rfl
  | d + 1, t, s, u, h => by
    -- construct by construct along the text of `skipTplAt`
    have ih := skipTplAt_sim d
    have skip {s u} (h : R s u) (k : Nat) {f g} := skipN_sim B C R hskip (f := f) (g := g) h k
    refine .bind_same _ fun _ => .ite _ (fun _ => skip h _ fun _ _ _ hr => hr) fun _ => ?_
    refine .ite _ (fun _ => ?_) fun _ => .ite _ (fun _ => ?_) fun _ => .ite _ (fun _ => ?_) fun _ =>
      .ite _ (fun _ => ?_) fun _ => rfl
    · exact skip h 4 fun _ _ _ hr => .bind_same _ fun _ => .ite _ (fun _ => rfl) fun _ =>
        skip hr _ fun _ _ _ hr2 => hr2
    · rw [havail s u h]
      exact tplStructLoop_sim B C R hskip _ _ ih _ _ _ h
    · exact skip h 6 fun _ _ _ hr => .bind_same _ fun _ => .bind_same _ fun _ => .bind_same _ fun _ =>
        .ite _ (fun _ => rfl) fun _ => .bind_same _ fun _ => .bind_same _ fun _ =>
          .ite _ (fun _ => skip hr _ fun _ _ _ hr2 => hr2) fun _ => tplMapLoop_sim R _ _ ih _ _ _ _ _ hr
    · exact skip h 5 fun _ _ _ hr => .bind_same _ fun _ => .bind_same _ fun _ =>
        .ite _ (fun _ => rfl) fun _ => .bind_same _ fun _ =>
          .ite _ (fun _ => skip hr _ fun _ _ _ hr2 => hr2) fun _ => tplListLoop_sim R _ _ ih _ _ _ _ hr

end Sim

end Verif.Pools
