/-
  Lemmas/PoolsWriter: the two writer kinds of Model/Pools (kDW, kBW) are `Good`: a buffered writer
  whose user fills every region it was handed (BufferWriter always does) refines the append-only log
  of Spec/WriterLog — which has no allocator — for EVERY content of the memory the shared pool hands
  out, operation by operation.  Built on C05's simulation (`WSim`, `sim_step`, `sim_flush`, `step_frame`,
  which take the allocator per step).
-/
import Verif.Lemmas.Pools
import Verif.Lemmas.WriterSim
namespace Verif.Pools
open Verif Verif.WLog

/-- every byte has been stored by the user -/
def AllSome (s : SBytes) : Prop := ∀ x ∈ s, x ≠ none

def unsome (s : SBytes) : Bytes := s.map (fun o => o.getD 0)

theorem allSome_nil : AllSome [] := fun _ h => by cases h

theorem allSome_append {s t : SBytes} (hs : AllSome s) (ht : AllSome t) : AllSome (s ++ t) := by
  intro x hx
  rcases List.mem_append.mp hx with h | h
  · exact hs x h
  · exact ht x h

theorem allSome_map_some (bs : Bytes) : AllSome (bs.map some) := by
  intro x hx
  obtain ⟨b, _, rfl⟩ := List.mem_map.mp hx
  simp

theorem match_allSome : ∀ {m : Bytes} {s : SBytes}, Match m s → AllSome s → m = unsome s
  | [], [], _, _ => rfl
  | b :: m, o :: s, h, ha => by
    obtain rfl : o = some b := h.1.resolve_left (ha o List.mem_cons_self)
    exact congrArg (b :: ·) (match_allSome h.2 fun x hx => ha x (List.mem_cons_of_mem _ hx))
  | [], _ :: _, h, _ => h.elim
  | _ :: _, [], h, _ => h.elim

/-- a live writer instance `w` and its log `l` -/
structure WRef (w : Wr) (l : Log RErr) : Prop where
  sim : WSim w l
  err : l.err = none
  dc : w.disableCache = false
  nofail : ∀ k, w.sink.fail k = none
  full : AllSome (concat l.store l.items)

theorem wAlloc_sound (d : Dirty) (base : Nat) : (wAlloc d base).Sound := fun _ => Nat.le_max_left _ _

theorem wref_init : WRef (Wr.newDefault (fun _ => none)) (Log.new (fun _ => none) []) :=
  ⟨sim_newDefault _, rfl, rfl, fun _ => rfl, by
    simp only [Log.new, concat, List.map_cons, List.map_nil, Item.content, List.flatten_cons, List.flatten_nil,
      List.append_nil]
    exact allSome_nil⟩

/-! ### the log's side -/

/-- Malloc(len bs) and fill it, on the log -/
def lMallocFill (l : Log RErr) (bs : Bytes) : Log RErr :=
  (specStep (specStep l (.malloc (bs.length : Int))).2 (.fill l.nextId 0 bs)).2

/-- the allocator-free machine of a writer instance -/
def wrAStep (l : Log RErr) : WrOp → Log RErr × WrOut
  | .wb bs => ((specStep l (.wb bs)).2, .n (.ok bs.length))
  | .mf bs => (lMallocFill l bs, .unit (.ok ()))
  | .bin bs =>
    ((specStep (lMallocFill l (be32 (bs.length % 4294967296))) (.wb bs)).2, .unit (.ok ()))
  | .i64 v => (lMallocFill l (be64 (ofInt 64 v)), .unit (.ok ()))
  | .flush =>
    ((specStep l .flush).2,
     .flushed (.ok ()) (if lenSum l.items = 0 then [] else [(unsome (concat l.store l.items), none)]))

/-! ### one operation, any allocator -/

theorem specStep_malloc {l : Log RErr} (he : l.err = none) (n : Nat) :
    specStep l (.malloc (n : Int)) = (.region l.nextId n, (l.malloc n).2) := by
  have hnn : ¬ ((n : Int) < 0) := by omega
  simp only [specStep, he, hnn, if_false, Log.malloc, Int.toNat_natCast]

theorem obsOfOut_wrote {r : Out RErr Nat} {n : Nat} (h : obsOfOut (fun k => .wrote k) r = .wrote n) : r = .ok n := by
  cases r <;> cases h
  rfl

theorem obsOfOut_region {r : Out RErr (Nat × Nat × Nat)} {id n : Nat}
    (h : obsOfOut (fun p => .region p.1 p.2.1) r = .region id n) : ∃ p, r = .ok p ∧ p.1 = id := by
  cases r <;> cases h
  exact ⟨_, rfl, rfl⟩

/-- what every operation but Flush keeps of `WRef`, whether or not the regions are filled -/
theorem wlive_step (a : WAlloc) (ha : a.Sound) {w : Wr} {l : Log RErr} (hsim : WSim w l)
    (hdc : w.disableCache = false) (hnf : ∀ k, w.sink.fail k = none) (op : WOp) (hop : op ≠ .flush) :
    (w.step a op).1 = (specStep l op).1 ∧ WSim (w.step a op).2 (specStep l op).2 ∧
      (w.step a op).2.disableCache = false ∧ ∀ k, (w.step a op).2.sink.fail k = none := by
  obtain ⟨hobs, hsim'⟩ := sim_step a ha w l hsim op
  obtain ⟨hdc', hfr⟩ := step_frame a ha w hsim.inv op
  exact ⟨hobs, hsim', hdc'.trans hdc, fun k => by rw [(hfr hop).2.2]; exact hnf k⟩

theorem wref_wb (a : WAlloc) (ha : a.Sound) {w : Wr} {l : Log RErr} (h : WRef w l) (bs : Bytes) :
    ∃ w', w.writeBinary a bs = (.ok bs.length, w') ∧ WRef w' (specStep l (.wb bs)).2 := by
  obtain ⟨hobs, hsim, hdc, hnf⟩ := wlive_step a ha h.sim h.dc h.nofail (.wb bs) nofun
  simp only [specStep, Log.write, h.err] at hobs hsim ⊢
  refine ⟨_, Prod.ext (obsOfOut_wrote hobs) rfl, hsim, rfl, hdc, hnf, ?_⟩
  rw [concat_append, concat_cons, concat_nil, List.append_nil]
  exact allSome_append h.full (allSome_map_some bs)

theorem lMallocFill_eq (l : Log RErr) (bs : Bytes) (he : l.err = none) :
    lMallocFill l bs =
      { l with items := l.items ++ [.region l.nextId bs.length],
               store := fun i => if i = l.nextId then bs.map some else l.store i,
               nextId := l.nextId + 1 } := by
  unfold lMallocFill
  rw [specStep_malloc he]
  simp only [specStep, he, Log.malloc, Log.fill, if_true, List.length_replicate, Nat.zero_add, Nat.le_refl]
  congr 1
  funext i
  by_cases hi : i = l.nextId
  · simp [hi, overwrite]
  · simp only [hi, if_false]

theorem wref_mf (a : WAlloc) (ha : a.Sound) {w : Wr} {l : Log RErr} (h : WRef w l) (bs : Bytes) :
    ∃ w', mallocFill a w bs = (.ok (), w') ∧ WRef w' (lMallocFill l bs) := by
  obtain ⟨hobs, hsim1, hdc1, hnf1⟩ := wlive_step a ha h.sim h.dc h.nofail (.malloc (bs.length : Int)) nofun
  rw [specStep_malloc h.err] at hobs
  obtain ⟨p, hp, hid⟩ := obsOfOut_region hobs
  obtain ⟨_, hsim2, hdc2, hnf2⟩ := wlive_step a ha hsim1 hdc1 hnf1 (.fill l.nextId 0 bs) nofun
  have hmf : mallocFill a w bs = (.ok (), ((w.malloc a (bs.length : Int)).2.fill l.nextId 0 bs).2) := by
    unfold mallocFill
    rw [show w.malloc a (bs.length : Int) = (.ok p, (w.malloc a (bs.length : Int)).2) from Prod.ext hp rfl]
    simp only [hid]
  refine ⟨_, hmf, hsim2, ?_, hdc2, hnf2, ?_⟩
  · rw [lMallocFill_eq l bs h.err]; exact h.err
  · -- the new region holds exactly `bs`, the older items are untouched
    rw [lMallocFill_eq l bs h.err]
    simp only []
    rw [concat_append]
    refine allSome_append ?_ ?_
    · rw [concat_congr l.store _ l.items (fun t ht => by
        have := h.sim.ids_lt t ht
        rw [if_neg (by omega)])]
      exact h.full
    · rw [concat_cons, concat_nil, List.append_nil]
      simp only [Item.content, if_true]
      exact allSome_map_some bs

/-- Flush of a live writer whose regions are all filled: nothing unflushed ⇒ the sink is not called;
    otherwise ONE call with exactly the log's bytes -/
theorem wref_flush (a : WAlloc) (ha : a.Sound) {w : Wr} {l : Log RErr} (h : WRef w l) :
    w.flush.1 = .ok () ∧
    w.flush.2.sink.calls.drop w.sink.calls.length =
      (if lenSum l.items = 0 then [] else [(unsome (concat l.store l.items), none)]) ∧
    WRef w.flush.2 (specStep l .flush).2 := by
  have hwe : w.err = none := by rw [← h.sim.err]; exact h.err
  obtain ⟨_, hsim⟩ := sim_flush a w l h.sim
  have hdc' := (step_frame a ha w h.sim.inv .flush).1
  simp only [Wr.step] at hsim hdc'
  have hwl : lenSum l.items = w.bufLen := h.sim.wlen
  cases hb : w.buf with
  | none =>
    have h0 : lenSum l.items = 0 := by rw [hwl]; simp [Wr.bufLen, hb]
    have hz : l.writtenLen = 0 := by rw [writtenLen_eq_lenSum]; exact h0
    rw [flush_nil w hwe hb] at hsim ⊢
    refine ⟨rfl, by simp [h0], ?_⟩
    simp only [specStep, Log.flush_zero l h.err hz] at hsim ⊢
    exact ⟨hsim, h.err, h.dc, h.nofail, by simp only [concat_nil]; exact allSome_nil⟩
  | some v =>
    have hpos : 0 < v.len := h.sim.nonempty h.dc v hb
    have hne : ¬ lenSum l.items = 0 := by rw [hwl]; simp [Wr.bufLen, hb]; omega
    have hz : ¬ l.writtenLen = 0 := by rw [writtenLen_eq_lenSum]; exact hne
    obtain ⟨heap1, _, _, _, _, _, _, hO⟩ := flush_some w h.sim.inv hwe v hb
    have hfl := hO h.dc (h.nofail _)
    have hlf : l.fail (l.calls + 1) = none := by rw [(h.sim.sink h.dc).1]; exact h.nofail _
    have hlog : w.logical = unsome (concat l.store l.items) := match_allSome h.sim.content h.full
    rw [hfl] at hsim ⊢
    refine ⟨rfl, by simp [Wr.flushedOk, hne, hlog], ?_⟩
    simp only [specStep, Log.flush_accepted l h.err hz hlf] at hsim ⊢
    exact ⟨hsim, h.err, h.dc, h.nofail, by simp only [concat_nil]; exact allSome_nil⟩

/-- one whole writer operation, any dirty memory: the log's step, the log's result -/
theorem wr_step_ref (d : Dirty) (w : Wr) (l : Log RErr) (o : WrOp) (h : WRef w l) :
    WRef (wrStep d w o).1 (wrAStep l o).1 ∧ (wrStep d w o).2.1 = (wrAStep l o).2 := by
  have ha := wAlloc_sound d w.next
  cases o with
  | wb bs =>
    obtain ⟨w1, e1, h1⟩ := wref_wb _ ha h bs
    simp only [wrStep, wrAStep, e1]
    exact ⟨h1, trivial⟩
  | mf bs =>
    obtain ⟨w1, e1, h1⟩ := wref_mf _ ha h bs
    simp only [wrStep, wrAStep, e1]
    exact ⟨h1, trivial⟩
  | i64 v =>
    obtain ⟨w1, e1, h1⟩ := wref_mf _ ha h (be64 (ofInt 64 v))
    simp only [wrStep, wrAStep, e1]
    exact ⟨h1, trivial⟩
  | bin bs =>
    obtain ⟨w1, e1, h1⟩ := wref_mf _ ha h (be32 (bs.length % 4294967296))
    obtain ⟨w2, e2, h2⟩ := wref_wb _ ha h1 bs
    simp only [wrStep, wrAStep, e1, e2]
    exact ⟨h2, trivial⟩
  | flush =>
    obtain ⟨h1, h2, h3⟩ := wref_flush _ ha h
    simp only [wrStep, wrAStep]
    exact ⟨h3, by rw [h1, h2]⟩

def goodDW : Good kDW where
  Abs := Log RErr
  ainit _ := Log.new (fun _ => none) []
  astep := wrAStep
  Ref := WRef
  Fresh _ := True                            -- not an object-pool type: `Obj = Unit`
  zero_fresh _ := trivial
  init_ref _ _ _ := wref_init
  step_ref d s x o h := wr_step_ref d s x o h
  release_fresh _ _ _ := trivial

def goodBW : Good kBW where
  Abs := Log RErr
  ainit _ := Log.new (fun _ => none) []
  astep := wrAStep
  Ref s l := ∃ w, s.w = some w ∧ WRef w l
  Fresh o := o.w = none                      -- a BufferWriter at rest holds no writer (its only field)
  zero_fresh _ := rfl
  init_ref _ _ _ := ⟨_, rfl, wref_init⟩
  step_ref d s x o h := by
    obtain ⟨w, hw, hr⟩ := h
    have := wr_step_ref d w x o hr
    simp only [kBW, hw]
    exact ⟨⟨_, rfl, this.1⟩, this.2⟩
  release_fresh _ _ _ := rfl

end Verif.Pools
