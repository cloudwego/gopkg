/-
  Lemmas/ReaderCredit: liveness over *plain* scripts (every entry error-free with k ≥ K ≥ 1, any chunk
  sizes — io.Reader sources like bytes.Reader, chunked transports): the spec's `Credit` bookkeeping
  (Spec/Cursor) is sound for the model.  `e` unread plain entries are good for `e * K` bytes; a
  request for `n` bytes that fits uses up fewer than `n + K` of that; a request past the end drains
  the source if the credit covers what is left.
-/
import Verif.Lemmas.ReaderSteady
import Verif.Lemmas.ReaderChunks
namespace Verif

def PlainK (K : Nat) (s : List Resp) : Prop := ∀ x ∈ s, x.err = none ∧ K ≤ x.k

theorem PlainK.tail {K : Nat} {x : Resp} {rest : List Resp} (h : PlainK K (x :: rest)) : PlainK K rest :=
  fun y hy => h y (by simp [hy])

theorem PlainK.chunks {K : Nat} {s : List Resp} (hp : PlainK K s) (hK : 1 ≤ K) :
    chunksOk s = true ∧ s.length * K ≤ sumK s := by
  induction s with
  | nil => exact ⟨rfl, by simp [sumK]⟩
  | cons x rest ih =>
    obtain ⟨he, hk⟩ := hp x (List.mem_cons_self ..)
    obtain ⟨h1, h2⟩ := ih hp.tail
    constructor
    · cases rest with
      | nil => simp only [chunksOk, decide_eq_true_eq]; omega
      | cons y ys =>
        simp only [chunksOk, Bool.and_eq_true, decide_eq_true_eq, he, Option.isNone_none]
        exact ⟨⟨by omega, trivial⟩, by simpa only [chunksOk] using h1⟩
    · simp only [List.length_cons, Nat.succ_mul, sumK]; omega

/-- a plain script delivers any need the stream and the entry count cover -/
theorem plain_enough (M K : Nat) (s : List Resp) (need z slen : Nat) (hp : PlainK K s) (hK : 1 ≤ K)
    (h0 : 0 < need) (hle : need ≤ slen) (hc : need ≤ s.length * K) (hz : z < M) :
    Enough M s need z slen = true :=
  chunks_enough M s need z slen (hp.chunks hK).1 h0 hle (Nat.le_trans hc (hp.chunks hK).2) hz

theorem readLoop_plain_credit {K M need room i : Nat} {s s' : Src} {ok : Bool} {e : Option RErr}
    (h : Pull M need room i s s' ok e) (h0 : 0 < need) (hroom : need ≤ room) (hi : i < M)
    (hp : PlainK K s.script) (hK : 1 ≤ K) (hslen : need ≤ s.stream.length)
    (hcred : need ≤ s.script.length * K) :
    e = none ∧ PlainK K s'.script ∧ s.script.length * K < s'.script.length * K + need + K := by
  induction h with
  | stall hM => omega
  | eof _ hs => rw [hs] at hcred; simp at hcred; omega
  | err _ hs _ he => rw [hs] at hp; rw [(hp _ (List.mem_cons_self ..)).1] at he; cases he
  | done _ hs hd he hge =>
    rw [hs] at hp ⊢
    refine ⟨rfl, hp.tail, ?_⟩
    simp only [List.length_cons, Nat.succ_mul]; omega
  | more hM hs hd he hlt _ ih =>
    rw [hs] at hp hcred ⊢
    have hx := (hp _ (List.mem_cons_self ..)).2
    simp only [List.length_cons, Nat.succ_mul] at hcred ⊢
    -- the stream covers the need, so the read handed over a full chunk
    replace hd := took_free hd (Or.inl (Nat.lt_of_lt_of_le hlt hroom))
    rcases hd with ⟨hdk, _⟩ | ⟨hds, _⟩
    · rw [if_pos (by omega)] at ih
      obtain ⟨h1, h2, h3⟩ := ih (by omega) (by omega) (by omega) hp.tail
        (by simp only [List.length_drop]; omega) (by simp only []; omega)
      exact ⟨h1, h2, by simp only [] at h3; omega⟩
    · omega

theorem readLoop_plain_drain {K M need room i : Nat} {s s' : Src} {ok : Bool} {e : Option RErr}
    (h : Pull M need room i s s' ok e) (hroom : need ≤ room) (hi : i < M ∨ s.stream = [])
    (hp : PlainK K s.script) (hK : 1 ≤ K) (hslen : s.stream.length < need)
    (hcred : s.stream.length ≤ s.script.length * K) : s'.stream = [] := by
  have hnil : ∀ l : Bytes, l.length = 0 → l = [] := fun l hl => List.eq_nil_of_length_eq_zero hl
  induction h with
  | stall hM => exact hi.elim (fun h => absurd h (by omega)) id
  | eof _ hs => rw [hs] at hcred; exact hnil _ (by simpa using hcred)
  | err _ hs _ he => rw [hs] at hp; rw [(hp _ (List.mem_cons_self ..)).1] at he; cases he
  | done _ hs hd he hge => omega
  | @more _ _ _ s _ _ d _ _ _ hM hs hd he hlt _ ih =>
    rw [hs] at hp hcred
    have hx := (hp _ (List.mem_cons_self ..)).2
    simp only [List.length_cons, Nat.succ_mul] at hcred
    replace hd := took_free hd (Or.inl (Nat.lt_of_lt_of_le hlt hroom))
    rcases hd with ⟨hdk, hks⟩ | ⟨hds, _⟩
    · rw [if_pos (by omega)] at ih
      exact ih (by omega) (Or.inl (by omega)) hp.tail (by simp only [List.length_drop]; omega)
        (by simp only [List.length_drop]; omega)
    · have hdrop : s.stream.drop d = [] := hnil _ (by rw [List.length_drop]; omega)
      rw [hdrop] at ih
      exact ih (by omega) (by split; exact Or.inl (by omega); exact Or.inr rfl) hp.tail
        (by simp only [List.length_nil]; omega) (Nat.zero_le _)

/-- the plain-script part of the credit invariant -/
def PlainD (K credit : Nat) (r : Rd) : Prop :=
  r.src.stream = [] ∨ credit = 0 ∨
  (PlainK K r.src.script ∧ 1 ≤ K ∧ credit ≤ r.src.script.length * K ∧ r.err = none)

theorem PlainD.frame {K credit : Nat} {r r' : Rd} (h : PlainD K credit r) (he : r'.err = r.err)
    (hs : r'.src = r.src) : PlainD K credit r' := by
  unfold PlainD at *; rw [he, hs]; exact h

/-- credit covers the request ⇒ it can be served -/
theorem plainD_canServe (K credit : Nat) (r : Rd) (n : Nat) (h : PlainD K credit r)
    (hn : n ≤ r.remaining.length) (hc : n ≤ credit) : r.canServe n = true :=
  canServe_of_enough r n hn fun need h0 hnn hle => by
    rcases h with h | h | ⟨hp, hK, hcr, he⟩
    · rw [h] at hle; exact absurd hle (by simp; omega)
    · omega
    · exact ⟨he, plain_enough _ K _ _ _ _ hp hK h0 hle (by omega) maxEmpty_pos⟩

theorem acquire_stream_nil (r : Rd) (n m : Nat) (r' : Rd) (hinv : Inv r) (hs : r.Small n)
    (h : r.acquire n = some (m, r')) (hnil : r.src.stream = []) : r'.src.stream = [] := by
  obtain ⟨d, _, hd⟩ := (acquire_post r n m r' hinv hs h).data
  rw [hnil] at hd
  have := congrArg List.length hd
  simp at this
  exact List.eq_nil_of_length_eq_zero (by omega)

theorem acquire_credit (K credit : Nat) (r : Rd) (n m : Nat) (r' : Rd) (hinv : Inv r) (hs : r.Small n)
    (hJ : PlainD K credit r) (h : r.acquire n = some (m, r')) :
    (n ≤ r.remaining.length → n ≤ credit → PlainD K (credit - (n + K)) r') ∧
    (r.remaining.length < n → r.remaining.length ≤ credit → r'.src.stream = []) := by
  have hnil := acquire_stream_nil r n m r' hinv hs h
  have hri := hinv.ri_le
  rw [remaining_length r]
  rcases hJ with hJ | hJ | ⟨hp, hK, hcr, he⟩
  · exact ⟨fun _ _ => Or.inl (hnil hJ), fun _ _ => hnil hJ⟩
  · exact ⟨fun _ _ => Or.inr (Or.inl (by omega)),
      fun _ _ => hnil (List.eq_nil_of_length_eq_zero (by omega))⟩
  · rcases acquire_cases r n m r' hinv hs h with
      ⟨rfl, hfast | ⟨_, herr, _⟩⟩ | ⟨hslow, _, _, _, hroom, hpl⟩
    · exact ⟨fun _ _ => Or.inr (Or.inr ⟨hp, hK, by omega, he⟩), fun _ _ => by omega⟩
    · exact absurd he herr
    · constructor
      · intro hfits hcov
        obtain ⟨h1, h2, h3⟩ := readLoop_plain_credit hpl (by omega) hroom maxEmpty_pos hp hK
          (by omega) (by omega)
        exact Or.inr (Or.inr ⟨h2, hK, by omega, h1⟩)
      · intro hpast hcov
        exact readLoop_plain_drain hpl hroom (Or.inl maxEmpty_pos) hp hK (by omega) (by omega)

/-! ## the spec's `Credit` bookkeeping along histories -/

/-- what a `Credit` value claims about a model state -/
structure CreditInv (cr : Credit) (r : Rd) : Prop where
  all : cr.all = true → r.Live2
  plain : cr.all = false → PlainD cr.K cr.credit r

theorem CreditInv.advance {cr : Credit} {r : Rd} (h : CreditInv cr r) (k : Nat) :
    CreditInv cr ({ r with ri := r.ri + k } : Rd) :=
  ⟨fun ha => (h.all ha).advance k, fun ha => (h.plain ha).frame rfl rfl⟩

theorem CreditInv.release {cr : Credit} {r : Rd} (h : CreditInv cr r) : CreditInv cr r.release :=
  ⟨fun ha => live2_release r (h.all ha),
   fun ha => (h.plain ha).frame (release_frame r).1 (release_frame r).2⟩

theorem minK_le (s : List Resp) (x : Resp) (hx : x ∈ s) : minK s ≤ x.k := by
  induction s with
  | nil => simp at hx
  | cons y rest ih =>
    cases rest with
    | nil => simp at hx; subst hx; simp [minK]
    | cons z rest' =>
      simp only [minK]
      rcases List.mem_cons.mp hx with h | h
      · subst h; omega
      · have := ih h; omega

theorem minK_pos (s : List Resp) (hne : s ≠ []) (h : ∀ x ∈ s, 1 ≤ x.k) : 1 ≤ minK s := by
  induction s with
  | nil => exact absurd rfl hne
  | cons y rest ih =>
    cases rest with
    | nil => simp [minK]; exact h y (by simp)
    | cons z rest' =>
      simp only [minK]
      have h1 := h y (by simp)
      have h2 := ih (by simp) (fun x hx => h x (by simp [hx]))
      omega

theorem creditInv_init_default (S : Bytes) (script : List Resp) (live : Bool)
    (hl : live = true → (Rd.newDefault ⟨S, script⟩).Live2) :
    CreditInv (Credit.init live script) (Rd.newDefault ⟨S, script⟩) := by
  unfold Credit.init
  split
  · rename_i hall
    refine ⟨hl, fun _ => ?_⟩
    simp only [List.all_eq_true, Bool.and_eq_true, decide_eq_true_eq] at hall
    cases hs : script with
    | nil => exact Or.inr (Or.inl (by simp))
    | cons y rest =>
      rw [← hs]
      refine Or.inr (Or.inr ⟨?_, ?_, by simp [Rd.newDefault], rfl⟩)
      · intro x hx
        refine ⟨?_, minK_le _ _ hx⟩
        have := (hall x hx).1
        cases he : x.err with
        | none => rfl
        | some e => rw [he] at this; simp at this
      · exact minK_pos script (by rw [hs]; simp) (fun x hx => (hall x hx).2)
  · exact ⟨hl, fun _ => Or.inr (Or.inl rfl)⟩

theorem creditInv_init_bytes (data : Bytes) (cap : Nat) :
    CreditInv (Credit.init true []) (Rd.newBytes data cap) :=
  ⟨fun _ => Or.inl (live_newBytes data cap), fun h => by simp [Credit.init] at h⟩

/-- acquire against a credit that does not say `all` -/
theorem acquire_creditInv (cr : Credit) (c : Cur) (r : Rd) (op : ROp) (n m : Nat) (r1 : Rd)
    (habs : Abs c r) (hs : r.Small n) (hall : cr.all = false) (hJ : CreditInv cr r)
    (hreq : op.req = some n) (hacq : r.acquire n = some (m, r1)) :
    CreditInv (cr.after c op) r1 ∧
    (cr.must c op = true →
      (n ≤ r.remaining.length → n ≤ m) ∧ (r.remaining.length < n → r1.src.stream = [])) := by
  have hinv := habs.inv
  have hrest : c.rest.length = r.remaining.length := by rw [habs.rest]
  obtain ⟨hA, hC⟩ := acquire_credit cr.K cr.credit r n m r1 hinv hs (hJ.plain hall) hacq
  constructor
  · unfold Credit.after
    simp only [hall, Bool.false_eq_true, if_false, hreq, hrest]
    split
    · rename_i hfit
      refine ⟨fun ha => by simp at ha, fun _ => ?_⟩
      simp only []
      split
      · rename_i hcov; exact hA hfit hcov
      · exact Or.inr (Or.inl rfl)
    · rename_i hpast
      split
      · rename_i hcov
        exact ⟨fun _ => Or.inl (Or.inl (hC (by omega) hcov)), fun ha => by simp at ha⟩
      · exact ⟨fun ha => by simp at ha, fun _ => Or.inr (Or.inl rfl)⟩
  · intro hmust
    unfold Credit.must at hmust
    simp only [hall, Bool.false_or, hreq, hrest, decide_eq_true_eq] at hmust
    constructor
    · intro hfit
      have hcs := plainD_canServe cr.K cr.credit r n (hJ.plain hall) hfit (by omega)
      exact (acquire_live r n m r1 hinv hs hacq).mpr hcs
    · intro hpast
      exact hC hpast (by omega)

theorem Credit.after_idle (cr : Credit) (c : Cur) {op : ROp} (h : op.req = none) :
    cr.after c op = cr := by
  unfold Credit.after; rw [h]; split <;> rfl

/-- ONE STEP against the credit: the bookkeeping stays sound, and wherever the credit says the
    request must be served, the model's report passes `liveOk` -/
theorem step_credit (cr : Credit) (c : Cur) (r : Rd) (op : ROp) (habs : Abs c r)
    (hs : r.Small op.size) (hJ : CreditInv cr r) :
    CreditInv (cr.after c op) (r.step op).2 ∧
    (cr.must c op = true → liveOk c op (r.step op).1 = true) := by
  cases hall : cr.all with
  | true =>
    have h := step_live2 c r op habs hs (hJ.all hall)
    have : cr.after c op = cr := by simp [Credit.after, hall]
    rw [this]
    exact ⟨⟨fun _ => h.1, fun ha => by rw [hall] at ha; simp at ha⟩, fun _ => h.2⟩
  | false =>
    have hv := step_view r op habs.inv hs
    have hacq := fun m r1 hreq => acquire_creditInv cr c r op op.size m r1 habs hs hall hJ hreq
    constructor
    · exact hv.state (CreditInv (cr.after c op))
        (fun hreq => by rw [cr.after_idle c hreq]; exact ⟨hJ, hJ.release⟩)
        (fun m r1 k hreq h => (hacq m r1 hreq h).1.advance k)
    · exact fun hm => hv.live habs (fun m r1 hreq h =>
        ⟨((hacq m r1 hreq h).2 hm).1, fun hpast _ => ((hacq m r1 hreq h).2 hm).2 hpast⟩)

end Verif
