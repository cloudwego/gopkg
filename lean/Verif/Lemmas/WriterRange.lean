/-
  Lemmas/WriterRange: the range in which the writer model mirrors the Go code.

  The model computes on `Nat` with an allocator that always succeeds.  The real code does not:
    * `mcache.Malloc` has 46 size classes: a request above 2^45 panics (`caches[i]`, index out of range);
    * `int` is 64 bit: `for ; maxSize < n; maxSize *= 2 {}` wraps to 0 and spins for n > 2^62.
  `InRange a H w ops`: in the state where each operation runs, running length + requested size ≤ H.
  `capsLe_run`: for 2·H ≤ L (L = 2^45 for mcache) and an allocator that stays within L on requests
  ≤ L, every buffer capacity and every stats entry of an in-range history is ≤ L — so every request
  the writer makes is ≤ L (no mcache index panic) and every integer it computes is < 2·L (no wrap).
-/
import Verif.Lemmas.WriterSim
namespace Verif
open WLog

/-- bytes an operation asks the writer for -/
def WOp.size : WOp → Nat
  | .malloc n => n.toNat
  | .wb bs => bs.length
  | _ => 0

/-- every operation runs in a state where running length + requested size ≤ H -/
def InRange (a : WAlloc) (H : Nat) : Wr → List WOp → Prop
  | _, [] => True
  | w, op :: ops => w.bufLen + op.size ≤ H ∧ InRange a H (w.step a op).2 ops

instance decInRange (a : WAlloc) (H : Nat) : ∀ (w : Wr) (ops : List WOp), Decidable (InRange a H w ops)
  | _, [] => isTrue trivial
  | w, op :: ops => @instDecidableAnd _ _ (Nat.decLe _ _) (decInRange a H (w.step a op).2 ops)

theorem InRange.take {a : WAlloc} {H : Nat} {w : Wr} {ops : List WOp} (h : InRange a H w ops) (k : Nat) :
    InRange a H w (ops.take k) := by
  induction ops generalizing w k with
  | nil => simpa using h
  | cons op ops ih =>
    cases k with
    | zero => exact trivial
    | succ k => exact ⟨h.1, ih h.2 k⟩

/-- the allocator's capacity policy stays within L on requests within L (mcache: L = 2^45) -/
def WAlloc.Within (a : WAlloc) (L : Nat) : Prop := ∀ c, c ≤ L → a.poolCap c ≤ L

/-- current capacity and remembered capacities are within L -/
def CapsLe (L : Nat) (w : Wr) : Prop := w.bufCap ≤ L ∧ ∀ x ∈ w.stats, x ≤ L

instance (L : Nat) (w : Wr) : Decidable (CapsLe L w) := by unfold CapsLe; exact inferInstance

theorem w_doubleUntil_le (fuel c n : Nat) : doubleUntil fuel c n = c ∨ doubleUntil fuel c n < 2 * n := by
  induction fuel generalizing c with
  | zero => exact Or.inl rfl
  | succ f ih =>
    simp only [doubleUntil]
    split
    · rcases ih (c * 2) with h | h
      · right; rw [h]; omega
      · exact Or.inr h
    · exact Or.inl rfl

theorem growCap_lt (fuel c ri n : Nat) (h : c < 2 * (ri + n)) : growCap fuel c ri n < 2 * (ri + n) := by
  induction fuel generalizing c with
  | zero => exact h
  | succ f ih =>
    simp only [growCap]
    split
    · exact ih (c * 2) (by omega)
    · exact h

/-- mcache's power-of-two rounding stays within 2^k on requests within 2^k -/
theorem pow2_policy_within (d : Nat → Nat → UInt8) (k : Nat) :
    (⟨fun c => max c (pow2ceil c), d⟩ : WAlloc).Within (2 ^ k) := by
  intro c hc
  exact Nat.max_le.mpr ⟨hc, pow2ceil_le c k (2 ^ k) (Nat.one_mul _) hc⟩

theorem allocBuf_cap (a : WAlloc) (w : Wr) (len c : Nat) :
    (w.allocBuf a len c).bufCap = (if w.disableCache then c else a.poolCap c) ∧
    (w.allocBuf a len c).stats = w.stats := ⟨rfl, rfl⟩

theorem policy_le (a : WAlloc) (L : Nat) (hb : a.Within L) (dc : Bool) (c : Nat) (hc : c ≤ L) :
    (if dc then c else a.poolCap c) ≤ L := by
  split
  · exact hc
  · exact hb c hc

theorem firstAlloc_caps (a : WAlloc) (L : Nat) (hb : a.Within L) (hd : Facts.defaultBufSize ≤ L)
    (w : Wr) (hc : CapsLe L w) (n : Nat) (hr : 2 * n ≤ L) : CapsLe L (w.firstAlloc a n) := by
  refine ⟨?_, hc.2⟩
  show (if w.disableCache then _ else a.poolCap _) ≤ L
  apply policy_le a L hb
  have hm1 : (if statsMax w.stats < Facts.defaultBufSize then Facts.defaultBufSize else statsMax w.stats) ≤ L := by
    split
    · exact hd
    · exact statsMax_le _ _ hc.2
  rcases w_doubleUntil_le n (if statsMax w.stats < Facts.defaultBufSize then Facts.defaultBufSize else statsMax w.stats) n with e | e
  · rw [e]; exact hm1
  · omega

theorem grow_caps (a : WAlloc) (L : Nat) (hb : a.Within L) (w : Wr) (hs : ∀ x ∈ w.stats, x ≤ L)
    (v : WView) (n : Nat) (hgt : n > v.cap - v.len) (hr : 2 * (v.len + n) ≤ L) :
    CapsLe L (w.grow a v n) := by
  refine ⟨?_, hs⟩
  show (if w.disableCache then _ else a.poolCap _) ≤ L
  apply policy_le a L hb
  have := growCap_lt n (v.cap * 2) v.len n (by omega)
  omega

/-- acquire keeps the capacities within L when 2·(length + n) ≤ L -/
theorem acquire_caps (a : WAlloc) (ha : a.Sound) (L : Nat) (hb : a.Within L) (hd : Facts.defaultBufSize ≤ L)
    (w : Wr) (hw : WInv w) (hc : CapsLe L w) (n : Nat) (hr : 2 * (w.bufLen + n) ≤ L) (w1 : Wr)
    (h : w.acquire a n = some w1) : CapsLe L w1 := by
  rcases Wr.acquire_cases a ha w hw n with ⟨_, h'⟩ | ⟨_, _, h'⟩ | ⟨v, hbv, _, hgt, h'⟩
  all_goals cases h.symm.trans h'
  · exact hc
  · exact firstAlloc_caps a L hb hd w hc n (by omega)
  · exact grow_caps a L hb w hc.2 v n hgt (by rw [Wr.bufLen, hbv] at hr; exact hr)

theorem capsLe_of_eq {L : Nat} {w w' : Wr} (hc : CapsLe L w) (h1 : w'.bufCap = w.bufCap)
    (h2 : w'.stats = w.stats) : CapsLe L w' := by
  unfold CapsLe; rw [h1, h2]; exact hc

/-- one operation keeps the capacities within L when 2·(running length + requested size) ≤ L -/
theorem capsLe_step (a : WAlloc) (ha : a.Sound) (L : Nat) (hb : a.Within L) (hd : Facts.defaultBufSize ≤ L)
    (w : Wr) (hw : WInv w) (hc : CapsLe L w) (op : WOp) (hr : 2 * (w.bufLen + op.size) ≤ L) :
    CapsLe L (w.step a op).2 := by
  cases op with
  | len => exact hc
  | fill rid off bs =>
    simp only [Wr.step, Wr.fill]
    split
    · exact hc
    · split
      · exact hc
      · exact capsLe_of_eq hc rfl rfl
  | malloc n =>
    simp only [Wr.step, Wr.malloc]
    cases he : w.err with
    | some e => exact hc
    | none =>
      simp only
      by_cases hn : n < 0
      · rw [if_pos hn]; exact hc
      · rw [if_neg hn]
        cases hacq : w.acquire a n.toNat with
        | none => exact hc
        | some w1 =>
          have hc1 := acquire_caps a ha L hb hd w hw hc n.toNat hr w1 hacq
          simp only
          cases hb1 : w1.buf with
          | none =>
            simp only
            split
            · exact hc1
            · exact capsLe_of_eq hc1 (by simp [Wr.bufCap, hb1]) rfl
          | some v =>
            simp only
            split
            · exact hc1
            · exact capsLe_of_eq hc1 (by simp [Wr.bufCap, hb1]) rfl
  | wb bs =>
    simp only [Wr.step, Wr.writeBinary]
    cases he : w.err with
    | some e => exact hc
    | none =>
      simp only
      cases hacq : w.acquire a bs.length with
      | none => exact hc
      | some w1 =>
        have hc1 := acquire_caps a ha L hb hd w hw hc bs.length hr w1 hacq
        simp only
        cases hb1 : w1.buf with
        | none => exact hc1
        | some v => exact capsLe_of_eq hc1 (by simp [Wr.bufCap, hb1]) rfl
  | flush =>
    simp only [Wr.step]
    rcases flush_cases w hw with ⟨_, _, hfl⟩ | ⟨_, hbv, hfl⟩ | ⟨v, heap1, t, _, hbv, _, _, hfl⟩ |
      ⟨_, heap1, e, _, _, _, _, _, _, hfl⟩
    · rw [hfl]; exact hc
    · rw [hfl]; exact capsLe_of_eq hc (by simp [Wr.bufCap, hbv]) rfl
    · -- the capacity of the flushed buffer is remembered in the stats
      rw [hfl]
      have hvc : v.cap ≤ L := by have := hc.1; rwa [Wr.bufCap, hbv] at this
      refine ⟨Nat.zero_le _, fun x hx => ?_⟩
      rcases List.mem_or_eq_of_mem_set hx with h | h
      · exact hc.2 x h
      · rw [h]; exact hvc
    · rw [hfl]; exact capsLe_of_eq hc rfl rfl

/-- every in-range history keeps every capacity the writer ever holds or remembers within L -/
theorem capsLe_run (a : WAlloc) (ha : a.Sound) (L H : Nat) (hb : a.Within L) (hd : Facts.defaultBufSize ≤ L)
    (hH : 2 * H ≤ L) (w : Wr) (l : Log RErr) (h : WSim w l) (hc : CapsLe L w) (ops : List WOp)
    (hr : InRange a H w ops) : CapsLe L (w.run a ops).2 := by
  induction ops generalizing w l with
  | nil => exact hc
  | cons op ops ih =>
    simp only [Wr.run]
    exact ih _ _ (sim_step a ha w l h op).2
      (capsLe_step a ha L hb hd w h.inv hc op (by have := hr.1; omega)) hr.2

end Verif
