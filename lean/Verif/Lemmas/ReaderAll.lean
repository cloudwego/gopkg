/-
  Lemmas/ReaderAll: the reader model passes the spec's complete judgement (`Cur.judge`: cursor
  contract + error provenance + timeliness + liveness wherever the source's credit demands it) on every
  step of every history.
-/
import Verif.Lemmas.ReaderRefine
import Verif.Lemmas.ReaderProv
import Verif.Lemmas.ReaderSteady
import Verif.Lemmas.ReaderCredit
import Verif.Lemmas.ReaderTimely
namespace Verif

/-- the invariant of a whole history over a source with script `s0`, at cursor `c` with credit `cr` -/
structure Sim (s0 : List Resp) (cr : Credit) (c : Cur) (r : Rd) : Prop where
  abs : Abs c r
  prov : Prov s0 r
  credit : CreditInv cr r
  hi : cr.hi + r.src.stream.length ≤ c.S.length
  timely : TInv (min (prodToErr s0) c.S.length) c.S.length r

/-- the credit the judge continues with -/
def Credit.next (cr : Credit) (c : Cur) (op : ROp) (res : RRes RErr) : Credit :=
  { cr.after c op with hi := max cr.hi (servedMark c op res) }

theorem Credit.after_hi (cr : Credit) (c : Cur) (op : ROp) : (cr.after c op).hi = cr.hi := by
  unfold Credit.after
  by_cases ha : cr.all = true
  · rw [if_pos ha]
  · rw [if_neg ha]
    cases op.req with
    | none => rfl
    | some n =>
      by_cases h1 : n ≤ c.rest.length
      · simp only [if_pos h1]
      · by_cases h2 : c.rest.length ≤ cr.credit
        · simp only [if_neg h1, if_pos h2]
        · simp only [if_neg h1, if_neg h2]

theorem CreditInv.hi_irrelevant {cr : Credit} {r : Rd} (h : CreditInv cr r) (x : Nat) :
    CreditInv { cr with hi := x } r := ⟨h.all, h.plain⟩

theorem step_judge (s0 : List Resp) (cr : Credit) (c : Cur) (r : Rd) (op : ROp)
    (h : Sim s0 cr c r) (hs : r.Small op.size) :
    ∃ c', c.judge Facts.maxConsecutiveEmptyReads s0 cr op (r.step op).1
            = .ok (c', cr.next c op (r.step op).1) ∧
      Sim s0 (cr.next c op (r.step op).1) c' (r.step op).2 ∧ c'.S = c.S := by
  obtain ⟨c', hc', habs'⟩ := step_refines c r op h.abs hs
  obtain ⟨hprov', hallowed⟩ := step_prov s0 r op h.abs.inv hs h.prov
  obtain ⟨hcred', hlive⟩ := step_credit cr c r op h.abs hs h.credit
  have hS' := Cur.step_S _ _ _ _ hc'
  obtain ⟨hT', hmono, hserved⟩ := step_marks _ c r op h.abs hs (Nat.min_le_right _ _) h.timely
  have hhi := h.hi
  have htimely := (step_view r op h.abs.inv hs).timely (s0 := s0) h.abs hhi rfl hT'
  refine ⟨c', ?_, ⟨habs', hprov', hcred'.hi_irrelevant _, ?_, by rw [hS']; exact hT'⟩, hS'⟩
  · unfold Cur.judge
    rw [hc']
    simp only []
    have hlv : (cr.must c op && !liveOk c op (r.step op).1) = false := by
      cases hm : cr.must c op with
      | false => simp
      | true => simp [hlive hm]
    split
    · rename_i e he
      simp [hallowed e he, hlv, htimely, Credit.next]
    · simp [hlv, htimely, Credit.next]
  · simp only [Credit.next, hS']
    rcases Nat.le_total cr.hi (servedMark c op (r.step op).1) with hle | hle
    · rw [Nat.max_eq_right hle]; exact hserved
    · rw [Nat.max_eq_left hle]; omega

/-- a request bound that does not mention the model state: stream and requests below 2^62 -/
theorem small_of_bounds (c : Cur) (r : Rd) (n : Nat) (h : Abs c r)
    (hS : c.S.length ≤ 4611686018427387904) (hn : n ≤ 4611686018427387904) : r.Small n := by
  have := h.ri_le
  unfold Rd.Small; omega

theorem trace_judge (s0 : List Resp) (cr : Credit) (c : Cur) (r : Rd) (ops : List ROp)
    (h : Sim s0 cr c r) (hS : c.S.length ≤ 4611686018427387904)
    (hops : ∀ op ∈ ops, op.size ≤ 4611686018427387904) :
    ∃ c' cr', c.judgeRun Facts.maxConsecutiveEmptyReads s0 cr (r.trace ops).1 = .ok (c', cr') ∧
      Sim s0 cr' c' (r.trace ops).2 := by
  induction ops generalizing c cr r with
  | nil => exact ⟨c, cr, rfl, h⟩
  | cons op ops ih =>
    have hs := small_of_bounds c r op.size h.abs hS (hops op (by simp))
    obtain ⟨c1, hc1, h1, hS1⟩ := step_judge s0 cr c r op h hs
    obtain ⟨c2, cr2, hc2, h2⟩ := ih _ c1 _ h1 (by rw [hS1]; exact hS) (fun o ho => hops o (by simp [ho]))
    refine ⟨c2, cr2, ?_, h2⟩
    simp only [Rd.trace, Cur.judgeRun, hc1]
    exact hc2

theorem smallOps_of_bounds (ops : List ROp) (c : Cur) (r : Rd) (h : Abs c r)
    (hS : c.S.length ≤ 4611686018427387904) (hops : ∀ op ∈ ops, op.size ≤ 4611686018427387904) :
    r.SmallOps ops := by
  induction ops generalizing c r with
  | nil => trivial
  | cons op ops ih =>
    have hs := small_of_bounds c r op.size h hS (hops op (by simp))
    obtain ⟨c1, hc1, h1⟩ := step_refines c r op h hs
    exact ⟨hs, ih c1 _ h1 (by rw [Cur.step_S _ _ _ _ hc1]; exact hS)
      (fun o ho => hops o (by simp [ho]))⟩

/-- after any history: the stream is delivered ++ remaining, `Inv` holds, ReadLen = pos - mark -/
theorem trace_delivered (c : Cur) (r : Rd) (ops : List ROp) (h : Abs c r)
    (hS : c.S.length ≤ 4611686018427387904) (hops : ∀ op ∈ ops, op.size ≤ 4611686018427387904) :
    ∃ c', c.run (r.trace ops).1 = .ok c' ∧
      c.S = c.S.take c'.pos ++ (r.trace ops).2.remaining ∧
      Inv (r.trace ops).2 ∧ (r.trace ops).2.readLen = c'.pos - c'.mark := by
  obtain ⟨c', hrun, habs⟩ := trace_refines c r ops h (smallOps_of_bounds ops c r h hS hops)
  have hS' : c'.S = c.S := Cur.run_S _ _ _ hrun
  refine ⟨c', hrun, ?_, habs.inv, ?_⟩
  · rw [← habs.rest]; unfold Cur.rest; rw [hS', List.take_append_drop]
  · unfold Rd.readLen; rw [habs.pos]; omega

end Verif
