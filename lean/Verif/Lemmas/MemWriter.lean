/-
  Lemmas/MemWriter: the ownership invariant `WInv` of the Mem-level bufiox writer, the protected
  region `WProt` (everything written or handed out since the last Flush, plus caller memory below its
  write limit), and the step lemmas for Malloc / WriteBinary / Flush and the environment.
-/
import Verif.Lemmas.MemHeap
import Verif.Lemmas.MemReader
import Verif.Model.MemWriter
namespace Verif.Mem
open Verif Verif.Heap

/-- who may own a buffer of this writer: pool objects (full slices) with the cache, Go-heap objects or
    the caller's target without -/
def WOwnerOK (w : MWr) (x : Obj) (s : Slice) : Prop :=
  (w.disableCache = true → (x.owner = .gc ∨ x.owner = .caller)) ∧
  (w.disableCache = false → (x.owner = .live ∧ s.off = 0 ∧ s.cap = x.data.length))

theorem WOwnerOK.notFreed {w : MWr} {x : Obj} {s : Slice} (ho : WOwnerOK w x s) : x.owner ≠ .freed := by
  cases hd : w.disableCache
  · rw [(ho.2 hd).1]; decide
  · rcases ho.1 hd with h1 | h1 <;> (rw [h1]; decide)

structure WInv (w : MWr) (h : Heap) : Prop where
  nofault : h.faults = []
  len_le : w.buf.len ≤ w.buf.cap
  nil_pend : w.buf.cap = 0 → w.pending = []
  buf_ok : 0 < w.buf.cap → ∃ x, h.obj? w.buf.obj = some x ∧ w.buf.off + w.buf.cap ≤ x.data.length ∧
      WOwnerOK w x w.buf ∧ (x.owner = .caller → w.pending = [] ∧ x.wfrom ≤ w.buf.off + w.buf.len)
  pend_ok : ∀ s ∈ w.pending, s.obj ≠ w.buf.obj ∧ s.len ≤ s.cap ∧ 0 < s.cap ∧ s.len ≤ w.buf.len ∧
      ∃ x, h.obj? s.obj = some x ∧ s.off + s.cap ≤ x.data.length ∧ WOwnerOK w x s
  pend_nodup : (w.pending.map (·.obj)).Nodup
  pend_sorted : (w.pending.map (·.len)).Pairwise (· ≤ ·)
  /-- where the regions are: in the current buffer below `len`, or in a parked buffer below its `len` -/
  reg_ok : ∀ g ∈ w.regions, g.len = 0 ∨
      (0 < w.buf.cap ∧ g.obj = w.buf.obj ∧ g.off + g.len ≤ w.buf.off + w.buf.len) ∨
      (∃ s ∈ w.pending, g.obj = s.obj)
  /-- a checked write through a region would pass -/
  reg_w : ∀ g ∈ w.regions, 0 < g.len → ∃ x, h.obj? g.obj = some x ∧ g.off + g.len ≤ x.data.length ∧
      x.owner ≠ .freed ∧ (x.owner = .caller → x.wfrom ≤ g.off)
  reg_disj : w.regions.Pairwise Slice.Disjoint

/-- positions the library must not write any more before Flush -/
def WProt (w : MWr) (h : Heap) (o p : Nat) : Prop :=
  (∃ s ∈ w.pending, s.obj = o) ∨
  (0 < w.buf.cap ∧ w.buf.obj = o ∧ p < w.buf.off + w.buf.len) ∨
  (∃ x, h.obj? o = some x ∧ x.owner = .caller ∧ p < x.wfrom)

def WFrame (w : MWr) (h : Heap) (w' : MWr) (h' : Heap) : Prop :=
  ∀ o p, WProt w h o p → WProt w' h' o p ∧ h'.byte? o p = h.byte? o p

structure WStepOK (w : MWr) (h : Heap) (w' : MWr) (h' : Heap) : Prop where
  inv : WInv w' h'
  frame : WFrame w h w' h'
  keeps : Keeps h h'
  /-- regions are only added -/
  regs : ∀ g ∈ w.regions, g ∈ w'.regions
  /-- with the cache disabled the pool is never called -/
  nopool : w.disableCache = true → h'.events = h.events
  dc : w'.disableCache = w.disableCache

theorem WStepOK.refl {w : MWr} {h : Heap} (hi : WInv w h) : WStepOK w h w h :=
  ⟨hi, fun _ _ hp => ⟨hp, rfl⟩, Keeps.refl _, fun _ hg => hg, fun _ => rfl, rfl⟩

theorem WStepOK.trans {w1 w2 w3 : MWr} {h1 h2 h3 : Heap} (a : WStepOK w1 h1 w2 h2) (b : WStepOK w2 h2 w3 h3) :
    WStepOK w1 h1 w3 h3 :=
  ⟨b.inv, fun o p hp => ⟨(b.frame o p (a.frame o p hp).1).1, ((b.frame o p (a.frame o p hp).1).2).trans (a.frame o p hp).2⟩,
   a.keeps.trans b.keeps, fun g hg => b.regs g (a.regs g hg),
   fun hd => (b.nopool (by rw [a.dc]; exact hd)).trans (a.nopool hd), b.dc.trans a.dc⟩

theorem WProt.exists {w : MWr} {h : Heap} (hi : WInv w h) {o p : Nat} (hp : WProt w h o p) :
    ∃ x, h.obj? o = some x := by
  rcases hp with ⟨s, hs, rfl⟩ | ⟨hc, rfl, _⟩ | ⟨x, hx, _⟩
  · obtain ⟨_, _, _, _, x, hx, _⟩ := hi.pend_ok s hs; exact ⟨x, hx⟩
  · obtain ⟨x, hx, _⟩ := hi.buf_ok hc; exact ⟨x, hx⟩
  · exact ⟨x, hx⟩

/-- a region-writability fact survives whenever shapes are kept -/
theorem reg_w_keeps {h h' : Heap} (hk : Keeps h h') (g : Slice)
    (hw : ∃ x, h.obj? g.obj = some x ∧ g.off + g.len ≤ x.data.length ∧ x.owner ≠ .freed ∧
      (x.owner = .caller → x.wfrom ≤ g.off)) :
    ∃ x, h'.obj? g.obj = some x ∧ g.off + g.len ≤ x.data.length ∧ x.owner ≠ .freed ∧
      (x.owner = .caller → x.wfrom ≤ g.off) := by
  obtain ⟨x, hx, a, b, c⟩ := hw
  obtain ⟨x', hx', ho, hwf, hl⟩ := hk _ x hx
  exact ⟨x', hx', by omega, by rw [ho]; exact b, by rw [ho, hwf]; exact c⟩

/-- the invariant only looks at the fault log and the shape of the objects -/
theorem WInv.of_keeps {w : MWr} {h h' : Heap} (hi : WInv w h) (hk : Keeps h h') (hf : h'.faults = []) :
    WInv w h' where
  nofault := hf
  len_le := hi.len_le
  nil_pend := hi.nil_pend
  buf_ok := fun hc => by
    obtain ⟨x, hx, hb, ⟨o1, o2⟩, hcl⟩ := hi.buf_ok hc
    obtain ⟨x', hx', ho, hwf, hl⟩ := hk _ x hx
    exact ⟨x', hx', by omega, ⟨fun hd => by rw [ho]; exact o1 hd, fun hd => by rw [ho, hl]; exact o2 hd⟩,
      fun hc' => by rw [ho] at hc'; rw [hwf]; exact hcl hc'⟩
  pend_ok := fun s hs => by
    obtain ⟨a, b, c, d, x, hx, hb, ⟨o1, o2⟩⟩ := hi.pend_ok s hs
    obtain ⟨x', hx', ho, _, hl⟩ := hk _ x hx
    exact ⟨a, b, c, d, x', hx', by omega, ⟨fun hd => by rw [ho]; exact o1 hd, fun hd => by rw [ho, hl]; exact o2 hd⟩⟩
  pend_nodup := hi.pend_nodup
  pend_sorted := hi.pend_sorted
  reg_ok := hi.reg_ok
  reg_w := fun g hg hpos => reg_w_keeps hk g (hi.reg_w g hg hpos)
  reg_disj := hi.reg_disj

theorem WProt.of_keeps {w : MWr} {h h' : Heap} {o p : Nat} (hk : Keeps h h') (hp : WProt w h o p) :
    WProt w h' o p := by
  rcases hp with hp | hp | ⟨y, hy, hc, hlt⟩
  · exact Or.inl hp
  · exact Or.inr (Or.inl hp)
  · obtain ⟨y', hy', ho, hwf, _⟩ := hk o y hy
    exact Or.inr (Or.inr ⟨y', hy', ho.trans hc, hwf ▸ hlt⟩)

theorem WFrame.of_extends {w : MWr} {h h' : Heap} (hi : WInv w h) (he : Extends h h') : WFrame w h w h' :=
  fun o p hp => ⟨hp.of_keeps (Keeps.of_extends he), by obtain ⟨x, hx⟩ := hp.exists hi; exact he.byte? o p x hx⟩

/-- environment steps: every object the writer holds is live / gc / caller, so nothing changes -/
theorem WInv.env {w : MWr} {h h' : Heap} (hi : WInv w h) (he : Env h h') : WStepOK w h w h' := by
  have hk := he.keeps
  refine ⟨hi.of_keeps hk (by rw [he.faults]; exact hi.nofault), ?_, hk, fun _ hg => hg, fun _ => he.events, rfl⟩
  intro o p hp
  have hnf : ∃ x, h.obj? o = some x ∧ x.owner ≠ .freed := by
    rcases hp with ⟨s, hs, rfl⟩ | ⟨hc, rfl, _⟩ | ⟨x, hx, hc, _⟩
    · obtain ⟨_, _, _, _, x, hx, _, ho⟩ := hi.pend_ok s hs
      exact ⟨x, hx, ho.notFreed⟩
    · obtain ⟨x, hx, _, ho, _⟩ := hi.buf_ok hc
      exact ⟨x, hx, ho.notFreed⟩
    · exact ⟨x, hx, by rw [hc]; decide⟩
  obtain ⟨x, hx, hxf⟩ := hnf
  exact ⟨hp.of_keeps hk, he.byte? o p x hx hxf⟩

/-! ## acquire -/

theorem walloc_new (w : MWr) (h : Heap) (len cap : Nat) :
    ∃ c x, (w.alloc h len cap).1 = ⟨h.size, 0, len, c⟩ ∧ cap ≤ c ∧
      Extends h (w.alloc h len cap).2 ∧ (w.alloc h len cap).2.faults = h.faults ∧
      (w.disableCache = true → (w.alloc h len cap).2.events = h.events) ∧
      (w.alloc h len cap).2.obj? h.size = some x ∧ x.data.length = c ∧
      WOwnerOK w x ⟨h.size, 0, len, c⟩ ∧ x.owner ≠ .caller := by
  unfold MWr.alloc
  cases hd : w.disableCache
  · rw [if_neg Bool.false_ne_true]
    obtain ⟨x, hx, hl, hlen⟩ := malloc_new h len cap
    exact ⟨_, x, rfl, (malloc_cap_ge h len cap).2, extends_malloc h len cap, rfl, fun hd' => Bool.noConfusion hd',
      hx, hlen, ⟨fun hd' => Bool.noConfusion (hd.symm.trans hd'), fun _ => ⟨hl, rfl, hlen.symm⟩⟩, by rw [hl]; decide⟩
  · rw [if_pos rfl]
    obtain ⟨x, hx, hl, hlen⟩ := gcAlloc_new h len cap
    exact ⟨_, x, rfl, Nat.le_refl _, extends_gcAlloc h len cap, rfl, fun _ => rfl,
      hx, hlen, ⟨fun _ => Or.inl hl, fun hd' => Bool.noConfusion (hd.symm.trans hd')⟩, by rw [hl]; decide⟩

/-- the growth loop reaches the requested room (no `int` overflow: `n + len < c * 2^fuel`) -/
theorem growCap_room (f c ri n : Nat) (hn : n + ri ≤ c * 2 ^ f) : n ≤ growCap f c ri n - ri := by
  induction f generalizing c with
  | zero => simp [growCap] at *; omega
  | succ f ih =>
    unfold growCap; split
    · apply ih; rw [Nat.pow_succ] at hn; rw [Nat.mul_assoc, Nat.mul_comm 2]; exact hn
    · omega

theorem doubleUntil_ge (f c n : Nat) : c ≤ doubleUntil f c n := by
  induction f generalizing c with
  | zero => simp [doubleUntil]
  | succ f ih =>
    unfold doubleUntil; split
    · exact Nat.le_trans (by omega) (ih (c * 2))
    · exact Nat.le_refl c

theorem wInstall_ok (w : MWr) (h : Heap) (a b : Nat) (hi : WInv w h) (hcb : w.buf.cap ≤ b) :
    ∃ c, (w.alloc h a b).1 = ⟨h.size, 0, a, c⟩ ∧ b ≤ c ∧
      WStepOK w h { w with buf := ⟨h.size, 0, w.buf.len, c⟩, isNil := false,
                           pending := if w.buf.cap = 0 then w.pending else w.pending ++ [w.buf] }
        (w.alloc h a b).2 := by
  obtain ⟨c, x, ha, hcc, aext, afl, aev, hx, hxl, hxo, hxc⟩ := walloc_new w h a b
  refine ⟨c, ha, hcc, ?_⟩
  generalize (w.alloc h a b).2 = h1 at aext afl aev hx
  have hk := Keeps.of_extends aext
  have hlen := hi.len_le
  have hlt : ∀ {o y}, h.obj? o = some y → o ≠ h.size := fun hy => Nat.ne_of_lt (obj?_lt h _ _ hy)
  have hmem : ∀ s, s ∈ (if w.buf.cap = 0 then w.pending else w.pending ++ [w.buf]) ↔
      s ∈ w.pending ∨ (0 < w.buf.cap ∧ s = w.buf) := fun s => by
    split
    · exact ⟨Or.inl, fun hs => hs.elim id fun hp => by omega⟩
    · rw [List.mem_append, List.mem_singleton]
      exact ⟨fun hs => hs.imp_right fun e => ⟨by omega, e⟩, fun hs => hs.imp_right And.right⟩
  refine ⟨?_, fun o p hp => ⟨?_, aext.byte? o p _ (hp.exists hi).choose_spec⟩, hk, fun _ hg => hg, aev, rfl⟩
  · exact {
      nofault := afl.trans hi.nofault
      len_le := Nat.le_trans hlen (Nat.le_trans hcb hcc)
      nil_pend := fun hc0 => by have : c = 0 := hc0; rw [if_pos (by omega)]; exact hi.nil_pend (by omega)
      buf_ok := fun _ => ⟨x, hx, by show 0 + c ≤ _; omega,
        ⟨hxo.1, fun hd => ⟨(hxo.2 hd).1, rfl, (hxo.2 hd).2.2⟩⟩, fun hcl => absurd hcl hxc⟩
      pend_ok := fun s hs => by
        rcases (hmem s).mp hs with hs' | ⟨hpos, rfl⟩
        · obtain ⟨_, b', c', d, y, hy, hb', ho'⟩ := hi.pend_ok s hs'
          exact ⟨hlt hy, b', c', d, y, aext _ y hy, hb', ho'⟩
        · obtain ⟨xb, hxb, hbb, hbo, _⟩ := hi.buf_ok hpos
          exact ⟨hlt hxb, hlen, hpos, Nat.le_refl _, xb, aext _ xb hxb, hbb, hbo⟩
      pend_nodup := by
        show ((if w.buf.cap = 0 then w.pending else w.pending ++ [w.buf]).map (·.obj)).Nodup
        split
        · exact hi.pend_nodup
        · exact pairwise_map_snoc hi.pend_nodup fun s hs => (hi.pend_ok s hs).1
      pend_sorted := by
        show ((if w.buf.cap = 0 then w.pending else w.pending ++ [w.buf]).map (·.len)).Pairwise (· ≤ ·)
        split
        · exact hi.pend_sorted
        · exact pairwise_map_snoc hi.pend_sorted fun s hs => (hi.pend_ok s hs).2.2.2.1
      reg_ok := fun g hg => by
        rcases hi.reg_ok g hg with h0 | ⟨hpos, ho, _⟩ | ⟨s, hs, ho⟩
        · exact Or.inl h0
        · exact Or.inr (Or.inr ⟨w.buf, (hmem _).mpr (Or.inr ⟨hpos, rfl⟩), ho⟩)
        · exact Or.inr (Or.inr ⟨s, (hmem _).mpr (Or.inl hs), ho⟩)
      reg_w := fun g hg hpos' => reg_w_keeps hk g (hi.reg_w g hg hpos')
      reg_disj := hi.reg_disj }
  · rcases hp with ⟨s, hs, ho⟩ | ⟨hpos, ho, _⟩ | ⟨z, hz, hcl⟩
    · exact Or.inl ⟨s, (hmem _).mpr (Or.inl hs), ho⟩
    · exact Or.inl ⟨w.buf, (hmem _).mpr (Or.inr ⟨hpos, rfl⟩), ho⟩
    · exact Or.inr (Or.inr ⟨z, aext o z hz, hcl⟩)

theorem wFirstAlloc_ok (w : MWr) (h : Heap) (n : Nat) (hi : WInv w h) :
    WStepOK w h (w.firstAlloc h n).1 (w.firstAlloc h n).2 ∧ 0 < (w.firstAlloc h n).1.buf.cap ∧
    (w.firstAlloc h n).1.buf.len = w.buf.len ∧ (w.firstAlloc h n).1.regions = w.regions ∧
    (w.firstAlloc h n).1.err = w.err := by
  unfold MWr.firstAlloc
  by_cases hc : w.buf.cap = 0
  · rw [if_pos hc]
    dsimp only
    have hm2 : 0 < doubleUntil 64 (if statsMax w.stats < Facts.defaultBufSize then Facts.defaultBufSize else statsMax w.stats) n := by
      refine Nat.lt_of_lt_of_le ?_ (doubleUntil_ge 64 _ n)
      have h2 : 0 < Facts.defaultBufSize := by decide
      split <;> omega
    generalize doubleUntil 64 (if statsMax w.stats < Facts.defaultBufSize then Facts.defaultBufSize else statsMax w.stats) n = m2 at hm2
    have hlen0 : w.buf.len = 0 := Nat.le_zero.mp (hc ▸ hi.len_le)
    obtain ⟨c, ha, hcc, ok⟩ := wInstall_ok w h 0 m2 hi (hc ▸ Nat.zero_le _)
    rw [if_pos hc, hlen0] at ok
    rw [ha]
    exact ⟨ok, Nat.lt_of_lt_of_le hm2 hcc, hlen0.symm, rfl, rfl⟩
  · rw [if_neg hc]
    exact ⟨WStepOK.refl hi, Nat.pos_of_ne_zero hc, rfl, rfl, rfl⟩

theorem wGrow_ok (w : MWr) (h : Heap) (n : Nat) (hi : WInv w h) (hpos : 0 < w.buf.cap)
    (hsz : n + w.buf.len < 2 ^ 64) :
    WStepOK w h (w.grow h n).1 (w.grow h n).2 ∧ (w.grow h n).1.buf.len = w.buf.len ∧
    (w.grow h n).1.regions = w.regions ∧ (w.grow h n).1.err = w.err ∧
    n ≤ (w.grow h n).1.buf.cap - (w.grow h n).1.buf.len := by
  unfold MWr.grow
  by_cases hg : n > w.buf.cap - w.buf.len
  · rw [if_pos hg]
    have hspec := growCap_room 64 (w.buf.cap * 2) w.buf.len n (by
      have : (2:Nat) ^ 64 ≤ w.buf.cap * 2 * 2 ^ 64 := Nat.le_mul_of_pos_left _ (by omega)
      omega)
    have hncge : w.buf.cap * 2 ≤ growCap 64 (w.buf.cap * 2) w.buf.len n := growCap_ge _ _ _ _
    generalize growCap 64 (w.buf.cap * 2) w.buf.len n = ncap at hspec hncge
    have hlen := hi.len_le
    obtain ⟨c, ha, hcc, ok⟩ := wInstall_ok w h ncap ncap hi (by omega)
    rw [if_neg (Nat.ne_of_gt hpos)] at ok
    dsimp only
    rw [ha, assert_of _ (show w.buf.len ≤ c by omega)]
    exact ⟨ok, rfl, rfl, rfl, by show n ≤ c - w.buf.len; omega⟩
  · rw [if_neg hg]
    exact ⟨WStepOK.refl hi, rfl, rfl, rfl, by show n ≤ w.buf.cap - w.buf.len; omega⟩

theorem wAcquire_ok (w : MWr) (h : Heap) (n : Nat) (hi : WInv w h) (hsz : n + w.buf.len < 2 ^ 64) :
    WStepOK w h (w.acquire h n).1 (w.acquire h n).2 ∧ (w.acquire h n).1.buf.len = w.buf.len ∧
    (w.acquire h n).1.regions = w.regions ∧ (w.acquire h n).1.err = w.err ∧
    w.buf.len + n ≤ (w.acquire h n).1.buf.cap := by
  unfold MWr.acquire
  by_cases hfast : w.buf.len + n ≤ w.buf.cap
  · rw [if_pos hfast]; exact ⟨WStepOK.refl hi, rfl, rfl, rfl, hfast⟩
  · rw [if_neg hfast]
    simp only []
    obtain ⟨a, apos, alen, areg, aerr⟩ := wFirstAlloc_ok w h n hi
    obtain ⟨b, blen, breg, berr, bcap⟩ := wGrow_ok _ _ n a.inv apos (by rw [alen]; exact hsz)
    have := b.inv.len_le
    exact ⟨a.trans b, blen.trans alen, breg.trans areg, berr.trans aerr, by rw [blen, alen] at bcap this; omega⟩

theorem wAdvance_ok (w : MWr) (h : Heap) (k : Nat) (hi : WInv w h) (hk : w.buf.len + k ≤ w.buf.cap) :
    WStepOK w h { w with buf := { w.buf with len := w.buf.len + k } } h := by
  refine ⟨?_, fun o p hp => ⟨?_, rfl⟩, Keeps.refl _, fun g hg => hg, fun _ => rfl, rfl⟩
  · exact {
      nofault := hi.nofault
      len_le := hk
      nil_pend := hi.nil_pend
      buf_ok := fun hc => by
        obtain ⟨x, hx, hb, ho, hcl⟩ := hi.buf_ok hc
        exact ⟨x, hx, hb, ho, fun hc' => ⟨(hcl hc').1, Nat.le_trans (hcl hc').2 (Nat.add_le_add_left (Nat.le_add_right _ _) _)⟩⟩
      pend_ok := fun s hs => by
        obtain ⟨a, b, c, d, rest⟩ := hi.pend_ok s hs
        exact ⟨a, b, c, Nat.le_trans d (Nat.le_add_right _ _), rest⟩
      pend_nodup := hi.pend_nodup
      pend_sorted := hi.pend_sorted
      reg_ok := fun g hg => by
        rcases hi.reg_ok g hg with h0 | ⟨a, b, c⟩ | h2
        · exact Or.inl h0
        · exact Or.inr (Or.inl ⟨a, b, Nat.le_trans c (Nat.add_le_add_left (Nat.le_add_right _ _) _)⟩)
        · exact Or.inr (Or.inr h2)
      reg_w := hi.reg_w
      reg_disj := hi.reg_disj }
  · rcases hp with hp | ⟨a, b, c⟩ | hp
    · exact Or.inl hp
    · exact Or.inr (Or.inl ⟨a, b, Nat.lt_of_lt_of_le c (Nat.add_le_add_left (Nat.le_add_right _ _) _)⟩)
    · exact Or.inr (Or.inr hp)

theorem wAdvanceRegion_ok (w : MWr) (h : Heap) (k : Nat) (hi : WInv w h) (hk : w.buf.len + k ≤ w.buf.cap) :
    WStepOK w h { w with buf := { w.buf with len := w.buf.len + k },
                         regions := w.buf.sub w.buf.len (w.buf.len + k) :: w.regions } h := by
  have a := wAdvance_ok w h k hi hk
  have hl : (w.buf.sub w.buf.len (w.buf.len + k)).len = k := Nat.add_sub_cancel_left ..
  refine ⟨?_, a.frame, a.keeps, fun g hg => List.mem_cons_of_mem _ hg, fun _ => rfl, rfl⟩
  exact {
    nofault := hi.nofault
    len_le := hk
    nil_pend := hi.nil_pend
    buf_ok := a.inv.buf_ok
    pend_ok := a.inv.pend_ok
    pend_nodup := hi.pend_nodup
    pend_sorted := hi.pend_sorted
    reg_ok := fun g hg => by
      rcases List.mem_cons.mp hg with rfl | hg
      · rcases Nat.eq_zero_or_pos k with hk0 | hkpos
        · exact Or.inl (hl.trans hk0)
        · exact Or.inr (Or.inl ⟨by show 0 < w.buf.cap; omega, rfl, by rw [hl]; exact Nat.le_of_eq (Nat.add_assoc ..)⟩)
      · exact a.inv.reg_ok g hg
    reg_w := fun g hg hpos => by
      rcases List.mem_cons.mp hg with rfl | hg
      · rw [hl] at hpos ⊢
        obtain ⟨x, hx, hb, ho, hcl⟩ := hi.buf_ok (by omega)
        exact ⟨x, hx, by show w.buf.off + w.buf.len + k ≤ _; omega, ho.notFreed, fun hc' => (hcl hc').2⟩
      · exact hi.reg_w g hg hpos
    reg_disj := List.pairwise_cons.mpr ⟨fun g hg => by
      rcases hi.reg_ok g hg with h0 | ⟨_, b, c⟩ | ⟨s, hs, ho⟩
      · exact Or.inr (Or.inl h0)
      · exact Or.inr (Or.inr (Or.inr (Or.inr c)))
      · exact Or.inr (Or.inr (Or.inl (ho ▸ Ne.symm (hi.pend_ok s hs).1))), hi.reg_disj⟩ }

theorem wMalloc_ok (w : MWr) (h : Heap) (n : Int) (hi : WInv w h) (hsz : n.toNat + w.buf.len < 2 ^ 64) :
    WStepOK w h (w.malloc h n).2.1 (w.malloc h n).2.2 ∧
    (∀ g, (w.malloc h n).1 = .ok g → g ∈ (w.malloc h n).2.1.regions ∧ g.len = n.toNat) := by
  unfold MWr.malloc
  cases he : w.err with
  | some e => exact ⟨WStepOK.refl hi, fun g hg => by simp at hg⟩
  | none =>
    simp only []
    by_cases hneg : n < 0
    · rw [if_pos hneg]; exact ⟨WStepOK.refl hi, fun g hg => by simp at hg⟩
    · rw [if_neg hneg]
      generalize n.toNat = k at hsz
      obtain ⟨a, alen, areg, aerr, acap⟩ := wAcquire_ok w h k hi hsz
      generalize w.acquire h k = p at a alen areg aerr acap
      rw [assert_of _ (show p.1.buf.len + k ≤ p.1.buf.cap by omega)]
      have adv := wAdvanceRegion_ok p.1 p.2 k a.inv (by omega)
      exact ⟨a.trans adv, fun g hg => by
        simp only [MWRes.ok.injEq] at hg; subst hg
        exact ⟨by simp, by simp [Slice.sub]⟩⟩

theorem wWriteBinary_ok (w : MWr) (h : Heap) (bs : Slice) (hi : WInv w h) (hbs : Readable h bs)
    (hsz : bs.len + w.buf.len < 2 ^ 64) :
    WStepOK w h (w.writeBinary h bs).2.1 (w.writeBinary h bs).2.2 := by
  unfold MWr.writeBinary
  cases he : w.err with
  | some e => exact WStepOK.refl hi
  | none =>
    simp only []
    obtain ⟨a, alen, areg, aerr, acap⟩ := wAcquire_ok w h bs.len hi hsz
    generalize w.acquire h bs.len = p at a alen areg aerr acap
    have hmin : min (p.1.buf.cap - p.1.buf.len) bs.len = bs.len := by omega
    rw [hmin]
    obtain ⟨xs, hxs, hbs1, hbs2⟩ := hbs
    obtain ⟨xs', hxs', hso, _, hsl⟩ := a.keeps _ xs hxs
    have adv := wAdvance_ok p.1 p.2 bs.len a.inv (by omega)
    by_cases h0 : bs.len = 0
    · rw [h0, copy_zero]
      rw [h0] at adv
      exact a.trans adv
    · have hpos : 0 < p.1.buf.cap := by omega
      obtain ⟨xb, hxb, hbb, hxbo, hcl⟩ := a.inv.buf_ok hpos
      have hbd : p.1.buf.off + p.1.buf.len + bs.len ≤ xb.data.length := by omega
      obtain ⟨hl, e⟩ := copy_eq p.2 p.1.buf.obj (p.1.buf.off + p.1.buf.len) bs.obj bs.off bs.len xs' xb hxs' hxb
        (by omega) hbd (by rw [hso]; exact hbs2) hxbo.notFreed (fun hc => (hcl hc).2)
      rw [e]
      have t := setData_touches p.2 p.1.buf.obj (p.1.buf.off + p.1.buf.len) _ xb hxb (hl.symm ▸ hbd)
      refine a.trans ⟨adv.inv.of_keeps t.keeps a.inv.nofault, fun o q hp => ⟨(adv.frame o q hp).1.of_keeps t.keeps, ?_⟩,
        t.keeps, adv.regs, fun _ => rfl, adv.dc⟩
      · apply t.out o q
        rw [hl]
        rcases hp with ⟨s, hs, rfl⟩ | ⟨_, rfl, hlt⟩ | ⟨y, hy, hcl', hlt⟩
        · exact Or.inl (a.inv.pend_ok s hs).1
        · exact Or.inr (Or.inl hlt)
        · by_cases heq : o = p.1.buf.obj
          · subst heq
            rw [hxb] at hy; cases hy
            have := (hcl hcl').2
            exact Or.inr (Or.inl (by omega))
          · exact Or.inl heq

/-! ## Flush -/

/-- caller memory below its write limit: still there, still the caller's, unchanged -/
def CallerLow (h h' : Heap) : Prop := ∀ o x, h.obj? o = some x → x.owner = .caller →
  ∃ x', h'.obj? o = some x' ∧ x'.owner = .caller ∧ x'.wfrom = x.wfrom ∧ x'.data.length = x.data.length ∧
    ∀ p, p < x.wfrom → x'.data[p]? = x.data[p]?

theorem CallerLow.refl (h : Heap) : CallerLow h h := fun _ x hx hc => ⟨x, hx, hc, rfl, rfl, fun _ _ => rfl⟩
theorem CallerLow.trans {a b c : Heap} (h1 : CallerLow a b) (h2 : CallerLow b c) : CallerLow a c :=
  fun o x hx hc => by
    obtain ⟨y, hy, c1, w1, l1, d1⟩ := h1 o x hx hc
    obtain ⟨z, hz, c2, w2, l2, d2⟩ := h2 o y hy c1
    exact ⟨z, hz, c2, w2.trans w1, l2.trans l1, fun p hp => (d2 p (by rw [w1]; exact hp)).trans (d1 p hp)⟩

theorem stitch_ok (buf : Slice) (l : List Slice) : ∀ (off : Nat) (h : Heap),
    (∀ s ∈ l, off ≤ s.len ∧ s.len ≤ buf.len ∧ Readable h s) →
    (l.map (·.len)).Pairwise (· ≤ ·) →
    (l ≠ [] → ∃ x, h.obj? buf.obj = some x ∧ buf.off + buf.len ≤ x.data.length ∧ x.owner ≠ .freed ∧
      x.owner ≠ .caller) →
    (memStitch buf l off h).2.faults = h.faults ∧ SameShape h (memStitch buf l off h).2 ∧
    CallerLow h (memStitch buf l off h).2 ∧ (memStitch buf l off h).2.events = h.events := by
  induction l with
  | nil => intro off h _ _ _; exact ⟨rfl, SameShape.refl _, CallerLow.refl _, rfl⟩
  | cons a l ih =>
    intro off h hl hs hb
    obtain ⟨hoa, hab, xa, hxa, hba, hfa⟩ := hl a List.mem_cons_self
    obtain ⟨xb, hxb, hbb, hfb, hcb⟩ := hb (List.cons_ne_nil _ _)
    unfold memStitch
    rw [assert_of _ (Nat.le_trans hoa hab), assert_of _ hoa,
      Nat.min_eq_right (Nat.sub_le_sub_right hab off)]
    dsimp only
    have hbd : buf.off + off + (a.len - off) ≤ xb.data.length := by omega
    obtain ⟨hdl, e⟩ := copy_eq h buf.obj (buf.off + off) a.obj (a.off + off) (a.len - off) xa xb hxa hxb (by omega)
      hbd hfa hfb (fun hc => absurd hc hcb)
    rw [e]
    generalize h.bytes a.obj (a.off + off) (a.len - off) = d at hdl
    have t := setData_touches h buf.obj (buf.off + off) d xb hxb (hdl.symm ▸ hbd)
    rw [List.map_cons, List.pairwise_cons] at hs
    -- the update keeps shapes, so the rest of the list is still readable and the buffer still writable
    obtain ⟨g1, g2, g3, g4⟩ := ih (off + (a.len - off)) _
      (fun s hsm => by
        obtain ⟨_, h2, x, hx, hbx, hfx⟩ := hl s (List.mem_cons_of_mem _ hsm)
        have := hs.1 s.len (List.mem_map_of_mem hsm)
        obtain ⟨x', hx', ho, _, hlen⟩ := t.shape.obj? _ x hx
        exact ⟨by omega, h2, x', hx', by omega, ho ▸ hfx⟩)
      hs.2
      (fun _ => by
        obtain ⟨x', hx', ho, _, hlen⟩ := t.shape.obj? _ xb hxb
        exact ⟨x', hx', by omega, ho ▸ hfb, ho ▸ hcb⟩)
    refine ⟨g1, t.shape.trans g2, CallerLow.trans (fun o y hy hc => ?_) g3, g4⟩
    exact ⟨y, (t.other o fun heq => hcb (by subst heq; cases hy.symm.trans hxb; exact hc)).trans hy, hc, rfl, rfl,
      fun _ _ => rfl⟩

/-- the state after a completed Flush (and the initial state): no buffer, nothing parked, no region -/
theorem WInv.nilState (w : MWr) (h : Heap) (hf : h.faults = []) (hb : w.buf = Slice.nil)
    (hp : w.pending = []) (hr : w.regions = []) : WInv w h where
  nofault := hf
  len_le := by rw [hb]; exact Nat.le_refl _
  nil_pend := fun _ => hp
  buf_ok := fun hc => by rw [hb] at hc; simp [Slice.nil] at hc
  pend_ok := fun s hs => by rw [hp] at hs; simp at hs
  pend_nodup := by rw [hp]; simp
  pend_sorted := by rw [hp]; simp
  reg_ok := fun g hg => by rw [hr] at hg; simp at hg
  reg_w := fun g hg => by rw [hr] at hg; simp at hg
  reg_disj := by rw [hr]; simp

theorem WStepOK.callerLow {w w' : MWr} {h h' : Heap} (s : WStepOK w h w' h') : CallerLow h h' := by
  intro o x hx hc
  obtain ⟨x', hx', ho, hw, hl⟩ := s.keeps o x hx
  refine ⟨x', hx', by rw [ho]; exact hc, hw, hl, fun p hp => ?_⟩
  have := (s.frame o p (Or.inr (Or.inr ⟨x, hx, hc, hp⟩))).2
  rw [byte?_of_obj? h' o p x' hx', byte?_of_obj? h o p x hx] at this
  exact this

/-- the frees of a successful Flush of a pool-backed writer: current buffer, then the parked ones -/
theorem freeBufs_ok (w : MWr) (h : Heap) (hi : WInv w h) (hd : w.disableCache = false) :
    ((if w.buf.cap > 0 then h.free w.buf else h).freeAll w.pending).faults = [] ∧
    NonLiveKept h ((if w.buf.cap > 0 then h.free w.buf else h).freeAll w.pending) := by
  by_cases hpos : w.buf.cap > 0
  · rw [if_pos hpos]
    obtain ⟨xb, hxb, _, ⟨_, o2⟩, _⟩ := hi.buf_ok hpos
    obtain ⟨hlive, hoff, hcapl⟩ := o2 hd
    obtain ⟨f1, _, _, f4, _⟩ := free_live h w.buf xb hxb hlive hoff hcapl hpos
    have hpl : ∀ s ∈ w.pending, ∃ x, (h.free w.buf).obj? s.obj = some x ∧ x.owner = .live ∧ s.off = 0 ∧
        s.cap = x.data.length ∧ 0 < s.cap := by
      intro s hs
      obtain ⟨hne, _, c, _, x, hx, _, _, p2⟩ := hi.pend_ok s hs
      obtain ⟨l1, l2, l3⟩ := p2 hd
      exact ⟨x, by rw [f4 _ hne]; exact hx, l1, l2, l3, c⟩
    obtain ⟨g1, _, g3, _⟩ := freeAll_ok w.pending (h.free w.buf) hpl hi.pend_nodup
    refine ⟨by rw [g1, f1]; exact hi.nofault, ?_⟩
    intro o x hx hnl
    have hne : o ≠ w.buf.obj := by
      intro heq; subst heq; rw [hxb] at hx; cases hx; exact hnl hlive
    rw [g3 o, f4 o hne]; exact hx
    intro s hs heq
    obtain ⟨_, _, _, _, y, hy, _, _, p2⟩ := hi.pend_ok s hs
    rw [heq, hx] at hy; cases hy; exact hnl (p2 hd).1
  · rw [if_neg hpos]
    have : w.pending = [] := hi.nil_pend (by omega)
    rw [this]
    exact ⟨hi.nofault, fun o x hx _ => hx⟩

theorem CallerLow.of_nonLiveKept {h h' : Heap} (hk : NonLiveKept h h') : CallerLow h h' :=
  fun o x hx hc => ⟨x, hk o x hx (by rw [hc]; decide), hc, rfl, rfl, fun _ _ => rfl⟩

theorem wFlush_ok (w : MWr) (h : Heap) (hi : WInv w h) :
    WInv (w.flush h).2.1 (w.flush h).2.2 ∧ CallerLow h (w.flush h).2.2 ∧
    (w.disableCache = true → (w.flush h).2.2.events = h.events) ∧
    (w.flush h).2.1.disableCache = w.disableCache := by
  unfold MWr.flush
  cases he : w.err with
  | some e => exact ⟨hi, CallerLow.refl _, fun _ => rfl, rfl⟩
  | none =>
    simp only []
    by_cases hnil : w.isNil = true
    · rw [if_pos hnil]; exact ⟨hi, CallerLow.refl _, fun _ => rfl, rfl⟩
    · rw [if_neg hnil]
      have hlen := hi.len_le
      -- every parked buffer is readable, they are sorted by length, the current buffer is writable
      have hl : ∀ s ∈ w.pending, 0 ≤ s.len ∧ s.len ≤ w.buf.len ∧ Readable h s := by
        intro s hs
        obtain ⟨_, b, _, d, x, hx, hb, ho⟩ := hi.pend_ok s hs
        exact ⟨Nat.zero_le _, d, x, hx, by omega, ho.notFreed⟩
      have hb : w.pending ≠ [] → ∃ x, h.obj? w.buf.obj = some x ∧ w.buf.off + w.buf.len ≤ x.data.length ∧
          x.owner ≠ .freed ∧ x.owner ≠ .caller := by
        intro hne
        have hpos : 0 < w.buf.cap := by
          rcases Nat.eq_zero_or_pos w.buf.cap with h0 | h0
          · exact absurd (hi.nil_pend h0) hne
          · exact h0
        obtain ⟨x, hx, hbb, ho, hcl⟩ := hi.buf_ok hpos
        exact ⟨x, hx, by omega, ho.notFreed, fun hc => hne (hcl hc).1⟩
      obtain ⟨s1, s2, hcl2, s4⟩ := stitch_ok w.buf w.pending 0 h hl hi.pend_sorted hb
      generalize memStitch w.buf w.pending 0 h = st at s1 s2 hcl2 s4
      -- the sink reads the buffer
      have hrd : (st.2.read w.buf.obj w.buf.off w.buf.len).2 = st.2 := read_ok _ _ _ _ fun hl0 => by
        obtain ⟨x, hx, hbb, hxo, _⟩ := hi.buf_ok (by omega)
        obtain ⟨x', hx', ho, _, hlx⟩ := s2.obj? _ x hx
        exact ⟨x', hx', by omega, ho ▸ hxo.notFreed⟩
      rw [hrd]
      have hk : Keeps h st.2 := Keeps.of_sameShape s2
      have hf2 : st.2.faults = [] := by rw [s1]; exact hi.nofault
      by_cases hd : w.disableCache = true
      · -- bytes writer: the buffer is handed to the caller, nothing is freed
        rw [if_pos hd]
        exact ⟨WInv.nilState _ _ hf2 rfl rfl rfl, hcl2, fun _ => s4, rfl⟩
      · -- pool-backed writer
        rw [if_neg hd]
        have hd' : w.disableCache = false := by simpa using hd
        have hi2 := hi.of_keeps hk hf2
        obtain ⟨q1, q2⟩ := freeBufs_ok w st.2 hi2 hd'
        cases hok : w.sink.okLeft with
        | some k =>
          cases k with
          | zero =>
            simp only []
            -- the failed sink write only sets `err`, which the invariant does not mention
            exact ⟨⟨hi2.nofault, hi2.len_le, hi2.nil_pend, hi2.buf_ok, hi2.pend_ok, hi2.pend_nodup, hi2.pend_sorted,
              hi2.reg_ok, hi2.reg_w, hi2.reg_disj⟩, hcl2, fun hd'' => absurd hd'' hd, trivial⟩
          | succ k =>
            simp only []
            exact ⟨WInv.nilState _ _ q1 rfl rfl rfl, hcl2.trans (CallerLow.of_nonLiveKept q2),
              fun hd'' => absurd hd'' hd, trivial⟩
        | none =>
          simp only []
          exact ⟨WInv.nilState _ _ q1 rfl rfl rfl, hcl2.trans (CallerLow.of_nonLiveKept q2),
            fun hd'' => absurd hd'' hd, trivial⟩

end Verif.Mem
