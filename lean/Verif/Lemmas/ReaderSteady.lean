/-
  Lemmas/ReaderSteady: steady sources.  `Steady M script slen z` (Spec/Cursor) promises every
  remaining stream byte before any error and without `M` consecutive empty reads, whatever room
  (≥ 1) is offered.  Consequences: the script always delivers `Enough`; the promise survives every
  read loop; so along any history every request that fits into the rest of the stream is served.
-/
import Verif.Lemmas.ReaderLive
import Verif.Lemmas.ReaderRefine
namespace Verif

theorem steady_zero (M : Nat) (s : List Resp) (z : Nat) : Steady M s 0 z = true := by
  cases s <;> simp [Steady]

theorem steady_mono_len (M : Nat) (s : List Resp) (a b z : Nat)
    (h : Steady M s a z = true) (hb : b ≤ a) : Steady M s b z = true := by
  induction s generalizing a b z with
  | nil =>
    cases b with
    | zero => exact steady_zero _ _ _
    | succ b' =>
      cases a with
      | zero => omega
      | succ a' => simp [Steady] at h
  | cons x rest ih =>
    cases b with
    | zero => exact steady_zero _ _ _
    | succ b' =>
      cases a with
      | zero => omega
      | succ a' =>
        simp only [Steady] at h ⊢
        split
        · rename_i hk
          simp only [hk, if_true, Bool.and_eq_true] at h
          simp only [Bool.and_eq_true]
          exact ⟨h.1, ih _ _ _ h.2 (by omega)⟩
        · rename_i hk
          simp only [hk, if_false, Bool.and_eq_true, Bool.or_eq_true, decide_eq_true_eq] at h
          simp only [Bool.and_eq_true, Bool.or_eq_true, decide_eq_true_eq]
          refine ⟨?_, ih _ _ _ h.2 (by omega)⟩
          rcases h.1 with h1 | h1
          · exact Or.inl h1
          · exact Or.inr (by omega)

theorem steady_mono_z (M : Nat) (s : List Resp) (slen z z' : Nat)
    (h : Steady M s slen z = true) (hz : z' ≤ z) : Steady M s slen z' = true := by
  induction s generalizing slen z z' with
  | nil => cases slen <;> simp_all [Steady]
  | cons x rest ih =>
    cases slen with
    | zero => exact steady_zero _ _ _
    | succ k =>
      simp only [Steady] at h ⊢
      split
      · rename_i hk
        simp only [hk, if_true, Bool.and_eq_true, decide_eq_true_eq] at h
        simp only [Bool.and_eq_true, decide_eq_true_eq]
        exact ⟨⟨h.1.1, by omega⟩, ih _ _ _ h.2 (by omega)⟩
      · rename_i hk
        simp only [hk, if_false] at h
        exact h

/-- one read off a steady script (the reader offers room ≥ 1) leaves the rest steady, for the
    counter the loop continues with, unless it hands over all that is left -/
theorem steady_read {M i room slen d : Nat} {x : Resp} {rest : List Resp}
    (hd : d = min (min x.k room) slen) (hroom : 1 ≤ room)
    (hP : slen = 0 ∨ (i < M ∧ Steady M (x :: rest) slen i = true)) :
    slen - d = 0 ∨
      (x.err = none ∧ (if d > 0 then 0 else i + 1) < M ∧
        Steady M rest (slen - d) (if d > 0 then 0 else i + 1) = true) := by
  rcases hP with hP | ⟨hi, hst⟩
  · exact Or.inl (by omega)
  · cases slen with
    | zero => exact Or.inl (Nat.zero_sub _)
    | succ k =>
      simp only [Steady] at hst
      by_cases hk : x.k = 0
      · simp only [hk, if_true, Bool.and_eq_true, decide_eq_true_eq, Option.isNone_iff_eq_none] at hst
        have hd0 : d = 0 := by omega
        right
        simpa only [hd0, Nat.lt_irrefl, if_false, Nat.sub_zero, and_assoc] using hst
      · simp only [hk, if_false, Bool.and_eq_true, Bool.or_eq_true, decide_eq_true_eq,
          Option.isNone_iff_eq_none] at hst
        have hpos : d > 0 := by omega
        rcases hst.1 with he | he
        · right
          simp only [hpos, if_true]
          exact ⟨he, by omega, steady_mono_len _ rest k _ 0 hst.2 (by omega)⟩
        · exact Or.inl (by omega)

/-- a steady script delivers any need that the stream can cover -/
theorem steady_enough (M : Nat) (s : List Resp) (need z slen : Nat)
    (h : Steady M s slen z = true) (h0 : 0 < need) (hle : need ≤ slen) (hz : z < M) :
    Enough M s need z slen = true := by
  induction s generalizing need z slen with
  | nil =>
    cases slen with
    | zero => omega
    | succ k => simp [Steady] at h
  | cons x rest ih =>
    rw [enough_cons M x rest need z slen need _ (Nat.le_refl _) rfl, if_neg (by omega)]
    split
    · rfl
    · rename_i hlt
      rcases steady_read rfl h0 (Or.inr ⟨hz, h⟩) with hnil | ⟨he, hz', hst⟩
      · omega
      · rw [he]
        exact ih _ _ _ hst (by omega) (by omega) hz'

/-- the source is live: everything has been handed over, or no error has been seen and the rest of
    the script is steady -/
def Rd.Live (r : Rd) : Prop :=
  r.src.stream = [] ∨
  (r.err = none ∧ Steady Facts.maxConsecutiveEmptyReads r.src.script r.src.stream.length 0 = true)

/-- the read loop keeps a live source live -/
theorem readLoop_live {M need room i : Nat} {s s' : Src} {ok : Bool} {e : Option RErr}
    (h : Pull M need room i s s' ok e) (h0 : 0 < need) (hroom : need ≤ room)
    (hP : s.stream.length = 0 ∨ (i < M ∧ Steady M s.script s.stream.length i = true)) :
    s'.stream.length = 0 ∨ (e = none ∧ Steady M s'.script s'.stream.length 0 = true) := by
  have h1 : 1 ≤ room := Nat.le_trans h0 hroom
  induction h with
  | stall hi => exact hP.imp id (fun h => absurd h.1 (by omega))
  | @eof _ _ _ s hi hs =>
    left
    rcases hP with hP | ⟨_, hst⟩
    · exact hP
    · rw [hs] at hst
      cases hl : s.stream.length with
      | zero => rfl
      | succ k => rw [hl] at hst; simp [Steady] at hst
  | err hi hs hd he =>
    rw [hs] at hP
    rcases steady_read hd h1 hP with hnew | ⟨hx, _⟩
    · exact Or.inl (by rw [List.length_drop]; exact hnew)
    · rw [he] at hx; cases hx
  | done hi hs hd he hge =>
    rw [hs] at hP
    rcases steady_read hd h1 hP with hnew | ⟨_, _, hst⟩
    · exact Or.inl (by rw [List.length_drop]; exact hnew)
    · exact Or.inr ⟨rfl, by rw [List.length_drop]; exact steady_mono_z _ _ _ _ 0 hst (Nat.zero_le _)⟩
  | more hi hs hd he hlt _ ih =>
    rw [hs] at hP
    refine ih (Nat.sub_pos_of_lt hlt) (Nat.sub_le_sub_right hroom _) ?_
      (Nat.le_trans (Nat.sub_pos_of_lt hlt) (Nat.sub_le_sub_right hroom _))
    rw [List.length_drop]
    exact (steady_read hd h1 hP).imp id (fun h => h.2)

theorem maxEmpty_pos : 0 < Facts.maxConsecutiveEmptyReads := by decide

/-- over a live source, whatever fits into what is left can be served -/
theorem live_canServe (r : Rd) (n : Nat) (hl : r.Live)
    (hn : n ≤ r.remaining.length) : r.canServe n = true :=
  canServe_of_enough r n hn fun need h0 _ hle => by
    rcases hl with hl | ⟨he, hst⟩
    · rw [hl] at hle; exact absurd hle (by simp; omega)
    · exact ⟨he, steady_enough _ _ _ _ _ hst h0 hle maxEmpty_pos⟩

theorem acquire_keeps_live (r : Rd) (n m : Nat) (r' : Rd) (hinv : Inv r) (hs : r.Small n)
    (hl : r.Live) (h : r.acquire n = some (m, r')) : r'.Live := by
  rcases acquire_cases r n m r' hinv hs h with ⟨rfl, _⟩ | ⟨hslow, hnone, _, _, hroom, hp⟩
  · exact hl
  · exact (readLoop_live hp (by omega) hroom
      (hl.imp (fun h => by rw [h]; rfl) (fun h => ⟨maxEmpty_pos, h.2⟩))).imp
      List.eq_nil_of_length_eq_zero id

theorem Rd.Live.frame {r r' : Rd} (h : r.Live) (he : r'.err = r.err) (hs : r'.src = r.src) :
    r'.Live := by
  unfold Rd.Live at *; rw [he, hs]; exact h

theorem live_newDefault (S : Bytes) (script : List Resp)
    (h : Steady Facts.maxConsecutiveEmptyReads script S.length 0 = true) :
    (Rd.newDefault ⟨S, script⟩).Live := Or.inr ⟨rfl, h⟩

theorem live_newBytes (data : Bytes) (cap : Nat) : (Rd.newBytes data cap).Live := by
  unfold Rd.newBytes; split <;> exact Or.inl rfl

theorem live_drained (r : Rd) (hl : r.Live) (he : r.err ≠ none) : r.src.stream = [] :=
  hl.elim id (fun h => absurd h.1 he)

/-- the liveness check of a report, reduced to `acquire`: a request that fits into what is left is
    covered, and one that does not and ends in an error has drained the source -/
theorem StepView.live {c : Cur} {r r' : Rd} {op : ROp} {res : RRes RErr}
    (hv : StepView r op res r') (habs : Abs c r)
    (h : ∀ m r1, op.req = some op.size → r.acquire op.size = some (m, r1) →
      (op.size ≤ r.remaining.length → op.size ≤ m) ∧
      (r.remaining.length < op.size → r1.err ≠ none → r1.src.stream = [])) :
    liveOk c op res = true := by
  have hrest : c.rest.length = r.remaining.length := by rw [habs.rest]
  have hreq : ∀ n : Int, 0 ≤ n → (if n < 0 then none else some n.toNat) = some n.toNat :=
    fun n hn => if_neg (by omega)
  cases hv with
  | neg hop hn => rcases hop with rfl | rfl | rfl <;> simp [liveOk, hn]
  | @short _ n m _ hop hn hacq ha hgt =>
    have hfit : n.toNat ≤ r.remaining.length → n.toNat ≤ m := by
      rcases hop with rfl | rfl | rfl <;> exact (h _ _ (hreq _ hn) hacq).1
    have : n.toNat > c.rest.length := by rw [hrest]; omega
    rcases hop with rfl | rfl | rfl <;> simp [liveOk, this]
  | next => rfl
  | peek => rfl
  | skip => rfl
  | release => rfl
  | readLen => rfl
  | @readBinary k m r1 hacq ha =>
    simp only [ROp.size] at h
    obtain ⟨h1, h2⟩ := h _ _ rfl hacq
    have hl1 := remaining_length r1
    rw [ha.remaining habs.inv.ri_le] at hl1
    have : min m k = min k c.rest.length := by
      rw [hrest]
      by_cases hfit : k ≤ r.remaining.length
      · have := h1 hfit; omega
      · have hgt : k > m := by rcases ha.outcome with ⟨_, _, _⟩ | ⟨_, _⟩ <;> omega
        obtain ⟨he, hm⟩ := ha.short hgt
        rw [h2 (by omega) he] at hl1
        simp only [List.length_nil, Nat.add_zero] at hl1
        omega
    simp [liveOk, this]

/-- ONE STEP over a live source: the source stays live, and the report passes the spec's
    liveness check `liveOk` at the contract's cursor -/
theorem step_live (c : Cur) (r : Rd) (op : ROp) (habs : Abs c r) (hs : r.Small op.size)
    (hl : r.Live) : (r.step op).2.Live ∧ liveOk c op (r.step op).1 = true := by
  have hv := step_view r op habs.inv hs
  have hkeep := fun m r1 => acquire_keeps_live r op.size m r1 habs.inv hs hl
  constructor
  · exact hv.state Rd.Live (fun _ => ⟨hl, hl.frame (release_frame r).1 (release_frame r).2⟩)
      (fun m r1 k _ hacq => (hkeep m r1 hacq).frame rfl rfl)
  · exact hv.live habs (fun m r1 _ hacq =>
      ⟨fun hfit => (acquire_live r _ m r1 habs.inv hs hacq).mpr (live_canServe r _ hl hfit),
       fun _ he => live_drained r1 (hkeep m r1 hacq) he⟩)

end Verif
