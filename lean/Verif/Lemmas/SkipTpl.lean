/-
  Lemmas/SkipTpl: what the proofs about the stream skippers (SkipDecoderTpl.Skip, BufferReader.Skip) share:
  slice indexing that cannot panic, 32-bit sizes read from a returned window, the struct loop's fuel and
  the bound on a single request; then the cases of SkipDecoderTpl.Skip as functions of their own.
-/
import Verif.Model.SkipStream
import Verif.Lemmas.GrammarG
import Verif.Lemmas.SkipBinBase
import Verif.Lemmas.GrammarLocal
namespace Verif

theorem idx_ok (b : Bytes) (i : Nat) (h : i < b.length) : idx b i = .ok b[i] := by
  unfold idx; simp [h]

theorem refFields_fuel_eq {f : UInt8 → Bytes → Option Nat} (hG : ∀ t, Good (f t)) (b : Bytes) (F F' : Nat)
    (h : b.length < F) (h' : b.length < F') : refFields f F b = refFields f F' b := by
  cases h1 : refFields f F b with
  | some k =>
    have hk := (refFields_good hG F b k h1).2
    exact (refFields_fuel F F' b k h1 (by omega)).symm
  | none =>
    cases h2 : refFields f F' b with
    | none => rfl
    | some k =>
      have hk := (refFields_good hG F' b k h2).2
      have := refFields_fuel F' F b k h2 (by omega)
      rw [h1] at this; cases this

theorem u32of_ok (b : Bytes) (h : 4 ≤ b.length) : u32of b = .ok (rd32 b) := by
  unfold u32of; simp [h]

/-- 2^31 · 16: the largest single request a stream skipper can make (a size field is an int32, a
    fixed-size key/value pair has at most 16 bytes) -/
def reqBound : Nat := 34359738368

theorem mul_le_reqBound (N s : Nat) (hN : N < 2147483648) (hs : s ≤ 16) : N * s ≤ reqBound := by
  have := Nat.mul_le_mul (Nat.le_of_lt hN) hs
  unfold reqBound; omega

/-! ## SkipDecoderTpl.Skip, one case at a time

  The cases of `skipTplAt` as functions of their own, with the size table already looked up; the proofs
  about the template skipper go through `skipTplAt_succ` and never unfold `skipTplAt` again. -/

section
variable {σ : Type} (B : Backend σ)

def tplSkip (s : σ) (k : Nat) : TOut σ := do
  let (_, s1) ← B.skipN s k
  pure s1

def tplStr (s : σ) : TOut σ := do
  let (b, s1) ← B.skipN s 4
  let v ← u32of b
  if toI32 v < 0 then .err errNeg else
  tplSkip B s1 (toI32 v).toNat

def tplMap (rec : UInt8 → σ → TOut σ) (s : σ) : TOut σ := do
  let (b, s1) ← B.skipN s 6
  let kt ← idx b 0
  let vt ← idx b 1
  let v ← u32of (b.drop 2)
  if toI32 v < 0 then .err errNeg else
  if 0 < fixedSize kt ∧ 0 < fixedSize vt then tplSkip B s1 ((toI32 v).toNat * (fixedSize kt + fixedSize vt))
  else tplMapLoop rec kt vt (toI32 v).toNat s1

def tplList (rec : UInt8 → σ → TOut σ) (s : σ) : TOut σ := do
  let (b, s1) ← B.skipN s 5
  let vt ← idx b 0
  let v ← u32of (b.drop 1)
  if toI32 v < 0 then .err errNeg else
  if 0 < fixedSize vt then tplSkip B s1 ((toI32 v).toNat * fixedSize vt)
  else tplListLoop rec vt (toI32 v).toNat s1

theorem skipTplAt_succ (d : Nat) (t : UInt8) (s : σ) :
    skipTplAt B (d+1) t s =
      if 0 < fixedSize t then tplSkip B s (fixedSize t)
      else if t = TT.STRING then tplStr B s
      else if t = TT.STRUCT then tplStructLoop B (skipTplAt B d) (B.avail s + 1) s
      else if t = TT.MAP then tplMap B (skipTplAt B d) s
      else if t = TT.SET ∨ t = TT.LIST then tplList B (skipTplAt B d) s
      else .err errUnknownType := by
  simp only [skipTplAt, tplSkip, tplStr, tplMap, tplList, typeSize_eq, Out.bind_eq, Out.bind_ok, gt_iff_lt,
    Int.natCast_pos, Int.toNat_natCast, T_STRING_eq, T_STRUCT_eq, T_MAP_eq, T_SET_eq, T_LIST_eq]

theorem tplMap_header {rec : UInt8 → σ → TOut σ} {s s1 : σ} {kt vt : UInt8} {rest : Bytes}
    (hx : B.skipN s 6 = .ok ((kt :: vt :: rest).take 6, s1)) (h4 : 4 ≤ rest.length) :
    tplMap B rec s =
      if toI32 (rd32 rest) < 0 then .err errNeg else
      if 0 < fixedSize kt ∧ 0 < fixedSize vt then
        tplSkip B s1 ((toI32 (rd32 rest)).toNat * (fixedSize kt + fixedSize vt))
      else tplMapLoop rec kt vt (toI32 (rd32 rest)).toNat s1 := by
  have e0 : idx (List.take 6 (kt :: vt :: rest)) 0 = .ok kt := rfl
  have e1 : idx (List.take 6 (kt :: vt :: rest)) 1 = .ok vt := rfl
  have e2 : u32of (List.drop 2 (List.take 6 (kt :: vt :: rest))) = .ok (rd32 rest) := by
    have : List.drop 2 (List.take 6 (kt :: vt :: rest)) = List.take 4 rest := rfl
    rw [this, u32of_ok _ (by rw [List.length_take]; omega), rd32_take rest 4 (Nat.le_refl _)]
  simp only [tplMap, hx, Out.bind_eq, Out.bind_ok, e0, e1, e2]

theorem tplList_header {rec : UInt8 → σ → TOut σ} {s s1 : σ} {et : UInt8} {rest : Bytes}
    (hx : B.skipN s 5 = .ok ((et :: rest).take 5, s1)) (h4 : 4 ≤ rest.length) :
    tplList B rec s =
      if toI32 (rd32 rest) < 0 then .err errNeg else
      if 0 < fixedSize et then tplSkip B s1 ((toI32 (rd32 rest)).toNat * fixedSize et)
      else tplListLoop rec et (toI32 (rd32 rest)).toNat s1 := by
  have e0 : idx (List.take 5 (et :: rest)) 0 = .ok et := rfl
  have e2 : u32of (List.drop 1 (List.take 5 (et :: rest))) = .ok (rd32 rest) := by
    have : List.drop 1 (List.take 5 (et :: rest)) = List.take 4 rest := rfl
    rw [this, u32of_ok _ (by rw [List.length_take]; omega), rd32_take rest 4 (Nat.le_refl _)]
  simp only [tplList, hx, Out.bind_eq, Out.bind_ok, e0, e2]

theorem tplStr_header {s s1 : σ} {b : Bytes} (hx : B.skipN s 4 = .ok (b.take 4, s1)) (h4 : 4 ≤ b.length) :
    tplStr B s = if toI32 (rd32 b) < 0 then .err errNeg else tplSkip B s1 (toI32 (rd32 b)).toNat := by
  simp only [tplStr, hx, Out.bind_eq, Out.bind_ok, u32of_ok _ (show 4 ≤ (b.take 4).length by
    rw [List.length_take]; omega), rd32_take b 4 (Nat.le_refl _)]
end

end Verif
