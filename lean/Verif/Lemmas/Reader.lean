/-
  Lemmas/Reader: the reader model (Model/Reader), part 1:
  the capacity loops, the scripted source, the invariant `Inv`, `prepare`, and the read loop
  (frame/outcome, its run seen from the source `Pull`, termination within the given fuel).
-/
import Verif.Model.Reader
namespace Verif

/-! ## the doubling loops never run out of their fuel below 2^64 -/

/-- 2^64: capacities stay at or below it -/
notation "capMax" => (18446744073709551616 : Nat)
/-- 2^63: `n + ri` of a request stays at or below it (a Go `int` cannot say more) -/
notation "reqMax" => (9223372036854775808 : Nat)

theorem two_pow_64 : (2:Nat)^64 = capMax := by decide

theorem doubleUntil_spec (fuel c n : Nat) (hc : 0 < c) (hf : n ≤ c * 2^fuel) :
    n ≤ doubleUntil fuel c n ∧ c ≤ doubleUntil fuel c n ∧
    (doubleUntil fuel c n = c ∨ doubleUntil fuel c n < 2 * n) := by
  induction fuel generalizing c with
  | zero => simp [doubleUntil] at *; omega
  | succ f ih =>
    unfold doubleUntil
    split
    · rename_i hlt
      have h2 : n ≤ (c * 2) * 2^f := by rw [Nat.pow_succ] at hf; rw [Nat.mul_assoc, Nat.mul_comm 2]; exact hf
      have := ih (c * 2) (by omega) h2
      omega
    · omega

/-- a doubling loop started at `c` with `c * 2^j = B` never passes `B` when the target is `≤ B` -/
theorem doubleUntil_le (fuel c n j B : Nat) (hB : c * 2^j = B) (hn : n ≤ B) :
    doubleUntil fuel c n ≤ B := by
  induction fuel generalizing c j with
  | zero =>
    simp [doubleUntil]
    have : 0 < 2^j := Nat.two_pow_pos j
    calc c = c * 1 := by omega
      _ ≤ c * 2^j := Nat.mul_le_mul_left c this
      _ = B := hB
  | succ f ih =>
    have hcB : c ≤ B := by
      have : 0 < 2^j := Nat.two_pow_pos j
      calc c = c * 1 := by omega
        _ ≤ c * 2^j := Nat.mul_le_mul_left c this
        _ = B := hB
    unfold doubleUntil
    split
    · rename_i hlt
      cases j with
      | zero => simp at hB; omega
      | succ j' =>
        apply ih (c * 2) j'
        rw [Nat.pow_succ] at hB; rw [Nat.mul_assoc, Nat.mul_comm 2]; exact hB
    · exact hcB

theorem pow2ceilAux_eq (fuel c n : Nat) : pow2ceilAux fuel c n = doubleUntil fuel c n := by
  induction fuel generalizing c with
  | zero => rfl
  | succ f ih =>
    unfold pow2ceilAux doubleUntil
    by_cases h : c < n
    · have : ¬ c ≥ n := by omega
      simp [h, this, ih]
    · have : c ≥ n := by omega
      simp [h, this]

theorem growCap_eq (fuel c ri n : Nat) (hn : 0 < n) :
    growCap fuel c ri n = doubleUntil fuel c (n + ri) := by
  induction fuel generalizing c with
  | zero => rfl
  | succ f ih =>
    unfold growCap doubleUntil
    by_cases h : c - ri < n
    · have : c < n + ri := by omega
      simp [h, this, ih]
    · have : ¬ c < n + ri := by omega
      simp [h, this]

theorem pow2ceil_le (x j B : Nat) (hB : 1 * 2^j = B) (hx : x ≤ B) : pow2ceil x ≤ B := by
  unfold pow2ceil; rw [pow2ceilAux_eq]
  exact doubleUntil_le 64 1 x j B hB hx

/-- mcache's capacity rounding: at least the request, at most 2^64 when the request is -/
theorem pow2ceil_spec (x : Nat) (hx : x ≤ capMax) :
    x ≤ pow2ceil x ∧ 0 < pow2ceil x ∧ pow2ceil x ≤ capMax := by
  have h2 := pow2ceil_le x 64 capMax (by rw [two_pow_64]) hx
  unfold pow2ceil at h2 ⊢; rw [pow2ceilAux_eq] at h2 ⊢
  have h1 := doubleUntil_spec 64 1 x (by omega) (by rw [two_pow_64]; omega)
  omega

theorem le_pow2ceilAux (fuel c n : Nat) : c ≤ pow2ceilAux fuel c n := by
  induction fuel generalizing c with
  | zero => simp [pow2ceilAux]
  | succ f ih =>
    simp only [pow2ceilAux]
    split
    · omega
    · have := ih (c * 2); omega

theorem pow2ceil_pos (n : Nat) : 0 < pow2ceil n := by
  have := le_pow2ceilAux 64 1 n; unfold pow2ceil; omega

theorem statsMax_le (l : List Nat) (B : Nat) (h : ∀ s ∈ l, s ≤ B) : statsMax l ≤ B := by
  unfold statsMax
  have : ∀ (l : List Nat) (a : Nat), a ≤ B → (∀ s ∈ l, s ≤ B) → l.foldl max a ≤ B := by
    intro l; induction l with
    | nil => intro a ha _; simpa using ha
    | cons x xs ih =>
      intro a ha hl
      simp only [List.foldl_cons]
      apply ih
      · have := hl x (by simp); omega
      · intro s hs; exact hl s (by simp [hs])
  exact this l 0 (by omega) h

/-! ## the scripted source -/

theorem Src.read_stream (s : Src) (room : Nat) :
    (s.read room).1 ++ (s.read room).2.2.stream = s.stream := by
  unfold Src.read; split <;> simp

theorem Src.read_len (s : Src) (room : Nat) : (s.read room).1.length ≤ room := by
  unfold Src.read; split <;> simp; omega

theorem next_buffered (r : Rd) (n : Nat) (h : n ≤ r.buf.length - r.ri) :
    r.next (n : Int) = (.ok ((r.buf.drop r.ri).take n), { r with ri := r.ri + n }) := by
  have h0 : ¬ ((n : Int) < 0) := by omega
  have hn : ¬ n > n := by omega
  simp only [Rd.next, if_neg h0, Rd.acquire, Int.toNat_natCast, if_pos h, if_neg hn]

theorem Src.read_nil (s : Src) (room : Nat) (h : s.script = []) :
    s.read room = ([], some .eof, s) := by
  unfold Src.read; rw [h]

theorem Src.read_cons (s : Src) (room : Nat) (r : Resp) (rest : List Resp) (h : s.script = r :: rest) :
    s.read room = (s.stream.take (min (min r.k room) s.stream.length), r.err,
      { stream := s.stream.drop (min (min r.k room) s.stream.length), script := rest }) := by
  unfold Src.read; rw [h]

/-! ## the invariant -/

/-- `ri ≤ len ≤ cap ≤ 2^64`, recorded capacities `≤ 2^64`.  (`len ≤ cap` is what makes every Go
    slice expression of the reader in range: `buf[ri:ri+n]`, `buf[len:cap]`, `buf[:len+m]`.) -/
structure Inv (r : Rd) : Prop where
  ri_le : r.ri ≤ r.buf.length
  len_le : r.buf.length ≤ r.cap
  cap_le : r.cap ≤ capMax
  stats_le : ∀ s ∈ r.stats, s ≤ capMax

theorem Inv.cap_zero {r : Rd} (h : Inv r) (hc : r.cap = 0) : r.ri = 0 ∧ r.buf = [] := by
  have h1 := h.ri_le; have h2 := h.len_le
  constructor
  · omega
  · apply List.eq_nil_of_length_eq_zero; omega

theorem inv_newDefault (src : Src) : Inv (Rd.newDefault src) := by
  constructor <;> simp [Rd.newDefault]

theorem inv_newBytes (data : Bytes) (cap : Nat) (h : data.length ≤ cap) (hc : cap ≤ capMax) :
    Inv (Rd.newBytes data cap) := by
  unfold Rd.newBytes
  split
  · constructor <;> simp
    · exact h
    · exact hc
  · exact inv_newDefault _

/-! ## prepare: allocate / grow.  Content, cursor, error and source are untouched; afterwards the
    request fits: `n ≤ cap - ri` -/

structure PrepPost (r : Rd) (n : Nat) (r1 : Rd) : Prop where
  buf : r1.buf = r.buf
  ri : r1.ri = r.ri
  err : r1.err = r.err
  src : r1.src = r.src
  stats : r1.stats = r.stats
  statsIdx : r1.statsIdx = r.statsIdx
  fits : n ≤ r1.cap - r1.ri
  cap_pos : 0 < r1.cap
  cap_le : r1.cap ≤ capMax
  len_le : r1.buf.length ≤ r1.cap

/-- The new capacity `c` is found by doubling and rounded up to a power of two, so it stays below
    every power of two `B` that bounds the old capacities and twice the request. -/
theorem prepare_shape (r : Rd) (n : Nat) (h : Inv r) (hn : n + r.ri ≤ reqMax) :
    ∃ c ro, r.prepare n = { r with cap := c, readOnly := ro } ∧
      n + r.ri ≤ c ∧ r.cap ≤ c ∧ 0 < c ∧ (r.cap = 0 → Facts.defaultBufSize ≤ c) ∧
      (r.readOnly = false → ro = false) ∧
      ∀ j B, 1 * 2^j = B → r.cap ≤ B → (∀ s ∈ r.stats, s ≤ B) → Facts.defaultBufSize ≤ B →
        2 * (n + r.ri) ≤ B → c ≤ B := by
  have hri := h.ri_le; have hlen := h.len_le; have hcap := h.cap_le
  have h64 : ∀ c, 0 < c → n + r.ri ≤ c * 2^64 := fun c hc => by
    rw [two_pow_64]
    calc n + r.ri ≤ 1 * capMax := by omega
      _ ≤ c * capMax := Nat.mul_le_mul_right _ hc
  have hdef : 0 < Facts.defaultBufSize ∧ Facts.defaultBufSize ≤ capMax := by decide
  by_cases hc : r.cap = 0
  · -- first allocation: from the recorded sizes, at least `defaultBufSize`; it covers `n`, no growth
    obtain ⟨hri0, hbuf⟩ := h.cap_zero hc
    have hm0 := statsMax_le r.stats capMax h.stats_le
    generalize hm1 : (if statsMax r.stats < Facts.defaultBufSize then Facts.defaultBufSize
      else statsMax r.stats) = m1
    have hm1' : Facts.defaultBufSize ≤ m1 ∧ (m1 = Facts.defaultBufSize ∨ m1 = statsMax r.stats) := by
      subst hm1; split <;> omega
    have hd := doubleUntil_spec 64 m1 n (by omega) (by have := h64 m1 (by omega); omega)
    generalize hm2 : doubleUntil 64 m1 n = m2 at hd
    have hp := pow2ceil_spec m2 (by omega)
    have hnogrow : ¬ (n > pow2ceil m2 - r.ri) := by omega
    refine ⟨pow2ceil m2, false, ?_, by omega, by omega, hp.2.1, fun _ => by omega, fun _ => rfl, ?_⟩
    · unfold Rd.prepare
      simp only [hc, if_true, hm1, hm2, hnogrow, if_false]
      rw [hbuf]
    · intro j B hB _ hst _ h2
      have := statsMax_le r.stats B hst
      exact pow2ceil_le m2 j B hB (by omega)
  · by_cases hg : n > r.cap - r.ri
    · -- growth: double until `n + ri` fits
      have hnpos : 0 < n := by omega
      have hd := doubleUntil_spec 64 (r.cap * 2) (n + r.ri) (by omega) (h64 _ (by omega))
      generalize hnc : doubleUntil 64 (r.cap * 2) (n + r.ri) = ncap at hd
      have hp := pow2ceil_spec ncap (by omega)
      refine ⟨pow2ceil ncap, false, ?_, by omega, by omega, hp.2.1, fun h0 => absurd h0 hc,
        fun _ => rfl, ?_⟩
      · unfold Rd.prepare
        simp only [hc, if_false, hg, if_true, growCap_eq _ _ _ _ hnpos, hnc]
      · intro j B hB _ _ _ h2
        exact pow2ceil_le ncap j B hB (by omega)
    · refine ⟨r.cap, r.readOnly, ?_, by omega, Nat.le_refl _, by omega, fun h0 => absurd h0 hc,
        fun h0 => h0, fun _ _ _ hB _ _ _ => hB⟩
      unfold Rd.prepare
      simp only [hc, if_false, hg]

theorem prepare_spec (r : Rd) (n : Nat) (h : Inv r) (hn : n + r.ri ≤ reqMax) :
    PrepPost r n (r.prepare n) := by
  obtain ⟨c, ro, heq, hfit, hcc, hpos, _, _, hB⟩ := prepare_shape r n h hn
  have hle := hB 64 capMax (by rw [two_pow_64]) h.cap_le h.stats_le (by decide) (by omega)
  have hlen := h.len_le
  rw [heq]
  exact ⟨rfl, rfl, rfl, rfl, rfl, rfl, Nat.le_sub_of_add_le hfit, hpos, hle, Nat.le_trans hlen hcc⟩

/-! ## the read loop: what it leaves behind -/

/-- postcondition of the read loop / of acquire: only bytes taken from the front of the source
    stream were appended to the buffer; the cursor, capacity and statistics are untouched; the count
    `m` is `n` with at least `n` bytes buffered, or else everything buffered with a NON-NIL error -/
structure LoopPost (r : Rd) (n m : Nat) (r' : Rd) : Prop where
  data : ∃ d, r'.buf = r.buf ++ d ∧ r.src.stream = d ++ r'.src.stream
  ri : r'.ri = r.ri
  cap : r'.cap = r.cap
  readOnly : r'.readOnly = r.readOnly
  stats : r'.stats = r.stats
  statsIdx : r'.statsIdx = r.statsIdx
  outcome : (m = n ∧ n ≤ r'.buf.length - r'.ri ∧ r'.err = r.err) ∨
            (m = r'.buf.length - r'.ri ∧ r'.err ≠ none)
  len_le : r.buf.length ≤ r.cap → r'.buf.length ≤ r'.cap

/-- one scripted `Read` in front of a loop postcondition -/
theorem LoopPost.after_read {r r' : Rd} {n m : Nat} (room : Nat) (hroom : room = r.cap - r.buf.length)
    (h : LoopPost { r with buf := r.buf ++ (r.src.read room).1, src := (r.src.read room).2.2 } n m r') :
    LoopPost r n m r' := by
  obtain ⟨d, hd1, hd2⟩ := h.data
  have hs := Src.read_stream r.src room
  have hl := Src.read_len r.src room
  refine ⟨⟨(r.src.read room).1 ++ d, ?_, ?_⟩, h.ri, h.cap, h.readOnly, h.stats, h.statsIdx, ?_, ?_⟩
  · simpa [List.append_assoc] using hd1
  · simp only [] at hd2; rw [← hs, hd2, List.append_assoc]
  · simpa using h.outcome
  · intro hle
    apply h.len_le
    simp only [List.length_append]; omega

theorem readLoop_post (fuel i : Nat) (r : Rd) (n m : Nat) (r' : Rd)
    (h : Rd.readLoop fuel i r n = some (m, r')) : LoopPost r n m r' := by
  induction fuel generalizing i r with
  | zero => simp [Rd.readLoop] at h
  | succ f ih =>
    have hexit : ∀ (q : Rd) (e : Option RErr) (k : Nat),
        (k = n ∧ n ≤ q.buf.length - q.ri ∧ e = q.err) ∨ (k = q.buf.length - q.ri ∧ e ≠ none) →
        LoopPost q n k { q with err := e } := fun q e k ho =>
      ⟨⟨[], by simp, by simp⟩, rfl, rfl, rfl, rfl, rfl, ho, fun h => h⟩
    unfold Rd.readLoop at h
    by_cases hge : i ≥ Facts.maxConsecutiveEmptyReads
    · rw [if_pos hge] at h
      cases h
      exact hexit r _ _ (Or.inr ⟨rfl, nofun⟩)
    · rw [if_neg hge] at h
      simp only [] at h
      apply LoopPost.after_read (r.cap - r.buf.length) rfl
      split at h
      · cases h
        exact hexit _ _ _ (Or.inr ⟨rfl, nofun⟩)
      · by_cases hn : n ≤ (r.buf ++ (r.src.read (r.cap - r.buf.length)).1).length - r.ri
        · rw [if_pos hn] at h
          cases h
          exact hexit _ _ _ (Or.inl ⟨rfl, hn, rfl⟩)
        · rw [if_neg hn] at h
          by_cases hpos : (r.src.read (r.cap - r.buf.length)).1.length > 0
          · rw [if_pos hpos] at h; exact ih _ _ h
          · rw [if_neg hpos] at h; exact ih _ _ h

/-- `Pull M need room i s s' ok e`: the read loop, entered with no error pending, `need` bytes
    missing, `room` bytes free and `i` consecutive empty reads behind it, takes the source from `s` to
    `s'`; `ok` says whether the request got covered, `e` is the error field it leaves.  One
    constructor per exit of the loop and one for another round; only numbers and the source occur,
    so what a script makes of a request is proved by induction on this relation. -/
inductive Pull (M : Nat) : Nat → Nat → Nat → Src → Src → Bool → Option RErr → Prop
  | stall {need room i s} (hi : M ≤ i) : Pull M need room i s s false (some .noProgress)
  | eof {need room i s} (hi : i < M) (hs : s.script = []) : Pull M need room i s s false (some .eof)
  | err {need room i s x rest d e} (hi : i < M) (hs : s.script = x :: rest)
      (hd : d = min (min x.k room) s.stream.length) (he : x.err = some e) :
      Pull M need room i s ⟨s.stream.drop d, rest⟩ (decide (need ≤ d)) (some e)
  | done {need room i s x rest d} (hi : i < M) (hs : s.script = x :: rest)
      (hd : d = min (min x.k room) s.stream.length) (he : x.err = none) (hge : need ≤ d) :
      Pull M need room i s ⟨s.stream.drop d, rest⟩ true none
  | more {need room i s x rest d s' ok e} (hi : i < M) (hs : s.script = x :: rest)
      (hd : d = min (min x.k room) s.stream.length) (he : x.err = none) (hlt : d < need)
      (h : Pull M (need - d) (room - d) (if d > 0 then 0 else i + 1) ⟨s.stream.drop d, rest⟩ s' ok e) :
      Pull M need room i s s' ok e

/-- a read that the room does not limit hands over a full chunk or all the rest -/
theorem took_free {k room slen d : Nat} (hd : d = min (min k room) slen)
    (hroom : d < room ∨ slen ≤ room) : d = k ∧ k ≤ slen ∨ d = slen ∧ slen ≤ k := by omega

theorem readLoop_pull (fuel i : Nat) (r : Rd) (n m : Nat) (r' : Rd) (hri : r.ri ≤ r.buf.length)
    (hneed : ¬ n ≤ r.buf.length - r.ri) (hnone : r.err = none)
    (h : Rd.readLoop fuel i r n = some (m, r')) :
    Pull Facts.maxConsecutiveEmptyReads (n - (r.buf.length - r.ri)) (r.cap - r.buf.length) i
      r.src r'.src (decide (n ≤ m)) r'.err := by
  induction fuel generalizing i r with
  | zero => simp [Rd.readLoop] at h
  | succ f ih =>
    -- the loop's arithmetic after `d` more bytes, in terms of what was missing and free before
    have key : ∀ d, (n ≤ r.buf.length + d - r.ri ↔ n - (r.buf.length - r.ri) ≤ d) ∧
        n - (r.buf.length + d - r.ri) = n - (r.buf.length - r.ri) - d ∧
        r.cap - (r.buf.length + d) = r.cap - r.buf.length - d ∧ r.ri ≤ r.buf.length + d := by
      intro d; omega
    unfold Rd.readLoop at h
    by_cases hge : i ≥ Facts.maxConsecutiveEmptyReads
    · rw [if_pos hge] at h
      simp only [Option.some.injEq, Prod.mk.injEq] at h
      obtain ⟨hm, hr⟩ := h; subst hm hr
      rw [decide_eq_false hneed]
      exact .stall hge
    · rw [if_neg hge] at h
      have hi := Nat.lt_of_not_ge hge
      cases hsc : r.src.script with
      | nil =>
        rw [Src.read_nil _ _ hsc] at h
        simp only [Option.some.injEq, Prod.mk.injEq, List.append_nil] at h
        obtain ⟨hm, hr⟩ := h; subst hm hr
        rw [decide_eq_false hneed]
        exact .eof hi hsc
      | cons x rest =>
        rw [Src.read_cons _ _ x rest hsc] at h
        simp only [] at h
        generalize hd : min (min x.k (r.cap - r.buf.length)) r.src.stream.length = d at h
        have hdle : d ≤ r.src.stream.length := hd ▸ Nat.min_le_right _ _
        have hdl : (r.src.stream.take d).length = d := by
          rw [List.length_take, Nat.min_eq_left hdle]
        have hlen : (r.buf ++ r.src.stream.take d).length = r.buf.length + d := by
          rw [List.length_append, hdl]
        obtain ⟨k1, k2, k3, k4⟩ := key d
        simp only [hlen, hdl] at h
        cases hxe : x.err with
        | some e =>
          simp only [hxe, Option.some.injEq, Prod.mk.injEq] at h
          obtain ⟨hm, hr⟩ := h; subst hm hr
          rw [decide_eq_decide.mpr k1]
          exact .err hi hsc hd.symm hxe
        | none =>
          simp only [hxe] at h
          by_cases hsat : n ≤ r.buf.length + d - r.ri
          · rw [if_pos hsat] at h
            simp only [Option.some.injEq, Prod.mk.injEq] at h
            obtain ⟨hm, hr⟩ := h; subst hm hr
            rw [decide_eq_true (Nat.le_refl _), hnone]
            exact .done hi hsc hd.symm hxe (k1.mp hsat)
          · rw [if_neg hsat] at h
            refine .more hi hsc hd.symm hxe (Nat.lt_of_not_ge (mt k1.mpr hsat)) ?_
            by_cases hpos : d > 0
            · rw [if_pos hpos] at h
              have := ih 0 _ (by rw [hlen]; exact k4) (by rw [hlen]; exact hsat) (by exact hnone) h
              simpa only [hlen, k2, k3, if_pos hpos] using this
            · rw [if_neg hpos] at h
              have := ih (i + 1) _ (by rw [hlen]; exact k4) (by rw [hlen]; exact hsat)
                (by exact hnone) h
              simpa only [hlen, k2, k3, if_neg hpos] using this

/-! ## the read loop terminates within the fuel acquireSlow gives it
    (`maxConsecutiveEmptyReads` empty reads per byte of room, plus one round) -/

/-- the measure `(M - i) + M * room` drops with every round: `d > 0` bytes shrink the room, an empty
    read counts towards the limit -/
theorem fuel_left {M i room d f : Nat} (hi : i < M) (hd : d ≤ room)
    (hf : (M - i) + M * room + 1 ≤ f + 1) :
    (M - (if d > 0 then 0 else i + 1)) + M * (room - d) + 1 ≤ f := by
  split
  · have h2 := Nat.mul_le_mul_left M (show room - d + 1 ≤ room by omega)
    rw [Nat.mul_add, Nat.mul_one] at h2
    omega
  · have : d = 0 := by omega
    subst this
    rw [Nat.sub_zero]
    omega

theorem readLoop_fuel (fuel i : Nat) (r : Rd) (n : Nat)
    (hf : (Facts.maxConsecutiveEmptyReads - i) +
          Facts.maxConsecutiveEmptyReads * (r.cap - r.buf.length) + 1 ≤ fuel) :
    (Rd.readLoop fuel i r n).isSome := by
  induction fuel generalizing i r with
  | zero => omega
  | succ f ih =>
    unfold Rd.readLoop
    split
    · rfl
    · rename_i hi
      simp only []
      have hleft := fuel_left (Nat.lt_of_not_ge hi) (Src.read_len r.src (r.cap - r.buf.length)) hf
      split
      · rfl
      · split
        · rfl
        · split
          · rename_i hpos
            apply ih
            rw [List.length_append, Nat.sub_add_eq r.cap]
            rwa [if_pos hpos] at hleft
          · rename_i hzero
            apply ih
            rw [List.length_append, Nat.sub_add_eq r.cap]
            rwa [if_neg hzero] at hleft

end Verif
