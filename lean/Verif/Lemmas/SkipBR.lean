/-
  Lemmas/SkipBR: BufferReader.Skip (model `skipBRAt`, Model/SkipStream.lean) over an ABSTRACT reader
  contract `RdC P live` refines the stream classifier `causeStream` (Spec/Cause.lean).

  The contract (one clause per bufiox operation the skippers use) says, for every reader state
  satisfying the invariant `P` and every request `0 ≤ n ≤ bnd`:
     (`bnd` ≥ reqBound = 2^31·16, the largest single request)
     the operation returns exactly the next `n` bytes of `remaining` (Next/Peek) resp. nothing
     (Skip), `remaining` loses exactly `n` bytes (Peek: none), ReadLen (= `ri`) grows by exactly `n`
     (Peek: 0), `P` is kept
   or
     it fails with a NON-NIL error — and, when the source is `live`, only because fewer than `n`
     bytes are left.
  With `live := True` this is an exact cursor and the result is determined, error included:
      extent k            ⇒  success, exactly k bytes consumed, ReadLen + k
      cause  truncated    ⇒  the reader's error, wrapped (`.wrap se`)
      cause  c otherwise  ⇒  the protocol exception with Thrift's type id for c, without cause;
  with `live := False` readers may fail spuriously and what is left is soundness (success ⇒ the
  classifier reports exactly the consumed extent) and totality (never a panic).
  Since `causeStream` reports an extent exactly when `refBR` (Lemmas/GrammarG.lean) does, the same holds
  against the acceptance discipline `refBR` (`skipBR_ref`).
  Instances: Lemmas/SkipBRInst.lean (C04's `Inv` + `Live`), Lemmas/SkipBRBytes.lean.
-/
import Verif.Model.SkipStream
import Verif.Lemmas.SkipBRCauseRef
import Verif.Lemmas.SkipTpl
import Verif.Lemmas.ReaderStep
namespace Verif

/-- the error BufferReader.Skip must return for a classified cause -/
def ErrFor (c : Cause) (e : TErr) : Prop :=
  if c = .truncated then ∃ se, e = .wrap se else e = .pe (typeIdOf c)

theorem ErrFor.trunc (se : RErr) : ErrFor .truncated (.wrap se) := by
  unfold ErrFor; simp
theorem ErrFor.neg : ErrFor .negativeSize errNeg := by
  unfold ErrFor; simp [errNeg_pe]
theorem ErrFor.depth : ErrFor .depth errDepth := by
  unfold ErrFor; simp [errDepth_pe]
theorem ErrFor.unknownType : ErrFor .unknownType errUnknownType := by
  unfold ErrFor; simp [errUnknownType_pe]

structure RdC (P : Rd → Prop) (live : Prop) (bnd : Nat) : Prop where
  next : ∀ r (n : Int), P r → 0 ≤ n → n.toNat ≤ bnd →
    (∃ r', r.next n = (.ok (r.remaining.take n.toNat), r') ∧ n.toNat ≤ r.remaining.length ∧
       r'.remaining = r.remaining.drop n.toNat ∧ r'.ri = r.ri + n.toNat ∧ P r') ∨
    (∃ e r', r.next n = (.fail (some e), r') ∧ (live → r.remaining.length < n.toNat))
  skip : ∀ r (n : Int), P r → 0 ≤ n → n.toNat ≤ bnd →
    (∃ b r', r.skip n = (.ok b, r') ∧ n.toNat ≤ r.remaining.length ∧
       r'.remaining = r.remaining.drop n.toNat ∧ r'.ri = r.ri + n.toNat ∧ P r') ∨
    (∃ e r', r.skip n = (.fail (some e), r') ∧ (live → r.remaining.length < n.toNat))
  peek : ∀ r (n : Int), P r → 0 ≤ n → n.toNat ≤ bnd →
    (∃ r', r.peek n = (.ok (r.remaining.take n.toNat), r') ∧ n.toNat ≤ r.remaining.length ∧
       r'.remaining = r.remaining ∧ r'.ri = r.ri ∧ P r') ∨
    (∃ e r', r.peek n = (.fail (some e), r') ∧ (live → r.remaining.length < n.toNat))

theorem Rd.avail_eq (r : Rd) : r.avail = r.remaining.length := by
  unfold Rd.avail Rd.remaining; simp

/-- the MAP branch of skipType -/
def brMapBody (rec : UInt8 → RM Unit) : RM Unit := fun r => do
  let (b, r1) ← brNext 6 r
  let kt ← idx b 0
  let vt ← idx b 1
  let szu ← u32of (b.drop 2)
  if toI32 szu < 0 then .err errNeg else do
  let ksz ← typeSize kt
  let vsz ← typeSize vt
  if ksz > 0 ∧ vsz > 0 then brSkipn ((szu : Int) * (ksz + vsz)) r1
  else brMapLoop rec kt vt ksz vsz szu r1

/-- the LIST/SET branch of skipType -/
def brListBody (rec : UInt8 → RM Unit) : RM Unit := fun r => do
  let (b, r1) ← brNext 5 r
  let vt ← idx b 0
  let szu ← u32of (b.drop 1)
  if toI32 szu < 0 then .err errNeg else do
  let vsz ← typeSize vt
  if vsz > 0 then brSkipn ((szu : Int) * vsz) r1
  else brListLoop rec vt szu r1

theorem skipBRAt_succ (d : Nat) (t : UInt8) (r : Rd) :
    skipBRAt (d + 1) t r =
      if 0 < fixedSize t then brSkipn ((fixedSize t : Nat) : Int) r
      else if t = TT.STRING then brSkipStr r
      else if t = TT.MAP then brMapBody (skipBRAt d) r
      else if t = TT.LIST ∨ t = TT.SET then brListBody (skipBRAt d) r
      else if t = TT.STRUCT then brStructLoop (skipBRAt d) (r.remaining.length + 1) r
      else .err errUnknownType := by
  have h : skipBRAt (d + 1) t r = (do
      let n ← typeSize t
      if n > 0 then brSkipn n r else
      if t = T_STRING then brSkipStr r
      else if t = T_MAP then brMapBody (skipBRAt d) r
      else if t = T_LIST ∨ t = T_SET then brListBody (skipBRAt d) r
      else if t = T_STRUCT then brStructLoop (skipBRAt d) (r.avail + 1) r
      else .err errUnknownType) := rfl
  simp only [h, typeSize_eq, Out.bind_eq, Out.bind_ok, gt_iff_lt, Int.natCast_pos, T_STRING_eq, T_MAP_eq,
    T_LIST_eq, T_SET_eq, T_STRUCT_eq, Rd.avail_eq]

/-- `RMm` (a computation in the reader monad `RM` of Model/SkipStream.lean *matches* a classification;
    the conclusion of the lemmas `…_m` below): how a reader computation `x` started in state `r`
    relates to the classification `o` of the bytes `r.remaining`:
    either it is an error (and, over a live source, `o` is a cause and the error is the one that
    cause must surface as), or it succeeds, `o` is an extent `k`, and exactly `k` bytes have been
    consumed -/
def RMm {α : Type} (P : Rd → Prop) (live : Prop) (x : TOut (α × Rd)) (o : CRes) (r : Rd) : Prop :=
  (∃ e, x = .err e ∧ (live → ∃ c, o = .error c ∧ ErrFor c e)) ∨
  (∃ k a r', o = .ok k ∧ x = .ok (a, r') ∧ r'.remaining = r.remaining.drop k ∧ r'.ri = r.ri + k ∧ P r')

section
variable {P : Rd → Prop} {live : Prop} {bnd : Nat} {α β : Type}

theorem RMm.pure (a : α) (r : Rd) (hp : P r) : RMm P live (.ok (a, r)) (.ok 0) r :=
  .inr ⟨0, a, r, rfl, rfl, rfl, rfl, hp⟩

theorem RMm.fail {c : Cause} {e : TErr} (r : Rd) (he : ErrFor c e) :
    RMm P live (.err e : TOut (α × Rd)) (.error c) r :=
  .inl ⟨e, rfl, fun _ => ⟨c, rfl, he⟩⟩

theorem RMm.rdFail {o : CRes} (r : Rd) (se : RErr) (h : live → o = .error .truncated) :
    RMm P live (.err (.wrap se) : TOut (α × Rd)) o r :=
  .inl ⟨_, rfl, fun l => ⟨_, h l, ErrFor.trunc se⟩⟩

theorem RMm.shift {x : TOut (α × Rd)} {o : CRes} {r r1 : Rd} {k1 : Nat}
    (hrem : r1.remaining = r.remaining.drop k1) (hri : r1.ri = r.ri + k1) (h : RMm P live x o r1) :
    RMm P live x (o.map (k1 + ·)) r := by
  rcases h with ⟨e, hx, hc⟩ | ⟨k, a, r', ho, hx, h1, h2, h3⟩
  · left
    refine ⟨e, hx, fun l => ?_⟩
    obtain ⟨c, ho, he⟩ := hc l
    exact ⟨c, by rw [ho]; rfl, he⟩
  · right
    exact ⟨k1 + k, a, r', by rw [ho]; rfl, hx, by rw [h1, hrem, List.drop_drop], by omega, h3⟩

/-- sequencing: the continuation is classified on what the first computation left, which is never
    more than it found -/
theorem RMm.bind {x : TOut (α × Rd)} {f : α × Rd → TOut (β × Rd)} {o : CRes} {g : Bytes → CRes} {r : Rd}
    (h1 : RMm P live x o r)
    (h2 : ∀ a r1, P r1 → r1.remaining.length ≤ r.remaining.length →
      RMm P live (f (a, r1)) (g r1.remaining) r1) :
    RMm P live (x.bind f) (o.bind fun k => (g (r.remaining.drop k)).map (k + ·)) r := by
  rcases h1 with ⟨e, hx, hc⟩ | ⟨k, a, r1, ho, hx, hrem, hri, hp1⟩
  · left
    refine ⟨e, by rw [hx]; rfl, fun l => ?_⟩
    obtain ⟨c, ho, he⟩ := hc l
    exact ⟨c, by rw [ho]; rfl, he⟩
  · have h := h2 a r1 hp1 (by rw [hrem, List.length_drop]; omega)
    rw [hrem] at h
    rw [hx, ho]
    exact h.shift hrem hri

theorem brNext_m (hC : RdC P live bnd) (r : Rd) (n : Int) (N : Nat) (hn : n = N) (hb : N ≤ bnd) (hp : P r) :
    (∃ r', brNext n r = .ok (r.remaining.take N, r') ∧ N ≤ r.remaining.length ∧
       r'.remaining = r.remaining.drop N ∧ r'.ri = r.ri + N ∧ P r') ∨
    (∃ se, brNext n r = .err (.wrap se) ∧ (live → r.remaining.length < N)) := by
  subst hn
  have h := hC.next r N hp (Int.natCast_nonneg N) (by rw [Int.toNat_natCast]; exact hb)
  rw [Int.toNat_natCast] at h
  rcases h with ⟨r', hx, h⟩ | ⟨e, r', hx, hl⟩
  · left; exact ⟨r', by simp only [brNext, hx], h⟩
  · right; exact ⟨e, by simp only [brNext, hx], hl⟩

theorem brSkipn_m (hC : RdC P live bnd) (r : Rd) (n : Int) (hp : P r) (hb : n.toNat ≤ bnd) :
    RMm P live (brSkipn n r)
      (if n < 0 then .error .negativeSize
       else if n.toNat ≤ r.remaining.length then .ok n.toNat else .error .truncated) r := by
  unfold brSkipn
  by_cases hn : n < 0
  · rw [if_pos hn, if_pos hn]
    exact RMm.fail r ErrFor.neg
  · rw [if_neg hn, if_neg hn]
    rcases hC.skip r n hp (by omega) hb with ⟨b, r', hx, h1, h⟩ | ⟨e, r', hx, hl⟩
    · right; exact ⟨n.toNat, (), r', if_pos h1, by simp only [hx], h⟩
    · simp only [hx]
      exact RMm.rdFail r e (fun l => if_neg (by have := hl l; omega))

theorem brSkipnNat_m (hC : RdC P live bnd) (r : Rd) (N : Nat) (hp : P r) (hb : N ≤ bnd) :
    RMm P live (brSkipn (N : Int) r)
      (if N ≤ r.remaining.length then .ok N else .error .truncated) r := by
  have h := brSkipn_m hC r (N : Int) hp (by rw [Int.toNat_natCast]; exact hb)
  rwa [if_neg (by omega), Int.toNat_natCast] at h

theorem brFixed_m (hC : RdC P live bnd) (hbnd : reqBound ≤ bnd) (t : UInt8) (r : Rd) (hp : P r) :
    RMm P live (brSkipn ((fixedSize t : Nat) : Int) r)
      (if fixedSize t ≤ r.remaining.length then .ok (fixedSize t) else .error .truncated) r :=
  brSkipnNat_m hC r (fixedSize t) hp (by have := fixedSize_le t; unfold reqBound at hbnd; omega)

theorem u32of_window (l : Bytes) (i : Nat) (h : i + 4 ≤ l.length) :
    u32of ((l.take (i + 4)).drop i) = .ok (rd32 (l.drop i)) := by
  have h4 : 4 ≤ (l.drop i).length := by rw [List.length_drop]; omega
  rw [List.drop_take, Nat.add_sub_cancel_left, u32of_ok _ (by rw [List.length_take]; omega),
    rd32_take _ 4 (Nat.le_refl 4)]

theorem small_le_bnd (hbnd : reqBound ≤ bnd) (N : Nat) (h : N ≤ 8) : N ≤ bnd := by
  unfold reqBound at hbnd; omega

theorem brReadI32_m (hC : RdC P live bnd) (hbnd : reqBound ≤ bnd) (r : Rd) (hp : P r) :
    (∃ r', brReadI32 r = .ok (toI32 (rd32 r.remaining), r') ∧ 4 ≤ r.remaining.length ∧
       r'.remaining = r.remaining.drop 4 ∧ r'.ri = r.ri + 4 ∧ P r') ∨
    (∃ se, brReadI32 r = .err (.wrap se) ∧ (live → r.remaining.length < 4)) := by
  rcases brNext_m hC r 4 4 rfl (small_le_bnd hbnd 4 (by omega)) hp with ⟨r', hx, h4, h⟩ | ⟨se, hx, hl⟩
  · left
    refine ⟨r', ?_, h4, h⟩
    have hu : u32of (r.remaining.take 4) = .ok (rd32 r.remaining) := u32of_window _ 0 h4
    simp only [brReadI32, hx, Out.bind_eq, Out.bind_ok, hu, Out.pure_eq]
  · right
    exact ⟨se, by simp only [brReadI32, hx, Out.bind_eq, Out.bind_err], hl⟩

theorem toI32_toNat_le (n : Nat) (h : n < 4294967296) : (toI32 n).toNat ≤ reqBound := by
  unfold toI32 reqBound; split <;> omega

theorem brSkipStr_m (hC : RdC P live bnd) (hbnd : reqBound ≤ bnd) (r : Rd) (hp : P r) :
    RMm P live (brSkipStr r) (causeStr r.remaining) r := by
  rcases brReadI32_m hC hbnd r hp with ⟨r1, hx, h4, hrem1, hri1, hp1⟩ | ⟨se, hx, hl⟩
  · have hm := (brSkipn_m hC r1 (toI32 (rd32 r.remaining)) hp1
      (Nat.le_trans (toI32_toNat_le _ (rd32_lt _)) hbnd)).shift hrem1 hri1
    rw [hrem1, ← causeStr_eq _ h4] at hm
    simpa only [brSkipStr, hx, Out.bind_eq, Out.bind_ok] using hm
  · rw [brSkipStr, hx]
    exact RMm.rdFail r se (fun l => causeStr_short _ (hl l))

/-- key / value element of the MAP slow path -/
theorem brElem_m (hC : RdC P live bnd) (hbnd : reqBound ≤ bnd) {rec : UInt8 → RM Unit} {f : UInt8 → Bytes → CRes}
    (t : UInt8) (HR : ∀ r, P r → RMm P live (rec t r) (f t r.remaining) r) (r : Rd) (hp : P r) :
    RMm P live (brElem rec t ((fixedSize t : Nat) : Int) r) (causeElem f t r.remaining) r := by
  unfold brElem causeElem
  by_cases hf : 0 < fixedSize t
  · rw [if_pos (by omega), if_pos hf]
    exact brFixed_m hC hbnd t r hp
  · rw [if_neg (by omega), if_neg hf, T_STRING_eq]
    by_cases hs : t = TT.STRING
    · rw [if_pos hs, if_pos hs]; exact brSkipStr_m hC hbnd r hp
    · rw [if_neg hs, if_neg hs]; exact HR r hp

/-- element of the LIST/SET slow path (the element type is not fixed-size there) -/
theorem brListElem_m (hC : RdC P live bnd) (hbnd : reqBound ≤ bnd) {rec : UInt8 → RM Unit} {f : UInt8 → Bytes → CRes}
    (t : UInt8) (h0 : fixedSize t = 0)
    (HR : ∀ r, P r → RMm P live (rec t r) (f t r.remaining) r) (r : Rd) (hp : P r) :
    RMm P live (if t = T_STRING then brSkipStr r else rec t r) (causeElem f t r.remaining) r := by
  have h := brElem_m hC hbnd t HR r hp
  unfold brElem at h
  rwa [if_neg (by omega)] at h

/-- field value of the STRUCT loop -/
theorem brField_m (hC : RdC P live bnd) (hbnd : reqBound ≤ bnd) {rec : UInt8 → RM Unit} {f : UInt8 → Bytes → CRes}
    (t : UInt8) (HR : ∀ r, P r → RMm P live (rec t r) (f t r.remaining) r) (r : Rd) (hp : P r) :
    RMm P live (if ((fixedSize t : Nat) : Int) > 0 then brSkipn ((fixedSize t : Nat) : Int) r else rec t r)
      (causeField f t r.remaining) r := by
  unfold causeField
  by_cases hf : 0 < fixedSize t
  · rw [if_pos (by omega), if_pos hf]
    exact brFixed_m hC hbnd t r hp
  · rw [if_neg (by omega), if_neg hf]
    exact HR r hp

theorem brListLoop_m {rec : UInt8 → RM Unit} {g : Bytes → CRes} (vt : UInt8)
    (HE : ∀ r, P r → RMm P live (if vt = T_STRING then brSkipStr r else rec vt r) (g r.remaining) r) :
    ∀ cnt r, P r → RMm P live (brListLoop rec vt cnt r) (causeN g cnt r.remaining) r := by
  intro cnt
  induction cnt with
  | zero => intro r hp; exact RMm.pure () r hp
  | succ cnt ih =>
    intro r hp
    rw [causeN_succ]
    simp only [brListLoop, Out.bind_eq]
    exact RMm.bind (HE r hp) (fun _ r1 hp1 _ => ih r1 hp1)

theorem brMapLoop_m {rec : UInt8 → RM Unit} {gk gv : Bytes → CRes} (kt vt : UInt8) (ksz vsz : Int)
    (HK : ∀ r, P r → RMm P live (brElem rec kt ksz r) (gk r.remaining) r)
    (HV : ∀ r, P r → RMm P live (brElem rec vt vsz r) (gv r.remaining) r) :
    ∀ cnt r, P r → RMm P live (brMapLoop rec kt vt ksz vsz cnt r) (causeKV gk gv cnt r.remaining) r := by
  intro cnt
  induction cnt with
  | zero => intro r hp; exact RMm.pure () r hp
  | succ cnt ih =>
    intro r hp
    rw [causeKV_succ]
    simp only [brMapLoop, Out.bind_eq]
    refine RMm.bind (g := fun b => (gv b).bind fun v => (causeKV gk gv cnt (b.drop v)).map (v + ·))
      (HK r hp) (fun _ r1 hp1 _ => ?_)
    exact RMm.bind (HV r1 hp1) (fun _ r2 hp2 _ => ih r2 hp2)

theorem brFieldBegin_m (hC : RdC P live bnd) (hbnd : reqBound ≤ bnd) (r : Rd) (hp : P r) :
    (∃ se, brFieldBegin r = .err (.wrap se) ∧
      (live → ∀ g fuel, causeFields g fuel r.remaining = .error .truncated)) ∨
    (∃ r1 rest, r.remaining = 0 :: rest ∧ brFieldBegin r = .ok (0, r1) ∧ r1.remaining = r.remaining.drop 1 ∧
      r1.ri = r.ri + 1 ∧ P r1) ∨
    (∃ t rest r2, r.remaining = t :: rest ∧ t ≠ 0 ∧ 2 ≤ rest.length ∧ brFieldBegin r = .ok (t, r2) ∧
      r2.remaining = r.remaining.drop 3 ∧ r2.ri = r.ri + 3 ∧ P r2) := by
  rcases brNext_m hC r 1 1 rfl (small_le_bnd hbnd 1 (by omega)) hp with ⟨r1, hx, h1, hrem1, hri1, hp1⟩ | ⟨se, hx, hl⟩
  · obtain ⟨t, rest, hrem⟩ := List.exists_cons_of_length_pos h1
    have hfb : brFieldBegin r = if t = T_STOP then .ok (t, r1) else (do
        let (b2, r2) ← brNext 2 r1
        let _ ← idx b2 1
        pure (t, r2)) := by
      rw [brFieldBegin, hx, hrem]; rfl
    rw [T_STOP_eq] at hfb
    by_cases ht : t = 0
    · right; left
      rw [if_pos ht] at hfb
      subst ht
      exact ⟨r1, rest, hrem, hfb, hrem1, hri1, hp1⟩
    · rw [if_neg ht] at hfb
      have hrem1' : r1.remaining = rest := by rw [hrem1, hrem]; rfl
      rcases brNext_m hC r1 2 2 rfl (small_le_bnd hbnd 2 (by omega)) hp1 with
        ⟨r2, hy, h2, hrem2, hri2, hp2⟩ | ⟨se, hy, hl⟩
      · right; right
        obtain ⟨x, hi2⟩ : ∃ x, idx (r1.remaining.take 2) 1 = .ok x :=
          ⟨_, idx_ok _ 1 (by rw [List.length_take]; omega)⟩
        refine ⟨t, rest, r2, hrem, ht, hrem1' ▸ h2, ?_, by rw [hrem2, hrem1, List.drop_drop], by omega, hp2⟩
        rw [hfb, hy]
        simp only [Out.bind_eq, Out.bind_ok, hi2, Out.pure_eq]
      · left
        refine ⟨se, by rw [hfb, hy]; rfl, fun l g fuel => ?_⟩
        rw [hrem]
        exact causeFields_short g fuel t rest ht (hrem1' ▸ hl l)
  · left
    refine ⟨se, by rw [brFieldBegin, hx]; rfl, fun l g fuel => ?_⟩
    have h0 : r.remaining = [] := List.eq_nil_of_length_eq_zero (by have := hl l; omega)
    rw [h0]
    exact causeFields_nil g fuel

theorem brStructLoop_m (hC : RdC P live bnd) (hbnd : reqBound ≤ bnd) {rec : UInt8 → RM Unit} {g : UInt8 → Bytes → CRes}
    (HF : ∀ ft r, P r → RMm P live
      (if ((fixedSize ft : Nat) : Int) > 0 then brSkipn ((fixedSize ft : Nat) : Int) r else rec ft r)
      (g ft r.remaining) r) :
    ∀ fuel r, P r → r.remaining.length < fuel →
      RMm P live (brStructLoop rec fuel r) (causeFields g fuel r.remaining) r := by
  intro fuel
  induction fuel with
  | zero => intro r _ h; omega
  | succ fuel ih =>
    intro r hp hfuel
    simp only [brStructLoop, Out.bind_eq]
    rcases brFieldBegin_m hC hbnd r hp with ⟨se, hx, htr⟩ | ⟨r1, rest, hrem, hx, hrem1, hri1, hp1⟩ |
      ⟨t, rest, r2, hrem, ht, h2, hx, hrem2, hri2, hp2⟩
    · rw [hx]
      exact RMm.rdFail r se (fun l => htr l g _)
    · rw [hx, hrem, causeFields_stop]
      simp only [Out.bind_ok, T_STOP_eq, if_true, Out.pure_eq]
      exact (RMm.pure () r1 hp1).shift (hrem ▸ hrem1) hri1
    · rw [hx, hrem, causeFields_field g fuel t rest ht h2]
      simp only [Out.bind_ok, T_STOP_eq, ht, if_false, typeSize_eq]
      have hrem2' : r2.remaining = rest.drop 2 := by rw [hrem2, hrem]; rfl
      have hlen : r2.remaining.length + 3 ≤ r.remaining.length := by
        rw [hrem2', hrem, List.length_drop, List.length_cons]; omega
      rw [← hrem2']
      exact (RMm.bind (HF t r2 hp2) (fun _ r3 hp3 hle => ih r3 hp3 (by omega))).shift (hrem ▸ hrem2) hri2

theorem brCounted_m {x : TOut (Unit × Rd)} {o : CRes} {r r1 : Rd} {k1 N : Nat} (hlt : N < 4294967296)
    (hrem : r1.remaining = r.remaining.drop k1) (hri : r1.ri = r.ri + k1)
    (hx : N < 2147483648 → RMm P live x o r1) :
    RMm P live (if toI32 N < 0 then .err errNeg else x)
      (if ¬ N < 2147483648 then .error .negativeSize else o.map (k1 + ·)) r := by
  by_cases hn : N < 2147483648
  · rw [if_neg (mt (toI32_neg_iff N hlt).mp (not_not_intro hn)), if_neg (not_not_intro hn)]
    exact (hx hn).shift hrem hri
  · rw [if_pos ((toI32_neg_iff N hlt).mpr hn), if_pos hn]
    exact RMm.fail r ErrFor.neg

theorem brFast_m (hC : RdC P live bnd) (hbnd : reqBound ≤ bnd) (r : Rd) (hp : P r) (N w : Nat)
    (hN : N < 2147483648) (hw : w ≤ 16) :
    RMm P live (brSkipn ((N * w : Nat) : Int) r)
      (if N * w ≤ r.remaining.length then .ok (N * w) else .error .truncated) r :=
  brSkipnNat_m hC r _ hp (Nat.le_trans (mul_le_reqBound N w hN hw) hbnd)

theorem brMapBody_m (hC : RdC P live bnd) (hbnd : reqBound ≤ bnd) {rec : UInt8 → RM Unit} {f : UInt8 → Bytes → CRes}
    (HR : ∀ t r, P r → RMm P live (rec t r) (f t r.remaining) r) (r : Rd) (hp : P r) :
    RMm P live (brMapBody rec r) (causeLayer (causeElem f) TT.MAP r.remaining) r := by
  unfold brMapBody
  rcases brNext_m hC r 6 6 rfl (small_le_bnd hbnd 6 (by omega)) hp with ⟨r1, hx, h6, hrem1, hri1, hp1⟩ | ⟨se, hx, hl⟩
  · obtain ⟨kt, vt, rest, hr, hrest⟩ : ∃ kt vt rest, r.remaining = kt :: vt :: rest ∧ 4 ≤ rest.length := by
      match r.remaining, h6 with
      | kt :: vt :: rest, h => exact ⟨kt, vt, rest, rfl, by simp only [List.length_cons] at h; omega⟩
    rw [hr] at hx
    have e0 : idx (List.take 6 (kt :: vt :: rest)) 0 = .ok kt := rfl
    have e1 : idx (List.take 6 (kt :: vt :: rest)) 1 = .ok vt := rfl
    have e2 : u32of (List.drop 2 (List.take 6 (kt :: vt :: rest))) = .ok (rd32 rest) :=
      u32of_window (kt :: vt :: rest) 2 (hr ▸ h6)
    rw [hr, causeLayer_map, if_neg (Nat.not_lt.mpr hrest)]
    simp only [Out.bind_eq, hx, e0, e1, e2, Out.bind_ok, typeSize_eq]
    have hrem4 : r1.remaining = rest.drop 4 := by rw [hrem1, hr]; rfl
    rw [← hrem4]
    have hlt := rd32_lt rest
    generalize rd32 rest = N at hlt ⊢
    refine brCounted_m hlt (hr ▸ hrem1) hri1 (fun hn => ?_)
    by_cases hfast : ((fixedSize kt : Nat) : Int) > 0 ∧ ((fixedSize vt : Nat) : Int) > 0
    · have hk : 0 < fixedSize kt := by omega
      have hv : 0 < fixedSize vt := by omega
      rw [if_pos hfast, causeKV_fixed (fixedSize kt) (fixedSize vt) _ _
        (causeElem_fixed _ kt hk) (causeElem_fixed _ vt hv), ← Int.natCast_add, ← Int.natCast_mul]
      exact brFast_m hC hbnd r1 hp1 N _ hn (by have := fixedSize_le kt; have := fixedSize_le vt; omega)
    · rw [if_neg hfast]
      exact brMapLoop_m kt vt _ _ (brElem_m hC hbnd kt (HR kt)) (brElem_m hC hbnd vt (HR vt)) N r1 hp1
  · rw [hx]
    exact RMm.rdFail r se (fun l => causeLayer_map_short _ _ (hl l))

theorem brListBody_m (hC : RdC P live bnd) (hbnd : reqBound ≤ bnd) {rec : UInt8 → RM Unit} {f : UInt8 → Bytes → CRes}
    (t : UInt8) (htl : t = TT.LIST ∨ t = TT.SET)
    (HR : ∀ t r, P r → RMm P live (rec t r) (f t r.remaining) r) (r : Rd) (hp : P r) :
    RMm P live (brListBody rec r) (causeLayer (causeElem f) t r.remaining) r := by
  unfold brListBody
  rcases brNext_m hC r 5 5 rfl (small_le_bnd hbnd 5 (by omega)) hp with ⟨r1, hx, h5, hrem1, hri1, hp1⟩ | ⟨se, hx, hl⟩
  · obtain ⟨et, rest, hr, hrest⟩ : ∃ et rest, r.remaining = et :: rest ∧ 4 ≤ rest.length := by
      match r.remaining, h5 with
      | et :: rest, h => exact ⟨et, rest, rfl, by simp only [List.length_cons] at h; omega⟩
    rw [hr] at hx
    have e0 : idx (List.take 5 (et :: rest)) 0 = .ok et := rfl
    have e2 : u32of (List.drop 1 (List.take 5 (et :: rest))) = .ok (rd32 rest) :=
      u32of_window (et :: rest) 1 (hr ▸ h5)
    rw [hr, causeLayer_list _ t htl, if_neg (Nat.not_lt.mpr hrest)]
    simp only [Out.bind_eq, hx, e0, e2, Out.bind_ok, typeSize_eq]
    have hrem4 : r1.remaining = rest.drop 4 := by rw [hrem1, hr]; rfl
    rw [← hrem4]
    have hlt := rd32_lt rest
    generalize rd32 rest = N at hlt ⊢
    refine brCounted_m hlt (hr ▸ hrem1) hri1 (fun hn => ?_)
    by_cases hfast : ((fixedSize et : Nat) : Int) > 0
    · have hv : 0 < fixedSize et := by omega
      rw [if_pos hfast, causeN_fixed (fixedSize et) _ (causeElem_fixed _ et hv), ← Int.natCast_mul]
      exact brFast_m hC hbnd r1 hp1 N _ hn (by have := fixedSize_le et; omega)
    · rw [if_neg hfast]
      exact brListLoop_m et (brListElem_m hC hbnd et (by omega) (HR et)) N r1 hp1
  · rw [hx]
    exact RMm.rdFail r se (fun l => causeLayer_list_short _ t htl _ (hl l))

/-- BufferReader.skipType over any reader satisfying the contract: it succeeds only with the extent
    `causeStream` reports, ReadLen advancing by exactly that much; over a live source it succeeds
    whenever there is one and otherwise fails with the error of the reported cause; never a panic -/
theorem skipBRAt_m (hC : RdC P live bnd) (hbnd : reqBound ≤ bnd) :
    ∀ d t r, P r → RMm P live (skipBRAt d t r) (causeStream d t r.remaining) r := by
  intro d
  induction d with
  | zero => intro t r _; exact RMm.fail r ErrFor.depth
  | succ d ih =>
    intro t r hp
    rw [skipBRAt_succ, causeStream]
    by_cases hf : 0 < fixedSize t
    · have hnst : t ≠ TT.STRUCT := by intro h; subst h; exact absurd hf (by decide)
      rw [if_pos hf, if_neg hnst, causeLayer_fixed _ t _ hf]
      exact brFixed_m hC hbnd t r hp
    · rw [if_neg hf]
      by_cases hstr : t = TT.STRING
      · subst hstr
        rw [if_pos rfl, if_neg (by decide), causeLayer_string]
        exact brSkipStr_m hC hbnd r hp
      · rw [if_neg hstr]
        by_cases hm : t = TT.MAP
        · subst hm
          rw [if_pos rfl, if_neg (by decide)]
          exact brMapBody_m hC hbnd ih r hp
        · rw [if_neg hm]
          by_cases hl : t = TT.LIST ∨ t = TT.SET
          · rw [if_pos hl, if_neg (listType_facts t hl).2.2.1]
            exact brListBody_m hC hbnd t hl ih r hp
          · rw [if_neg hl]
            by_cases hst : t = TT.STRUCT
            · rw [if_pos hst, if_pos hst]
              exact brStructLoop_m hC hbnd (fun ft => brField_m hC hbnd ft (ih ft)) _ r hp (by omega)
            · rw [if_neg hst, if_neg hst, causeLayer_unknown _ t _ (by omega) hstr hst hl hm]
              exact RMm.fail r ErrFor.unknownType

theorem skipBR_ref (hC : RdC P live bnd) (hbnd : reqBound ≤ bnd) (t : UInt8) (r : Rd) (hp : P r) :
    (∃ e, skipBR t r = .err e ∧ (live → refBR Facts.defaultRecursionDepth t r.remaining = none)) ∨
    (∃ k r', refBR Facts.defaultRecursionDepth t r.remaining = some k ∧ skipBR t r = .ok ((), r') ∧
      r'.remaining = r.remaining.drop k ∧ r'.readLen = r.readLen + k ∧ P r') := by
  rw [← causeStream_okOf]
  rcases skipBRAt_m hC hbnd Facts.defaultRecursionDepth t r hp with ⟨e, hx, hc⟩ | ⟨k, a, r', ho, hx, h⟩
  · left
    refine ⟨e, hx, fun l => ?_⟩
    obtain ⟨c, ho, _⟩ := hc l
    rw [ho]; rfl
  · right
    exact ⟨k, r', by rw [ho]; rfl, hx, h⟩

end
end Verif
