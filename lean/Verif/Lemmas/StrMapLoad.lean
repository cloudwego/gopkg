/-
  Lemmas/StrMapLoad: what LoadFromSlice / makeHashtable build —
  the key bytes are readable through (off, sz), the item list is a slot-sorted permutation of the
  loaded pairs, the table is the first-index table; and lookups by key in such a list agree with
  `List.lookup` in the loaded pairs when the keys are pairwise distinct.
-/
import Verif.Lemmas.StrMapSlots
import Verif.Lemmas.StrMapGet
namespace Verif.SMap
open Verif

variable {V : Type}

/-! ## lookup in a list of (key?, value) pairs -/

def lookupO : List (Option Bytes × V) → Bytes → Option V
  | [], _ => none
  | p :: l, s => if p.1 = some s then some p.2 else lookupO l s

theorem findKey_eq_lookupO (data : Bytes) (l : List (Item V)) (s : Bytes) :
    findKey data l s = lookupO (l.map fun e => (keyAt data e, e.v)) s := by
  induction l with
  | nil => rfl
  | cons e l ih => simp only [findKey, List.map_cons, lookupO, ih]

theorem lookupO_some_map (kvs : List (Bytes × V)) (s : Bytes) :
    lookupO (kvs.map (fun kv => (some kv.1, kv.2))) s = List.lookup s kvs := by
  induction kvs with
  | nil => rfl
  | cons kv kvs ih =>
    obtain ⟨k, v⟩ := kv
    simp only [List.map_cons, lookupO, List.lookup]
    by_cases hk : k = s
    · subst hk; simp
    · have h1 : ¬ (some k = some s) := by intro h; injection h with h; exact hk h
      have h2 : (s == k) = false := by
        rw [beq_eq_false_iff_ne]; exact fun h => hk h.symm
      simp only [h1, if_false, h2, ih]

theorem lookupO_some_iff {l : List (Option Bytes × V)} (hd : l.Pairwise (fun a b => a.1 ≠ b.1))
    (s : Bytes) (v : V) : lookupO l s = some v ↔ (some s, v) ∈ l := by
  induction l with
  | nil => simp [lookupO]
  | cons p l ih =>
    rw [List.pairwise_cons] at hd
    obtain ⟨hp, hd⟩ := hd
    unfold lookupO
    by_cases hk : p.1 = some s
    · simp only [hk, if_true]
      constructor
      · intro h; injection h with h; subst h
        rw [← hk]; exact List.mem_cons_self
      · intro h
        rcases List.mem_cons.mp h with h | h
        · rw [← h]
        · exact absurd hk.symm (fun h' => hp _ h (by simpa using h'.symm))
    · simp only [hk, if_false]
      rw [ih hd]
      constructor
      · exact fun h => List.mem_cons_of_mem _ h
      · intro h
        rcases List.mem_cons.mp h with h | h
        · exact absurd (by rw [← h]) hk
        · exact h

theorem lookupO_perm {l1 l2 : List (Option Bytes × V)} (hp : l1.Perm l2)
    (hd : l2.Pairwise (fun a b => a.1 ≠ b.1)) (s : Bytes) : lookupO l1 s = lookupO l2 s := by
  have hd1 : l1.Pairwise (fun a b => a.1 ≠ b.1) :=
    hd.perm hp.symm (fun h => fun h' => h h'.symm)
  have key : ∀ v, lookupO l1 s = some v ↔ lookupO l2 s = some v := by
    intro v
    rw [lookupO_some_iff hd1, lookupO_some_iff hd]
    exact hp.mem_iff
  cases h1 : lookupO l1 s with
  | some v => exact ((key v).mp h1).symm
  | none =>
    cases h2 : lookupO l2 s with
    | none => rfl
    | some v => rw [(key v).mpr h2] at h1; cases h1

theorem pairwise_key_ne {kvs : List (Bytes × V)} (hd : (kvs.map (·.1)).Nodup) :
    (kvs.map (fun kv => (some kv.1, kv.2))).Pairwise (fun a b => a.1 ≠ b.1) := by
  rw [List.pairwise_map]
  exact (List.pairwise_map.mp hd).imp (fun hab h' => hab (Option.some.inj h'))

theorem lookup_perm {l1 l2 : List (Bytes × V)} (hp : l1.Perm l2) (hd : (l2.map (·.1)).Nodup) (s : Bytes) :
    List.lookup s l1 = List.lookup s l2 := by
  rw [← lookupO_some_map, ← lookupO_some_map]
  exact lookupO_perm (hp.map _) (pairwise_key_ne hd) s

/-! ## the append loop -/

theorem keyAt_mid (pre k post : Bytes) (e : Item V) (ho : e.off = pre.length) (hs : e.sz = k.length) :
    keyAt (pre ++ k ++ post) e = some k := by
  unfold keyAt
  have : e.off + e.sz ≤ (pre ++ k ++ post).length := by simp; omega
  simp only [this, if_true]
  rw [ho, hs, List.append_assoc, List.drop_left, List.take_left]

/-- the loop appends every key's bytes to data and one item per pair whose (off, sz) read the key
    back (keys are at most 2^32-1 bytes, so `uint32(len(k))` is exact), whose slot is the truncated
    hash, and whose value is the pair's -/
theorem appendLoop_spec (h : Bytes → Nat) (kvs : List (Bytes × V)) (off : Nat) (pre post : Bytes)
    (hkeys : ∀ kv ∈ kvs, kv.1.length ≤ maxU32) (hoff : pre.length = off) :
    (appendLoop h kvs off).2.map
        (fun e => (keyAt (pre ++ (appendLoop h kvs off).1 ++ post) e, e.slot, e.v)) =
      kvs.map (fun kv => (some kv.1, h kv.1 % two32, kv.2)) := by
  induction kvs generalizing off pre with
  | nil => simp [appendLoop]
  | cons kv kvs ih =>
    have hrest : ∀ x ∈ kvs, x.1.length ≤ maxU32 := fun x hx => hkeys x (List.mem_cons_of_mem _ hx)
    have ih3 := ih (off + kv.1.length) (pre ++ kv.1) hrest (by simp [hoff])
    simp only [appendLoop, List.map_cons]
    congr 1
    · have hsz : kv.1.length % two32 = kv.1.length := Nat.mod_eq_of_lt (by
        have := hkeys kv List.mem_cons_self; unfold maxU32 at this; unfold two32; omega)
      have := keyAt_mid (V := V) pre kv.1 ((appendLoop h kvs (off + kv.1.length)).1 ++ post)
        ⟨off, kv.1.length % two32, h kv.1 % two32, kv.2⟩ hoff.symm hsz
      simp only [List.append_assoc] at this ⊢
      rw [this]
    · rw [← ih3]
      simp only [List.append_assoc]

theorem appendLoop_length (h : Bytes → Nat) (l : List (Bytes × V)) (off : Nat) :
    (appendLoop h l off).2.length = l.length := by
  induction l generalizing off with
  | nil => rfl
  | cons x r ih => simp [appendLoop, ih]

theorem anyKeyTooLarge_false {kk : List Bytes} (hk : ∀ k ∈ kk, k.length ≤ maxU32) :
    anyKeyTooLarge kk = false := by
  unfold anyKeyTooLarge
  rw [List.any_eq_false]
  intro k hkm; have := hk k hkm; simp; omega

theorem anyKeyTooLarge_true {kk : List Bytes} {k : Bytes} (hm : k ∈ kk) (hk : k.length > maxU32) :
    anyKeyTooLarge kk = true := by
  unfold anyKeyTooLarge
  rw [List.any_eq_true]
  exact ⟨k, hm, by simpa using hk⟩

theorem loadFromSlice_kvLen (h : Bytes → Nat) (sorter : List (Item V) → List (Item V)) (m : StrMap V)
    {kk : List Bytes} {vv : List V} (hne : kk.length ≠ vv.length) :
    loadFromSlice h sorter m kk vv = (.err .kvLen, m) := by
  simp only [loadFromSlice, hne, ne_eq, not_false_eq_true, if_true]

theorem loadFromSlice_keyTooLarge (h : Bytes → Nat) (sorter : List (Item V) → List (Item V)) (m : StrMap V)
    {kk : List Bytes} {vv : List V} (hlen : kk.length = vv.length) (hbig : anyKeyTooLarge kk = true) :
    loadFromSlice h sorter m kk vv = (.err .keyTooLarge, m) := by
  simp only [loadFromSlice, hlen, ne_eq, not_true_eq_false, if_false, hbig, if_true]

theorem loadFromSlice_run (h : Bytes → Nat) (sorter : List (Item V) → List (Item V)) (m : StrMap V)
    {kk : List Bytes} {vv : List V} (hlen : kk.length = vv.length) (hbig : anyKeyTooLarge kk = false) :
    loadFromSlice h sorter m kk vv =
      makeHashtable sorter ⟨(appendLoop h (kk.zip vv) 0).1, (appendLoop h (kk.zip vv) 0).2, #[], m.ht ++ m.spare⟩ := by
  simp only [loadFromSlice, hlen, ne_eq, not_true_eq_false, if_false, hbig, Bool.false_eq_true]

/-- the sorter hypothesis is satisfiable: core's merge sort by slot -/
theorem msort_isSlotSort : IsSlotSort (msort (V := V)) := by
  intro l
  refine ⟨List.mergeSort_perm _ _, ?_⟩
  have := List.pairwise_mergeSort (le := fun (a b : Item V) => decide (a.slot ≤ b.slot))
    (by intro a b c; simp only [decide_eq_true_eq]; omega)
    (by intro a b; simp only [Bool.or_eq_true, decide_eq_true_eq]; omega) l
  exact this.imp (by intro a b; simp)

/-! ## makeHashtable -/

theorem keyAt_slot_irrel (data : Bytes) (e : Item V) (x : Nat) :
    keyAt data { e with slot := x } = keyAt data e := rfl

/-- the post-state of a successful load -/
structure Loaded (h : Bytes → Nat) (kvs : List (Bytes × V)) (m : StrMap V) : Prop where
  slots_ok : calcSlots kvs.length = .ok m.ht.size
  len : m.items.length = kvs.length
  tab : ∀ t, t < m.ht.size → m.ht[t]? = some (enc (idxOf m.items t))
  sorted : m.items.Pairwise (fun a b => a.slot ≤ b.slot)
  perm : (m.items.map (fun e => (keyAt m.data e, e.slot, e.v))).Perm
           (kvs.map (fun kv => (some kv.1, h kv.1 % two32 % m.ht.size, kv.2)))

theorem Loaded.item_mem {h : Bytes → Nat} {kvs : List (Bytes × V)} {m : StrMap V} (hL : Loaded h kvs m)
    {e : Item V} (he : e ∈ m.items) :
    ∃ kv ∈ kvs, keyAt m.data e = some kv.1 ∧ e.slot = h kv.1 % two32 % m.ht.size ∧ e.v = kv.2 := by
  obtain ⟨kv, hkv, heq⟩ := List.mem_map.mp (hL.perm.mem_iff.mp (List.mem_map.mpr ⟨e, he, rfl⟩))
  simp only [Prod.mk.injEq] at heq
  exact ⟨kv, hkv, heq.1.symm, heq.2.1.symm, heq.2.2.symm⟩

theorem makeHashtable_spec (h : Bytes → Nat) (sorter : List (Item V) → List (Item V))
    (hsort : IsSlotSort sorter) (m : StrMap V) (kvs : List (Bytes × V))
    (hn : CountOk kvs.length)
    (hitems : m.items.map (fun e => (keyAt m.data e, e.slot, e.v)) =
      kvs.map (fun kv => (some kv.1, h kv.1 % two32, kv.2))) :
    ∃ m', makeHashtable sorter m = (.ok (), m') ∧ m'.data = m.data ∧ Loaded h kvs m' := by
  have hlen : m.items.length = kvs.length := by
    have := congrArg List.length hitems; simpa using this
  obtain ⟨slots, hslots⟩ := (calcSlots_ok_iff kvs.length).mpr hn
  obtain ⟨hpos, hlt⟩ := calcSlots_range hslots
  have hmod : slots % two32 = slots := Nat.mod_eq_of_lt (by unfold two32; omega)
  -- size of the re-sliced / fresh table
  have hsz : (if (m.ht ++ m.spare).size < slots then Array.replicate slots (0 : Int)
              else (m.ht ++ m.spare).extract 0 slots).size = slots := by
    split
    · simp
    · rw [Array.size_extract]; omega
  let items1 := m.items.map (fun e => { e with slot := e.slot % slots })
  have hperm := (hsort items1).1
  have hsorted := (hsort items1).2
  have hslotlt : ∀ e ∈ sorter items1, e.slot < slots := by
    intro e he
    have he1 : e ∈ items1 := hperm.mem_iff.mp he
    obtain ⟨e0, _, rfl⟩ := List.mem_map.mp he1
    exact Nat.mod_lt _ hpos
  have hlen2 : (sorter items1).length = kvs.length := by
    rw [hperm.length_eq]; simp [items1, hlen]
  obtain ⟨ht2, hfill, hsize2, htab⟩ := fillFirst_fresh (sorter items1) slots hslotlt (by have := hn.lt; omega)
  refine ⟨⟨m.data, sorter items1, ht2,
            if (m.ht ++ m.spare).size < slots then #[]
            else (m.ht ++ m.spare).extract slots (m.ht ++ m.spare).size⟩, ?_, rfl, ?_⟩
  · unfold makeHashtable
    rw [hlen, hslots]
    have hne0 : ¬ (slots = 0) := by omega
    have hfill' := hfill
    simp only [items1] at hfill'
    simp only [hmod, hsz, hne0, if_false, hfill']
    rfl
  · refine ⟨by rw [hsize2]; exact hslots, hlen2, by rw [hsize2]; exact htab, hsorted, ?_⟩
    show ((sorter items1).map (fun e => (keyAt m.data e, e.slot, e.v))).Perm _
    refine (hperm.map _).trans ?_
    rw [hsize2]
    have : items1.map (fun e => (keyAt m.data e, e.slot, e.v)) =
        kvs.map (fun kv => (some kv.1, h kv.1 % two32 % slots, kv.2)) := by
      have h2 := congrArg (List.map (fun (t : Option Bytes × Nat × V) => (t.1, t.2.1 % slots, t.2.2))) hitems
      simp only [List.map_map] at h2
      simp only [items1, List.map_map]
      exact h2
    rw [this]

/-! ## LoadFromSlice -/

theorem loadFromSlice_spec (h : Bytes → Nat) (sorter : List (Item V) → List (Item V))
    (hsort : IsSlotSort sorter) (m : StrMap V) (kk : List Bytes) (vv : List V) (hlen : kk.length = vv.length)
    (hn : CountOk kk.length) (hkeys : ∀ k ∈ kk, k.length ≤ maxU32) :
    ∃ m', loadFromSlice h sorter m kk vv = (.ok (), m') ∧ Loaded h (kk.zip vv) m' := by
  have h3 := appendLoop_spec h (kk.zip vv) 0 [] [] (fun kv hkv => hkeys _ (List.of_mem_zip hkv).1) rfl
  rw [loadFromSlice_run h sorter m hlen (anyKeyTooLarge_false hkeys)]
  obtain ⟨m', hm, _, hL⟩ := makeHashtable_spec h sorter hsort
    ⟨(appendLoop h (kk.zip vv) 0).1, (appendLoop h (kk.zip vv) 0).2, #[], m.ht ++ m.spare⟩ (kk.zip vv)
    (by rw [List.length_zip, ← hlen, Nat.min_self]; exact hn) (by simpa using h3)
  exact ⟨m', hm, hL⟩

theorem zip_fst_snd (kvs : List (Bytes × V)) : (kvs.map (·.1)).zip (kvs.map (·.2)) = kvs := by
  induction kvs with
  | nil => rfl
  | cons kv kvs ih => simp [ih]

/-- the two slices of a list of pairs are what `LoadFromMap` passes -/
theorem loadFromSlice_pairs (h : Bytes → Nat) (sorter : List (Item V) → List (Item V))
    (hsort : IsSlotSort sorter) (m : StrMap V) (kvs : List (Bytes × V))
    (hn : CountOk kvs.length) (hkeys : ∀ kv ∈ kvs, kv.1.length ≤ maxU32) :
    ∃ m', loadFromSlice h sorter m (kvs.map (·.1)) (kvs.map (·.2)) = (.ok (), m') ∧ Loaded h kvs m' := by
  have := loadFromSlice_spec h sorter hsort m (kvs.map (·.1)) (kvs.map (·.2)) (by simp) (by simpa using hn)
    (by intro k hk; obtain ⟨kv, hkv, rfl⟩ := List.mem_map.mp hk; exact hkeys kv hkv)
  rwa [zip_fst_snd] at this

/-- Get on a loaded map is `List.lookup` in the loaded pairs -/
theorem Loaded.get_eq {h : Bytes → Nat} {kvs : List (Bytes × V)} {m : StrMap V}
    (hL : Loaded h kvs m) (hd : (kvs.map (·.1)).Nodup) (s : Bytes) :
    get h m s = .ok (List.lookup s kvs) := by
  obtain ⟨hpos, hlt⟩ := calcSlots_range hL.slots_ok
  have hcons : Consistent h m.ht.size m.data m.items := by
    intro e he
    obtain ⟨kv, _, h1, h2, _⟩ := hL.item_mem he
    exact ⟨kv.1, h1, h2⟩
  have hlen : m.items.length < 2147483648 := by
    rw [hL.len]
    exact ((calcSlots_ok_iff kvs.length).mp ⟨_, hL.slots_ok⟩).lt
  rw [get_spec h m s hpos (by unfold two32; omega) hL.tab hL.sorted hcons hlen]
  congr 1
  rw [findKey_eq_lookupO, ← lookupO_some_map]
  apply lookupO_perm
  · have := hL.perm.map (fun (t : Option Bytes × Nat × V) => (t.1, t.2.2))
    simpa [List.map_map, Function.comp_def] using this
  · exact pairwise_key_ne hd

end Verif.SMap
