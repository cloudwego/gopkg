/- Lemmas/TypeSize: the regenerated `typeToSize` table equals the grammar's fixed-size table. -/
import Verif.Model.Skip
import Verif.Spec.Grammar
namespace Verif

/-- checked over the whole regenerated table, entry by entry in one pass (comparing two lists is
    linear; 256 lookups `typeToSize[n]?` would walk the list 256 times) -/
theorem typeToSize_table :
    Facts.typeToSize = (List.range 256).map (fun n => ((fixedSize (UInt8.ofNat n) : Nat) : Int)) := by
  decide +kernel

theorem typeToSize_length : Facts.typeToSize.length = 256 := by
  rw [typeToSize_table, List.length_map, List.length_range]

theorem typeToSize_eq_fixed (t : UInt8) : Facts.typeToSize[t.toNat]? = some ((fixedSize t : Nat) : Int) := by
  rw [typeToSize_table, List.getElem?_map, List.getElem?_range t.toNat_lt]
  simp

theorem typeToSizeIndexUnsigned : Facts.typeToSizeIndexSigned = false := by decide

/-- `typeToSize[uint8(t)]` never panics and returns the grammar's size -/
theorem typeSize_eq (t : UInt8) : typeSize t = .ok ((fixedSize t : Nat) : Int) := by
  unfold typeSize
  simp [typeToSizeIndexUnsigned, typeToSize_eq_fixed]

end Verif
