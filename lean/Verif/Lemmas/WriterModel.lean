/-
  Lemmas/WriterModel: the vocabulary of the C05 statements (`Start`, `after`, `specAfter`) and the two
  MODEL-LEVEL lemmas other families build on (`refines`, `bytesWriter_target`).

  These two carry NO range hypothesis: they are statements about the Nat-valued model with an
  allocator that always succeeds (`WAlloc.Sound`), true for every history.  They are claims about
  the Go code only inside the range where the model mirrors it (`InRange`, Lemmas/WriterRange:
  running length + requested size ≤ 2^44, so that no pool request exceeds mcache's 2^45 and no
  `int` wraps).  The property theorems of Props/C05 state that range explicitly
  (`refines_in_range`, `bytesWriter_target_in_range`, …).
-/
import Verif.Lemmas.WriterSim
namespace Verif.C05
open Verif Verif.WLog

/-- how the writer was created -/
inductive Start where
  | default (fail : Nat → Option RErr)   -- NewDefaultWriter over a sink with this failure script
  | bytes (init spare : Bytes)           -- NewBytesWriter(&buf), buf = init with spare capacity
  | bytesNil                             -- NewBytesWriter(&buf), buf == nil

def Start.model : Start → Wr
  | .default fail => Wr.newDefault fail
  | .bytes init spare => Wr.newBytes init spare
  | .bytesNil => Wr.newBytesNil

/-- the initial contents of the target slice (empty unless a bytes writer over a non-empty slice) -/
def Start.init : Start → Bytes
  | .bytes init _ => init
  | _ => []

def Start.spec : Start → Log RErr
  | .default fail => Log.new fail []
  | .bytes init _ => Log.new (fun _ => none) init
  | .bytesNil => Log.new (fun _ => none) []

/-- model state / spec log after a history -/
def after (a : WAlloc) (s : Start) (ops : List WOp) : Wr := (s.model.run a ops).2
def specAfter (s : Start) (ops : List WOp) : Log RErr := (specRun s.spec ops).2

theorem sim_start (s : Start) : WSim s.model s.spec := by
  cases s with
  | default fail => exact sim_newDefault fail
  | bytes init spare => exact sim_newBytes init spare
  | bytesNil => exact sim_newBytesNil

theorem sim_after (a : WAlloc) (ha : a.Sound) (s : Start) (ops : List WOp) :
    WSim (after a s ops) (specAfter s ops) := (sim_run a ha _ _ (sim_start s) ops).2

/-- Model-level refinement (no range hypothesis, see the header).  For every history, the results the caller observes from the model (region
    ids and lengths from Malloc, counts from WriteBinary, WrittenLen, errors) are exactly those of
    the log spec, and the states stay related. -/
theorem refines (a : WAlloc) (ha : a.Sound) (s : Start) (ops : List WOp) :
    (s.model.run a ops).1 = (specRun s.spec ops).1 ∧ WSim (after a s ops) (specAfter s ops) :=
  sim_run a ha _ _ (sim_start s) ops

/-- Model-level (no range hypothesis, see the header).  Bytes-backed writer, first flush epoch (any flush-free history, then Flush), for EVERY initial
    slice — nil (`bytesNil`), empty with or without capacity, partly filled, full (`bytes init spare`
    with init / spare empty or not), and any number of growths: Flush succeeds and the target slice
    `*buf` is the initial contents followed by the written bytes (the log's items in order). -/
theorem bytesWriter_target (a : WAlloc) (ha : a.Sound) (s : Start) (hs : ∀ f, s ≠ .default f)
    (ops : List WOp) (hnf : ∀ op ∈ ops, op ≠ .flush) :
    let w := after a s ops
    let l := specAfter s ops
    w.flush.1 = .ok () ∧
    ∃ written, l.unflushed = s.init.map some ++ written ∧
      Match w.flush.2.targetBytes (s.init.map some ++ written) := by
  intro w l
  have h : WSim w l := sim_after a ha s ops
  have hs0 : s.model.disableCache = true ∧ s.model.err = none ∧ s.spec.items = [.payload s.init] ∧
      ∀ v, s.model.target = some v → v.len = s.init.length := by
    cases s with
    | default f => exact absurd rfl (hs f)
    | bytes i sp => exact ⟨rfl, rfl, rfl, fun v hv => by cases hv; rfl⟩
    | bytesNil => exact ⟨rfl, rfl, rfl, fun v hv => by cases hv⟩
  obtain ⟨hdc0, he0, hit0, hlen0⟩ := hs0
  obtain ⟨_, he, htgt, hdc⟩ := run_noflush_frame a ha s.model s.spec (sim_start s) ops hnf
  replace hdc : w.disableCache = true := hdc.trans hdc0
  replace he : w.err = none := he.trans he0
  -- the log still starts with the initial contents
  obtain ⟨tail, htail⟩ := spec_noflush s.spec ops hnf
  have hunf : l.unflushed = s.init.map some ++ concat l.store tail := by
    rw [unflushed_eq, show l.items = _ from htail, hit0]; rfl
  obtain ⟨hok, hnil, hsome⟩ := flush_bytesWriter w h.inv hdc he
  refine ⟨hok, concat l.store tail, hunf, ?_⟩
  rw [← hunf, unflushed_eq]
  by_cases hb : w.buf = none
  · -- nothing was ever written and the initial slice is empty: the target is still the initial slice
    have hnone := h.unflushed_nil hb
    have hi : s.init.length = 0 := by
      have := congrArg List.length hnone
      rw [← unflushed_eq, hunf, List.length_append, List.length_map] at this
      exact Nat.eq_zero_of_add_eq_zero_right this
    rw [hnone]
    show Match (w.flush.2.viewBytes w.flush.2.target) []
    rw [hnil hb, show w.target = s.model.target from htgt]
    cases ht : s.model.target with
    | none => exact match_nil
    | some v =>
      show Match (gslice _ 0 v.len) []
      rw [gslice_empty _ _ _ (by rw [hlen0 v ht, hi]; exact Nat.le_refl 0)]
      exact match_nil
  · rw [hsome hb]; exact h.content

end Verif.C05
