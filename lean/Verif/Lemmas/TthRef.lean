/-
  Lemmas/TthRef: the executable reference parser of Spec/Frame (`refSecs`, `refValid`) is exactly the
  printer relation: `refSecs fuel b = some secs ↔ (∀ s ∈ secs, wfSec s) ∧ b = encSecs secs` for every
  sufficient fuel, and `refValid b = some secs ↔ Valid b secs`. `refSecs` is read as the iteration of a
  parser for one section, `refSec`, which has the same characterisation. Spec-only (no model, no Facts).
-/
import Verif.Spec.Frame
namespace Verif.Frame

theorem ofNat_mul_add (k x : Nat) : UInt8.ofNat (256 * k + x) = UInt8.ofNat x := by
  rw [← UInt8.ofNat_mod_size (x := 256 * k + x), show (2 : Nat) ^ 8 = 256 from rfl, Nat.mul_add_mod,
    ← show (2 : Nat) ^ 8 = 256 from rfl, UInt8.ofNat_mod_size]

theorem be16_rd16 (b : Bytes) (h : 2 ≤ b.length) : be16 (rd16 b) ++ b.drop 2 = b := by
  match b, h with
  | a :: c :: r, _ =>
    have hd : (256 * a.toNat + c.toNat) / 256 = a.toNat := by
      rw [Nat.mul_add_div (by decide), Nat.div_eq_of_lt c.toNat_lt, Nat.add_zero]
    show [UInt8.ofNat ((a.toNat * 256 + c.toNat) / 256), UInt8.ofNat (a.toNat * 256 + c.toNat)] ++ r = a :: c :: r
    rw [Nat.mul_comm a.toNat, hd, ofNat_mul_add, UInt8.ofNat_toNat, UInt8.ofNat_toNat]
    rfl

theorem rd16_be16' (n : Nat) (h : n < 65536) (r : Bytes) : rd16 (be16 n ++ r) = n := rd16_be16 n h r

theorem drop_be16 (n : Nat) (r : Bytes) : (be16 n ++ r).drop 2 = r := rfl

theorem be16_append_length (n : Nat) (r : Bytes) : ¬ (be16 n ++ r).length < 2 :=
  Nat.not_lt.mpr (Nat.le_add_left 2 r.length)

@[simp] theorem str2_length (s : Bytes) : (str2 s).length = s.length + 2 := by
  rw [str2, List.length_append, Nat.add_comm]
  rfl

/-! ### one string -/

theorem takeStr2_str2 (s r : Bytes) (h : s.length < 65536) : takeStr2 (str2 s ++ r) = some (s, r) := by
  have h1 : rd16 (str2 s ++ r) = s.length := by
    unfold str2; rw [List.append_assoc]; exact rd16_be16 _ h _
  have h2 : (str2 s ++ r).drop 2 = s ++ r := by
    unfold str2; rw [List.append_assoc]; exact drop_be16 _ _
  have h3 : ¬ (str2 s ++ r).length < 2 := by
    rw [List.length_append, str2_length]
    exact Nat.not_lt.mpr (Nat.le_trans (Nat.le_add_left 2 _) (Nat.le_add_right _ _))
  have h4 : ¬ (s ++ r).length < s.length := by
    rw [List.length_append]
    exact Nat.not_lt.mpr (Nat.le_add_right _ _)
  rw [takeStr2, if_neg h3, h1, h2, if_neg h4, List.take_left, List.drop_left]

theorem takeStr2_some {b s r : Bytes} (h : takeStr2 b = some (s, r)) :
    b = str2 s ++ r ∧ s.length < 65536 := by
  rw [takeStr2, Option.ite_none_left_eq_some, Option.ite_none_left_eq_some] at h
  obtain ⟨h1, h2, ⟨⟩⟩ := h
  have hlen : ((b.drop 2).take (rd16 b)).length = rd16 b := by
    rw [List.length_take, Nat.min_eq_left (Nat.le_of_not_lt h2)]
  refine ⟨?_, by rw [hlen]; exact rd16_lt b⟩
  rw [str2, hlen, List.append_assoc, List.take_append_drop, be16_rd16 b (Nat.le_of_not_lt h1)]

/-! ### key/value runs -/

theorem refStrKVs_enc (kvs : StrMap) (r : Bytes)
    (h : ∀ kv ∈ kvs, kv.1.length < 65536 ∧ kv.2.length < 65536) :
    refStrKVs kvs.length (kvs.flatMap encStrKV ++ r) = some (kvs, r) := by
  induction kvs with
  | nil => rfl
  | cons kv rest ih =>
    obtain ⟨hk, hrest⟩ := List.forall_mem_cons.mp h
    rw [List.length_cons, List.flatMap_cons, encStrKV, List.append_assoc, List.append_assoc, refStrKVs,
      takeStr2_str2 _ _ hk.1, Option.bind_some, takeStr2_str2 _ _ hk.2, Option.bind_some, ih hrest]
    rfl

theorem refStrKVs_some : ∀ (n : Nat) (b : Bytes) (kvs : StrMap) (r : Bytes),
    refStrKVs n b = some (kvs, r) →
    kvs.length = n ∧ b = kvs.flatMap encStrKV ++ r ∧ ∀ kv ∈ kvs, kv.1.length < 65536 ∧ kv.2.length < 65536 := by
  intro n
  induction n with
  | zero =>
    intro b kvs r h
    cases h
    exact ⟨rfl, rfl, List.forall_mem_nil _⟩
  | succ n ih =>
    intro b kvs r h
    simp only [refStrKVs, Option.bind_eq_some_iff] at h
    obtain ⟨⟨k, kr⟩, hk, ⟨v, vr⟩, hv, ⟨xs, xr⟩, hx, ⟨⟩⟩ := h
    obtain ⟨rfl, hkl⟩ := takeStr2_some hk
    obtain ⟨rfl, hvl⟩ := takeStr2_some hv
    obtain ⟨hl, rfl, hw⟩ := ih _ _ _ hx
    exact ⟨congrArg (· + 1) hl, by rw [List.flatMap_cons, encStrKV, List.append_assoc, List.append_assoc],
      List.forall_mem_cons.mpr ⟨⟨hkl, hvl⟩, hw⟩⟩

theorem refIntKVs_enc (kvs : IntMap) (r : Bytes)
    (h : ∀ kv ∈ kvs, kv.1 < 65536 ∧ kv.2.length < 65536) :
    refIntKVs kvs.length (kvs.flatMap encIntKV ++ r) = some (kvs, r) := by
  induction kvs with
  | nil => rfl
  | cons kv rest ih =>
    obtain ⟨hk, hrest⟩ := List.forall_mem_cons.mp h
    rw [List.length_cons, List.flatMap_cons, encIntKV, List.append_assoc, List.append_assoc, refIntKVs,
      if_neg (be16_append_length _ _), drop_be16, takeStr2_str2 _ _ hk.2, Option.bind_some, ih hrest, rd16_be16 _ hk.1]
    rfl

theorem refIntKVs_some : ∀ (n : Nat) (b : Bytes) (kvs : IntMap) (r : Bytes),
    refIntKVs n b = some (kvs, r) →
    kvs.length = n ∧ b = kvs.flatMap encIntKV ++ r ∧ ∀ kv ∈ kvs, kv.1 < 65536 ∧ kv.2.length < 65536 := by
  intro n
  induction n with
  | zero =>
    intro b kvs r h
    cases h
    exact ⟨rfl, rfl, List.forall_mem_nil _⟩
  | succ n ih =>
    intro b kvs r h
    simp only [refIntKVs, Option.ite_none_left_eq_some, Option.bind_eq_some_iff] at h
    obtain ⟨hlen, ⟨v, vr⟩, hv, ⟨xs, xr⟩, hx, ⟨⟩⟩ := h
    obtain ⟨hb, hvl⟩ := takeStr2_some hv
    obtain ⟨hl, rfl, hw⟩ := ih _ _ _ hx
    refine ⟨congrArg (· + 1) hl, ?_, List.forall_mem_cons.mpr ⟨⟨rd16_lt b, hvl⟩, hw⟩⟩
    rw [List.flatMap_cons, encIntKV, List.append_assoc, List.append_assoc, ← hb, be16_rd16 b (Nat.le_of_not_lt hlen)]

/-! ### sections -/

theorem encSecs_cons (s : Sec) (t : List Sec) : encSecs (s :: t) = encSec s ++ encSecs t := by
  simp [encSecs]

theorem encSec_length_pos (s : Sec) : 0 < (encSec s).length := by
  cases s <;> exact Nat.succ_pos _

def refSec : Bytes → Option (Sec × Bytes)
  | [] => none
  | id :: r =>
    if id = 0x00 then some (.pad, r)
    else if id = 0x01 then
      (if r.length < 2 then none else refStrKVs (rd16 r) (r.drop 2)).bind fun x => some (.str x.1, x.2)
    else if id = 0x10 then
      (if r.length < 2 then none else refIntKVs (rd16 r) (r.drop 2)).bind fun x => some (.int x.1, x.2)
    else if id = 0x11 then (takeStr2 r).bind fun x => some (.acl x.1, x.2)
    else none

private theorem ite_bind {α β : Type} {c : Prop} [Decidable c] (a b : Option α) (g : α → Option β) :
    (if c then a else b).bind g = if c then a.bind g else b.bind g := by
  split <;> rfl

theorem refSecs_succ (fuel : Nat) (b : Bytes) : refSecs (fuel + 1) b =
    if b = [] then some [] else
      (refSec b).bind fun x => (refSecs fuel x.2).bind fun t => some (x.1 :: t) := by
  cases b with
  | nil => rfl
  | cons id r =>
    rw [if_neg (List.cons_ne_nil _ _), refSecs, refSec]
    simp only [ite_bind, Option.bind_assoc, Option.bind_some, Option.bind_none]

theorem refSec_enc (s : Sec) (rest : Bytes) (h : wfSec s) : refSec (encSec s ++ rest) = some (s, rest) := by
  cases s with
  | pad => rfl
  | str kvs =>
    rw [encSec, List.cons_append, List.append_assoc, refSec, if_neg (by decide), if_pos rfl, if_neg (be16_append_length _ _),
      rd16_be16 _ h.1, drop_be16, refStrKVs_enc kvs rest h.2]
    rfl
  | int kvs =>
    rw [encSec, List.cons_append, List.append_assoc, refSec, if_neg (by decide), if_neg (by decide), if_pos rfl,
      if_neg (be16_append_length _ _), rd16_be16 _ h.1, drop_be16, refIntKVs_enc kvs rest h.2]
    rfl
  | acl tok =>
    rw [encSec, List.cons_append, refSec, if_neg (by decide), if_neg (by decide), if_neg (by decide), if_pos rfl,
      takeStr2_str2 _ _ h]
    rfl

theorem refSec_some {b : Bytes} {s : Sec} {rest : Bytes} (h : refSec b = some (s, rest)) :
    wfSec s ∧ b = encSec s ++ rest := by
  cases b with
  | nil => cases h
  | cons id r =>
    rw [refSec] at h
    by_cases hid : id = 0x00
    · rw [if_pos hid] at h
      cases h
      exact ⟨trivial, by rw [hid]; rfl⟩
    rw [if_neg hid] at h
    clear hid
    by_cases hid : id = 0x01
    · rw [if_pos hid, Option.bind_eq_some_iff] at h
      obtain ⟨x, hx, ⟨⟩⟩ := h
      obtain ⟨hlen, hx⟩ := Option.ite_none_left_eq_some.mp hx
      obtain ⟨hl, hb, hw⟩ := refStrKVs_some _ _ _ _ hx
      refine ⟨⟨hl ▸ rd16_lt r, hw⟩, ?_⟩
      rw [hid, encSec, hl, List.cons_append, List.append_assoc, ← hb, be16_rd16 r (Nat.le_of_not_lt hlen)]
    rw [if_neg hid] at h
    clear hid
    by_cases hid : id = 0x10
    · rw [if_pos hid, Option.bind_eq_some_iff] at h
      obtain ⟨x, hx, ⟨⟩⟩ := h
      obtain ⟨hlen, hx⟩ := Option.ite_none_left_eq_some.mp hx
      obtain ⟨hl, hb, hw⟩ := refIntKVs_some _ _ _ _ hx
      refine ⟨⟨hl ▸ rd16_lt r, hw⟩, ?_⟩
      rw [hid, encSec, hl, List.cons_append, List.append_assoc, ← hb, be16_rd16 r (Nat.le_of_not_lt hlen)]
    rw [if_neg hid] at h
    clear hid
    by_cases hid : id = 0x11
    · rw [if_pos hid, Option.bind_eq_some_iff] at h
      obtain ⟨x, hx, ⟨⟩⟩ := h
      obtain ⟨hb, hl⟩ := takeStr2_some hx
      exact ⟨hl, by rw [hid, hb]; rfl⟩
    · rw [if_neg hid] at h
      cases h

theorem refSec_length_lt {b : Bytes} {s : Sec} {rest : Bytes} (h : refSec b = some (s, rest)) :
    rest.length < b.length := by
  rw [(refSec_some h).2, List.length_append]
  exact Nat.lt_add_of_pos_left (encSec_length_pos s)

theorem encSecs_length_ge (secs : List Sec) : secs.length ≤ (encSecs secs).length := by
  induction secs with
  | nil => exact Nat.zero_le _
  | cons s t ih =>
    rw [encSecs_cons, List.length_append, List.length_cons, Nat.add_comm (encSec s).length]
    exact Nat.add_le_add ih (encSec_length_pos s)

/-- for every sufficient fuel the reference parser decides the printer relation -/
theorem refSecs_iff (fuel : Nat) (b : Bytes) (secs : List Sec) (hf : b.length < fuel) :
    refSecs fuel b = some secs ↔ (∀ s ∈ secs, wfSec s) ∧ b = encSecs secs := by
  constructor
  · clear hf
    induction fuel generalizing b secs with
    | zero => intro h; cases h
    | succ f ih =>
      rw [refSecs_succ]
      split
      · rename_i hb
        rintro ⟨⟩
        exact ⟨List.forall_mem_nil _, hb⟩
      · simp only [Option.bind_eq_some_iff]
        rintro ⟨⟨s, rest⟩, hs, t, ht, ⟨⟩⟩
        obtain ⟨hw, rfl⟩ := refSec_some hs
        obtain ⟨hwt, rfl⟩ := ih _ _ ht
        exact ⟨List.forall_mem_cons.mpr ⟨hw, hwt⟩, (encSecs_cons s t).symm⟩
  · rintro ⟨hw, rfl⟩
    replace hf := Nat.lt_of_le_of_lt (encSecs_length_ge secs) hf
    induction secs generalizing fuel with
    | nil =>
      cases fuel with
      | zero => cases hf
      | succ f => rfl
    | cons s t ih =>
      cases fuel with
      | zero => cases hf
      | succ f =>
        obtain ⟨hs, ht⟩ := List.forall_mem_cons.mp hw
        have hne : encSec s ++ encSecs t ≠ [] :=
          List.append_ne_nil_of_left_ne_nil (List.ne_nil_of_length_pos (encSec_length_pos s)) _
        rw [refSecs_succ, encSecs_cons, if_neg hne, refSec_enc s _ hs]
        show (refSecs f (encSecs t)).bind _ = _
        rw [ih f ht (Nat.lt_of_succ_lt_succ hf)]
        rfl

/-- the printer is injective on well-formed sections -/
theorem encSecs_inj {s1 s2 : List Sec} (h1 : ∀ s ∈ s1, wfSec s) (h2 : ∀ s ∈ s2, wfSec s)
    (h : encSecs s1 = encSecs s2) : s1 = s2 := by
  have a := (refSecs_iff _ _ s1 (Nat.lt_succ_self (encSecs s1).length)).mpr ⟨h1, rfl⟩
  have b := (refSecs_iff _ _ s2 (Nat.lt_succ_self (encSecs s1).length)).mpr ⟨h2, h⟩
  exact Option.some.inj (a.symm.trans b)

theorem refValid_iff (b : Bytes) (secs : List Sec) : refValid b = some secs ↔ Valid b secs := by
  unfold refValid
  simp only [Option.ite_none_left_eq_some]
  rw [refSecs_iff _ _ _ (Nat.lt_succ_self _)]
  constructor
  · rintro ⟨h1, h2, h3, h4, h5, h6, hw, hb⟩
    exact { hdr := Nat.le_of_not_lt h1, magic := Decidable.not_not.mp h2,
            sizeLo := Nat.le_of_not_lt fun h => h3 (Or.inl h), sizeHi := Nat.le_of_not_lt fun h => h3 (Or.inr h),
            complete := Nat.le_of_not_lt h4, proto := List.contains_iff_mem.mp (Decidable.not_not.mp h5),
            transforms := Nat.le_of_not_lt h6, wf := hw, sections := hb }
  · intro v
    exact ⟨Nat.not_lt.mpr v.hdr, Decidable.not_not.mpr v.magic,
      fun h => h.elim (Nat.not_lt.mpr v.sizeLo) (Nat.not_lt.mpr v.sizeHi), Nat.not_lt.mpr v.complete,
      Decidable.not_not.mpr (List.contains_iff_mem.mpr v.proto), Nat.not_lt.mpr v.transforms, v.wf, v.sections⟩

end Verif.Frame
