/-
  Lemmas/FcWrite: the generated writers as segment lists.

  A statement sequence `f : WStep` *realises* a segment list `sg` when, on every buffer with enough room
  after the current offset, it stores exactly the linear image of `sg` there, leaves everything else
  untouched, advances `off` by that length and hands the large strings to the direct writer with
  `remainCap = len(buffer) − (offset of the string's first byte)`.
-/
import Verif.Model.FastCodec
namespace Verif

/-! ## segments: linear image and direct writes -/

/-- is the string stored inline? -/
def inlineStr (thr : Nat) (w : Bool) (s : Bytes) : Bool := !w || decide (s.length < thr)

def Seg.lin (thr : Nat) (w : Bool) : Seg → Bytes
  | .fixed bs => bs
  | .str s => if inlineStr thr w s then encStr s else be32 s.length

/-- what ends up in the linear buffer -/
def linSegs (thr : Nat) (w : Bool) (sg : List Seg) : Bytes := sg.flatMap (Seg.lin thr w)

/-- what the direct writer receives, for a buffer of L bytes when writing starts at offset `off` -/
def directsOf (thr : Nat) (w : Bool) (L : Nat) : Nat → List Seg → Directs
  | _, [] => []
  | off, .fixed bs :: r => directsOf thr w L (off + bs.length) r
  | off, .str s :: r =>
    if inlineStr thr w s then directsOf thr w L (off + (4 + s.length)) r
    else (s, L - off - 4) :: directsOf thr w L (off + 4) r

theorem linSegs_nil (thr w) : linSegs thr w [] = [] := rfl
theorem linSegs_cons (thr w) (s : Seg) (r : List Seg) : linSegs thr w (s :: r) = s.lin thr w ++ linSegs thr w r := by
  simp [linSegs]
theorem linSegs_append (thr w) (a b : List Seg) : linSegs thr w (a ++ b) = linSegs thr w a ++ linSegs thr w b := by
  simp [linSegs]
theorem encSegs_cons (s : Seg) (r : List Seg) : encSegs (s :: r) = s.enc ++ encSegs r := by simp [encSegs]
theorem encSegs_append (a b : List Seg) : encSegs (a ++ b) = encSegs a ++ encSegs b := by simp [encSegs]

theorem Seg.lin_cases (thr : Nat) (w : Bool) (s : Seg) :
    (s.lin thr w = s.enc ∧
      ∀ L off r, directsOf thr w L off (s :: r) = directsOf thr w L (off + s.enc.length) r) ∨
    (∃ v, s.lin thr w = be32 v.length ∧ s.enc = be32 v.length ++ v ∧
      ∀ L off r, directsOf thr w L off (s :: r) = (v, L - off - 4) :: directsOf thr w L (off + 4) r) := by
  cases s with
  | fixed bs => exact .inl ⟨rfl, fun _ _ _ => rfl⟩
  | str v =>
    cases h : inlineStr thr w v with
    | true =>
      exact .inl ⟨by simp only [Seg.lin, h, if_true, Seg.enc],
        fun _ _ _ => by simp only [directsOf, h, if_true, Seg.enc, encStr_length]⟩
    | false => exact .inr ⟨v, by simp [Seg.lin, h], rfl, fun _ _ _ => by simp [directsOf, h]⟩

theorem directsOf_append (thr w L) (a b : List Seg) (off : Nat) :
    directsOf thr w L off (a ++ b)
      = directsOf thr w L off a ++ directsOf thr w L (off + (linSegs thr w a).length) b := by
  induction a generalizing off with
  | nil => rfl
  | cons s r ih =>
    rw [List.cons_append, linSegs_cons, List.length_append, ← Nat.add_assoc]
    rcases Seg.lin_cases thr w s with ⟨hl, hd⟩ | ⟨v, hl, _, hd⟩
    · rw [hd, hd, ih, hl]
    · rw [hd, hd, ih, hl, be32_length, List.cons_append]

/-- without a direct writer everything is inline -/
theorem linSegs_nil_writer (thr : Nat) (sg : List Seg) : linSegs thr false sg = encSegs sg := by
  induction sg with
  | nil => rfl
  | cons s r ih => cases s <;> simp [linSegs_cons, encSegs_cons, Seg.lin, Seg.enc, inlineStr, ih]

theorem directsOf_nil_writer (thr L : Nat) : ∀ (sg : List Seg) (off : Nat), directsOf thr false L off sg = []
  | [], _ => rfl
  | .fixed _ :: r, off => by simp [directsOf, directsOf_nil_writer thr L r]
  | .str _ :: r, off => by simp [directsOf, inlineStr, directsOf_nil_writer thr L r]

/-! ## primitives on a buffer `P ++ T` at offset `P.length` -/

theorem patch_app (P T bs : Bytes) (i : Nat) (hi : i = P.length) :
    patch (P ++ T) i bs = P ++ bs ++ T.drop bs.length := by
  subst hi
  simp [patch, List.take_left', List.drop_length_add_append]

theorem putByte_app (P T : Bytes) (i : Nat) (x : UInt8) (hi : i = P.length) (h : 1 ≤ T.length) :
    putByte (P ++ T) i x = .ok (P ++ [x] ++ T.drop 1) := by
  unfold putByte
  rw [if_pos (by simp; omega), patch_app P T [x] i hi]; rfl

theorem put16_app (P T : Bytes) (i n : Nat) (hi : i = P.length) (h : 2 ≤ T.length) :
    put16 (P ++ T) i n = .ok (P ++ be16 n ++ T.drop 2) := by
  unfold put16
  rw [if_neg (by simp; omega), if_neg (by simp; omega), patch_app P T _ i hi]; rfl

theorem put32_app (P T : Bytes) (i n : Nat) (hi : i = P.length) (h : 4 ≤ T.length) :
    put32 (P ++ T) i n = .ok (P ++ be32 n ++ T.drop 4) := by
  unfold put32
  rw [if_neg (by simp; omega), if_neg (by simp; omega), patch_app P T _ i hi]; rfl

theorem copyAt_app (P T v : Bytes) (i : Nat) (hi : i = P.length) (h : v.length ≤ T.length) :
    copyAt (P ++ T) i v = .ok (P ++ v ++ T.drop v.length, v.length) := by
  unfold copyAt
  have hm : min ((P ++ T).length - i) v.length = v.length := by simp; omega
  rw [if_neg (by simp; omega), hm, List.take_of_length_le (Nat.le_refl _), patch_app P T _ i hi]

/-! ## realisation -/

def Realises (thr : Nat) (w : Bool) (f : WStep) (sg : List Seg) : Prop :=
  ∀ (P T : Bytes) (ds : Directs), (linSegs thr w sg).length ≤ T.length →
    f (⟨P ++ T, ds⟩, P.length) =
      .ok (⟨P ++ linSegs thr w sg ++ T.drop (linSegs thr w sg).length,
            ds ++ directsOf thr w (P.length + T.length) P.length sg⟩,
           P.length + (linSegs thr w sg).length)

theorem realises_nil (thr w) : Realises thr w (wAll []) [] := by
  intro P T ds _
  simp [wAll, linSegs, directsOf]

theorem realises_bind (thr w) (f g : WStep) (sg sgs : List Seg)
    (hf : Realises thr w f sg) (hg : Realises thr w g sgs) :
    Realises thr w (fun s => (f s).bind g) (sg ++ sgs) := by
  intro P T ds hlen
  rw [linSegs_append, List.length_append] at hlen
  have hl : (P ++ linSegs thr w sg).length = P.length + (linSegs thr w sg).length := List.length_append
  have hsg : (linSegs thr w sg).length ≤ T.length := Nat.le_trans (Nat.le_add_right _ _) hlen
  have hL : P.length + (linSegs thr w sg).length + (T.drop (linSegs thr w sg).length).length
      = P.length + T.length := by rw [List.length_drop, Nat.add_assoc, Nat.add_sub_cancel' hsg]
  have h2 := hg (P ++ linSegs thr w sg) (T.drop (linSegs thr w sg).length)
    (ds ++ directsOf thr w (P.length + T.length) P.length sg)
    (by rw [List.length_drop]; exact Nat.le_sub_of_add_le' hlen)
  rw [hl, hL] at h2
  show (f _).bind g = _
  rw [hf P T ds hsg, Out.bind_ok, h2, linSegs_append, directsOf_append, List.length_append, List.drop_drop]
  simp only [List.append_assoc, Nat.add_assoc]

theorem realises_cons (thr w) (f : WStep) (fs : List WStep) (sg sgs : List Seg)
    (hf : Realises thr w f sg) (hfs : Realises thr w (wAll fs) sgs) :
    Realises thr w (wAll (f :: fs)) (sg ++ sgs) :=
  realises_bind thr w f (wAll fs) sg sgs hf hfs

theorem wAll_append (a b : List WStep) (s : WS × Nat) : wAll (a ++ b) s = (wAll a s).bind (wAll b) := by
  induction a generalizing s with
  | nil => simp [wAll]
  | cons f fs ih =>
    simp only [List.cons_append, wAll]
    cases f s <;> simp [ih]

theorem realises_append (thr w) (fs gs : List WStep) (sg sgs : List Seg)
    (hf : Realises thr w (wAll fs) sg) (hg : Realises thr w (wAll gs) sgs) :
    Realises thr w (wAll (fs ++ gs)) (sg ++ sgs) := by
  have := realises_bind thr w _ _ sg sgs hf hg
  rwa [← funext (wAll_append fs gs)] at this

theorem realises_one (thr w) (f : WStep) (sg : List Seg) (hf : Realises thr w f sg) :
    Realises thr w (wAll [f]) sg := by
  have := realises_cons thr w f [] sg [] hf (realises_nil thr w)
  rwa [List.append_nil] at this

/-! ## the statements of the generated code -/

theorem realises_fixed (thr w) (f : WStep) (bs : Bytes)
    (h : ∀ (P T : Bytes) (ds : Directs), bs.length ≤ T.length →
      f (⟨P ++ T, ds⟩, P.length) = .ok (⟨P ++ bs ++ T.drop bs.length, ds⟩, P.length + bs.length)) :
    Realises thr w f [.fixed bs] := by
  intro P T ds hlen
  have hl : linSegs thr w [.fixed bs] = bs := List.append_nil bs
  rw [hl] at hlen ⊢
  rw [h P T ds hlen, directsOf, directsOf, List.append_nil]

theorem stFieldBegin_realises (thr w) (t : UInt8) (id : Nat) :
    Realises thr w (stFieldBegin t id) [.fixed (t :: be16 id)] := by
  refine realises_fixed thr w _ _ fun P T ds hlen => ?_
  rw [List.length_cons, be16_length] at hlen
  simp only [stFieldBegin, Out.bind_eq, Out.pure_eq]
  rw [putByte_app P T _ t rfl (by omega), Out.bind_ok,
    put16_app (P ++ [t]) (T.drop 1) _ id (by simp) (by rw [List.length_drop]; omega), Out.bind_ok]
  simp

theorem stMapBegin_realises (thr w) (kt vt : UInt8) (n : Nat) :
    Realises thr w (stMapBegin kt vt n) [.fixed (kt :: vt :: be32 n)] := by
  refine realises_fixed thr w _ _ fun P T ds hlen => ?_
  rw [List.length_cons, List.length_cons, be32_length] at hlen
  simp only [stMapBegin, Out.bind_eq, Out.pure_eq]
  rw [putByte_app P T _ kt rfl (by omega), Out.bind_ok,
    putByte_app (P ++ [kt]) (T.drop 1) _ vt (by simp) (by rw [List.length_drop]; omega), Out.bind_ok,
    put32_app (P ++ [kt] ++ [vt]) ((T.drop 1).drop 1) _ n (by simp)
      (by rw [List.length_drop, List.length_drop]; omega), Out.bind_ok]
  simp

theorem stI32_realises (thr w) (v : Int) : Realises thr w (stI32 v) [.fixed (encI32 v)] := by
  refine realises_fixed thr w _ _ fun P T ds hlen => ?_
  rw [encI32_length] at hlen
  simp only [stI32, Out.bind_eq, Out.pure_eq]
  rw [put32_app P T _ _ rfl hlen, Out.bind_ok]
  rfl

theorem stStop_realises (thr w) : Realises thr w stStop [.fixed [0]] := by
  refine realises_fixed thr w _ _ fun P T ds hlen => ?_
  simp only [stStop, Out.bind_eq, Out.pure_eq]
  rw [putByte_app P T _ 0 rfl hlen, Out.bind_ok]
  rfl

theorem writeStringNocopy_inline (thr : Nat) (w : Bool) (s : WS) (off : Nat) (v : Bytes)
    (h : inlineStr thr w v = true) : writeStringNocopy thr w s off v = writeString s off v := by
  have h' : (!w || decide (v.length < thr)) = true := h
  unfold writeStringNocopy
  rw [if_pos h']
  split
  · rw [writeString, if_pos ‹_›]
  · rfl

theorem writeString_app (P T : Bytes) (ds : Directs) (v : Bytes) (h : 4 + v.length ≤ T.length) :
    writeString ⟨P ++ T, ds⟩ P.length v = .ok (⟨P ++ encStr v ++ T.drop (4 + v.length), ds⟩, 4 + v.length) := by
  simp only [writeString, Out.bind_eq, Out.pure_eq]
  rw [if_neg (by simp), put32_app P T _ _ rfl (by omega), Out.bind_ok,
    copyAt_app (P ++ be32 v.length) (T.drop 4) v _ (by simp) (by rw [List.length_drop]; omega), Out.bind_ok,
    List.drop_drop, encStr, List.append_assoc P]

theorem writeStringNocopy_direct (thr : Nat) (w : Bool) (P T : Bytes) (ds : Directs) (v : Bytes)
    (h : inlineStr thr w v = false) (hT : 4 ≤ T.length) :
    writeStringNocopy thr w ⟨P ++ T, ds⟩ P.length v
      = .ok (⟨P ++ be32 v.length ++ T.drop 4, ds ++ [(v, T.length - 4)]⟩, 4) := by
  have h' : ¬ (!w || decide (v.length < thr)) = true := by rw [show (!w || decide (v.length < thr)) = false from h]; nofun
  simp only [writeStringNocopy, Out.bind_eq, Out.pure_eq]
  have hrc : (P ++ be32 v.length ++ T.drop 4).length - P.length - 4 = T.length - 4 := by
    simp only [List.length_append, be32_length, List.length_drop]; omega
  rw [if_neg (by simp), if_neg h', put32_app P T _ _ rfl hT, Out.bind_ok, hrc]

theorem stStr_realises (thr : Nat) (w : Bool) (v : Bytes) : Realises thr w (stStr thr w v) [.str v] := by
  intro P T ds hlen
  have hl : linSegs thr w [.str v] = Seg.lin thr w (.str v) := List.append_nil _
  rw [hl] at hlen ⊢
  simp only [stStr, Seg.lin, directsOf, Out.bind_eq, Out.pure_eq] at hlen ⊢
  cases hin : inlineStr thr w v with
  | true =>
    rw [hin, if_pos rfl, encStr_length] at hlen
    rw [writeStringNocopy_inline thr w _ _ v hin, writeString_app P T ds v hlen, Out.bind_ok]
    simp only [if_true, encStr_length, List.append_nil]
  | false =>
    rw [hin, if_neg (by nofun), be32_length] at hlen
    rw [writeStringNocopy_direct thr w P T ds v hin hlen, Out.bind_ok]
    simp only [Bool.false_eq_true, if_false, be32_length, Nat.add_sub_cancel_left]
/-- segments of the entries of a map in iteration order -/
def segsKVs (it : SMap) : List Seg := it.flatMap (fun kv => [.str kv.1, .str kv.2])

theorem stKVs_realises (thr : Nat) (w : Bool) (it : SMap) :
    Realises thr w (wAll (stKVs thr w it)) (segsKVs it) := by
  induction it with
  | nil => exact realises_nil thr w
  | cons kv r ih =>
    have h1 : stKVs thr w (kv :: r) = stStr thr w kv.1 :: stStr thr w kv.2 :: stKVs thr w r := by
      simp [stKVs]
    have h2 : segsKVs (kv :: r) = [.str kv.1] ++ ([.str kv.2] ++ segsKVs r) := by simp [segsKVs]
    rw [h1, h2]
    exact realises_cons thr w _ _ _ _ (stStr_realises thr w kv.1)
      (realises_cons thr w _ _ _ _ (stStr_realises thr w kv.2) ih)

/-- segments of the optional map field -/
def segsExtra (id : Nat) (extra : Option SMap) (it : SMap) : List Seg :=
  match extra with
  | none => []
  | some m => [.fixed (13 :: be16 id), .fixed (11 :: 11 :: be32 m.length)] ++ segsKVs it

theorem stExtra_realises (thr : Nat) (w : Bool) (id : Nat) (extra : Option SMap) (it : SMap) :
    Realises thr w (wAll (stExtra thr w id extra it)) (segsExtra id extra it) := by
  cases extra with
  | none => exact realises_nil thr w
  | some m =>
    simp only [stExtra, segsExtra]
    exact realises_cons thr w _ _ [_] _ (stFieldBegin_realises thr w 13 id)
      (realises_cons thr w _ _ [_] _ (stMapBegin_realises thr w 11 11 m.length) (stKVs_realises thr w it))

def segsBase (p : Base) (it : SMap) : List Seg :=
  [.fixed (11 :: be16 1), .str p.logID, .fixed (11 :: be16 2), .str p.caller,
   .fixed (11 :: be16 3), .str p.addr] ++ (segsExtra 6 p.extra it ++ [.fixed [0]])

def segsResp (p : BaseResp) (it : SMap) : List Seg :=
  [.fixed (11 :: be16 1), .str p.statusMessage, .fixed (8 :: be16 2), .fixed (encI32 p.statusCode)] ++
    (segsExtra 3 p.extra it ++ [.fixed [0]])

def segsEx (e : AppEx) : List Seg :=
  [.fixed (11 :: be16 1), .str e.msg, .fixed (8 :: be16 2), .fixed (encI32 e.typ), .fixed [0]]

theorem stHdr_eq (tbl : List (Int × Int)) (i : Nat) (t : UInt8) (id : Nat)
    (h : tbl[i]? = some ((t.toNat : Int), (id : Int))) : stHdr tbl i = stFieldBegin t id := by
  rw [stHdr, h]
  simp only [Int.toNat_natCast, UInt8.ofNat_toNat]

theorem stExtraH_eq (thr : Nat) (w : Bool) (tbl : List (Int × Int)) (i id : Nat)
    (h : tbl[i]? = some (13, (id : Int))) (extra : Option SMap) (it : SMap) :
    stExtraH thr w tbl i extra it = stExtra thr w id extra it := by
  cases extra with
  | none => rfl
  | some m => rw [stExtraH, stExtra, stHdr_eq tbl i 13 id h]

/-- (*Base).FastWriteNocopy for any header table that lists the IDL's fields -/
theorem base_realises (thr : Nat) (w : Bool) (p : Base) (it : SMap) (tbl : List (Int × Int))
    (htbl : tbl = [(11, 1), (11, 2), (11, 3), (13, 6)]) :
    Realises thr w (wAll ([stHdr tbl 0, stStr thr w p.logID, stHdr tbl 1, stStr thr w p.caller,
      stHdr tbl 2, stStr thr w p.addr] ++ stExtraH thr w tbl 3 p.extra it ++ [stStop])) (segsBase p it) := by
  subst htbl
  rw [stHdr_eq _ 0 11 1 rfl, stHdr_eq _ 1 11 2 rfl, stHdr_eq _ 2 11 3 rfl, stExtraH_eq thr w _ 3 6 rfl,
    List.append_assoc]
  refine realises_append thr w _ _ _ _ ?_ ?_
  · exact realises_cons thr w _ _ [_] _ (stFieldBegin_realises thr w 11 1)
      (realises_cons thr w _ _ [_] _ (stStr_realises thr w _)
      (realises_cons thr w _ _ [_] _ (stFieldBegin_realises thr w 11 2)
      (realises_cons thr w _ _ [_] _ (stStr_realises thr w _)
      (realises_cons thr w _ _ [_] _ (stFieldBegin_realises thr w 11 3)
      (realises_one thr w _ _ (stStr_realises thr w _))))))
  · exact realises_append thr w _ _ _ _ (stExtra_realises thr w 6 p.extra it)
      (realises_one thr w _ _ (stStop_realises thr w))

theorem resp_realises (thr : Nat) (w : Bool) (p : BaseResp) (it : SMap) (tbl : List (Int × Int))
    (htbl : tbl = [(11, 1), (8, 2), (13, 3)]) :
    Realises thr w (wAll ([stHdr tbl 0, stStr thr w p.statusMessage, stHdr tbl 1, stI32 p.statusCode]
      ++ stExtraH thr w tbl 2 p.extra it ++ [stStop])) (segsResp p it) := by
  subst htbl
  rw [stHdr_eq _ 0 11 1 rfl, stHdr_eq _ 1 8 2 rfl, stExtraH_eq thr w _ 2 3 rfl, List.append_assoc]
  refine realises_append thr w _ _ _ _ ?_ ?_
  · exact realises_cons thr w _ _ [_] _ (stFieldBegin_realises thr w 11 1)
      (realises_cons thr w _ _ [_] _ (stStr_realises thr w _)
      (realises_cons thr w _ _ [_] _ (stFieldBegin_realises thr w 8 2)
      (realises_one thr w _ _ (stI32_realises thr w _))))
  · exact realises_append thr w _ _ _ _ (stExtra_realises thr w 3 p.extra it)
      (realises_one thr w _ _ (stStop_realises thr w))

theorem ex_realises (e : AppEx) :
    Realises 0 false (wAll [stFieldBegin 11 1, stStr 0 false e.msg, stFieldBegin 8 2, stI32 e.typ, stStop])
      (segsEx e) := by
  exact realises_cons 0 false _ _ [_] _ (stFieldBegin_realises 0 false 11 1)
      (realises_cons 0 false _ _ [_] _ (stStr_realises 0 false _)
      (realises_cons 0 false _ _ [_] _ (stFieldBegin_realises 0 false 8 2)
      (realises_cons 0 false _ _ [_] _ (stI32_realises 0 false _)
      (realises_one 0 false _ _ (stStop_realises 0 false)))))

/-! ## the headers regenerated from the source are the IDL's (a changed literal in the Go code breaks these) -/

theorem fastWriteHeadersBase_eq : Facts.fastWriteHeadersBase = [(11, 1), (11, 2), (11, 3), (13, 6)] := by decide
theorem fastWriteHeadersBaseResp_eq : Facts.fastWriteHeadersBaseResp = [(11, 1), (8, 2), (13, 3)] := by decide

/-! ## segment lists print the structs -/

theorem encSegs_kvs (it : SMap) : encSegs (segsKVs it) = encKVs it := by
  induction it with
  | nil => rfl
  | cons kv r ih =>
    have : segsKVs (kv :: r) = [.str kv.1, .str kv.2] ++ segsKVs r := by simp [segsKVs]
    rw [this, encSegs_append, ih]
    simp [encSegs, Seg.enc, encKVs]

theorem encFields_append (a b : List Fld) : encFields (a ++ b) = encFields a ++ encFields b := by
  simp [encFields]

theorem encSegs_extra (id : Nat) (extra : Option SMap) (it : SMap) :
    encSegs (segsExtra id extra it)
      = encFields (match extra with | none => [] | some m => [fMapSS id m.length it]) := by
  cases extra with
  | none => rfl
  | some m =>
    rw [segsExtra, encSegs_append, encSegs_kvs]
    simp only [encSegs, encFields, List.flatMap_cons, List.flatMap_nil, Seg.enc, Fld.enc, fMapSS, encMapSS, TT.MAP,
      TT.STRING, List.append_nil, List.cons_append, List.append_assoc]

theorem encSegs_base (p : Base) (it : SMap) : encSegs (segsBase p it) = encBase (some p) it := by
  rw [segsBase, encSegs_append, encSegs_append, encSegs_extra, encBase, Base.fields, encFields_append,
    List.append_assoc]
  rfl

theorem encSegs_resp (p : BaseResp) (it : SMap) : encSegs (segsResp p it) = encBaseResp (some p) it := by
  rw [segsResp, encSegs_append, encSegs_append, encSegs_extra, encBaseResp, BaseResp.fields, encFields_append,
    List.append_assoc]
  rfl

theorem encSegs_ex (e : AppEx) : encSegs (segsEx e) = encAppEx e := by
  simp [segsEx, encAppEx, AppEx.fields, encSegs, Seg.enc, encFields, Fld.enc, fStr, fI32, TT.STRING, TT.I32]

end Verif
