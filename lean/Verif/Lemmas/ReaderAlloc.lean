/-
  Lemmas/ReaderAlloc: the domain in which the reader model mirrors the Go code — allocation succeeds.

  `mcache.Malloc` has 46 size classes (`caches[i]`, i ≤ 45, github.com/bytedance/gopkg lang/mcache):
  a capacity request above 2^45 PANICS with index out of range (audit witness, unchanged tree:
  `NewDefaultReader(src).Next(1<<46)` → `PANIC index`, while the model — Nat arithmetic, no allocator
  limit — answers `err eof`); `Next(1<<62+1)` never returns (`maxSize *= 2` wraps to 0).  The model
  has no such branch, so the C04 theorems about an operation that may allocate carry
  `Rd.InDomain r n : n + ri ≤ 2^43`, and this file proves that inside that domain the model never
  asks the allocator for more than its largest class: every capacity it computes is ≤ 2^45
  (`AllocInv`, `prepare_alloc`, `step_alloc`).
  (2^43, not 2^45: the grow loop doubles past `n + ri` and mcache rounds up to a power of two.)
-/
import Verif.Lemmas.ReaderRefine
namespace Verif

/-- 2^45: mcache's largest size class -/
notation "allocMax" => (35184372088832 : Nat)

/-- the request is in the domain of the model: `n + ri ≤ 2^43`.  Beyond, the real code panics inside
    mcache (from 2^45) or spins forever (above 2^62); the model does neither. -/
def Rd.InDomain (r : Rd) (n : Nat) : Prop := n + r.ri ≤ 8796093022208

theorem Rd.InDomain.small {r : Rd} {n : Nat} (h : r.InDomain n) : r.Small n := by
  unfold Rd.InDomain at h; unfold Rd.Small; omega

/-- every capacity the reader holds or has recorded is an allocatable one -/
structure AllocInv (r : Rd) : Prop where
  cap_le : r.cap ≤ allocMax
  stats_le : ∀ s ∈ r.stats, s ≤ allocMax

theorem two_pow_45 : (2:Nat)^45 = allocMax := by decide

/-- the capacity `prepare` asks the allocator for is within mcache's classes -/
theorem prepare_alloc (r : Rd) (n : Nat) (h : Inv r) (ha : AllocInv r) (hd : r.InDomain n) :
    (r.prepare n).cap ≤ allocMax := by
  obtain ⟨c, ro, heq, _, _, _, _, _, hB⟩ := prepare_shape r n h hd.small
  unfold Rd.InDomain at hd
  rw [heq]
  exact hB 45 allocMax (by rw [two_pow_45]) ha.cap_le ha.stats_le (by decide) (by omega)

theorem acquire_alloc (r : Rd) (n m : Nat) (r' : Rd) (h : Inv r) (ha : AllocInv r) (hd : r.InDomain n)
    (hacq : r.acquire n = some (m, r')) : AllocInv r' := by
  refine ⟨?_, by rw [(acquire_post r n m r' h hd.small hacq).stats]; exact ha.stats_le⟩
  rcases acquire_cases r n m r' h hd.small hacq with ⟨rfl, _⟩ | ⟨_, _, hcap, _⟩
  · exact ha.cap_le
  · rw [hcap]; exact prepare_alloc r n h ha hd

theorem release_alloc (r : Rd) (ha : AllocInv r) : AllocInv r.release := by
  have hc := ha.cap_le
  unfold Rd.release
  split
  · exact ⟨by simp, listSet_le _ _ _ _ ha.stats_le hc⟩
  · split
    · exact ⟨by simp only []; omega, ha.stats_le⟩
    · exact ⟨hc, ha.stats_le⟩

/-- ONE STEP inside the domain: every capacity stays allocatable -/
theorem step_alloc (r : Rd) (op : ROp) (h : Inv r) (ha : AllocInv r) (hd : r.InDomain op.size) :
    AllocInv (r.step op).2 :=
  (step_view r op h hd.small).state AllocInv (fun _ => ⟨ha, release_alloc r ha⟩)
    (fun m r1 _ _ hacq =>
      have h1 := acquire_alloc r _ m r1 h ha hd hacq
      ⟨h1.cap_le, h1.stats_le⟩)

theorem alloc_newDefault (src : Src) : AllocInv (Rd.newDefault src) := by
  constructor <;> simp [Rd.newDefault]

theorem alloc_newBytes (data : Bytes) (cap : Nat) (hc : cap ≤ allocMax) : AllocInv (Rd.newBytes data cap) := by
  unfold Rd.newBytes; split
  · constructor <;> simp; exact hc
  · exact alloc_newDefault _

/-- the domain bound that does not mention the model state: stream and requests below 2^42 -/
theorem inDomain_of_bounds (c : Cur) (r : Rd) (n : Nat) (h : Abs c r)
    (hS : c.S.length ≤ 4398046511104) (hn : n ≤ 4398046511104) : r.InDomain n := by
  have := h.ri_le
  unfold Rd.InDomain; omega

/-- WHOLE HISTORIES inside the domain: every capacity the model ever computes is allocatable —
    the allocator's panic branch, which the model does not have, is never needed -/
theorem trace_alloc (c : Cur) (r : Rd) (ops : List ROp) (h : Abs c r) (ha : AllocInv r)
    (hS : c.S.length ≤ 4398046511104) (hops : ∀ op ∈ ops, op.size ≤ 4398046511104) :
    AllocInv (r.trace ops).2 := by
  induction ops generalizing c r with
  | nil => exact ha
  | cons op ops ih =>
    have hd := inDomain_of_bounds c r op.size h hS (hops op (by simp))
    obtain ⟨c1, hc1, h1⟩ := step_refines c r op h hd.small
    have hS1 := Cur.step_S _ _ _ _ hc1
    simp only [Rd.trace]
    exact ih c1 _ h1 (step_alloc r op h.inv ha hd) (by rw [hS1]; exact hS)
      (fun o ho => hops o (by simp [ho]))

end Verif
