/-
  Lemmas/ComposeWire: BufferWriter.Write* (protocol/thrift/bufferwriter.go; C01's model `Wire.bwWrite` over
  the abstract writer log `Wire.WLog`) as CHUNKS of calls on a bufiox.Writer (Lemmas/ComposeWriter), so that
  the same calls can be issued to C05's model of DefaultWriter / BytesWriter.

      valChunks v          the Malloc / stores / WriteBinary that Write<v> performs, in program order
      cmp_bwWrite_chunks   TIE: for EVERY abstract writer state (healthy or failed) and EVERY content of
                           fresh memory, C01's `bwWrite w d v` IS the execution of `valChunks v` on the
                           abstract log — the chunks are what the model of C01 does, not a second codec
      valChunks_full/bytes every region is stored completely; the chunks' bytes are `enc v`
-/
import Verif.Lemmas.ComposeWriter
import Verif.Lemmas.WireW
namespace Verif.Compose
open Verif Verif.Wire

/-- the calls `BufferWriter.Write<v>` makes on its bufiox.Writer, in program order
    (bufferwriter.go: `buf := w.w.Malloc(n)`, then `buf[i] = x` / `binary.BigEndian.PutUintNN(buf[off:], x)` /
    `copy(buf[8:], name)`; WriteBinary/WriteString: Malloc(4) for the length, then `w.w.WriteBinary(v)`) -/
def valChunks : Val → List Chunk
  | .bool b => [.reg 1 [(0, [if b then 1 else 0])]]
  | .i8 v => [.reg 1 [(0, [UInt8.ofNat (ofInt 8 v)])]]
  | .i16 v => [.reg 2 [(0, be16 (ofInt 16 v))]]
  | .i32 v => [.reg 4 [(0, be32 (ofInt 32 v))]]
  | .i64 v => [.reg 8 [(0, be64 (ofInt 64 v))]]
  | .double bits => [.reg 8 [(0, be64 bits)]]
  | .binary s => [.reg 4 [(0, be32 s.length)], .wb s]
  | .str s => [.reg 4 [(0, be32 s.length)], .wb s]
  | .fieldBegin t id =>
      [.reg 3 [(0, [t]), (1, [UInt8.ofNat (ofInt 16 (id / 256))]), (2, [UInt8.ofNat (ofInt 16 id)])]]
  | .fieldStop => [.reg 1 [(0, [T_STOP])]]
  | .mapBegin kt vt n => [.reg 6 [(0, [kt]), (1, [vt]), (2, be32 (ofInt 32 (n : Int)))]]
  | .listBegin et n => [.reg 5 [(0, [et]), (1, be32 (ofInt 32 (n : Int)))]]
  | .setBegin et n => [.reg 5 [(0, [et]), (1, be32 (ofInt 32 (n : Int)))]]
  | .messageBegin name typ seq =>
      [.reg (lenMessageBegin name)
        [(0, be32 (msgHeader typ)), (4, be32 name.length), (8, name), (8 + name.length, be32 (ofInt 32 seq))]]

/-! ## chunks on C01's abstract writer log -/

/-- the stores into a region held as a value (an out-of-range store is Go's index panic) -/
def cmpStores (R : Bytes) : List (Nat × Bytes) → WOut Bytes
  | [] => .ok R
  | p :: ps =>
    if p.1 + p.2.length ≤ R.length then cmpStores (WLog.overwrite R p.1 p.2) ps else .panic "index"

/-- one chunk on C01's writer log: `wlMalloc` (region of arbitrary content `d`), the stores, `wlCommit`;
    resp. `wlWriteBinary` -/
def runChunkWL (w : Wire.WLog) (d : Nat → UInt8) : Chunk → WOut Wire.WLog
  | .reg n ps =>
    (wlMalloc w (n : Int) d).bind fun R => (cmpStores R ps).bind fun R' => .ok (wlCommit w R')
  | .wb bs => wlWriteBinary w bs

def runChunksWL (w : Wire.WLog) (d : Nat → UInt8) : List Chunk → WOut Wire.WLog
  | [] => .ok w
  | c :: cs => (runChunkWL w d c).bind fun w' => runChunksWL w' d cs

/-- BufferWriter.Write* for a list of values, one after the other, on C01's abstract writer -/
def bwWriteAll (w : Wire.WLog) (d : Nat → UInt8) : List Val → WOut Wire.WLog
  | [] => .ok w
  | v :: vs => (bwWrite w d v).bind fun w' => bwWriteAll w' d vs

/-- the log item a full chunk leaves behind -/
def Chunk.item : Chunk → WItem
  | .reg _ ps => .region (ps.map (·.2)).flatten
  | .wb bs => .payload bs

theorem cmpStores_eq : ∀ (ps : List (Nat × Bytes)) (R : Bytes), (∀ p ∈ ps, p.1 + p.2.length ≤ R.length) →
    cmpStores R ps = .ok (cmpApply id R ps) := by
  intro ps
  induction ps with
  | nil => intro R _; rfl
  | cons p ps ih =>
    intro R h
    have hp := h p (List.mem_cons_self ..)
    simp only [cmpStores, hp, if_true]
    rw [ih _ (fun q hq => by
      rw [length_overwrite _ _ _ hp]; exact h q (List.mem_cons_of_mem _ hq))]
    simp [cmpApply]

theorem runChunkWL_full (w : Wire.WLog) (d : Nat → UInt8) (c : Chunk) (h : w.err = none) (hf : c.Full) :
    runChunkWL w d c = .ok { w with items := w.items ++ [c.item] } := by
  cases c with
  | wb bs => simp [runChunkWL, wlWriteBinary, h, Chunk.item]
  | reg n ps =>
    have hcov : Covers 0 n ps := hf
    obtain ⟨R, hl, hm⟩ := wlMalloc_ok w d n h
    simp only [runChunkWL, hm, Out.bind_ok]
    rw [cmpStores_eq ps R (fun p hp => by rw [hl]; exact covers_fit ps 0 n hcov p hp)]
    simp only [Out.bind_ok]
    rw [cmpApply_covers id (fun _ => rfl) ps 0 n R hl hcov]
    simp [wlCommit, Chunk.item]

theorem runChunksWL_full (d : Nat → UInt8) : ∀ (cs : List Chunk) (w : Wire.WLog), w.err = none →
    (∀ c ∈ cs, c.Full) → runChunksWL w d cs = .ok { w with items := w.items ++ cs.map Chunk.item } := by
  intro cs
  induction cs with
  | nil => intro w _ _; simp [runChunksWL]
  | cons c cs ih =>
    intro w h hf
    simp only [runChunksWL, runChunkWL_full w d c h (hf c (List.mem_cons_self ..)), Out.bind_ok]
    rw [ih { w with items := w.items ++ [c.item] } h (fun c' hc' => hf c' (List.mem_cons_of_mem _ hc'))]
    simp

theorem runChunksWL_append (d : Nat → UInt8) (xs ys : List Chunk) (w : Wire.WLog) :
    runChunksWL w d (xs ++ ys) = (runChunksWL w d xs).bind fun w' => runChunksWL w' d ys := by
  induction xs generalizing w with
  | nil => simp [runChunksWL]
  | cons x xs ih =>
    simp only [List.cons_append, runChunksWL]
    cases hx : runChunkWL w d x with
    | ok w1 => simp only [Out.bind_ok]; exact ih w1
    | err e => rfl
    | panic s => rfl
    | oob => rfl

theorem valChunks_full (v : Val) : ∀ c ∈ valChunks v, c.Full := by
  intro c hc
  cases v <;> simp only [valChunks, List.mem_cons, List.not_mem_nil, or_false] at hc
  case binary s => rcases hc with rfl | rfl <;> simp [Chunk.Full, Covers]
  case str s => rcases hc with rfl | rfl <;> simp [Chunk.Full, Covers]
  case messageBegin name typ seq =>
    subst hc
    simp only [Chunk.Full, Covers, be32_length, true_and, lenMessageBegin]
    omega
  all_goals (subst hc; simp [Chunk.Full, Covers])

theorem valChunks_items (v : Val) : (valChunks v).map Chunk.item = itemsOf v := by
  cases v
  case fieldBegin t id => simp only [valChunks, hiByte16]; rfl
  case fieldStop => simp only [valChunks, tstop]; rfl
  case mapBegin kt vt n => simp only [valChunks, be32_ofInt_nat]; rfl
  case listBegin et n => simp only [valChunks, be32_ofInt_nat]; rfl
  case setBegin et n => simp only [valChunks, be32_ofInt_nat]; rfl
  all_goals rfl

/-- THE TIE: C01's stream writer IS the execution of its chunks on the abstract writer log — for every
    writer state (healthy or with a sticky error) and every content of fresh memory -/
theorem cmp_bwWrite_chunks (w : Wire.WLog) (d : Nat → UInt8) (v : Val) :
    bwWrite w d v = runChunksWL w d (valChunks v) := by
  cases he : w.err with
  | none =>
    rw [bwWrite_encM w d v he, runChunksWL_full d _ w he (valChunks_full v), valChunks_items]
  | some e =>
    -- every writer starts with a Malloc, which returns the sticky error
    obtain ⟨n, ps, cs, hv⟩ : ∃ n ps cs, valChunks v = .reg n ps :: cs := by cases v <;> exact ⟨_, _, _, rfl⟩
    rw [bwWrite_failed w d v e he, hv]
    simp only [runChunksWL, runChunkWL, wlMalloc, he, Out.bind_err]

theorem cmp_bwWriteAll_chunks (d : Nat → UInt8) : ∀ (vs : List Val) (w : Wire.WLog),
    bwWriteAll w d vs = runChunksWL w d (vs.flatMap valChunks) := by
  intro vs
  induction vs with
  | nil => intro w; rfl
  | cons v vs ih =>
    intro w
    simp only [bwWriteAll, List.flatMap_cons, runChunksWL_append, cmp_bwWrite_chunks]
    cases runChunksWL w d (valChunks v) with
    | ok w1 => simp only [Out.bind_ok]; exact ih w1
    | err e => rfl
    | panic s => rfl
    | oob => rfl

theorem chunk_item_bytes (c : Chunk) : c.item.bytes = c.bytes := by
  cases c <;> rfl

theorem valChunks_bytes (v : Val) (ha : v.args) : chunksBytes (valChunks v) = enc v := by
  rw [enc_eq_encM v ha, ← itemsOf_bytes, ← valChunks_items]
  simp only [chunksBytes, List.map_map]
  congr 2
  funext c
  exact (chunk_item_bytes c).symm

theorem valsChunks_bytes : ∀ (vs : List Val), (∀ v ∈ vs, v.args) →
    chunksBytes (vs.flatMap valChunks) = vs.flatMap enc := by
  intro vs
  induction vs with
  | nil => intro _; rfl
  | cons v vs ih =>
    intro h
    rw [List.flatMap_cons, chunksBytes_append, valChunks_bytes v (h v (List.mem_cons_self ..)),
      ih (fun v' hv' => h v' (List.mem_cons_of_mem _ hv'))]
    simp

theorem valsChunks_full (vs : List Val) : ∀ c ∈ vs.flatMap valChunks, c.Full := by
  intro c hc
  obtain ⟨v, _, hv⟩ := List.mem_flatMap.mp hc
  exact valChunks_full v c hv

/-- BufferWriter.Write* for each of `vs`, as a history of C05's writer model (a fresh writer: the first
    region id is 0) -/
def cmpWriteOps (vs : List Val) : List WOp := chunksOps 0 (vs.flatMap valChunks)

/-- what the caller must observe from these calls: every Malloc returns the expected region, every
    store happens, every WriteBinary takes all its bytes -/
def cmpWriteObs (vs : List Val) : List WObs := chunksObs 0 (vs.flatMap valChunks)

end Verif.Compose
