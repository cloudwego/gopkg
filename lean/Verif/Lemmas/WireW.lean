/- Lemmas/WireW: the three writer families produce `enc`. -/
import Verif.Lemmas.Wire
namespace Verif.Wire

/-! ## putAt -/

theorem putAt_length (buf : Bytes) (off : Nat) (bs : Bytes) (h : off + bs.length ≤ buf.length) :
    (putAt buf off bs).length = buf.length := by
  simp [putAt]; omega

theorem putAt_putAt (buf : Bytes) (off : Nat) (a b : Bytes) (k : Nat) (hk : k = off + a.length)
    (h : off + a.length + b.length ≤ buf.length) :
    putAt (putAt buf off a) k b = putAt buf off (a ++ b) := by
  subst hk
  have hP : (buf.take off ++ a).length = off + a.length := by rw [List.length_append, List.length_take]; omega
  unfold putAt
  rw [List.take_left' hP, ← List.drop_drop, List.drop_left' hP, List.drop_drop, List.length_append]
  simp only [List.append_assoc, Nat.add_assoc]

theorem putAt_zero (buf bs : Bytes) : putAt buf 0 bs = bs ++ buf.drop bs.length := by
  simp [putAt]

theorem putAt_full (buf bs : Bytes) (h : bs.length = buf.length) : putAt buf 0 bs = bs := by
  simp [putAt, h]

/-! ## the store primitives: on a buffer that is long enough, and right behind a run `a` of bytes already
    stored at `off` (the run grows) -/

theorem setB_ok (buf : Bytes) (off : Nat) (x : UInt8) (h : off < buf.length) :
    setB buf off 0 x = .ok (putAt buf off [x]) := by
  unfold setB; rw [if_neg (by omega), if_pos (by omega)]; rfl

theorem putU16_ok (buf : Bytes) (off n : Nat) (h : off + 2 ≤ buf.length) :
    putU16 buf off n = .ok (putAt buf off (be16 n)) := by
  unfold putU16; rw [if_neg (by omega), if_neg (by omega)]

theorem putU32_ok (buf : Bytes) (off n : Nat) (h : off + 4 ≤ buf.length) :
    putU32 buf off n = .ok (putAt buf off (be32 n)) := by
  unfold putU32; rw [if_neg (by omega), if_neg (by omega)]

theorem putU64_ok (buf : Bytes) (off n : Nat) (h : off + 8 ≤ buf.length) :
    putU64 buf off n = .ok (putAt buf off (be64 n)) := by
  unfold putU64; rw [if_neg (by omega), if_neg (by omega)]

theorem copyAt_ok (buf : Bytes) (off : Nat) (src : Bytes) (h : off + src.length ≤ buf.length) :
    copyAt buf off src = .ok (putAt buf off src, src.length) := by
  unfold copyAt; rw [if_neg (by omega)]
  have : min (buf.length - off) src.length = src.length := by omega
  simp [this]

theorem setB_run (buf : Bytes) (off : Nat) (a : Bytes) (i : Nat) (x : UInt8) (hi : i = a.length)
    (h : off + a.length < buf.length) : setB (putAt buf off a) off i x = .ok (putAt buf off (a ++ [x])) := by
  subst hi
  have hl := putAt_length buf off a (by omega)
  unfold setB
  rw [if_neg (by omega), if_pos (by omega), putAt_putAt buf off a [x] _ rfl (by simp; omega)]

theorem putU16_run (buf : Bytes) (off : Nat) (a : Bytes) (k n : Nat) (hk : k = off + a.length)
    (h : off + a.length + 2 ≤ buf.length) : putU16 (putAt buf off a) k n = .ok (putAt buf off (a ++ be16 n)) := by
  subst hk
  rw [putU16_ok _ _ _ (by rw [putAt_length buf off a (by omega)]; exact h), putAt_putAt buf off a (be16 n) _ rfl h]

theorem putU32_run (buf : Bytes) (off : Nat) (a : Bytes) (k n : Nat) (hk : k = off + a.length)
    (h : off + a.length + 4 ≤ buf.length) : putU32 (putAt buf off a) k n = .ok (putAt buf off (a ++ be32 n)) := by
  subst hk
  rw [putU32_ok _ _ _ (by rw [putAt_length buf off a (by omega)]; exact h), putAt_putAt buf off a (be32 n) _ rfl h]

theorem copyAt_run (buf : Bytes) (off : Nat) (a : Bytes) (k : Nat) (src : Bytes) (hk : k = off + a.length)
    (h : off + a.length + src.length ≤ buf.length) :
    copyAt (putAt buf off a) k src = .ok (putAt buf off (a ++ src), src.length) := by
  subst hk
  rw [copyAt_ok _ _ _ (by rw [putAt_length buf off a (by omega)]; exact h), putAt_putAt buf off a _ _ rfl h]

/-! ## unsigned conversions -/

theorem ofNat_eq (a b : Nat) (h : a % 256 = b % 256) : UInt8.ofNat a = UInt8.ofNat b := by
  apply UInt8.toNat_inj.mp; simp [UInt8.toNat_ofNat', h]

theorem ofInt32_nat (n : Nat) : ofInt 32 (n : Int) = n % 4294967296 := by
  simp [ofInt]; omega

theorem hiByte16 (id : Int) : UInt8.ofNat (ofInt 16 (id / 256)) = UInt8.ofNat (ofInt 16 id / 256) :=
  ofNat_eq _ _ (by simp [ofInt]; omega)

/-! ## message header word -/

theorem and_typeMask (n : Nat) : n &&& Facts.msgTypeMask = n % 65536 := by
  have : Facts.msgTypeMask = 2^16 - 1 := by decide
  rw [this, Nat.and_two_pow_sub_one_eq_mod]

theorem or_version (y : Nat) (h : y < 65536) : Facts.msgVersion1 ||| y = 2147549184 + y := by
  have : Facts.msgVersion1 = 32769 <<< 16 := by decide
  rw [this, ← Nat.shiftLeft_add_eq_or_of_lt (by simpa using h)]
  simp [Nat.shiftLeft_eq]

theorem msgHeader_eq (typ : Int) : msgHeader typ = 0x80010000 + msgType16 typ := by
  unfold msgHeader msgType16
  rw [and_typeMask, or_version _ (Nat.mod_lt _ (by decide))]
  simp [ofInt]; omega

theorem msgType16_lt (typ : Int) : msgType16 typ < 65536 := by
  unfold msgType16; omega

theorem and_verMask (w : Nat) (h : w < 4294967296) : w &&& Facts.msgVersionMask = w / 65536 * 65536 := by
  have hd : (w &&& Facts.msgVersionMask) / 2^16 = w / 65536 := by
    rw [Nat.and_div_two_pow]
    have : Facts.msgVersionMask / 2^16 = 2^16 - 1 := by decide
    rw [this, Nat.and_two_pow_sub_one_eq_mod]
    omega
  have hm : (w &&& Facts.msgVersionMask) % 2^16 = 0 := by
    rw [Nat.and_mod_two_pow]
    have : Facts.msgVersionMask % 2^16 = 0 := by decide
    rw [this]; simp
  omega

/-- the version test of both readers, in arithmetic -/
theorem ver_test (w : Nat) (h : w < 4294967296) :
    (w &&& Facts.msgVersionMask ≠ Facts.msgVersion1) ↔ w / 65536 ≠ 0x8001 := by
  rw [and_verMask w h]
  have : Facts.msgVersion1 = 2147549184 := by decide
  rw [this]; omega

/-! ## in-place writers -/

theorem tstop : T_STOP = 0 := by decide

/-- `enc` in the vocabulary of the model (Base's big-endian codecs, `ofInt`) -/
def encM : Val → Bytes
  | .bool b => [if b then 1 else 0]
  | .i8 v => [UInt8.ofNat (ofInt 8 v)]
  | .i16 v => be16 (ofInt 16 v)
  | .i32 v => be32 (ofInt 32 v)
  | .i64 v => be64 (ofInt 64 v)
  | .double bits => be64 bits
  | .binary s => be32 s.length ++ s
  | .str s => be32 s.length ++ s
  | .fieldBegin t id => t :: be16 (ofInt 16 id)
  | .fieldStop => [0]
  | .mapBegin kt vt n => kt :: vt :: be32 n
  | .listBegin et n => et :: be32 n
  | .setBegin et n => et :: be32 n
  | .messageBegin name typ seq => be32 (msgHeader typ) ++ be32 name.length ++ name ++ be32 (ofInt 32 seq)

theorem enc_eq_encM (v : Val) (ha : v.args) : enc v = encM v := by
  cases v <;> simp only [Val.args] at ha <;>
    simp [enc, encM, byte_eq, u16_eq, u32_eq, u64_eq, msgHeader_eq]
  case i8 v => rw [twos8 v ha]
  case i16 v => rw [twos16 v ha]
  case i32 v => rw [twos32 v ha]
  case i64 v => rw [twos64 v ha]
  case fieldBegin t id => rw [twos16 id ha]
  case messageBegin n t s => rw [twos32 s ha.2]

theorem encM_length (v : Val) : (encM v).length = Wire.length v := by
  cases v
  case binary s => exact List.length_append (as := be32 s.length) (bs := s)
  case str s => exact List.length_append (as := be32 s.length) (bs := s)
  case messageBegin name typ seq =>
    simp only [Wire.length, lenMessageBegin, encM, List.length_append, be32_length]
    omega
  all_goals rfl

theorem wBinary_ok (buf : Bytes) (off : Nat) (v : Bytes) (h : off + (4 + v.length) ≤ buf.length) :
    wBinary buf off v = .ok (putAt buf off (be32 v.length ++ v), 4 + v.length) := by
  simp only [wBinary, Out.bind_eq, Out.pure_eq, putU32_ok buf off _ (show off + 4 ≤ buf.length by omega), Out.bind_ok,
    copyAt_run buf off (be32 v.length) (off + 4) v rfl (show off + 4 + v.length ≤ buf.length by omega)]

theorem wFieldBegin_ok (buf : Bytes) (off : Nat) (t : UInt8) (id : Int) (h : off + 3 ≤ buf.length) :
    wFieldBegin buf off t id = .ok (putAt buf off (t :: be16 (ofInt 16 id)), 3) := by
  simp only [wFieldBegin, Out.bind_eq, Out.pure_eq, setB_ok buf off t (show off < buf.length by omega), Out.bind_ok,
    putU16_run buf off [t] (off + 1) _ rfl (by simpa using h), List.cons_append, List.nil_append]

theorem wMapBegin_ok (buf : Bytes) (off : Nat) (kt vt : UInt8) (size : Int) (h : off + 6 ≤ buf.length) :
    wMapBegin buf off kt vt size = .ok (putAt buf off (kt :: vt :: be32 (ofInt 32 size)), 6) := by
  simp only [wMapBegin, Out.bind_eq, Out.pure_eq, setB_ok buf off kt (show off < buf.length by omega), Out.bind_ok,
    setB_run buf off [kt] 1 vt rfl (show off + 1 < buf.length by omega),
    putU32_run buf off [kt, vt] (off + 2) _ rfl (by simpa using h), List.cons_append, List.nil_append]

/-- WriteListBegin and WriteSetBegin -/
theorem wListBegin_ok (buf : Bytes) (off : Nat) (et : UInt8) (size : Int) (h : off + 5 ≤ buf.length) :
    wListBegin buf off et size = .ok (putAt buf off (et :: be32 (ofInt 32 size)), 5) := by
  simp only [wListBegin, Out.bind_eq, Out.pure_eq, setB_ok buf off et (show off < buf.length by omega), Out.bind_ok,
    putU32_run buf off [et] (off + 1) _ rfl (by simpa using h), List.cons_append, List.nil_append]

theorem wMessageBegin_ok (buf : Bytes) (off : Nat) (name : Bytes) (typ seq : Int)
    (h : off + (12 + name.length) ≤ buf.length) :
    wMessageBegin buf off name typ seq =
      .ok (putAt buf off (be32 (msgHeader typ) ++ be32 name.length ++ name ++ be32 (ofInt 32 seq)),
           12 + name.length) := by
  simp only [wMessageBegin, Out.bind_eq, Out.pure_eq, putU32_ok buf off _ (show off + 4 ≤ buf.length by omega),
    Out.bind_ok, putU32_run buf off (be32 (msgHeader typ)) (off + 4) name.length rfl (show off + 4 + 4 ≤ buf.length by omega),
    copyAt_run buf off (be32 (msgHeader typ) ++ be32 name.length) (off + 8) name rfl
      (show off + 8 + name.length ≤ buf.length by omega),
    putU32_run buf off (be32 (msgHeader typ) ++ be32 name.length ++ name) (off + (8 + name.length)) _
      (by simp; omega) (by simp; omega)]
  rw [show 8 + name.length + 4 = 12 + name.length by omega]

theorem be32_ofInt_nat (n : Nat) : be32 (ofInt 32 (n : Int)) = be32 n := by rw [ofInt32_nat, be32_mod]

theorem write_encM (buf : Bytes) (off : Nat) (v : Val) (h : off + (encM v).length ≤ buf.length) :
    write buf off v = .ok (putAt buf off (encM v), (encM v).length) := by
  cases v
  case bool b =>
    cases b <;> simp only [write, wBool, Out.bind_eq, Out.pure_eq, setB_ok buf off _ h] <;> rfl
  case i8 x => simp only [write, wByte, Out.bind_eq, Out.pure_eq, setB_ok buf off _ h, Out.bind_ok]; rfl
  case i16 x => simp only [write, wI16, Out.bind_eq, Out.pure_eq, putU16_ok buf off _ h, Out.bind_ok]; rfl
  case i32 x => simp only [write, wI32, Out.bind_eq, Out.pure_eq, putU32_ok buf off _ h, Out.bind_ok]; rfl
  case i64 x => simp only [write, wI64, Out.bind_eq, Out.pure_eq, putU64_ok buf off _ h, Out.bind_ok]; rfl
  case double x => simp only [write, wDouble, Out.bind_eq, Out.pure_eq, putU64_ok buf off _ h, Out.bind_ok]; rfl
  case binary x =>
    rw [write, wBinary_ok buf off x (by simpa only [encM, List.length_append, be32_length] using h)]
    simp only [encM, List.length_append, be32_length]
  case str x =>
    rw [write, wBinary_ok buf off x (by simpa only [encM, List.length_append, be32_length] using h)]
    simp only [encM, List.length_append, be32_length]
  case fieldBegin t id => rw [write, wFieldBegin_ok buf off t id h]; rfl
  case fieldStop =>
    simp only [write, wFieldStop, Out.bind_eq, Out.pure_eq, setB_ok buf off _ h, Out.bind_ok, tstop]; rfl
  case mapBegin kt vt n => rw [write, wMapBegin_ok buf off kt vt n h, be32_ofInt_nat]; rfl
  case listBegin et n => rw [write, wListBegin_ok buf off et n h, be32_ofInt_nat]; rfl
  case setBegin et n =>
    rw [write, show wSetBegin buf off et n = wListBegin buf off et n from rfl, wListBegin_ok buf off et n h,
      be32_ofInt_nat]
    rfl
  case messageBegin name typ seq =>
    simp only [encM, List.length_append, be32_length] at h
    rw [write, wMessageBegin_ok buf off name typ seq (by omega)]
    simp only [encM, List.length_append, be32_length]
    rw [show 4 + 4 + name.length + 4 = 12 + name.length by omega]

theorem write_step (buf : Bytes) (off : Nat) (a : Bytes) (v : Val) (k : Nat) (hk : k = off + a.length)
    (h : off + a.length + (encM v).length ≤ buf.length) :
    write (putAt buf off a) k v = .ok (putAt buf off (a ++ encM v), (encM v).length) := by
  subst hk
  rw [write_encM _ _ v (by rw [putAt_length _ _ _ (by omega)]; omega), putAt_putAt buf off a _ _ rfl h]

/-! ## appending writers -/

theorem aU32_eq (buf : Bytes) (n : Nat) : aU32 buf n = buf ++ be32 n := rfl
theorem aU64_eq (buf : Bytes) (n : Nat) : aU64 buf n = buf ++ be64 n := by
  simp [aU64, be64, be32, Nat.div_div_eq_div_mul]


theorem append_encM (buf : Bytes) (v : Val) : append buf v = buf ++ encM v := by
  cases v
  case bool b => cases b <;> simp [append, aBool, encM]
  case i8 x => simp [append, aByte, encM]
  case i16 x => simp [append, aI16, encM, be16]
  case i32 x => simp [append, aI32, aU32_eq, encM]
  case i64 x => simp [append, aI64, aU64_eq, encM]
  case double x => simp [append, aDouble, aU64_eq, encM]
  case binary x =>
    simp [append, aBinary, aI32, aU32_eq, encM, ofInt32_toI32 _ (Nat.mod_lt _ (by decide)), be32_mod]
  case str x =>
    simp [append, aBinary, aI32, aU32_eq, encM, ofInt32_toI32 _ (Nat.mod_lt _ (by decide)), be32_mod]
  case fieldBegin t id =>
    simp only [append, aFieldBegin, encM, be16, hiByte16]
  case fieldStop => simp [append, aFieldStop, encM, tstop]
  case mapBegin kt vt n =>
    simp [append, aMapBegin, aI32, aU32_eq, encM, ofInt32_nat, ofInt32_toI32 _ (Nat.mod_lt _ (by decide)), be32_mod]
  case listBegin et n =>
    simp [append, aListBegin, aI32, aU32_eq, encM, ofInt32_nat, ofInt32_toI32 _ (Nat.mod_lt _ (by decide)), be32_mod]
  case setBegin et n =>
    simp [append, aSetBegin, aI32, aU32_eq, encM, ofInt32_nat, ofInt32_toI32 _ (Nat.mod_lt _ (by decide)), be32_mod]
  case messageBegin name typ seq =>
    simp [append, aMessageBegin, aBinary, aI32, aU32_eq, encM, ofInt32_toI32 _ (Nat.mod_lt _ (by decide)), be32_mod]

/-! ## stream writers over the writer log -/

/-- what one stream write adds to the log -/
def itemsOf : Val → List WItem
  | .binary s => [.region (be32 s.length), .payload s]
  | .str s => [.region (be32 s.length), .payload s]
  | v => [.region (encM v)]

theorem itemsOf_bytes (v : Val) : ((itemsOf v).map WItem.bytes).flatten = encM v := by
  cases v
  case binary s => exact congrArg (be32 s.length ++ ·) (List.append_nil s)
  case str s => exact congrArg (be32 s.length ++ ·) (List.append_nil s)
  all_goals exact List.append_nil _

/-- Malloc on a healthy writer hands out a region of exactly n bytes -/
theorem wlMalloc_ok (w : WLog) (d : Nat → UInt8) (n : Nat) (h : w.err = none) :
    ∃ R : Bytes, R.length = n ∧ wlMalloc w (n : Int) d = .ok R := by
  exact ⟨(List.range n).map d, by simp, by simp [wlMalloc, h]⟩

theorem fill_ok (b : Bytes) : fill (.ok b) = .ok b := rfl

theorem bwFieldBegin_ok (w : WLog) (d : Nat → UInt8) (t : UInt8) (id : Int) (h : w.err = none) :
    bwFieldBegin w d t id = .ok (wlCommit w (t :: be16 (ofInt 16 id))) := by
  obtain ⟨R, hl, hm⟩ := wlMalloc_ok w d 3 h
  simp only [Int.cast_ofNat_Int] at hm
  simp only [bwFieldBegin, hm, Out.bind_eq, Out.bind_ok, Out.pure_eq, setB_ok R 0 t (show 0 < R.length by omega),
    fill_ok, setB_run R 0 [t] 1 _ rfl (show 0 + 1 < R.length by omega),
    setB_run R 0 [t, UInt8.ofNat (ofInt 16 (id / 256))] 2 _ rfl (show 0 + 2 < R.length by omega),
    List.cons_append, List.nil_append]
  rw [putAt_full _ _ (by simp; omega)]
  rw [hiByte16]; rfl

theorem bwMessageBegin_ok (w : WLog) (d : Nat → UInt8) (name : Bytes) (typ seq : Int) (h : w.err = none) :
    bwMessageBegin w d name typ seq =
      .ok (wlCommit w (be32 (msgHeader typ) ++ be32 name.length ++ name ++ be32 (ofInt 32 seq))) := by
  obtain ⟨R, hl, hm⟩ := wlMalloc_ok w d (lenMessageBegin name) h
  unfold lenMessageBegin at hl
  simp only [bwMessageBegin, hm, Out.bind_eq, Out.bind_ok, Out.pure_eq, putU32_ok R 0 _ (show 0 + 4 ≤ R.length by omega),
    fill_ok, putU32_run R 0 (be32 (msgHeader typ)) 4 name.length rfl (show 0 + 4 + 4 ≤ R.length by omega),
    copyAt_run R 0 (be32 (msgHeader typ) ++ be32 name.length) 8 name rfl
      (show 0 + 8 + name.length ≤ R.length by omega),
    putU32_run R 0 (be32 (msgHeader typ) ++ be32 name.length ++ name) (8 + name.length) _ (by simp; omega)
      (by simp; omega)]
  rw [putAt_full _ _ (by simp; omega)]

theorem bwBinary_ok (w : WLog) (d : Nat → UInt8) (v : Bytes) (h : w.err = none) :
    bwBinary w d v = .ok { w with items := w.items ++ [.region (be32 v.length), .payload v] } := by
  obtain ⟨R, hl, hm⟩ := wlMalloc_ok w d 4 h
  simp only [Int.cast_ofNat_Int] at hm
  simp only [bwBinary, hm, Out.bind_eq, Out.bind_ok, putU32_ok R 0 _ (by omega), fill_ok]
  rw [putAt_full _ _ (by simp; omega)]
  simp [wlWriteBinary, wlCommit, h]

theorem fill_bind (x : TOut Bytes) (f : Bytes → TOut Bytes) {β} (g : Bytes → WOut β) :
    (fill (x.bind f)).bind g = (fill x).bind fun a => (fill (f a)).bind g := by cases x <;> rfl

/-- the values whose stream writer Mallocs one region of `length v` bytes and fills it with the very
    stores of the in-place writer (the others: a string's payload goes to WriteBinary, FieldBegin stores
    the id byte by byte, MessageBegin has the name's offset as a constant) -/
def Val.oneRegion : Val → Prop
  | .binary _ | .str _ | .fieldBegin _ _ | .messageBegin _ _ _ => False
  | _ => True

theorem bwWrite_region (w : WLog) (d : Nat → UInt8) (v : Val) (hv : v.oneRegion) :
    bwWrite w d v = (wlMalloc w (Wire.length v : Nat) d).bind fun R =>
      (fill ((write R 0 v).bind fun r => .ok r.1)).bind fun b => .ok (wlCommit w b) := by
  cases v <;> simp only [Val.oneRegion] at hv
  all_goals simp only [bwWrite, bwBool, bwByte, bwI16, bwI32, bwI64, bwDouble, bwFieldStop, bwMapBegin,
    bwListBegin, bwSetBegin, write, wBool, wByte, wI16, wI32, wI64, wDouble, wFieldStop, wMapBegin, wListBegin,
    wSetBegin, Wire.length, Out.bind_eq, Out.pure_eq, Int.cast_ofNat_Int, Out.bind_assoc, Out.bind_ok, fill_bind,
    fill_ok, Nat.zero_add]

theorem bwWrite_region_ok (w : WLog) (d : Nat → UInt8) (v : Val) (hv : v.oneRegion) (h : w.err = none) :
    bwWrite w d v = .ok (wlCommit w (encM v)) := by
  obtain ⟨R, hl, hm⟩ := wlMalloc_ok w d (Wire.length v) h
  rw [bwWrite_region w d v hv, hm, Out.bind_ok, write_encM R 0 v (by rw [encM_length]; omega), Out.bind_ok,
    fill_ok, Out.bind_ok, putAt_full _ _ (by rw [encM_length, hl])]

/-- every stream writer, on a healthy writer, appends exactly the items of the value -/
theorem bwWrite_encM (w : WLog) (d : Nat → UInt8) (v : Val) (h : w.err = none) :
    bwWrite w d v = .ok { w with items := w.items ++ itemsOf v } := by
  cases v
  case binary x => simp [bwWrite, bwBinary_ok w d _ h, itemsOf]
  case str x => simp [bwWrite, bwBinary_ok w d _ h, itemsOf]
  case fieldBegin t id => simp [bwWrite, bwFieldBegin_ok w d _ _ h, wlCommit, itemsOf, encM]
  case messageBegin name typ seq => simp [bwWrite, bwMessageBegin_ok w d _ _ _ h, wlCommit, itemsOf, encM]
  all_goals exact bwWrite_region_ok w d _ trivial h

/-- a stream writer call on a writer with a sticky error returns that error and logs nothing -/
theorem bwWrite_failed (w : WLog) (d : Nat → UInt8) (v : Val) (e : RErr) (h : w.err = some e) :
    bwWrite w d v = .err e := by
  cases v <;> simp [bwWrite, bwBool, bwByte, bwI16, bwI32, bwI64, bwDouble, bwBinary, bwFieldBegin,
    bwFieldStop, bwMapBegin, bwListBegin, bwSetBegin, bwMessageBegin, wlMalloc, h]

/-- the round-trip domain lies inside the Go argument ranges -/
theorem wf_args (v : Val) (h : v.wf) : v.args := by
  cases v
  case fieldBegin t id => exact h.2
  case messageBegin n t s => exact ⟨⟨by have := h.2.1; omega, by have := h.2.2.1; omega⟩, h.2.2.2⟩
  case i8 | i16 | i32 | i64 | double => exact h
  all_goals trivial

end Verif.Wire
