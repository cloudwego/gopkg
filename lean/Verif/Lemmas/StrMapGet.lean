/-
  Lemmas/StrMapGet: the lookup structure of strmap.go in the abstract —
  first-index table (`fillFirst`) + scan-while-the-slot-matches (`scan`) over ANY slot-sorted item
  list finds exactly the first item whose key equals the probe, for every hash function.
-/
import Verif.Model.StrMap
namespace Verif.SMap
open Verif

variable {V : Type}

/-- index of the first item with slot `s` -/
def idxOf : List (Item V) → Nat → Option Nat
  | [], _ => none
  | e :: es, s => if e.slot = s then some 0 else (idxOf es s).map (· + 1)

/-- value of the first item whose key bytes equal `s` -/
def findKey (data : Bytes) : List (Item V) → Bytes → Option V
  | [], _ => none
  | e :: es, s => if keyAt data e = some s then some e.v else findKey data es s

/-- table entry for a slot: index of its first item, or -1 -/
def enc : Option Nat → Int
  | some j => (j : Int)
  | none => -1

theorem idxOf_none {l : List (Item V)} {s : Nat} (h : idxOf l s = none) : ∀ e ∈ l, e.slot ≠ s := by
  induction l with
  | nil => intro e he; cases he
  | cons a l ih =>
    unfold idxOf at h
    split at h
    · cases h
    · rename_i hne
      intro e he
      rcases List.mem_cons.mp he with rfl | he
      · exact hne
      · exact ih (by simpa using h) e he

theorem idxOf_some {l : List (Item V)} {s j : Nat} (h : idxOf l s = some j) :
    ∃ A e C, l = A ++ e :: C ∧ A.length = j ∧ e.slot = s ∧ ∀ a ∈ A, a.slot ≠ s := by
  induction l generalizing j with
  | nil => cases h
  | cons a l ih =>
    unfold idxOf at h
    split at h
    · rename_i heq
      injection h with h; subst h
      exact ⟨[], a, l, rfl, rfl, heq, by intro x hx; cases hx⟩
    · rename_i hne
      cases h2 : idxOf l s with
      | none => rw [h2] at h; cases h
      | some j' =>
        rw [h2] at h; simp at h; subst h
        obtain ⟨A, e, C, hl, hA, he, hall⟩ := ih h2
        refine ⟨a :: A, e, C, by rw [hl]; rfl, by simp [hA], he, ?_⟩
        intro x hx
        rcases List.mem_cons.mp hx with rfl | hx
        · exact hne
        · exact hall x hx

theorem findKey_append_none {data : Bytes} {A B : List (Item V)} {s : Bytes}
    (h : ∀ a ∈ A, keyAt data a ≠ some s) : findKey data (A ++ B) s = findKey data B s := by
  induction A with
  | nil => rfl
  | cons a A ih =>
    have h1 : keyAt data a ≠ some s := h a (List.mem_cons_self)
    have h2 : ∀ x ∈ A, keyAt data x ≠ some s := fun x hx => h x (List.mem_cons_of_mem _ hx)
    simp only [List.cons_append, findKey, h1, if_false]
    exact ih h2

theorem findKey_none {data : Bytes} {A : List (Item V)} {s : Bytes}
    (h : ∀ a ∈ A, keyAt data a ≠ some s) : findKey data A s = none := by
  have := findKey_append_none (B := []) h
  simpa [findKey] using this

/-! ## fillFirst -/

theorem toI32_small {i : Nat} (h : i < 2147483648) : toI32 (i % two32) = (i : Int) := by
  have : i % two32 = i := Nat.mod_eq_of_lt (by unfold two32; omega)
  rw [this]; unfold toI32; simp [h]

/-- what the loop over `es` (indexes from `i`) leaves in a cell that held `x`: a negative cell gets the index of the
    first item of its slot, if there is one -/
def cellAfter (x : Int) (i : Nat) (o : Option Nat) : Int :=
  if x < 0 then (o.map fun j => ((i + j : Nat) : Int)).getD x else x

theorem cellAfter_here {x : Int} (hx : x < 0) (i : Nat) : cellAfter x i (some 0) = (i : Int) := by
  simp [cellAfter, hx]

theorem cellAfter_succ (x : Int) (i : Nat) (o : Option Nat) :
    cellAfter x i (o.map (· + 1)) = cellAfter x (i + 1) o := by
  cases o with
  | none => rfl
  | some j => simp only [cellAfter, Option.map_some, Option.getD_some, Nat.add_assoc, Nat.add_comm 1 j]

theorem cellAfter_nonneg {x : Int} (hx : ¬ x < 0) (i : Nat) (o : Option Nat) : cellAfter x i o = x := by
  simp only [cellAfter, hx, if_false]

/-- the second loop of makeHashtable: a cell that was negative gets the index of the first item of
    its slot (if any), any other cell is left alone; no index panic when every slot is in range -/
theorem fillFirst_spec (es : List (Item V)) (i : Nat) (ht : Array Int)
    (hslot : ∀ e ∈ es, e.slot < ht.size) (hlen : i + es.length ≤ 2147483648) :
    ∃ ht', fillFirst es i ht = .ok ht' ∧ ht'.size = ht.size ∧
      ∀ s x, ht[s]? = some x → ht'[s]? = some (cellAfter x i (idxOf es s)) := by
  induction es generalizing i ht with
  | nil =>
    refine ⟨ht, rfl, rfl, ?_⟩
    intro s x hx
    simp [idxOf, hx, cellAfter]
  | cons e es ih =>
    have he : e.slot < ht.size := hslot e List.mem_cons_self
    have hes : ∀ x ∈ es, x.slot < ht.size := fun x hx => hslot x (List.mem_cons_of_mem _ hx)
    have hget : ht[e.slot]? = some ht[e.slot] := Array.getElem?_eq_getElem he
    simp only [List.length_cons] at hlen
    -- a cell of another slot sees the rest of the loop only
    have hother : ∀ s x, e.slot ≠ s → cellAfter x i (idxOf (e :: es) s) = cellAfter x (i + 1) (idxOf es s) := by
      intro s x hs
      simp only [idxOf, hs, if_false, cellAfter_succ]
    unfold fillFirst
    rw [hget]
    simp only
    by_cases hneg : ht[e.slot] < 0
    · simp only [hneg, if_true, toI32_small (show i < 2147483648 by omega)]
      have hsz : (ht.setIfInBounds e.slot (i : Int)).size = ht.size := Array.size_setIfInBounds
      obtain ⟨ht', hrun, hsize, hspec⟩ := ih (i + 1) (ht.setIfInBounds e.slot (i : Int))
        (by rw [hsz]; exact hes) (by omega)
      refine ⟨ht', hrun, by rw [hsize, hsz], ?_⟩
      intro s x hx
      by_cases hs : e.slot = s
      · subst hs
        have h1 : (ht.setIfInBounds e.slot (i : Int))[e.slot]? = some (i : Int) := by
          rw [Array.getElem?_setIfInBounds]; simp [he]
        rw [hget] at hx; injection hx with hx; subst hx
        rw [hspec _ _ h1, cellAfter_nonneg (by omega)]
        simp only [idxOf, if_true, cellAfter_here hneg]
      · have h1 : (ht.setIfInBounds e.slot (i : Int))[s]? = some x := by
          rw [Array.getElem?_setIfInBounds]; simp [hs, hx]
        rw [hspec _ _ h1, hother s x hs]
    · simp only [hneg, if_false]
      obtain ⟨ht', hrun, hsize, hspec⟩ := ih (i + 1) ht hes (by omega)
      refine ⟨ht', hrun, hsize, ?_⟩
      intro s x hx
      rw [hspec _ _ hx]
      by_cases hs : e.slot = s
      · subst hs
        rw [hget] at hx; injection hx with hx; subst hx
        rw [cellAfter_nonneg hneg, cellAfter_nonneg hneg]
      · rw [hother s x hs]

/-- after the reset loop (every cell -1) the table holds exactly the first index per slot -/
theorem fillFirst_fresh (es : List (Item V)) (n : Nat)
    (hslot : ∀ e ∈ es, e.slot < n) (hlen : es.length ≤ 2147483648) :
    ∃ ht', fillFirst es 0 (Array.replicate n (-1 : Int)) = .ok ht' ∧ ht'.size = n ∧
      ∀ s, s < n → ht'[s]? = some (enc (idxOf es s)) := by
  obtain ⟨ht', hrun, hsize, hspec⟩ := fillFirst_spec es 0 (Array.replicate n (-1 : Int))
    (by simpa using hslot) (by omega)
  refine ⟨ht', hrun, by simpa using hsize, ?_⟩
  intro s hs
  have h1 : (Array.replicate n (-1 : Int))[s]? = some (-1) := by
    rw [Array.getElem?_replicate]; simp [hs]
  rw [hspec _ _ h1]
  cases idxOf es s <;> simp [enc, cellAfter]

/-! ## scan and Get -/

/-- key/slot consistency of an item list: every item's key bytes are readable and its slot is the
    reduced hash of those bytes -/
def Consistent (h : Bytes → Nat) (slots : Nat) (data : Bytes) (l : List (Item V)) : Prop :=
  ∀ e ∈ l, ∃ k, keyAt data e = some k ∧ e.slot = h k % two32 % slots

theorem Consistent.slot_of_key {h : Bytes → Nat} {slots : Nat} {data : Bytes} {l : List (Item V)}
    (hc : Consistent h slots data l) {a : Item V} (ha : a ∈ l) {s : Bytes} (heq : keyAt data a = some s) :
    a.slot = h s % two32 % slots := by
  obtain ⟨k, hk, hs⟩ := hc a ha
  rw [hk] at heq
  exact Option.some.inj heq ▸ hs

theorem scan_ne (data : Bytes) {e : Item V} (es : List (Item V)) {slot : Nat} (s : Bytes) (h : e.slot ≠ slot) :
    scan data (e :: es) slot s = .ok none := by
  simp only [scan, h, ne_eq, not_false_eq_true, if_true]

theorem scan_slice (data : Bytes) {e : Item V} (es : List (Item V)) {slot : Nat} (s : Bytes) (h : e.slot = slot)
    (hk : keyAt data e = none) : scan data (e :: es) slot s = .panic "slice" := by
  simp only [scan, h, ne_eq, not_true_eq_false, if_false, hk]

theorem scan_key (data : Bytes) {e : Item V} (es : List (Item V)) {slot : Nat} (s : Bytes) {k : Bytes} (h : e.slot = slot)
    (hk : keyAt data e = some k) :
    scan data (e :: es) slot s = if k = s then .ok (some e.v) else scan data es slot s := by
  simp only [scan, h, ne_eq, not_true_eq_false, if_false, hk]

theorem scan_spec (h : Bytes → Nat) (slots : Nat) (data : Bytes) (s : Bytes) (C : List (Item V))
    (hsorted : C.Pairwise (fun a b => a.slot ≤ b.slot))
    (hge : ∀ c ∈ C, h s % two32 % slots ≤ c.slot)
    (hcons : Consistent h slots data C) :
    scan data C (h s % two32 % slots) s = .ok (findKey data C s) := by
  induction C with
  | nil => rfl
  | cons c C ih =>
    rw [List.pairwise_cons] at hsorted
    obtain ⟨hc, hsorted⟩ := hsorted
    obtain ⟨k, hk, hslot⟩ := hcons c List.mem_cons_self
    have hcons' : Consistent h slots data C := fun e he => hcons e (List.mem_cons_of_mem _ he)
    by_cases hne : c.slot ≠ h s % two32 % slots
    · rw [scan_ne data C s hne]
      -- every item from here on has a larger slot, hence a different key
      have hgt : h s % two32 % slots < c.slot := by
        have := hge c List.mem_cons_self; omega
      have hnone : ∀ a ∈ c :: C, keyAt data a ≠ some s := by
        intro a ha heq
        have hs' := hcons.slot_of_key ha heq
        rcases List.mem_cons.mp ha with rfl | ha
        · omega
        · have := hc a ha; omega
      rw [findKey_none hnone]
    · have heq : c.slot = h s % two32 % slots := by omega
      rw [scan_key data C s heq hk]
      by_cases hks : k = s
      · subst hks; simp [findKey, hk]
      · have : keyAt data c ≠ some s := by rw [hk]; intro h'; injection h' with h'; exact hks h'
        simp only [hks, if_false, findKey, this]
        apply ih hsorted _ hcons'
        intro a ha
        have := hc a ha; omega

/-- Get on any state whose table is the first-index table of a slot-sorted consistent item list -/
theorem get_spec (h : Bytes → Nat) (m : StrMap V) (s : Bytes)
    (hpos : 0 < m.ht.size) (hlt : m.ht.size < two32)
    (htab : ∀ t, t < m.ht.size → m.ht[t]? = some (enc (idxOf m.items t)))
    (hsorted : m.items.Pairwise (fun a b => a.slot ≤ b.slot))
    (hcons : Consistent h m.ht.size m.data m.items)
    (hlen : m.items.length < 2147483648) :
    get h m s = .ok (findKey m.data m.items s) := by
  have hmod : m.ht.size % two32 = m.ht.size := Nat.mod_eq_of_lt hlt
  have hslotlt : h s % two32 % m.ht.size < m.ht.size := Nat.mod_lt _ hpos
  unfold get
  have h0 : ¬ (m.ht.size = 0) := by omega
  simp only [h0, if_false, hmod]
  rw [htab _ hslotlt]
  simp only
  cases hidx : idxOf m.items (h s % two32 % m.ht.size) with
  | none =>
    simp only [enc]
    have hnone : ∀ a ∈ m.items, keyAt m.data a ≠ some s :=
      fun a ha heq => idxOf_none hidx a ha (hcons.slot_of_key ha heq)
    rw [findKey_none hnone]
    simp
  | some j =>
    obtain ⟨A, e, C, hl, hA, he, hall⟩ := idxOf_some hidx
    have hAnone : ∀ a ∈ A, keyAt m.data a ≠ some s := fun a ha heq =>
      hall a ha (hcons.slot_of_key (by rw [hl]; exact List.mem_append_left _ ha) heq)
    have hfk : findKey m.data m.items s = findKey m.data (e :: C) s := by
      rw [hl]; exact findKey_append_none hAnone
    have hitem : m.items[j]? = some e := by
      rw [hl, ← hA]; simp
    have hlim : toI32 (m.items.length % two32) = (m.items.length : Int) := toI32_small hlen
    have hdrop : (m.items.take m.items.length).drop (j + 1) = C := by
      rw [List.take_length, hl, ← hA]; simp
    have hsortedEC : (e :: C).Pairwise (fun a b => a.slot ≤ b.slot) := by
      rw [hl] at hsorted; exact (List.pairwise_append.mp hsorted).2.1
    have hconsEC : Consistent h m.ht.size m.data (e :: C) := by
      intro x hx; apply hcons; rw [hl]; exact List.mem_append_right _ hx
    have hgeEC : ∀ c ∈ e :: C, h s % two32 % m.ht.size ≤ c.slot := by
      intro c hc
      rcases List.mem_cons.mp hc with rfl | hc
      · omega
      · have := (List.pairwise_cons.mp hsortedEC).1 c hc; omega
    have hscan := scan_spec h m.ht.size m.data s (e :: C) hsortedEC hgeEC hconsEC
    rw [hfk, ← hscan]
    have hj : ¬ ((j : Int) < 0) := by omega
    obtain ⟨k, hk, _⟩ := hconsEC e List.mem_cons_self
    simp only [enc, hj, if_false, Int.toNat_natCast, hitem, hlim, hdrop, hk, scan_key m.data C s he hk]

end Verif.SMap
