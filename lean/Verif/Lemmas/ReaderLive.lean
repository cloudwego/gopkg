/-
  Lemmas/ReaderLive: liveness of the reader model, exact characterisation: the read loop gets its
  `n` bytes iff the script delivers `Enough`; so `acquire` and the operations succeed iff `canServe`.
-/
import Verif.Lemmas.ReaderOps
namespace Verif

theorem enough_zeros_ge (M : Nat) (s : List Resp) (need z slen : Nat) (h : z ≥ M) :
    Enough M s need z slen = false := by
  cases s <;> simp [Enough, h]

/-- `Enough` as the reader sees it: with `room` for at least the need, the bytes one read hands over
    (`d`) decide the same way as the script's own `min k need slen` -/
theorem enough_cons (M : Nat) (x : Resp) (rest : List Resp) (need i slen room d : Nat)
    (hroom : need ≤ room) (hd : d = min (min x.k room) slen) :
    Enough M (x :: rest) need i slen =
      if i ≥ M then false else if need ≤ d then true else if x.err.isSome then false
      else Enough M rest (need - d) (if d > 0 then 0 else i + 1) (slen - d) := by
  rw [Enough]
  by_cases hge : need ≤ d
  · have : min (min x.k need) slen ≥ need := by omega
    simp only [this, hge, if_true]
  · have e : min (min x.k need) slen = d := by omega
    simp only [e, ge_iff_le, hge]

theorem readLoop_enough {M need room i : Nat} {s s' : Src} {ok : Bool} {e : Option RErr}
    (h : Pull M need room i s s' ok e) (h0 : 0 < need) (hroom : need ≤ room) :
    ok = Enough M s.script need i s.stream.length := by
  induction h with
  | stall hi => rw [enough_zeros_ge _ _ _ _ _ hi]
  | eof hi hs => rw [hs]; rfl
  | @err need _ _ _ _ _ d _ hi hs hd he =>
    rw [hs, enough_cons M _ _ _ _ _ _ _ hroom hd, if_neg (by omega), he]
    by_cases hge : need ≤ d <;> simp [hge]
  | done hi hs hd he hge => rw [hs, enough_cons M _ _ _ _ _ _ _ hroom hd, if_neg (by omega), if_pos hge]
  | more hi hs hd he hlt _ ih =>
    rw [hs, enough_cons M _ _ _ _ _ _ _ hroom hd, if_neg (by omega), if_neg (by omega), he]
    have := ih (by omega) (by omega)
    simpa only [List.length_drop, Option.isSome_none, Bool.false_eq_true, if_false] using this

/-- can `n` bytes be served?  buffered already, or (no sticky error and) the script delivers the
    missing ones before its first error / before too many empty reads -/
def Rd.canServe (r : Rd) (n : Nat) : Bool :=
  n ≤ r.buf.length - r.ri ||
  (r.err.isNone && Enough Facts.maxConsecutiveEmptyReads r.src.script
      (n - (r.buf.length - r.ri)) 0 r.src.stream.length)

theorem canServe_of_enough (r : Rd) (n : Nat) (hn : n ≤ r.remaining.length)
    (h : ∀ need, 0 < need → need ≤ n → need ≤ r.src.stream.length →
      r.err = none ∧ Enough Facts.maxConsecutiveEmptyReads r.src.script need 0 r.src.stream.length = true) :
    r.canServe n = true := by
  rw [remaining_length r] at hn
  unfold Rd.canServe
  simp only [Bool.or_eq_true, decide_eq_true_eq, Bool.and_eq_true]
  by_cases hfast : n ≤ r.buf.length - r.ri
  · exact Or.inl hfast
  · obtain ⟨he, hen⟩ := h (n - (r.buf.length - r.ri)) (by omega) (by omega) (by omega)
    exact Or.inr ⟨by rw [he]; rfl, hen⟩

theorem acquire_live (r : Rd) (n m : Nat) (r' : Rd) (hinv : Inv r) (hs : r.Small n)
    (h : r.acquire n = some (m, r')) : (n ≤ m ↔ r.canServe n = true) := by
  unfold Rd.canServe
  rcases acquire_cases r n m r' hinv hs h with
    ⟨_, ⟨hfast, hm⟩ | ⟨hslow, herr, hm⟩⟩ | ⟨hslow, hnone, _, _, hroom, hp⟩
  · simp [hfast, hm]
  · cases he : r.err with
    | none => exact absurd he herr
    | some e => simp [hslow]; omega
  · rw [← readLoop_enough hp (by omega) hroom]
    simp [hslow, hnone]

theorem nps_live (ok : Rd → Nat → RdRes × Rd) (hok : ∀ r k, ∃ b, (ok r k).1 = .ok b)
    (r : Rd) (n : Int) (hinv : Inv r) (hs : r.Small n.toNat) (hn : 0 ≤ n) :
    (∃ b, (Rd.nps ok r n).1 = .ok b) ↔ r.canServe n.toNat = true := by
  rcases nps_cases ok r n hinv hs with ⟨hneg, _⟩ | ⟨_, m, r1, hacq, _, hc⟩
  · omega
  · rw [← acquire_live r _ m r1 hinv hs hacq]
    rcases hc with ⟨hgt, he⟩ | ⟨hge, he⟩
    · rw [he]; simp; omega
    · rw [he]; exact ⟨fun _ => by omega, fun _ => hok r1 _⟩

theorem next_live (r : Rd) (n : Int) (hinv : Inv r) (hs : r.Small n.toNat) (hn : 0 ≤ n) :
    (∃ b, (r.next n).1 = .ok b) ↔ r.canServe n.toNat = true :=
  nps_live Rd.nextOk (fun _ _ => ⟨_, rfl⟩) r n hinv hs hn

theorem peek_live (r : Rd) (n : Int) (hinv : Inv r) (hs : r.Small n.toNat) (hn : 0 ≤ n) :
    (∃ b, (r.peek n).1 = .ok b) ↔ r.canServe n.toNat = true :=
  nps_live Rd.peekOk (fun _ _ => ⟨_, rfl⟩) r n hinv hs hn

theorem skip_live (r : Rd) (n : Int) (hinv : Inv r) (hs : r.Small n.toNat) (hn : 0 ≤ n) :
    (∃ b, (r.skip n).1 = .ok b) ↔ r.canServe n.toNat = true :=
  nps_live Rd.skipOk (fun _ _ => ⟨_, rfl⟩) r n hinv hs hn

/-- ReadBinary fills the whole of `bs` exactly when `canServe` says so -/
theorem readBinary_live (r : Rd) (k : Nat) (hinv : Inv r) (hs : r.Small k) :
    (∃ b e, (r.readBinary k).1 = some (b, k, e)) ↔ r.canServe k = true := by
  obtain ⟨m, r1, hacq, _, he⟩ := readBinary_cases r k hinv hs
  rw [← acquire_live r _ m r1 hinv hs hacq, he]
  simp; omega

end Verif
