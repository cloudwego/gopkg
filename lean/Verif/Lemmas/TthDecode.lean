/-
  Lemmas/TthDecode: the model's Decode as a whole.
    decodeMeta_eq / decodeInfo_eq   the two halves of Decode on slices of the right length (no panic)
    decodeCur_chain                 Decode over the plain cursor as a chain of checks on the input
    decodeCur_spec                  … which is exactly the reference validity check of Spec/Frame
    decodeBytes_eq_cur              Decode(NewBytesReader(b)) = Decode over the plain cursor (result, ReadLen)
-/
import Verif.Lemmas.TthDec
import Verif.Lemmas.Reader
namespace Verif.TTH
open Verif.Frame (Sec takeStr2 refStrKVs refIntKVs refSecs refValid declared sizeField totalLen numTransforms supported)

theorem and_mask (x : Nat) : x &&& 4294901760 = x / 65536 % 65536 * 65536 := by
  rw [← Nat.div_add_mod (x &&& 4294901760) (2 ^ 16), Nat.and_div_two_pow, Nat.and_mod_two_pow]
  show 65536 * (x / 65536 &&& 2 ^ 16 - 1) + (x % 65536 &&& 0) = _
  rw [Nat.and_two_pow_sub_one_eq_mod, Nat.and_zero, Nat.add_zero, Nat.mul_comm]

theorem rd32_split (l : Bytes) (h : 4 ≤ l.length) : rd32 l = rd16 l * 65536 + rd16 (l.drop 2) := by
  rcases l with _ | ⟨a, _ | ⟨c, _ | ⟨d, _ | ⟨e, r⟩⟩⟩⟩
  · cases h
  · exact absurd h (of_decide_eq_false rfl)
  · exact absurd h (of_decide_eq_false rfl)
  · exact absurd h (of_decide_eq_false rfl)
  · show a.toNat * 16777216 + c.toNat * 65536 + d.toNat * 256 + e.toNat
      = (a.toNat * 256 + c.toNat) * 65536 + (d.toNat * 256 + e.toNat)
    rw [Nat.add_mul, Nat.mul_assoc, Nat.add_assoc (_ + _)]

/-- the magic test of IsTTHeader reads the first two of the four bytes -/
theorem magic_iff (l : Bytes) (h : 4 ≤ l.length) :
    (rd32 l &&& Facts.ttMagicMask = Facts.ttMagic) ↔ rd16 l = 0x1000 := by
  have hd : rd32 l / 65536 % 65536 = rd16 l := by
    rw [rd32_split l h, Nat.mul_comm, Nat.mul_add_div (by decide), Nat.div_eq_of_lt (rd16_lt _), Nat.add_zero,
      Nat.mod_eq_of_lt (rd16_lt l)]
  rw [show Facts.ttMagicMask = 4294901760 from rfl, and_mask, hd]
  show rd16 l * 65536 = 4096 * 65536 ↔ _
  exact Nat.mul_left_inj (by decide)

theorem rd16_take (l : Bytes) (k : Nat) (h : 2 ≤ k) : rd16 (l.take k) = rd16 l := by
  obtain ⟨k, rfl⟩ := Nat.exists_eq_add_of_le' h
  rcases l with _ | ⟨a, _ | ⟨c, r⟩⟩ <;> rfl

theorem rd8_take (l : Bytes) (k : Nat) (h : 1 ≤ k) : rd8 (l.take k) = rd8 l := by
  obtain ⟨k, rfl⟩ := Nat.exists_eq_add_of_le' h
  cases l <;> rfl

theorem sliceFrom_ok (b : Bytes) (lo : Nat) (h : lo ≤ b.length) : sliceFrom b lo = .ok (b.drop lo) := by
  unfold sliceFrom; rw [if_neg (Nat.not_lt.mpr h)]

theorem slice_ok (b : Bytes) (lo hi : Nat) (h : hi ≤ b.length) (h' : lo ≤ hi) :
    slice b lo hi = .ok ((b.drop lo).take (hi - lo)) := by
  unfold slice; rw [if_neg (Nat.not_lt.mpr h), if_neg (Nat.not_lt.mpr h')]

theorem beU16_ok (b : Bytes) (h : 2 ≤ b.length) : beU16 b = .ok (rd16 b) := by
  unfold beU16; rw [if_neg (Nat.not_lt.mpr h)]

theorem beU32_ok (b : Bytes) (h : 4 ≤ b.length) : beU32 b = .ok (rd32 b) := by
  unfold beU32; rw [if_neg (Nat.not_lt.mpr h)]

/-- Decode between the two Next calls, on a 14-byte slice -/
theorem decodeMeta_eq (hm : Bytes) (h : hm.length = 14) :
    decodeMeta hm =
      if rd16 (hm.drop 4) ≠ 0x1000 then .err .notTTHeader
      else if 4 * rd16 (hm.drop 12) > 65536 ∨ 4 * rd16 (hm.drop 12) < 2 then .err .badSize
      else .ok { total := rd32 hm, flags := rd16 (hm.drop 6), seq := toI32 (rd32 (hm.drop 8)),
                 size := 4 * rd16 (hm.drop 12) } := by
  have hle (k : Nat) (hk : k ≤ 14) : k ≤ hm.length := h ▸ hk
  have hd (lo n : Nat) (hn : lo + n ≤ 14) : n ≤ (hm.drop lo).length := by
    rw [List.length_drop, h]; exact Nat.le_sub_of_add_le' hn
  have ht (lo n : Nat) (hn : lo + n ≤ 14) : n ≤ ((hm.drop lo).take n).length := by
    rw [List.length_take]; exact Nat.le_min.mpr ⟨Nat.le_refl n, hd lo n hn⟩
  have hmag := magic_iff (hm.drop 4) (hd 4 4 (by decide))
  have e4 : rd16 (hm.drop 12) * 4 % 4294967296 = 4 * rd16 (hm.drop 12) := by
    rw [Nat.mul_comm]
    exact Nat.mod_eq_of_lt (Nat.lt_trans (Nat.mul_lt_mul_of_pos_left (rd16_lt _) (by decide)) (by decide))
  unfold decodeMeta isTTHeader
  simp only [Facts.ttSize32, Facts.ttSize16, Facts.ttMetaSize, Facts.ttMaxHeaderSize, Facts.ttHeaderSizeBits,
    Nat.reduceMul, Nat.reducePow, Nat.reduceSub,
    sliceFrom_ok hm 4 (hle 4 (by decide)), sliceFrom_ok hm 6 (hle 6 (by decide)),
    slice_ok hm 0 4 (hle 4 (by decide)) (by decide), slice_ok hm 8 12 (hle 12 (by decide)) (by decide),
    slice_ok hm 12 14 (hle 14 (by decide)) (by decide), Out.bind_ok,
    beU32_ok _ (hd 4 4 (by decide)), beU16_ok _ (hd 6 2 (by decide)), beU32_ok (hm.take 4) (ht 0 4 (by decide)),
    beU32_ok _ (ht 8 4 (by decide)), beU16_ok _ (ht 12 2 (by decide)),
    rd32_take _ 4 (Nat.le_refl 4), rd16_take _ 2 (Nat.le_refl 2), List.drop_zero, e4]
  by_cases hm1 : rd16 (hm.drop 4) = 0x1000
  · rw [if_neg (not_not_intro hm1), decide_eq_true (hmag.mpr hm1)]
    rfl
  · rw [if_pos hm1, decide_eq_false (fun hh => hm1 (hmag.mp hh))]
    rfl

theorem transformLoop_ok (info : Bytes) : ∀ (n hd : Nat), hd + n ≤ info.length →
    transformLoop info n hd = .ok (hd + n) := by
  intro n
  induction n with
  | zero => intro hd _; simp [transformLoop]
  | succ n ih =>
    intro hd h
    have hlt : hd < info.length := Nat.lt_of_lt_of_le (Nat.lt_add_of_pos_right n.succ_pos) h
    simp only [transformLoop, index, List.getElem?_eq_getElem hlt, Out.bind_ok]
    rw [ih (hd + 1) (Nat.add_right_comm hd 1 n ▸ h), Nat.add_right_comm]
    rfl

theorem ite_rel {α β : Type} {R : α → β → Prop} {c : Prop} [Decidable c] {a a' : α} {x x' : β}
    (h : R a x) (h' : ¬ c → R a' x') : R (if c then a else a') (if c then x else x') := by
  by_cases hc : c
  · rw [if_pos hc, if_pos hc]; exact h
  · rw [if_neg hc, if_neg hc]; exact h' hc

/-- the allow-list of the source (Tie A, a list of Go ints) is the documented list -/
theorem checkProtocolID_eq : ∀ p, p < 256 → checkProtocolID p = supported.contains p := by
  intro p _
  have hl : Facts.ttProtocolAllow = supported.map Int.ofNat := rfl
  rw [Bool.eq_iff_iff, checkProtocolID, hl, List.contains_iff_mem, List.contains_iff_mem, List.mem_map]
  exact ⟨fun ⟨a, ha, e⟩ => Int.ofNat.inj e ▸ ha, fun h => ⟨p, h, rfl⟩⟩

/-- Decode after the second Next, on a slice of exactly the declared size -/
theorem decodeInfo_eq (m : Meta) (info : Bytes) (hl : info.length = m.size) (h2 : 2 ≤ m.size)
    (hs : m.size ≤ 65536) :
    decodeInfo m info =
      if ¬ supported.contains (rd8 info) then .err .protocol
      else if m.size - 2 < rd8 (info.drop 1) then .err .transforms
      else (readKVInfo info (info.length + 1) (2 + rd8 (info.drop 1)) ⟨none, none⟩).bind fun maps =>
        .ok { flags := m.flags, seq := m.seq, proto := rd8 info, intKV := maps.int, strKV := maps.str,
              headerLen := (m.size : Int) + 14,
              payloadLen := (m.total : Int) + 4 - ((m.size : Int) + 14) } := by
  match info, hl with
  | [], hl => exact absurd h2 (hl ▸ Nat.not_succ_le_zero 1)
  | [_], hl => exact absurd h2 (hl ▸ Nat.not_succ_le_self 1)
  | p0 :: tn :: rest, hl =>
    have hcast : (m.size : Int) - 2 < (tn.toNat : Int) ↔ m.size - 2 < tn.toNat :=
      Int.ofNat_sub h2 ▸ Int.ofNat_lt
    unfold decodeInfo
    simp only [index, List.getElem?_cons_zero, List.getElem?_cons_succ, Out.bind_ok,
      checkProtocolID_eq p0.toNat p0.toNat_lt, rd8, List.headD_cons, List.drop_succ_cons, List.drop_zero,
      Facts.ttMetaSize, Facts.ttSize32, hcast, Bool.not_eq_true', Bool.not_eq_true]
    refine ite_rel rfl fun _ => ite_rel rfl fun ht => ?_
    rw [transformLoop_ok _ _ _ (hl ▸ Nat.add_le_of_le_sub' h2 (Nat.le_of_not_lt ht)), Out.bind_ok,
      Nat.mod_eq_of_lt (Nat.lt_of_le_of_lt (Nat.add_le_add_right hs 14) (by decide)), Int.natCast_add]
    rfl

theorem rd16_take_drop (b : Bytes) (n i : Nat) (h : i + 2 ≤ n) : rd16 ((b.take n).drop i) = rd16 (b.drop i) := by
  rw [List.drop_take]; exact rd16_take _ _ (Nat.le_sub_of_add_le' h)
theorem rd32_take_drop (b : Bytes) (n i : Nat) (h : i + 4 ≤ n) : rd32 ((b.take n).drop i) = rd32 (b.drop i) := by
  rw [List.drop_take]; exact rd32_take _ _ (Nat.le_sub_of_add_le' h)

theorem natCast_not_neg (n : Nat) : ¬ (n : Int) < 0 := Int.not_lt.mpr (Int.natCast_nonneg n)

theorem Cur.next_ok (c : Cur) (n : Nat) (h : n ≤ c.b.length - c.pos) :
    c.next (n : Int) = (.ok ((c.b.drop c.pos).take n), ⟨c.b, c.pos + n⟩) := by
  unfold Cur.next
  rw [if_neg (natCast_not_neg n), Int.toNat_natCast, if_pos h]

theorem Cur.next_eof (c : Cur) (n : Nat) (h : ¬ n ≤ c.b.length - c.pos) :
    c.next (n : Int) = (.fail (some .eof), c) := by
  unfold Cur.next
  rw [if_neg (natCast_not_neg n), Int.toNat_natCast, if_neg h]

theorem decodeCur_chain (b : Bytes) :
    decodeCur b =
      if b.length < 14 then (.err (.rd .eof), 0)
      else if rd16 (b.drop 4) ≠ 0x1000 then (.err .notTTHeader, 14)
      else if declared b < 2 ∨ declared b > 65536 then (.err .badSize, 14)
      else if b.length < 14 + declared b then (.err (.rd .eof), 14)
      else (decodeInfo ⟨totalLen b, rd16 (b.drop 6), toI32 (rd32 (b.drop 8)), declared b⟩
              ((b.drop 14).take (declared b)), 14 + declared b) := by
  unfold decodeCur decodeG
  by_cases h14 : b.length < 14
  · rw [if_pos h14, show Facts.ttMetaSize = 14 from rfl, Cur.next_eof ⟨b, 0⟩ 14 (Nat.not_le_of_lt h14)]
    rfl
  have h14' : 14 ≤ b.length := Nat.le_of_not_lt h14
  rw [if_neg h14, show Facts.ttMetaSize = 14 from rfl, Cur.next_ok ⟨b, 0⟩ 14 h14']
  simp only [nextBytes, Out.bind_ok, List.drop_zero, Nat.zero_add]
  rw [decodeMeta_eq _ (List.length_take_of_le h14'), rd16_take_drop _ _ _ (by decide), rd16_take_drop _ _ _ (by decide),
    rd32_take_drop _ _ _ (by decide), rd16_take_drop _ _ _ (by decide), rd32_take _ _ (by decide)]
  rw [← show declared b = 4 * rd16 (b.drop 12) from rfl]
  by_cases hm : rd16 (b.drop 4) ≠ 0x1000
  · rw [if_pos hm, if_pos hm]
  rw [if_neg hm, if_neg hm]
  by_cases hs : declared b < 2 ∨ declared b > 65536
  · rw [if_pos hs, if_pos hs.symm]
  rw [if_neg hs, if_neg fun h => hs h.symm]
  by_cases hc : b.length < 14 + declared b
  · rw [if_pos hc]
    dsimp only
    rw [Cur.next_eof ⟨b, 14⟩ (declared b) fun h => Nat.not_le_of_lt hc (Nat.add_le_of_le_sub' h14' h)]
    rfl
  · rw [if_neg hc]
    dsimp only
    rw [Cur.next_ok ⟨b, 14⟩ (declared b) (Nat.le_sub_of_add_le' (Nat.le_of_not_lt hc))]
    rfl

/-- with sufficient fuel the reference parser does not depend on the fuel -/
theorem refSecs_fuel (b : Bytes) (f1 f2 : Nat) (h1 : b.length < f1) (h2 : b.length < f2) :
    refSecs f1 b = refSecs f2 b := by
  cases h : refSecs f1 b with
  | some s => exact ((Frame.refSecs_iff f2 b s h2).mpr ((Frame.refSecs_iff f1 b s h1).mp h)).symm
  | none =>
    cases h' : refSecs f2 b with
    | none => rfl
    | some s =>
      have := (Frame.refSecs_iff f1 b s h1).mpr ((Frame.refSecs_iff f2 b s h2).mp h')
      rw [h] at this; cases this

/-- the section loop as Decode starts it (fuel = length of the info slice + 1), against the reference
    parser as `refValid` starts it on the rest of the slice: the fuel never runs out -/
theorem readKVInfo_area (info area : Bytes) (k : Nat) (m : Maps) (h : info.drop k = area) :
    match refSecs (area.length + 1) area with
    | some secs => readKVInfo info (info.length + 1) k m = .ok (applyMs m secs)
    | none => ∃ e, readKVInfo info (info.length + 1) k m = .err e ∧ e ≠ .nofuel := by
  have hlen : area.length < info.length + 1 := by rw [← h, List.length_drop]; omega
  have hk := readKVInfo_ref info (info.length + 1) k m
  rw [h, refSecs_fuel area _ (area.length + 1) hlen (Nat.lt_succ_self _)] at hk
  cases ho : refSecs (area.length + 1) area with
  | some secs => rw [ho] at hk; exact hk
  | none =>
    rw [ho] at hk
    obtain ⟨e, he, hnf⟩ := hk
    exact ⟨e, he, hnf hlen⟩

/-- the parameters a successful Decode reports, read off the input -/
def toParam (b : Bytes) (m : Maps) : DecParam :=
  { flags := rd16 (b.drop 6), seq := toI32 (rd32 (b.drop 8)), proto := rd8 (b.drop 14),
    intKV := m.int, strKV := m.str, headerLen := (declared b : Int) + 14,
    payloadLen := (totalLen b : Int) + 4 - ((declared b : Int) + 14) }

/-- Decode against the reference validity check of the spec -/
theorem decodeCur_spec (b : Bytes) :
    match refValid b with
    | some secs => decodeCur b = (.ok (toParam b (applyMs ⟨none, none⟩ secs)), 14 + declared b)
    | none => ∃ e, (decodeCur b).1 = .err e ∧ e ≠ .nofuel := by
  rw [decodeCur_chain]
  unfold refValid
  let R (o : Option (List Sec)) (r : DOut DecParam × Nat) : Prop :=
    match o with
    | some secs => r = (.ok (toParam b (applyMs ⟨none, none⟩ secs)), 14 + declared b)
    | none => ∃ e, r.1 = .err e ∧ e ≠ .nofuel
  show R _ _
  refine ite_rel ⟨_, rfl, DErr.noConfusion⟩ fun h14 => ?_
  refine ite_rel ⟨_, rfl, DErr.noConfusion⟩ fun hm => ?_
  refine ite_rel ⟨_, rfl, DErr.noConfusion⟩ fun hs => ?_
  refine ite_rel ⟨_, rfl, DErr.noConfusion⟩ fun hc => ?_
  have hlo : 2 ≤ declared b := Nat.le_of_not_lt fun h => hs (Or.inl h)
  have hl : ((b.drop 14).take (declared b)).length = declared b :=
    List.length_take_of_le (List.length_drop ▸ Nat.le_sub_of_add_le' (Nat.le_of_not_lt hc))
  have e2 : rd8 (((b.drop 14).take (declared b)).drop 1) = numTransforms b := by
    rw [List.drop_take, List.drop_drop]; exact rd8_take _ _ (Nat.le_sub_of_add_le' hlo)
  rw [decodeInfo_eq _ _ hl hlo (Nat.le_of_not_lt fun h => hs (Or.inr h)), rd8_take _ _ (Nat.le_of_succ_le hlo), e2]
  let R' (o : Option (List Sec)) (d : DOut DecParam) : Prop := R o (d, 14 + declared b)
  show R' _ _
  refine ite_rel ⟨_, rfl, DErr.noConfusion⟩ fun hp => ?_
  refine ite_rel ⟨_, rfl, DErr.noConfusion⟩ fun ht => ?_
  -- the section loop, on the area the reference parser is given
  have harea : ((b.drop 14).take (declared b)).drop (2 + numTransforms b)
      = (b.drop (16 + numTransforms b)).take (declared b - 2 - numTransforms b) := by
    rw [List.drop_take, List.drop_drop, Nat.sub_add_eq, ← Nat.add_assoc]
  have hk := readKVInfo_area _ _ (2 + numTransforms b) ⟨none, none⟩ harea
  simp only
  generalize refSecs _ ((b.drop (16 + numTransforms b)).take (declared b - 2 - numTransforms b)) = o at hk ⊢
  cases o with
  | none =>
    obtain ⟨e, he, hnf⟩ := hk
    exact ⟨e, by rw [he]; rfl, hnf⟩
  | some secs => rw [hk]; rfl

theorem decodeCur_valid {b : Bytes} {secs : List Sec} (hv : Frame.Valid b secs) :
    decodeCur b = (.ok (toParam b (applyMs ⟨none, none⟩ secs)), 14 + declared b) := by
  have h := decodeCur_spec b
  rw [(Frame.refValid_iff b secs).mpr hv] at h
  exact h

theorem decodeCur_unsupported (b : Bytes) (h14 : 14 ≤ b.length) (hm : rd16 (b.drop 4) = 0x1000)
    (hlo : 2 ≤ declared b) (hhi : declared b ≤ 65536) (hc : 14 + declared b ≤ b.length)
    (hp : rd8 (b.drop 14) ∉ supported) : decodeCur b = (.err .protocol, 14 + declared b) := by
  have hl : ((b.drop 14).take (declared b)).length = declared b :=
    List.length_take_of_le (List.length_drop ▸ Nat.le_sub_of_add_le' hc)
  rw [decodeCur_chain, if_neg (Nat.not_lt.mpr h14), if_neg (not_not_intro hm),
    if_neg fun h => h.elim (Nat.not_lt.mpr hlo) (Nat.not_lt.mpr hhi), if_neg (Nat.not_lt.mpr hc),
    decodeInfo_eq _ _ hl hlo hhi, rd8_take _ _ (Nat.le_of_succ_le hlo),
    if_pos (mt List.contains_iff_mem.mp hp)]

/-! ### the bytes-backed bufiox reader against the plain cursor -/

theorem prepare_fields (r : Rd) (n : Nat) :
    (r.prepare n).src = r.src ∧ (r.prepare n).ri = r.ri ∧ (r.prepare n).buf = if r.cap = 0 then [] else r.buf := by
  simp only [Rd.prepare, apply_ite Rd.src, apply_ite Rd.ri, apply_ite Rd.buf, ite_self, and_self]

theorem rd_next_fail (r : Rd) (n : Nat) (h : ¬ n ≤ r.buf.length - r.ri) (hs : r.src.script = [])
    (he : r.err = none) : ∃ r', r.next (n : Int) = (.fail (some .eof), r') ∧ r'.ri = r.ri := by
  unfold Rd.next Rd.acquire Rd.acquireSlow
  have hm : ¬ (0 ≥ Facts.maxConsecutiveEmptyReads) := by decide
  obtain ⟨hsrc, hri, hbuf'⟩ := prepare_fields r n
  have hbuf : n > (r.prepare n).buf.length - (r.prepare n).ri := by
    rw [hri, hbuf']
    split
    · exact Nat.lt_of_not_le fun hn => h (Nat.le_trans hn (by simp))
    · exact Nat.lt_of_not_le h
  simp only [natCast_not_neg n, h, he, if_false, Int.toNat_natCast, Option.isSome_none, Bool.false_eq_true]
  simp only [Rd.readLoop, hm, if_false, Src.read, hsrc, hs, List.append_nil]
  simp only [hbuf, if_true]
  exact ⟨_, rfl, hri⟩

/-- the simulation relation: same bytes, same position, an exhausted source, no sticky error -/
def relRC (r : Rd) (c : Cur) : Prop := r.buf = c.b ∧ r.ri = c.pos ∧ r.src.script = [] ∧ r.err = none

theorem next_sim (r : Rd) (c : Cur) (h : relRC r c) (n : Nat) :
    (r.next (n : Int)).1 = (c.next (n : Int)).1 ∧ (r.next (n : Int)).2.ri = (c.next (n : Int)).2.pos ∧
    (n ≤ c.b.length - c.pos → relRC (r.next (n : Int)).2 (c.next (n : Int)).2) := by
  obtain ⟨hb, hp, hs, he⟩ := h
  by_cases hn : n ≤ c.b.length - c.pos
  · rw [next_buffered r n (by rw [hb, hp]; exact hn), Cur.next_ok c n hn]
    exact ⟨by rw [hb, hp], by rw [hp], fun _ => ⟨hb, by rw [hp], hs, he⟩⟩
  · obtain ⟨r', e1, e2⟩ := rd_next_fail r n (by rw [hb, hp]; exact hn) hs he
    rw [e1, Cur.next_eof c n hn]
    exact ⟨rfl, by rw [e2, hp], fun h => absurd h hn⟩

/-- Decode(NewBytesReader(b)) is Decode over the plain cursor: same result, same ReadLen -/
theorem decodeBytes_eq_cur (b : Bytes) (cap : Nat) (hcap : b.length ≤ cap) : decodeBytes b cap = decodeCur b := by
  have hrel : relRC (Rd.newBytes b cap) ⟨b, 0⟩ := by
    unfold Rd.newBytes
    split
    · exact ⟨rfl, rfl, rfl, rfl⟩
    · next h =>
      cases List.eq_nil_of_length_eq_zero (Nat.le_zero.mp (Nat.le_trans hcap (Nat.le_of_not_lt h)))
      exact ⟨rfl, rfl, rfl, rfl⟩
  unfold decodeBytes decodeCur decodeRd decodeG
  have s1 := next_sim _ _ hrel Facts.ttMetaSize
  generalize Rd.next (Rd.newBytes b cap) (Facts.ttMetaSize : Int) = x1 at s1 ⊢
  generalize hc1 : Cur.next ⟨b, 0⟩ (Facts.ttMetaSize : Int) = y1 at s1 ⊢
  obtain ⟨a1, a2, a3⟩ := s1
  simp only [a1]
  cases hm : (nextBytes y1.1).bind decodeMeta with
  | ok m =>
    simp only
    have hok : Facts.ttMetaSize ≤ b.length - 0 := Decidable.by_contra fun hle => by
      rw [← hc1, Cur.next_eof _ _ hle] at hm
      cases hm
    have hrel2 := a3 hok
    have s2 := next_sim _ _ hrel2 m.size
    obtain ⟨b1, b2, _⟩ := s2
    simp only [b1, Rd.readLen, b2]
  | _ => simp only [Rd.readLen, a2]

/-- how much Decode consumes: nothing, the 14 meta bytes, or meta + declared size; never more than there is -/
theorem decodeCur_consumed (b : Bytes) :
    (decodeCur b).2 ≤ b.length ∧ (decodeCur b).2 ≤ 14 + declared b := by
  rw [decodeCur_chain]
  by_cases h14 : b.length < 14
  · rw [if_pos h14]; exact ⟨Nat.zero_le _, Nat.zero_le _⟩
  have hb : 14 ≤ b.length ∧ 14 ≤ 14 + declared b := ⟨Nat.le_of_not_lt h14, Nat.le_add_right _ _⟩
  rw [if_neg h14]
  by_cases hm : rd16 (b.drop 4) ≠ 0x1000
  · rw [if_pos hm]; exact hb
  rw [if_neg hm]
  by_cases hs : declared b < 2 ∨ declared b > 65536
  · rw [if_pos hs]; exact hb
  rw [if_neg hs]
  by_cases hc : b.length < 14 + declared b
  · rw [if_pos hc]; exact hb
  rw [if_neg hc]; exact ⟨Nat.le_of_not_lt hc, Nat.le_refl _⟩

/-! ### the model's maps against the spec's maps -/

-- a string literal is `String.ofList` of its characters: no UTF-8 decoding is run
theorem ttGDPRToken_toList : Facts.ttGDPRToken.toList =
    ['R', 'P', 'C', '_', 'T', 'R', 'A', 'N', 'S', 'I', 'T', '_', 'g', 'd', 'p', 'r', '-', 't', 'o', 'k', 'e', 'n'] :=
  String.toList_ofList

/-- the ACL-token key of the source (Tie A) is the documented one -/
theorem gdprKey_eq : gdprKey = Frame.aclKey := by
  unfold gdprKey
  rw [ttGDPRToken_toList]
  rfl

/-- ASCII: one byte per character is the UTF-8 encoding Go uses for the constant -/
theorem gdprKey_ascii : Facts.ttGDPRToken.toList.all (fun c => c.toNat < 128) = true := by
  rw [ttGDPRToken_toList]
  decide

def pairOf (m : Maps) : Frame.IntMap × Frame.StrMap := (mk m.int, mk m.str)

theorem pairOf_applyM (m : Maps) (s : Sec) : pairOf (applyM m s) = Frame.applySec (pairOf m) s := by
  cases s <;> simp [applyM, Frame.applySec, pairOf, mk, gdprKey_eq]

theorem pairOf_applyMs (secs : List Sec) : ∀ (m : Maps),
    pairOf (applyMs m secs) = Frame.applySecs (pairOf m) secs := by
  induction secs with
  | nil => intro m; rfl
  | cons s t ih =>
    intro m
    simp only [applyMs, Frame.applySecs, List.foldl_cons]
    have := ih (applyM m s)
    simp only [applyMs, Frame.applySecs] at this
    rw [this, pairOf_applyM]

end Verif.TTH
