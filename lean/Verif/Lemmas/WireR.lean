/- Lemmas/WireR: the buffer readers read back `enc`; they never panic, never over-report; their
   failures are protocol exceptions named after the cause. -/
import Verif.Lemmas.WireW
namespace Verif.Wire

theorem toI8_ofInt (v : Int) (h : inI8 v) : toI8 (UInt8.ofNat (ofInt 8 v)).toNat = v := by
  rw [UInt8.toNat_ofNat', Nat.mod_eq_of_lt (ofInt_lt 8 v)]
  exact signed_ofInt 8 v 128 256 rfl rfl h.1 h.2
theorem ofInt16_lt (v : Int) : ofInt 16 v < 65536 := ofInt_lt 16 v
theorem ofInt64_lt (v : Int) : ofInt 64 v < 18446744073709551616 := ofInt_lt 64 v
theorem toI16_ofInt (v : Int) (h : inI16 v) : toI16 (ofInt 16 v) = v :=
  signed_ofInt 16 v 32768 65536 rfl rfl h.1 h.2
theorem toI64_ofInt (v : Int) (h : inI64 v) : toI64 (ofInt 64 v) = v :=
  signed_ofInt 64 v 9223372036854775808 18446744073709551616 rfl rfl h.1 h.2

theorem binReadI32_be (n : Nat) (h : n < 4294967296) (rest : Bytes) :
    binReadI32 (be32 n ++ rest) = .ok (toI32 n, 4) := by
  simp only [binReadI32, getU32, rd32_be32 n h, List.length_append, be32_length]
  rw [if_neg (by omega), if_neg (by omega)]; rfl

theorem binReadBinary_enc (s rest : Bytes) (h : s.length < 2^31) :
    binReadBinary (be32 s.length ++ (s ++ rest)) = .ok (s, 4 + s.length) := by
  have h' : s.length < 2147483648 := by simpa using h
  unfold binReadBinary
  rw [binReadI32_be _ (by omega)]
  have : toI32 s.length = (s.length : Int) := by simp [toI32]; omega
  simp [this]
  rw [if_neg (by omega), if_neg (by omega)]
  simp [be32]

theorem binReadMessageBegin_ok (b name : Bytes) (l : Nat) (seq : Int) (h4 : ¬ b.length < 4)
    (hv : ¬ (rd32 b &&& Facts.msgVersionMask ≠ Facts.msgVersion1))
    (hb : binReadBinary (b.drop 4) = .ok (name, l)) (hl : ¬ 4 + l > b.length)
    (hs : binReadI32 (b.drop (4 + l)) = .ok (seq, 4)) :
    binReadMessageBegin b = .ok (name, ((rd32 b &&& Facts.msgTypeMask : Nat) : Int), seq, 4 + l + 4) := by
  unfold binReadMessageBegin
  simp only [getU32, bFrom, if_neg h4, if_neg hv, hb, if_neg hl, hs, orErr, Out.bind_eq, Out.bind_ok,
    Out.pure_eq]

theorem binReadMessageBegin_enc (name rest : Bytes) (typ seq : Int) (hn : name.length < 2^31) (hs : inI32 seq) :
    binReadMessageBegin (be32 (msgHeader typ) ++ be32 name.length ++ name ++ be32 (ofInt 32 seq) ++ rest) =
      .ok (name, (msgType16 typ : Int), seq, 12 + name.length) := by
  have hh : msgHeader typ < 4294967296 := by rw [msgHeader_eq]; have := msgType16_lt typ; omega
  have hv : ¬ (msgHeader typ &&& Facts.msgVersionMask ≠ Facts.msgVersion1) := by
    rw [ver_test _ hh, msgHeader_eq]; have := msgType16_lt typ; omega
  have ht : msgHeader typ &&& Facts.msgTypeMask = msgType16 typ := by
    rw [and_typeMask, msgHeader_eq]; have := msgType16_lt typ; omega
  generalize hb : be32 (msgHeader typ) ++ be32 name.length ++ name ++ be32 (ofInt 32 seq) ++ rest = b
  have e0 : b = be32 (msgHeader typ) ++ (be32 name.length ++ name ++ be32 (ofInt 32 seq) ++ rest) := by
    subst hb; simp
  have hr : rd32 b = msgHeader typ := by rw [e0, rd32_be32 _ hh]
  have hlen : b.length = 12 + name.length + rest.length := by subst hb; simp; omega
  have d4 : b.drop 4 = be32 name.length ++ (name ++ (be32 (ofInt 32 seq) ++ rest)) := by
    rw [e0, List.drop_left' (by simp)]; simp
  have d8 : b.drop (4 + (4 + name.length)) = be32 (ofInt 32 seq) ++ rest := by
    have e : b = (be32 (msgHeader typ) ++ be32 name.length ++ name) ++ (be32 (ofInt 32 seq) ++ rest) := by
      subst hb; simp
    rw [e, List.drop_left' (by simp)]
  have := binReadMessageBegin_ok b name (4 + name.length) seq (by omega) (by rw [hr]; exact hv)
    (by rw [d4]; exact binReadBinary_enc name _ hn) (by omega)
    (by rw [d8, binReadI32_be _ (ofInt32_lt seq), toI32_ofInt seq hs.1 hs.2])
  rw [this, hr, ht]
  congr 4; omega

theorem msgType16_id (typ : Int) (h0 : 0 ≤ typ) (h1 : typ < 65536) : (msgType16 typ : Int) = typ := by
  unfold msgType16; omega

theorem lt31 (n : Nat) (h : n < 2^31) : n < 4294967296 := Nat.lt_of_lt_of_le h (by decide)

theorem binReadByte_enc (x : Int) (hv : inI8 x) (rest : Bytes) :
    binReadByte (UInt8.ofNat (ofInt 8 x) :: rest) = .ok (x, 1) := by
  simp only [binReadByte, List.length_cons, List.getElem?_cons_zero]
  rw [if_neg (by omega), toI8_ofInt x hv]

theorem binReadI16_enc (x : Int) (hv : inI16 x) (rest : Bytes) :
    binReadI16 (be16 (ofInt 16 x) ++ rest) = .ok (x, 2) := by
  simp only [binReadI16, getU16, rd16_be16 _ (ofInt16_lt x), List.length_append, be16_length]
  rw [if_neg (by omega), if_neg (by omega)]
  simp [toI16_ofInt x hv]

theorem binReadI64_enc (x : Int) (hv : inI64 x) (rest : Bytes) :
    binReadI64 (be64 (ofInt 64 x) ++ rest) = .ok (x, 8) := by
  simp only [binReadI64, getU64, rd64_be64 _ (ofInt64_lt x), List.length_append, be64_length]
  rw [if_neg (by omega), if_neg (by omega)]
  simp [toI64_ofInt x hv]

theorem binReadDouble_enc (x : Nat) (hv : x < 2^64) (rest : Bytes) :
    binReadDouble (be64 x ++ rest) = .ok (x, 8) := by
  simp only [binReadDouble, getU64, rd64_be64 _ (by simpa using hv), List.length_append, be64_length]
  rw [if_neg (by omega), if_neg (by omega)]
  simp

theorem binReadFieldBegin_enc (t : UInt8) (id : Int) (ht : t ≠ 0) (hv : inI16 id) (rest : Bytes) :
    binReadFieldBegin (t :: (be16 (ofInt 16 id) ++ rest)) = .ok (t, id, 3) := by
  have ht' : ¬ t = T_STOP := by rw [tstop]; exact ht
  simp [binReadFieldBegin, bAt, bFrom, getU16, ht', rd16_be16 _ (ofInt16_lt id)]
  rw [if_neg (by omega), if_neg (by omega)]
  simp [toI16_ofInt id hv]

theorem binReadMapBegin_enc (kt vt : UInt8) (n : Nat) (hn : n < 4294967296) (rest : Bytes) :
    binReadMapBegin (kt :: vt :: (be32 n ++ rest)) = .ok (kt, vt, n, 6) := by
  simp [binReadMapBegin, bAt, bFrom, getU32]
  rw [if_neg (by omega), if_neg (by omega)]
  simp [rd32_be32 _ hn]
  rw [if_neg (by omega)]
  try rfl

theorem binReadListBegin_enc (et : UInt8) (n : Nat) (hn : n < 4294967296) (rest : Bytes) :
    binReadListBegin (et :: (be32 n ++ rest)) = .ok (et, n, 5) := by
  simp [binReadListBegin, bAt, bFrom, getU32]
  rw [if_neg (by omega), if_neg (by omega)]
  simp [rd32_be32 _ hn]

/-- every buffer reader returns the value whose encoding it is given, and its exact length -/
theorem binRead_encM (v : Val) (hv : v.wf) (rest : Bytes) :
    binRead v.kind (encM v ++ rest) = .ok (v, (encM v).length) := by
  cases v
  case bool b => cases b <;> rfl
  case i8 x =>
    simp only [Val.kind, binRead, encM, List.cons_append, List.nil_append]
    rw [binReadByte_enc x hv rest]; rfl
  case i16 x =>
    simp only [Val.kind, binRead, encM]
    rw [binReadI16_enc x hv rest]; rfl
  case i32 x =>
    simp only [Val.kind, binRead, encM]
    rw [binReadI32_be _ (ofInt32_lt x) rest, toI32_ofInt x hv.1 hv.2]; rfl
  case i64 x =>
    simp only [Val.kind, binRead, encM]
    rw [binReadI64_enc x hv rest]; rfl
  case double x =>
    simp only [Val.kind, binRead, encM]
    rw [binReadDouble_enc x hv rest]; rfl
  case binary x =>
    simp only [Val.kind, binRead, encM, List.append_assoc]
    rw [binReadBinary_enc x rest hv]
    simp only [mapOk, List.length_append, be32_length]
  case str x =>
    simp only [Val.kind, binRead, encM, List.append_assoc]
    rw [binReadBinary_enc x rest hv]
    simp only [mapOk, List.length_append, be32_length]
  case fieldBegin t id =>
    simp only [Val.kind, binRead, encM, List.cons_append]
    rw [binReadFieldBegin_enc t id hv.1 hv.2 rest]
    simp only [mapOk, fieldVal, tstop, if_neg hv.1]; rfl
  case fieldStop => rfl
  case mapBegin kt vt n =>
    simp only [Val.kind, binRead, encM, List.cons_append]
    rw [binReadMapBegin_enc kt vt n (lt31 n hv) rest]; rfl
  case listBegin et n =>
    simp only [Val.kind, binRead, encM, List.cons_append]
    rw [binReadListBegin_enc et n (lt31 n hv) rest]; rfl
  case setBegin et n =>
    simp only [Val.kind, binRead, encM, List.cons_append]
    rw [show binReadSetBegin (et :: (be32 n ++ rest)) = binReadListBegin _ from rfl,
      binReadListBegin_enc et n (lt31 n hv) rest]
    rfl
  case messageBegin name typ seq =>
    simp only [Val.kind, binRead, encM]
    rw [binReadMessageBegin_enc name rest typ seq hv.1 hv.2.2.2, msgType16_id typ hv.2.1 hv.2.2.1]
    simp only [mapOk, List.length_append, be32_length]
    rw [show 4 + 4 + name.length + 4 = 12 + name.length by omega]

/-! ## complete characterisations of the buffer readers (every byte string) -/

theorem binReadBool_char (b : Bytes) :
    binReadBool b = if b.length < 1 then .err (errShort, 0) else .ok (decide (b.headD 0 = 1), 1) := by
  cases b with
  | nil => rfl
  | cons x r => by_cases h : x = 1 <;> simp [binReadBool, h]

theorem binReadByte_char (b : Bytes) :
    binReadByte b = if b.length < 1 then .err (errShort, 0) else .ok (toI8 (rd8 b), 1) := by
  cases b <;> simp [binReadByte, rd8]

theorem binReadI16_char (b : Bytes) :
    binReadI16 b = if b.length < 2 then .err (errShort, 0) else .ok (toI16 (rd16 b), 2) := by
  unfold binReadI16 getU16; split <;> simp [*]

theorem binReadI32_char (b : Bytes) :
    binReadI32 b = if b.length < 4 then .err (errShort, 0) else .ok (toI32 (rd32 b), 4) := by
  unfold binReadI32 getU32; split <;> simp [*]

theorem binReadI32_inv (b : Bytes) (v : Int) (n : Nat) (h : binReadI32 b = .ok (v, n)) :
    ¬ b.length < 4 ∧ v = toI32 (rd32 b) ∧ n = 4 := by
  rw [binReadI32_char] at h
  by_cases h4 : b.length < 4
  · rw [if_pos h4] at h; cases h
  · rw [if_neg h4] at h
    simp only [Out.ok.injEq, Prod.mk.injEq] at h
    exact ⟨h4, h.1.symm, h.2.symm⟩

theorem binReadI64_char (b : Bytes) :
    binReadI64 b = if b.length < 8 then .err (errShort, 0) else .ok (toI64 (rd64 b), 8) := by
  unfold binReadI64 getU64; split <;> simp [*]

theorem binReadDouble_char (b : Bytes) :
    binReadDouble b = if b.length < 8 then .err (errShort, 0) else .ok (rd64 b, 8) := by
  unfold binReadDouble getU64; split <;> simp [*]

theorem binReadBinary_char (b : Bytes) :
    binReadBinary b =
      if b.length < 4 then .err (errShort, 0)
      else if rd32 b ≥ 2147483648 then .err (errNeg, 0)
      else if b.length < 4 + rd32 b then .err (errShort, 4)
      else .ok ((b.drop 4).take (rd32 b), 4 + rd32 b) := by
  unfold binReadBinary
  rw [binReadI32_char]
  by_cases h4 : b.length < 4
  · simp [h4]
  · simp only [if_neg h4]
    by_cases hn : rd32 b ≥ 2147483648
    · have : toI32 (rd32 b) < 0 := by have := rd32_lt b; simp [toI32]; split <;> omega
      simp [hn, this]
    · have e : toI32 (rd32 b) = (rd32 b : Int) := by simp [toI32]; omega
      have : ¬ (toI32 (rd32 b) < 0) := by omega
      rw [if_neg this, if_neg hn, e]
      simp

theorem binReadFieldBegin_char (b : Bytes) :
    binReadFieldBegin b = match b with
      | [] => .err (errShort, 0)
      | t :: r =>
        if t = 0 then .ok (0, 0, 1)
        else if r.length < 2 then .err (errShort, 0)
        else .ok (t, toI16 (rd16 r), 3) := by
  cases b with
  | nil => simp [binReadFieldBegin]
  | cons t r =>
    by_cases ht : t = 0
    · simp [binReadFieldBegin, bAt, tstop, ht]
    · by_cases hr : r.length < 2
      · have : r.length + 1 < 3 := by omega
        simp [binReadFieldBegin, bAt, tstop, ht, hr, this]
      · have : ¬ r.length + 1 < 3 := by omega
        simp [binReadFieldBegin, bAt, bFrom, getU16, tstop, ht, hr, this]

theorem binReadFieldBegin_len (b : Bytes) (r : UInt8 × Int × Nat) (h : binReadFieldBegin b = .ok r) : 1 ≤ r.2.2 := by
  rw [binReadFieldBegin_char] at h
  cases b with
  | nil => cases h
  | cons t l =>
    simp only [] at h
    by_cases ht : t = 0
    · rw [if_pos ht] at h; cases h; exact Nat.le_refl 1
    · rw [if_neg ht] at h
      by_cases hl : l.length < 2
      · rw [if_pos hl] at h; cases h
      · rw [if_neg hl] at h; cases h; exact (by decide : 1 ≤ 3)

theorem binReadMapBegin_char (b : Bytes) :
    binReadMapBegin b =
      if b.length < 6 then .err (errShort, 0)
      else .ok (b.headD 0, (b.drop 1).headD 0, rd32 (b.drop 2), 6) := by
  match b with
  | [] => rfl
  | [_] => rfl
  | kt :: vt :: r =>
    by_cases hr : r.length < 4
    · have : r.length + 1 + 1 < 6 := by omega
      simp [binReadMapBegin, this]
    · have : ¬ r.length + 1 + 1 < 6 := by omega
      have h2 : ¬ r.length + 1 + 1 < 2 := by omega
      simp [binReadMapBegin, bAt, bFrom, getU32, hr, this, h2]

theorem binReadListBegin_char (b : Bytes) :
    binReadListBegin b =
      if b.length < 5 then .err (errShort, 0) else .ok (b.headD 0, rd32 (b.drop 1), 5) := by
  match b with
  | [] => rfl
  | et :: r =>
    by_cases hr : r.length < 4
    · have : r.length + 1 < 5 := by omega
      simp [binReadListBegin, this]
    · have : ¬ r.length + 1 < 5 := by omega
      simp [binReadListBegin, bAt, bFrom, getU32, hr, this]

theorem binReadSetBegin_char (b : Bytes) : binReadSetBegin b = binReadListBegin b := rfl

@[simp] theorem orErr_ok {α} (a : α) (e : TErr × Nat) : orErr (.ok a) e = .ok a := rfl
@[simp] theorem orErr_err {α} (e' e : TErr × Nat) : orErr (.err e' : BOut α) e = .err e := rfl

theorem binReadMessageBegin_char (b : Bytes) :
    binReadMessageBegin b =
      if rd32 b / 65536 = 0x8001 ∧ rd32 (b.drop 4) < 2147483648 ∧ 12 + rd32 (b.drop 4) ≤ b.length then
        .ok ((b.drop 8).take (rd32 (b.drop 4)), ((rd32 b % 65536 : Nat) : Int),
             toI32 (rd32 (b.drop (8 + rd32 (b.drop 4)))), 12 + rd32 (b.drop 4))
      else .err (if 4 ≤ b.length ∧ rd32 b / 65536 ≠ 0x8001 then errBadVersion else errShort, 0) := by
  unfold binReadMessageBegin
  by_cases h4 : b.length < 4
  · rw [if_pos h4, if_neg (fun c => by omega), if_neg (fun c => by omega)]
  simp only [if_neg h4, getU32, Out.bind_eq, Out.bind_ok]
  have hv := ver_test (rd32 b) (rd32_lt b)
  by_cases hver : rd32 b / 65536 ≠ 0x8001
  · rw [if_pos (hv.mpr hver), if_neg (fun c => hver c.1), if_pos ⟨by omega, hver⟩]
  have hver' : ¬ (rd32 b &&& Facts.msgVersionMask ≠ Facts.msgVersion1) := fun h => hver (hv.mp h)
  -- past the version test every failure is INVALID_DATA with l = 0
  have hbad : ¬ (4 ≤ b.length ∧ rd32 b / 65536 ≠ 0x8001) := fun c => hver c.2
  rw [if_neg hbad]
  simp only [if_neg hver', bFrom, if_neg (show ¬ 4 > b.length by omega), and_typeMask, Out.bind_ok]
  rw [binReadBinary_char]
  have hd4 : (b.drop 4).length = b.length - 4 := by simp
  by_cases h8 : b.length < 8
  · rw [if_pos (by omega), if_neg (fun c => by have := c.2.2; omega)]; rfl
  rw [if_neg (by omega)]
  by_cases hn : rd32 (b.drop 4) ≥ 2147483648
  · rw [if_pos hn, if_neg (fun c => by have := c.2.1; omega)]; rfl
  rw [if_neg hn]
  by_cases hb2 : (b.drop 4).length < 4 + rd32 (b.drop 4)
  · rw [if_pos hb2, if_neg (fun c => by have := c.2.2; omega)]; rfl
  rw [if_neg hb2]
  simp only [orErr_ok, Out.bind_ok]
  rw [if_neg (by omega)]
  simp only [Out.bind_ok]
  rw [binReadI32_char]
  have hdl : (b.drop (4 + (4 + rd32 (b.drop 4)))).length = b.length - (8 + rd32 (b.drop 4)) := by
    simp; omega
  by_cases hb : b.length < 8 + rd32 (b.drop 4) + 4
  · rw [if_pos (by omega), if_neg (fun c => by have := c.2.2; omega)]; rfl
  · rw [if_neg (by omega), if_pos ⟨by omega, by omega, by omega⟩]
    simp only [orErr_ok, Out.bind_ok, Out.pure_eq, List.drop_drop]
    have e1 : 4 + (4 + rd32 (b.drop 4)) = 8 + rd32 (b.drop 4) := by omega
    rw [e1]
    congr 4
    omega

theorem binReadMessageBegin_inv (b name : Bytes) (typ seq : Int) (l : Nat)
    (h : binReadMessageBegin b = .ok (name, typ, seq, l)) :
    rd32 b / 65536 = 0x8001 ∧ rd32 (b.drop 4) < 2147483648 ∧ 12 + rd32 (b.drop 4) ≤ b.length ∧
    name = (b.drop 8).take (rd32 (b.drop 4)) ∧ typ = ((rd32 b % 65536 : Nat) : Int) ∧
    seq = toI32 (rd32 (b.drop (8 + rd32 (b.drop 4)))) ∧ l = 12 + rd32 (b.drop 4) := by
  rw [binReadMessageBegin_char] at h
  by_cases hok : rd32 b / 65536 = 0x8001 ∧ rd32 (b.drop 4) < 2147483648 ∧ 12 + rd32 (b.drop 4) ≤ b.length
  · rw [if_pos hok] at h
    simp only [Out.ok.injEq, Prod.mk.injEq] at h
    exact ⟨hok.1, hok.2.1, hok.2.2, h.1.symm, h.2.1.symm, h.2.2.1.symm, h.2.2.2.symm⟩
  · rw [if_neg hok] at h; cases h

/-- what C03 asks of one decoding entry point on one input -/
def Sound {α} (x : BOut (α × Nat)) (len : Nat) : Prop :=
  match x with
  | .ok r => r.2 ≤ len
  | .err e => e.2 ≤ len
  | .panic _ => False
  | .oob => False

theorem sound_mapOk {α} (f : α → Val × Nat) (x : BOut α) (g : α → Nat) (len : Nat)
    (hf : ∀ a, (f a).2 = g a)
    (h : match x with | .ok a => g a ≤ len | .err e => e.2 ≤ len | .panic _ => False | .oob => False) :
    Sound (mapOk f x) len := by
  cases x <;> simp_all [mapOk, Sound]

theorem errShort_id : errShort = .pe 1 := by decide
theorem errNeg_id : errNeg = .pe 2 := by decide
theorem errBadVersion_id : errBadVersion = .pe 4 := by decide

/-- what C03 and C17 together ask of one read of a primitive reader: it returns normally; the length it
    reports (`g` of a result, or beside an error) lies within the input; a failure is the protocol
    exception of cause `c` -/
def Outcome {α} (c : Cause) (len : Nat) (g : α → Nat) : BOut α → Prop
  | .ok a => g a ≤ len
  | .err e => e.2 ≤ len ∧ e.1 = .pe c.typeId
  | .panic _ => False
  | .oob => False

theorem Outcome.mapOk {α} {c : Cause} {len : Nat} {g : α → Nat} {x : BOut α} (f : α → Val × Nat)
    (hf : ∀ a, (f a).2 = g a) (h : Outcome c len g x) : Outcome c len Prod.snd (mapOk f x) := by
  cases x with
  | ok a => show (f a).2 ≤ len; rw [hf]; exact h
  | err e => exact h
  | panic s => exact h
  | oob => exact h

theorem outcome_short {α} (len : Nat) (g : α → Nat) :
    Outcome .truncated len g (.err (errShort, 0) : BOut α) := ⟨Nat.zero_le _, errShort_id⟩

theorem outcome_fixed {α} (n len : Nat) (a : α) (g : α → Nat) (hg : g a = n) :
    Outcome .truncated len g (if len < n then .err (errShort, 0) else .ok a) := by
  split
  · exact outcome_short len g
  · show g a ≤ len; omega

theorem outcome_binary (b : Bytes) :
    Outcome (if 4 ≤ b.length ∧ rd32 b ≥ 2^31 then .negativeSize else .truncated) b.length Prod.snd
      (binReadBinary b) := by
  rw [binReadBinary_char]
  by_cases h4 : b.length < 4
  · rw [if_pos h4, if_neg (fun c => by omega)]; exact outcome_short _ _
  rw [if_neg h4]
  by_cases hn : rd32 b ≥ 2147483648
  · rw [if_pos hn, if_pos (show 4 ≤ b.length ∧ rd32 b ≥ 2^31 from ⟨by omega, hn⟩)]
    exact ⟨Nat.zero_le _, errNeg_id⟩
  rw [if_neg hn, if_neg (fun c : 4 ≤ b.length ∧ rd32 b ≥ 2^31 => hn c.2)]
  by_cases hl : b.length < 4 + rd32 b
  · rw [if_pos hl]; exact ⟨by show 4 ≤ b.length; omega, errShort_id⟩
  · rw [if_neg hl]; exact Nat.le_of_not_lt hl

theorem outcome_field (b : Bytes) : Outcome .truncated b.length (fun r => r.2.2) (binReadFieldBegin b) := by
  rw [binReadFieldBegin_char]
  cases b with
  | nil => exact outcome_short _ _
  | cons t r =>
    show Outcome _ _ _ (if t = 0 then _ else if r.length < 2 then _ else _)
    split
    · show 1 ≤ (t :: r).length; simp
    split
    · exact outcome_short _ _
    · show 3 ≤ (t :: r).length; simp; omega

theorem outcome_msg (b : Bytes) :
    Outcome (if 4 ≤ b.length ∧ rd32 b / 65536 ≠ 0x8001 then .badVersion else .truncated) b.length
      (fun r => r.2.2.2) (binReadMessageBegin b) := by
  rw [binReadMessageBegin_char]
  by_cases hok : rd32 b / 65536 = 0x8001 ∧ rd32 (b.drop 4) < 2147483648 ∧ 12 + rd32 (b.drop 4) ≤ b.length
  · rw [if_pos hok]; exact hok.2.2
  · rw [if_neg hok]
    by_cases hb : 4 ≤ b.length ∧ rd32 b / 65536 ≠ 0x8001
    · simp only [if_pos hb]; exact ⟨Nat.zero_le _, errBadVersion_id⟩
    · simp only [if_neg hb]; exact ⟨Nat.zero_le _, errShort_id⟩

theorem binRead_outcome (k : Kind) (b : Bytes) : Outcome (cause k b) b.length Prod.snd (binRead k b) := by
  cases k <;> simp only [binRead, cause]
  case bool =>
    refine Outcome.mapOk _ (g := Prod.snd) (fun _ => rfl) ?_
    rw [binReadBool_char]; exact outcome_fixed 1 _ _ _ rfl
  case i8 =>
    refine Outcome.mapOk _ (g := Prod.snd) (fun _ => rfl) ?_
    rw [binReadByte_char]; exact outcome_fixed 1 _ _ _ rfl
  case i16 =>
    refine Outcome.mapOk _ (g := Prod.snd) (fun _ => rfl) ?_
    rw [binReadI16_char]; exact outcome_fixed 2 _ _ _ rfl
  case i32 =>
    refine Outcome.mapOk _ (g := Prod.snd) (fun _ => rfl) ?_
    rw [binReadI32_char]; exact outcome_fixed 4 _ _ _ rfl
  case i64 =>
    refine Outcome.mapOk _ (g := Prod.snd) (fun _ => rfl) ?_
    rw [binReadI64_char]; exact outcome_fixed 8 _ _ _ rfl
  case double =>
    refine Outcome.mapOk _ (g := Prod.snd) (fun _ => rfl) ?_
    rw [binReadDouble_char]; exact outcome_fixed 8 _ _ _ rfl
  case binary => exact (outcome_binary b).mapOk _ (fun _ => rfl)
  case str => exact (outcome_binary b).mapOk _ (fun _ => rfl)
  case field => exact (outcome_field b).mapOk _ (fun _ => rfl)
  case map =>
    refine Outcome.mapOk _ (g := fun r => r.2.2.2) (fun _ => rfl) ?_
    rw [binReadMapBegin_char]; exact outcome_fixed 6 _ _ _ rfl
  case list =>
    refine Outcome.mapOk _ (g := fun r => r.2.2) (fun _ => rfl) ?_
    rw [binReadListBegin_char]; exact outcome_fixed 5 _ _ _ rfl
  case set =>
    refine Outcome.mapOk _ (g := fun r => r.2.2) (fun _ => rfl) ?_
    rw [binReadSetBegin_char, binReadListBegin_char]; exact outcome_fixed 5 _ _ _ rfl
  case msg => exact (outcome_msg b).mapOk _ (fun _ => rfl)

theorem binRead_sound (k : Kind) (b : Bytes) : Sound (binRead k b) b.length := by
  have h := binRead_outcome k b
  cases hx : binRead k b <;> rw [hx] at h
  · exact h
  · exact h.1
  · exact h
  · exact h

theorem binRead_err_cause (k : Kind) (b : Bytes) (e : TErr) (l : Nat) (h : binRead k b = .err (e, l)) :
    e = .pe (cause k b).typeId := by
  have := binRead_outcome k b
  rw [h] at this
  exact this.2

end Verif.Wire
