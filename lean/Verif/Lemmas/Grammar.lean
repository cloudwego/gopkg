/-
  Lemmas/Grammar: facts about the reference grammar `refLen` (Spec/Grammar.lean): what it means for each
  combinator to accept, monotonicity of the combinators, length bounds, monotonicity in the depth, and
  the acceptance disciplines of the implementations — each one level of `layerG` over element measures
  that inline some nested values — sandwiched between refLen d and refLen (d+1).
-/
import Verif.Spec.Grammar
namespace Verif

/-- pointwise order on partial length functions -/

def LeF (f g : Bytes → Option Nat) : Prop := ∀ b n, f b = some n → g b = some n

theorem LeF.refl (f : Bytes → Option Nat) : LeF f f := fun _ _ h => h
theorem LeF.trans {f g h : Bytes → Option Nat} (a : LeF f g) (b : LeF g h) : LeF f h :=
  fun x n hx => b x n (a x n hx)

def Good (f : Bytes → Option Nat) : Prop := ∀ b n, f b = some n → 1 ≤ n ∧ n ≤ b.length

theorem refN_succ (g : Bytes → Option Nat) (n : Nat) (b : Bytes) :
    refN g (n + 1) b = (g b).bind fun k => (refN g n (b.drop k)).map (k + ·) := by
  simp only [refN]
  cases g b with
  | none => rfl
  | some k =>
    dsimp only [Option.bind]
    cases refN g n (b.drop k) <;> rfl

theorem refKV_succ (gk gv : Bytes → Option Nat) (n : Nat) (b : Bytes) :
    refKV gk gv (n + 1) b = (gk b).bind fun k =>
      ((gv (b.drop k)).bind fun v => (refKV gk gv n ((b.drop k).drop v)).map (v + ·)).map (k + ·) := by
  simp only [refKV]
  cases gk b with
  | none => rfl
  | some k =>
    dsimp only [Option.bind]
    cases gv (b.drop k) with
    | none => rfl
    | some v =>
      dsimp only [Option.bind]
      rw [List.drop_drop]
      cases refKV gk gv n (b.drop (k + v)) with
      | none => rfl
      | some x => exact congrArg some (Nat.add_assoc k v x)

theorem refFields_field (g : UInt8 → Bytes → Option Nat) (fuel : Nat) (t : UInt8) (rest : Bytes) (ht : t ≠ 0)
    (hl : 2 ≤ rest.length) :
    refFields g (fuel + 1) (t :: rest) =
      ((g t (rest.drop 2)).bind fun k => (refFields g fuel ((rest.drop 2).drop k)).map (k + ·)).map (3 + ·) := by
  have hl' : ¬ rest.length < 2 := by omega
  simp only [refFields, ht, hl', if_false]
  cases g t (rest.drop 2) with
  | none => rfl
  | some k =>
    dsimp only [Option.bind]
    rw [List.drop_drop]
    cases refFields g fuel (rest.drop (2 + k)) with
    | none => rfl
    | some x => exact congrArg some (Nat.add_assoc 3 k x)

theorem refN_succ_eq_some {f : Bytes → Option Nat} {n : Nat} {b : Bytes} {k : Nat} :
    refN f (n+1) b = some k ↔
      ∃ a r, f b = some a ∧ refN f n (b.drop a) = some r ∧ a + r = k := by
  rw [refN_succ]
  simp only [Option.bind_eq_some_iff, Option.map_eq_some_iff, exists_and_left]

theorem refKV_succ_eq_some {f g : Bytes → Option Nat} {n : Nat} {b : Bytes} {k : Nat} :
    refKV f g (n+1) b = some k ↔
      ∃ a v r, f b = some a ∧ g (b.drop a) = some v ∧ refKV f g n (b.drop (a + v)) = some r ∧
        a + v + r = k := by
  rw [refKV_succ]
  simp only [Option.bind_eq_some_iff, Option.map_eq_some_iff, List.drop_drop]
  constructor
  · rintro ⟨a, ha, _, ⟨v, hv, r, hr, rfl⟩, rfl⟩
    exact ⟨a, v, r, ha, hv, hr, Nat.add_assoc a v r⟩
  · rintro ⟨a, v, r, ha, hv, hr, rfl⟩
    exact ⟨a, ha, _, ⟨v, hv, r, hr, rfl⟩, (Nat.add_assoc a v r).symm⟩

theorem refFields_cons_eq_some {f : UInt8 → Bytes → Option Nat} {fuel : Nat} {t : UInt8} {rest : Bytes}
    {k : Nat} (ht : t ≠ 0) :
    refFields f (fuel+1) (t :: rest) = some k ↔
      2 ≤ rest.length ∧ ∃ a r, f t (rest.drop 2) = some a ∧
        refFields f fuel (rest.drop (2 + a)) = some r ∧ 3 + a + r = k := by
  by_cases hl : 2 ≤ rest.length
  · rw [refFields_field f fuel t rest ht hl]
    simp only [Option.bind_eq_some_iff, Option.map_eq_some_iff, List.drop_drop, hl, true_and]
    constructor
    · rintro ⟨_, ⟨a, ha, r, hr, rfl⟩, rfl⟩
      exact ⟨a, r, ha, hr, Nat.add_assoc 3 a r⟩
    · rintro ⟨a, r, ha, hr, rfl⟩
      exact ⟨_, ⟨a, ha, r, hr, rfl⟩, (Nat.add_assoc 3 a r).symm⟩
  · constructor
    · intro h
      simp only [refFields, ht, show rest.length < 2 by omega, if_true, if_false] at h
      cases h
    · exact fun h => absurd h.1 hl

theorem refFields_stop (f : UInt8 → Bytes → Option Nat) (fuel : Nat) (rest : Bytes) :
    refFields f (fuel+1) (0 :: rest) = some 1 := by
  simp [refFields]

theorem refN_mono {f g : Bytes → Option Nat} (h : LeF f g) : ∀ n, LeF (refN f n) (refN g n) := by
  intro n
  induction n with
  | zero => exact fun _ _ hk => hk
  | succ n ih =>
    intro b k hk
    obtain ⟨a, r, ha, hr, e⟩ := refN_succ_eq_some.mp hk
    exact refN_succ_eq_some.mpr ⟨a, r, h b a ha, ih _ r hr, e⟩

theorem refKV_mono {f g f' g' : Bytes → Option Nat} (h : LeF f g) (h' : LeF f' g') :
    ∀ n, LeF (refKV f f' n) (refKV g g' n) := by
  intro n
  induction n with
  | zero => exact fun _ _ hk => hk
  | succ n ih =>
    intro b k hk
    obtain ⟨a, v, r, ha, hv, hr, e⟩ := refKV_succ_eq_some.mp hk
    exact refKV_succ_eq_some.mpr ⟨a, v, r, h b a ha, h' _ v hv, ih _ r hr, e⟩

theorem refFields_mono {f g : UInt8 → Bytes → Option Nat} (h : ∀ t, LeF (f t) (g t)) :
    ∀ fuel, LeF (refFields f fuel) (refFields g fuel) := by
  intro fuel
  induction fuel with
  | zero => exact fun _ _ hk => hk
  | succ fuel ih =>
    intro b k hk
    match b with
    | [] => exact hk
    | t :: rest =>
      by_cases ht : t = 0
      · subst ht; rwa [refFields_stop] at hk ⊢
      · obtain ⟨hl, a, r, ha, hr, e⟩ := (refFields_cons_eq_some ht).mp hk
        exact (refFields_cons_eq_some ht).mpr ⟨hl, a, r, h t _ a ha, ih _ r hr, e⟩

theorem refN_le {f : Bytes → Option Nat} (h : Good f) : ∀ n b k, refN f n b = some k → k ≤ b.length := by
  intro n
  induction n with
  | zero => intro b k hk; cases hk; exact Nat.zero_le _
  | succ n ih =>
    intro b k hk
    obtain ⟨a, r, ha, hr, rfl⟩ := refN_succ_eq_some.mp hk
    have h1 := (h b a ha).2
    have h2 := ih _ r hr
    rw [List.length_drop] at h2
    omega

theorem refKV_le {f g : Bytes → Option Nat} (hf : Good f) (hg : Good g) :
    ∀ n b k, refKV f g n b = some k → k ≤ b.length := by
  intro n
  induction n with
  | zero => intro b k hk; cases hk; exact Nat.zero_le _
  | succ n ih =>
    intro b k hk
    obtain ⟨a, v, r, ha, hv, hr, rfl⟩ := refKV_succ_eq_some.mp hk
    have h1 := (hf b a ha).2
    have h2 := (hg _ v hv).2
    have h3 := ih _ r hr
    rw [List.length_drop] at h2 h3
    omega

theorem refFields_good {f : UInt8 → Bytes → Option Nat} (h : ∀ t, Good (f t)) :
    ∀ fuel, Good (refFields f fuel) := by
  intro fuel
  induction fuel with
  | zero => intro b k hk; cases hk
  | succ fuel ih =>
    intro b k hk
    match b with
    | [] => cases hk
    | t :: rest =>
      by_cases ht : t = 0
      · subst ht; rw [refFields_stop] at hk; cases hk; simp
      · obtain ⟨hl, a, r, ha, hr, rfl⟩ := (refFields_cons_eq_some ht).mp hk
        have h1 := (h t _ a ha).2
        have h2 := (ih _ r hr).2
        rw [List.length_drop] at h1 h2
        rw [List.length_cons]
        omega

theorem refStr_good : Good refStr := by
  intro b n h
  unfold refStr at h
  split at h
  · cases h; omega
  · cases h

theorem fixedSize_le (t : UInt8) : fixedSize t ≤ 8 := by
  unfold fixedSize
  by_cases h1 : t = 2 ∨ t = 3
  · rw [if_pos h1]; omega
  rw [if_neg h1]
  by_cases h2 : t = 6
  · rw [if_pos h2]; omega
  rw [if_neg h2]
  by_cases h3 : t = 8
  · rw [if_pos h3]; omega
  rw [if_neg h3]
  by_cases h4 : t = 4 ∨ t = 10
  · rw [if_pos h4]; omega
  · rw [if_neg h4]; omega


/-! ## one level of the grammar with separate measures for struct fields (F), list/set elements (L)
    and map keys / values (K, V — which may look at both type bytes) -/

/-- list/set body: element type, 4-byte count < 2^31, elements measured by L -/
def listBody (L : UInt8 → Bytes → Option Nat) (b : Bytes) : Option Nat :=
  match b with
  | et :: rest =>
    if 4 ≤ rest.length ∧ rd32 rest < 2147483648 then
      (refN (L et) (rd32 rest) (rest.drop 4)).map (5 + ·)
    else none
  | [] => none

/-- map body: key type, value type, 4-byte count < 2^31, pairs measured by K and V -/
def mapBody (K V : UInt8 → UInt8 → Bytes → Option Nat) (b : Bytes) : Option Nat :=
  match b with
  | kt :: vt :: rest =>
    if 4 ≤ rest.length ∧ rd32 rest < 2147483648 then
      (refKV (K kt vt) (V kt vt) (rd32 rest) (rest.drop 4)).map (6 + ·)
    else none
  | _ => none

def layerG (F L : UInt8 → Bytes → Option Nat) (K V : UInt8 → UInt8 → Bytes → Option Nat)
    (t : UInt8) (b : Bytes) : Option Nat :=
  if fixedSize t > 0 then
    if fixedSize t ≤ b.length then some (fixedSize t) else none
  else if t = TT.STRING then refStr b
  else if t = TT.STRUCT then refFields F (b.length + 1) b
  else if t = TT.LIST ∨ t = TT.SET then listBody L b
  else if t = TT.MAP then mapBody K V b
  else none

def fixedFn (t : UInt8) (b : Bytes) : Option Nat :=
  if fixedSize t ≤ b.length then some (fixedSize t) else none

theorem listBody_eq_some {L : UInt8 → Bytes → Option Nat} {b : Bytes} {n : Nat} :
    listBody L b = some n ↔
      ∃ et rest r, b = et :: rest ∧ 4 ≤ rest.length ∧ rd32 rest < 2147483648 ∧
        refN (L et) (rd32 rest) (rest.drop 4) = some r ∧ 5 + r = n := by
  constructor
  · intro h
    match b with
    | [] => cases h
    | et :: rest =>
      simp only [listBody] at h
      split at h
      · rename_i hc
        cases hr : refN (L et) (rd32 rest) (rest.drop 4) with
        | none => rw [hr] at h; cases h
        | some r => rw [hr] at h; exact ⟨et, rest, r, rfl, hc.1, hc.2, hr, Option.some.inj h⟩
      · cases h
  · rintro ⟨et, rest, r, rfl, h4, hn, hr, rfl⟩
    simp only [listBody, h4, hn, and_self, if_true, hr, Option.map_some]

theorem mapBody_eq_some {K V : UInt8 → UInt8 → Bytes → Option Nat} {b : Bytes} {n : Nat} :
    mapBody K V b = some n ↔
      ∃ kt vt rest r, b = kt :: vt :: rest ∧ 4 ≤ rest.length ∧ rd32 rest < 2147483648 ∧
        refKV (K kt vt) (V kt vt) (rd32 rest) (rest.drop 4) = some r ∧ 6 + r = n := by
  constructor
  · intro h
    match b with
    | [] => cases h
    | [_] => cases h
    | kt :: vt :: rest =>
      simp only [mapBody] at h
      split at h
      · rename_i hc
        cases hr : refKV (K kt vt) (V kt vt) (rd32 rest) (rest.drop 4) with
        | none => rw [hr] at h; cases h
        | some r => rw [hr] at h; exact ⟨kt, vt, rest, r, rfl, hc.1, hc.2, hr, Option.some.inj h⟩
      · cases h
  · rintro ⟨kt, vt, rest, r, rfl, h4, hn, hr, rfl⟩
    simp only [mapBody, h4, hn, and_self, if_true, hr, Option.map_some]

theorem mapBody_short {K V : UInt8 → UInt8 → Bytes → Option Nat} {b : Bytes} (h : b.length < 6) :
    mapBody K V b = none := by
  match b with
  | [] => rfl
  | [_] => rfl
  | _ :: _ :: rest =>
    simp only [mapBody]
    rw [if_neg]
    rw [List.length_cons, List.length_cons] at h
    omega

theorem listBody_short {L : UInt8 → Bytes → Option Nat} {b : Bytes} (h : b.length < 5) :
    listBody L b = none := by
  match b with
  | [] => rfl
  | _ :: rest =>
    simp only [listBody]
    rw [if_neg]
    rw [List.length_cons] at h
    omega

theorem listBody_mono {L L' : UInt8 → Bytes → Option Nat} (h : ∀ t, LeF (L t) (L' t)) :
    LeF (listBody L) (listBody L') := by
  intro b n hb
  obtain ⟨et, rest, r, e, h4, hn, hr, e'⟩ := listBody_eq_some.mp hb
  exact listBody_eq_some.mpr ⟨et, rest, r, e, h4, hn, refN_mono (h et) _ _ r hr, e'⟩

theorem mapBody_mono {K V K' V' : UInt8 → UInt8 → Bytes → Option Nat}
    (hK : ∀ k v, LeF (K k v) (K' k v)) (hV : ∀ k v, LeF (V k v) (V' k v)) :
    LeF (mapBody K V) (mapBody K' V') := by
  intro b n hb
  obtain ⟨kt, vt, rest, r, e, h4, hn, hr, e'⟩ := mapBody_eq_some.mp hb
  exact mapBody_eq_some.mpr ⟨kt, vt, rest, r, e, h4, hn, refKV_mono (hK kt vt) (hV kt vt) _ _ r hr, e'⟩

theorem listBody_good {L : UInt8 → Bytes → Option Nat} (h : ∀ t, Good (L t)) : Good (listBody L) := by
  intro b n hb
  obtain ⟨et, rest, r, rfl, h4, _, hr, rfl⟩ := listBody_eq_some.mp hb
  have := refN_le (h et) _ _ r hr
  rw [List.length_drop] at this
  rw [List.length_cons]
  omega

theorem mapBody_good {K V : UInt8 → UInt8 → Bytes → Option Nat} (hK : ∀ k v, Good (K k v))
    (hV : ∀ k v, Good (V k v)) : Good (mapBody K V) := by
  intro b n hb
  obtain ⟨kt, vt, rest, r, rfl, h4, _, hr, rfl⟩ := mapBody_eq_some.mp hb
  have := refKV_le (hK kt vt) (hV kt vt) _ _ r hr
  rw [List.length_drop] at this
  rw [List.length_cons, List.length_cons]
  omega

theorem fixedFn_good (t : UInt8) (h : 0 < fixedSize t) : Good (fixedFn t) := by
  intro b n hb
  unfold fixedFn at hb
  split at hb
  · cases hb; omega
  · cases hb

theorem layerG_cases (t : UInt8) :
    (0 < fixedSize t ∧ ∀ F L K V, layerG F L K V t = fixedFn t) ∨
    (fixedSize t = 0 ∧ t = TT.STRING ∧ ∀ F L K V, layerG F L K V t = refStr) ∨
    (fixedSize t = 0 ∧ t = TT.STRUCT ∧ ∀ F L K V, layerG F L K V t = fun b => refFields F (b.length + 1) b) ∨
    (fixedSize t = 0 ∧ (t = TT.LIST ∨ t = TT.SET) ∧ ∀ F L K V, layerG F L K V t = listBody L) ∨
    (fixedSize t = 0 ∧ t = TT.MAP ∧ ∀ F L K V, layerG F L K V t = mapBody K V) ∨
    (fixedSize t = 0 ∧ t ≠ TT.STRING ∧ t ≠ TT.STRUCT ∧ ¬ (t = TT.LIST ∨ t = TT.SET) ∧ t ≠ TT.MAP ∧
      ∀ F L K V, layerG F L K V t = fun _ => none) := by
  by_cases hf : 0 < fixedSize t
  · exact .inl ⟨hf, fun F L K V => funext fun b => by unfold layerG fixedFn; rw [if_pos hf]⟩
  have h0 : fixedSize t = 0 := by omega
  by_cases hs : t = TT.STRING
  · exact .inr (.inl ⟨h0, hs, fun F L K V => funext fun b => by unfold layerG; rw [if_neg hf, if_pos hs]⟩)
  by_cases hst : t = TT.STRUCT
  · exact .inr (.inr (.inl ⟨h0, hst, fun F L K V => funext fun b => by
      unfold layerG; rw [if_neg hf, if_neg hs, if_pos hst]⟩))
  by_cases hl : t = TT.LIST ∨ t = TT.SET
  · exact .inr (.inr (.inr (.inl ⟨h0, hl, fun F L K V => funext fun b => by
      unfold layerG; rw [if_neg hf, if_neg hs, if_neg hst, if_pos hl]⟩)))
  by_cases hm : t = TT.MAP
  · exact .inr (.inr (.inr (.inr (.inl ⟨h0, hm, fun F L K V => funext fun b => by
      unfold layerG; rw [if_neg hf, if_neg hs, if_neg hst, if_neg hl, if_pos hm]⟩))))
  · exact .inr (.inr (.inr (.inr (.inr ⟨h0, hs, hst, hl, hm, fun F L K V => funext fun b => by
      unfold layerG; rw [if_neg hf, if_neg hs, if_neg hst, if_neg hl, if_neg hm]⟩))))

theorem layerG_mono {F L F' L' : UInt8 → Bytes → Option Nat} {K V K' V' : UInt8 → UInt8 → Bytes → Option Nat}
    (hF : ∀ t, LeF (F t) (F' t)) (hL : ∀ t, LeF (L t) (L' t))
    (hK : ∀ k v, LeF (K k v) (K' k v)) (hV : ∀ k v, LeF (V k v) (V' k v)) (t : UInt8) :
    LeF (layerG F L K V t) (layerG F' L' K' V' t) := by
  rcases layerG_cases t with ⟨_, h⟩ | ⟨_, _, h⟩ | ⟨_, _, h⟩ | ⟨_, _, h⟩ | ⟨_, _, h⟩ | ⟨_, _, _, _, _, h⟩ <;>
    rw [h, h]
  · exact LeF.refl _
  · exact LeF.refl _
  · exact fun b => refFields_mono hF _ b
  · exact listBody_mono hL
  · exact mapBody_mono hK hV
  · exact LeF.refl _

theorem layerG_good {F L : UInt8 → Bytes → Option Nat} {K V : UInt8 → UInt8 → Bytes → Option Nat}
    (hF : ∀ t, Good (F t)) (hL : ∀ t, Good (L t)) (hK : ∀ k v, Good (K k v)) (hV : ∀ k v, Good (V k v))
    (t : UInt8) : Good (layerG F L K V t) := by
  rcases layerG_cases t with ⟨hf, h⟩ | ⟨_, _, h⟩ | ⟨_, _, h⟩ | ⟨_, _, h⟩ | ⟨_, _, h⟩ | ⟨_, _, _, _, _, h⟩ <;>
    rw [h]
  · exact fixedFn_good t hf
  · exact refStr_good
  · exact fun b => refFields_good hF _ b
  · exact listBody_good hL
  · exact mapBody_good hK hV
  · exact fun _ _ hn => nomatch hn

theorem layer_eq_layerG (E : UInt8 → Bytes → Option Nat) (t : UInt8) (b : Bytes) :
    layer E t b = layerG E E (fun kt _ => E kt) (fun _ vt => E vt) t b := by
  unfold layer layerG listBody mapBody
  rfl


theorem layer_mono {E E' : UInt8 → Bytes → Option Nat} (h : ∀ t, LeF (E t) (E' t)) (t : UInt8) :
    LeF (layer E t) (layer E' t) := by
  intro b n hb
  rw [layer_eq_layerG] at hb ⊢
  exact layerG_mono h h (fun k _ => h k) (fun _ v => h v) t b n hb

theorem fixedFn_eq_layer (E : UInt8 → Bytes → Option Nat) {t : UInt8} (h : 0 < fixedSize t) :
    fixedFn t = layer E t := by
  funext b; unfold layer fixedFn; rw [if_pos h]

/-! ## disciplines that measure some nested values in line

  The implementations do not spend a level of recursion on every nested value: depending on its type
  an element, key, value or field is measured in line.  `Inlines A`: the element measure `A E` is
  monotone in `E`, keeps extents within bounds, and measures exactly what the grammar layer measures
  once `E` is itself a layer.  Any discipline `X (d+1) = layerG (F (X d)) (L (X d)) …` built from such
  measures lies between `refLen d` and `refLen (d+1)`. -/

structure Inlines (A : (UInt8 → Bytes → Option Nat) → UInt8 → Bytes → Option Nat) : Prop where
  mono : ∀ {E E' : UInt8 → Bytes → Option Nat}, (∀ t, LeF (E t) (E' t)) → ∀ t, LeF (A E t) (A E' t)
  good : ∀ {E : UInt8 → Bytes → Option Nat}, (∀ t, Good (E t)) → ∀ t, Good (A E t)
  layer : ∀ (E : UInt8 → Bytes → Option Nat) (t : UInt8), A (layer E) t = layer E t

theorem Inlines.id : Inlines (fun E => E) := ⟨fun h => h, fun h => h, fun _ _ => rfl⟩

theorem Inlines.refLen_le {A : (UInt8 → Bytes → Option Nat) → UInt8 → Bytes → Option Nat} (hA : Inlines A)
    {Y : UInt8 → Bytes → Option Nat} {d : Nat} (ih : ∀ t, LeF (refLen d t) (Y t)) (t : UInt8) :
    LeF (refLen d t) (A Y t) := by
  cases d with
  | zero => intro b n h; cases h
  | succ d =>
    intro b n h
    have h' : A (refLen (d+1)) t b = some n := by
      show A (Verif.layer (refLen d)) t b = some n
      rw [hA.layer]; exact h
    exact hA.mono ih t b n h'

theorem Inlines.le_refLen {A : (UInt8 → Bytes → Option Nat) → UInt8 → Bytes → Option Nat} (hA : Inlines A)
    {Y : UInt8 → Bytes → Option Nat} {d : Nat} (ih : ∀ t, LeF (Y t) (refLen (d+1) t)) (t : UInt8) :
    LeF (A Y t) (refLen (d+1) t) := by
  intro b n h
  have h' := hA.mono ih t b n h
  have e : A (refLen (d+1)) t = Verif.layer (refLen d) t := hA.layer (refLen d) t
  rw [e] at h'
  exact h'

section
variable {X : Nat → UInt8 → Bytes → Option Nat}
  {F L : (UInt8 → Bytes → Option Nat) → UInt8 → Bytes → Option Nat}
  {K V : (UInt8 → Bytes → Option Nat) → UInt8 → UInt8 → Bytes → Option Nat}
  (hF : Inlines F) (hL : Inlines L) (hK : ∀ v, Inlines (fun E k => K E k v)) (hV : ∀ k, Inlines (fun E v => V E k v))
  (h0 : ∀ t b, X 0 t b = none)
  (hs : ∀ d t b, X (d+1) t b = layerG (F (X d)) (L (X d)) (K (X d)) (V (X d)) t b)
include hF hL hK hV h0 hs

theorem Inlines.good_of_step : ∀ d t, Good (X d t) := by
  intro d
  induction d with
  | zero => intro t b n h; rw [h0] at h; cases h
  | succ d ih =>
    intro t b n h
    rw [hs] at h
    exact layerG_good (hF.good ih) (hL.good ih) (fun k v => (hK v).good ih k) (fun k v => (hV k).good ih v) t b n h

omit h0 in
theorem Inlines.refLen_le_of_step : ∀ d t, LeF (refLen d t) (X d t) := by
  intro d
  induction d with
  | zero => intro t b n h; cases h
  | succ d ih =>
    intro t b n h
    rw [hs]
    have h' : Verif.layer (refLen d) t b = some n := h
    rw [layer_eq_layerG] at h'
    exact layerG_mono (hF.refLen_le ih) (hL.refLen_le ih) (fun k v => (hK v).refLen_le ih k)
      (fun k v => (hV k).refLen_le ih v) t b n h'

theorem Inlines.le_refLen_of_step : ∀ d t, LeF (X d t) (refLen (d+1) t) := by
  intro d
  induction d with
  | zero => intro t b n h; rw [h0] at h; cases h
  | succ d ih =>
    intro t b n h
    rw [hs] at h
    show Verif.layer (refLen (d+1)) t b = some n
    rw [layer_eq_layerG]
    exact layerG_mono (hF.le_refLen ih) (hL.le_refLen ih) (fun k v => (hK v).le_refLen ih k)
      (fun k v => (hV k).le_refLen ih v) t b n h
end


theorem refLen_good : ∀ d t, Good (refLen d t) :=
  Inlines.good_of_step .id .id (fun _ => .id) (fun _ => .id) (fun _ _ => rfl)
    (fun d t b => layer_eq_layerG (refLen d) t b)

theorem refLen_le {d t b n} (h : refLen d t b = some n) : n ≤ b.length := (refLen_good d t b n h).2
theorem refLen_pos {d t b n} (h : refLen d t b = some n) : 1 ≤ n := (refLen_good d t b n h).1

theorem refLen_mono_succ : ∀ d t, LeF (refLen d t) (refLen (d+1) t) :=
  Inlines.le_refLen_of_step .id .id (fun _ => .id) (fun _ => .id) (fun _ _ => rfl)
    (fun d t b => layer_eq_layerG (refLen d) t b)

theorem refLen_mono {d d' : Nat} (hd : d ≤ d') (t : UInt8) : LeF (refLen d t) (refLen d' t) := by
  induction hd with
  | refl => exact LeF.refl _
  | step _ ih => exact LeF.trans ih (refLen_mono_succ _ t)

/-! ## the acceptance discipline of Binary.Skip: fixed-size and string elements are measured in line
    and do not consume recursion depth -/

def gElem (f : UInt8 → Bytes → Option Nat) (t : UInt8) (b : Bytes) : Option Nat :=
  if fixedSize t > 0 then (if fixedSize t ≤ b.length then some (fixedSize t) else none)
  else if t = TT.STRING then refStr b
  else f t b

/-- exactly what Binary.Skip accepts with `maxdepth = d` (proved in Lemmas/SkipBin.lean) -/
def refBin : Nat → UInt8 → Bytes → Option Nat
  | 0, _, _ => none
  | d+1, t, b => layer (gElem (refBin d)) t b

theorem fixedSize_STRING : fixedSize TT.STRING = 0 := by decide

theorem gElem_cases (t : UInt8) :
    (0 < fixedSize t ∧ ∀ f, gElem f t = fixedFn t) ∨ (t = TT.STRING ∧ ∀ f, gElem f t = refStr) ∨
    (fixedSize t = 0 ∧ t ≠ TT.STRING ∧ ∀ f, gElem f t = f t) := by
  by_cases hf : 0 < fixedSize t
  · exact .inl ⟨hf, fun f => funext fun b => by unfold gElem fixedFn; rw [if_pos hf]⟩
  by_cases hs : t = TT.STRING
  · exact .inr (.inl ⟨hs, fun f => funext fun b => by unfold gElem; rw [if_neg hf, if_pos hs]⟩)
  · exact .inr (.inr ⟨by omega, hs, fun f => funext fun b => by unfold gElem; rw [if_neg hf, if_neg hs]⟩)

theorem gElem_inlines : Inlines gElem where
  mono := by
    intro E E' h t
    rcases gElem_cases t with ⟨_, e⟩ | ⟨_, e⟩ | ⟨_, _, e⟩ <;> rw [e, e]
    · exact LeF.refl _
    · exact LeF.refl _
    · exact h t
  good := by
    intro E h t
    rcases gElem_cases t with ⟨hf, e⟩ | ⟨_, e⟩ | ⟨_, _, e⟩ <;> rw [e]
    · exact fixedFn_good t hf
    · exact refStr_good
    · exact h t
  layer := by
    intro E t
    rcases gElem_cases t with ⟨hf, e⟩ | ⟨rfl, e⟩ | ⟨_, _, e⟩ <;> rw [e]
    · exact fixedFn_eq_layer E hf
    · funext b; unfold layer; rw [if_neg (by decide), if_pos rfl]

theorem refBin_step (d : Nat) (t : UInt8) (b : Bytes) :
    refBin (d+1) t b = layerG (gElem (refBin d)) (gElem (refBin d)) (fun k _ => gElem (refBin d) k)
      (fun _ v => gElem (refBin d) v) t b :=
  layer_eq_layerG _ t b

theorem refBin_good : ∀ d t, Good (refBin d t) :=
  Inlines.good_of_step gElem_inlines gElem_inlines (fun _ => gElem_inlines) (fun _ => gElem_inlines)
    (fun _ _ => rfl) refBin_step

/-- everything within nesting d is accepted by Binary.Skip with maxdepth d … -/
theorem refLen_le_refBin : ∀ d t, LeF (refLen d t) (refBin d t) :=
  Inlines.refLen_le_of_step gElem_inlines gElem_inlines (fun _ => gElem_inlines) (fun _ => gElem_inlines)
    refBin_step

/-- … and everything Binary.Skip accepts with maxdepth d lies within nesting d+1 -/
theorem refBin_le_refLen : ∀ d t, LeF (refBin d t) (refLen (d+1) t) :=
  Inlines.le_refLen_of_step gElem_inlines gElem_inlines (fun _ => gElem_inlines) (fun _ => gElem_inlines)
    (fun _ _ => rfl) refBin_step

end Verif
