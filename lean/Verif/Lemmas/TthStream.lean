/-
  Lemmas/TthStream: Decode over ANY reader that keeps the bufiox.Reader contract (a cursor over the
  remaining stream) — the layering step: codecs are proved against the abstract contract; that the
  DefaultReader keeps it, in the form `CmpReader`, is `cmp_rd_any` / `cmp_rd_live` of Lemmas/ComposeTth.

  The contract comes in two forms.  `ReaderOK` quantifies over ALL reader states and ALL request sizes.
  C04's results about `Rd.next` hold for states satisfying its invariant and for requests in range, so
  `Compose.CmpReader` carries an invariant `P`, a request bound, and a liveness predicate `live s n`
  ("n more bytes can still be delivered").  Decode is proved against the second form (`cmp_decodeG`:
  Decode asks for 14 and then for at most 65536 bytes); the first is the instance with the trivial
  invariant and nothing promised.
-/
import Verif.Lemmas.TthDecode
namespace Verif.Compose
open Verif Verif.TTH Verif.Frame

/-- the bufiox.Reader contract as far as Decode uses it, for states satisfying `P` and requests up to
    `bnd`: `Next(n)` returns exactly the next n bytes of the remaining stream, advances by n, keeps `P`
    and what was deliverable beyond n still is; or it fails with a NON-NIL error, moves nothing, and
    the state was not live for n bytes. -/
structure CmpReader {σ : Type} (next : σ → Int → RdRes × σ) (rem : σ → Bytes) (pos : σ → Nat)
    (P : σ → Prop) (live : σ → Nat → Prop) (bnd : Nat) : Prop where
  ok : ∀ (s : σ) (n : Nat) (bs : Bytes), P s → n ≤ bnd → (next s n).1 = .ok bs →
    n ≤ (rem s).length ∧ bs = (rem s).take n ∧ rem (next s n).2 = (rem s).drop n ∧
    pos (next s n).2 = pos s + n ∧ P (next s n).2 ∧ ∀ m, live s (n + m) → live (next s n).2 m
  fail : ∀ (s : σ) (n : Nat) (e : Option RErr), P s → n ≤ bnd → (next s n).1 = .fail e →
    e ≠ none ∧ pos (next s n).2 = pos s ∧ ¬ live s n
  fuel : ∀ (s : σ) (n : Nat), P s → n ≤ bnd → (next s n).1 ≠ .nofuel
  mono : ∀ (s : σ) (n m : Nat), live s (n + m) → live s n

theorem CmpReader.with_live {σ : Type} {next : σ → Int → RdRes × σ} {rem : σ → Bytes} {pos : σ → Nat}
    {P Q : σ → Prop} {live : σ → Nat → Prop} {bnd : Nat} (hc : CmpReader next rem pos P (fun _ _ => False) bnd)
    (hQ : ∀ s, Q s → P s)
    (keep : ∀ (s : σ) (n : Nat) (bs : Bytes), Q s → n ≤ bnd → (next s n).1 = .ok bs → n ≤ (rem s).length →
      rem (next s n).2 = (rem s).drop n → P (next s n).2 →
      Q (next s n).2 ∧ ∀ m, live s (n + m) → live (next s n).2 m)
    (served : ∀ (s : σ) (n : Nat) (e : Option RErr), Q s → n ≤ bnd → (next s n).1 = .fail e → ¬ live s n)
    (mono : ∀ (s : σ) (n m : Nat), live s (n + m) → live s n) : CmpReader next rem pos Q live bnd where
  ok s n bs h hn hr := by
    obtain ⟨a, b, c, d, e, -⟩ := hc.ok s n bs (hQ s h) hn hr
    exact ⟨a, b, c, d, keep s n bs h hn hr a c e⟩
  fail s n e h hn hr :=
    ⟨(hc.fail s n e (hQ s h) hn hr).1, (hc.fail s n e (hQ s h) hn hr).2.1, served s n e h hn hr⟩
  fuel s n h hn := hc.fuel s n (hQ s h) hn
  mono := mono

theorem cmp_decodeMeta_size (bs : Bytes) (h : bs.length = 14) (m : Meta) (hm : decodeMeta bs = .ok m) :
    m.size = 4 * rd16 (bs.drop 12) ∧ m.size ≤ 65536 := by
  rw [decodeMeta_eq bs h] at hm
  split at hm
  · cases hm
  · split at hm
    · cases hm
    · rename_i hsz
      have := Out.ok.inj hm
      subst this
      exact ⟨rfl, Nat.le_of_not_lt fun hgt => hsz (Or.inl hgt)⟩

theorem cmp_decodeG {σ : Type} (next : σ → Int → RdRes × σ) (rem : σ → Bytes) (pos : σ → Nat)
    (P : σ → Prop) (live : σ → Nat → Prop) (bnd : Nat)
    (hc : CmpReader next rem pos P live bnd) (hb : 65536 ≤ bnd) (s : σ) (hP : P s) :
    ((decodeG next s).1 = (decodeCur (rem s)).1 ∧
      pos (decodeG next s).2 = pos s + (decodeCur (rem s)).2 ∧
      rem (decodeG next s).2 = (rem s).drop (decodeCur (rem s)).2 ∧ P (decodeG next s).2) ∨
    (∃ e, (decodeG next s).1 = .err (.rd e) ∧ pos (decodeG next s).2 ≤ pos s + (decodeCur (rem s)).2 ∧
      ¬ live s (14 + declared (rem s))) := by
  have h14 : (14 : Nat) ≤ bnd := Nat.le_trans (by decide) hb
  unfold decodeCur decodeG
  rw [show Facts.ttMetaSize = 14 from rfl]
  dsimp only
  -- first Next
  cases h1 : (next s (14 : Nat)).1 with
  | nofuel => exact absurd h1 (hc.fuel s _ hP h14)
  | fail e =>
    obtain ⟨hne, hp, hnl⟩ := hc.fail s _ e hP h14 h1
    cases e with
    | none => exact absurd rfl hne
    | some e =>
      exact Or.inr ⟨e, rfl, Nat.le_trans (Nat.le_of_eq hp) (Nat.le_add_right _ _), fun hl => hnl (hc.mono s _ _ hl)⟩
  | ok bs =>
    obtain ⟨hlen, hbs, hrem, hp, hP1, hlive1⟩ := hc.ok s _ bs hP h14 h1
    have hbl : bs.length = 14 := by rw [hbs, List.length_take]; exact Nat.min_eq_left hlen
    rw [Cur.next_ok ⟨rem s, 0⟩ 14 hlen]
    simp only [nextBytes, Out.bind_ok, List.drop_zero, Nat.zero_add, ← hbs]
    cases hm : decodeMeta bs with
    | ok m =>
      obtain ⟨hsz, hsz2⟩ := cmp_decodeMeta_size bs hbl m hm
      have hmb : m.size ≤ bnd := Nat.le_trans hsz2 hb
      have hdecl : m.size = declared (rem s) := by
        rw [hsz, hbs]
        exact congrArg (4 * ·) (rd16_take_drop _ _ _ (by decide))
      simp only
      cases h2 : (next (next s (14 : Nat)).2 (m.size : Nat)).1 with
      | nofuel => exact absurd h2 (hc.fuel _ _ hP1 hmb)
      | fail e =>
        obtain ⟨hne, hp2, hnl⟩ := hc.fail _ _ e hP1 hmb h2
        cases e with
        | none => exact absurd rfl hne
        | some e =>
          refine Or.inr ⟨e, rfl, ?_, fun hl => hnl (hlive1 _ (hdecl ▸ hl))⟩
          show pos (next (next s (14 : Nat)).2 (m.size : Nat)).2 ≤ _
          rw [hp2, hp]
          by_cases hfit : m.size ≤ (rem s).length - 14
          · rw [Cur.next_ok ⟨rem s, 14⟩ m.size hfit]; exact Nat.add_le_add_left (Nat.le_add_right _ _) _
          · rw [Cur.next_eof ⟨rem s, 14⟩ m.size hfit]; exact Nat.le_refl _
      | ok bs2 =>
        obtain ⟨hlen2, hbs2, hrem2, hp2, hP2, _⟩ := hc.ok _ _ bs2 hP1 hmb h2
        rw [hrem, List.length_drop] at hlen2
        rw [hrem] at hbs2 hrem2
        rw [Cur.next_ok ⟨rem s, 14⟩ m.size hlen2]
        simp only [Out.bind_ok, ← hbs2]
        exact Or.inl ⟨trivial, by rw [hp2, hp, Nat.add_assoc], by rw [hrem2, List.drop_drop], hP2⟩
    -- without a meta region Decode stops after the first Next, over any reader
    | _ => exact Or.inl ⟨rfl, hp, hrem, hP1⟩
end Verif.Compose

namespace Verif.TTH

/-- the bufiox.Reader contract as far as Decode uses it: a cursor over the remaining stream.
    `Next(n)` either returns exactly the next n bytes and advances by n, or fails with a non-nil error
    and leaves the position alone.  The DefaultReader keeps the form `Compose.CmpReader` above, which
    restricts states and request sizes (Lemmas/ComposeTth); the plain cursor keeps this one. -/
structure ReaderOK {σ : Type} (next : σ → Int → RdRes × σ) (rem : σ → Bytes) (pos : σ → Nat) : Prop where
  ok : ∀ (s : σ) (n : Nat) (bs : Bytes), (next s n).1 = .ok bs →
    n ≤ (rem s).length ∧ bs = (rem s).take n ∧ rem (next s n).2 = (rem s).drop n ∧ pos (next s n).2 = pos s + n
  fail : ∀ (s : σ) (n : Nat) (e : Option RErr), (next s n).1 = .fail e → e ≠ none ∧ pos (next s n).2 = pos s
  fuel : ∀ (s : σ) (n : Nat), (next s n).1 ≠ .nofuel

theorem ReaderOK.cmp {σ : Type} {next : σ → Int → RdRes × σ} {rem : σ → Bytes} {pos : σ → Nat}
    (hc : ReaderOK next rem pos) (bnd : Nat) :
    Compose.CmpReader next rem pos (fun _ => True) (fun _ _ => False) bnd where
  ok s n bs _ _ h := by
    obtain ⟨a, b, c, d⟩ := hc.ok s n bs h
    exact ⟨a, b, c, d, trivial, fun _ hf => hf⟩
  fail s n e _ _ h := ⟨(hc.fail s n e h).1, (hc.fail s n e h).2, fun hf => hf⟩
  fuel s n _ _ := hc.fuel s n
  mono _ _ _ h := h

/-- Decode over any reader that keeps the contract: either exactly what Decode over the remaining
    stream gives (same result, same number of bytes consumed), or the reader's own error, having consumed
    no more than that. -/
theorem decodeG_contract {σ : Type} (next : σ → Int → RdRes × σ) (rem : σ → Bytes) (pos : σ → Nat)
    (hc : ReaderOK next rem pos) (s : σ) :
    ((decodeG next s).1 = (decodeCur (rem s)).1 ∧ pos (decodeG next s).2 = pos s + (decodeCur (rem s)).2) ∨
    (∃ e, (decodeG next s).1 = .err (.rd e) ∧ pos (decodeG next s).2 ≤ pos s + (decodeCur (rem s)).2) := by
  rcases Compose.cmp_decodeG next rem pos _ _ 65536 (hc.cmp 65536) (Nat.le_refl _) s trivial with
    ⟨h1, h2, _⟩ | ⟨e, h1, h2, _⟩
  · exact Or.inl ⟨h1, h2⟩
  · exact Or.inr ⟨e, h1, h2⟩

/-- the plain cursor keeps the contract (so the contract is satisfiable) -/
theorem cur_readerOK : ReaderOK Cur.next (fun c => c.b.drop c.pos) (fun c => c.pos) := by
  refine ⟨fun s n bs h => ?_, fun s n e h => ?_, fun s n h => ?_⟩ <;>
    by_cases hn : n ≤ s.b.length - s.pos
  · rw [Cur.next_ok s n hn] at h ⊢
    cases h
    exact ⟨by rw [List.length_drop]; exact hn, rfl, List.drop_drop.symm, rfl⟩
  · rw [Cur.next_eof s n hn] at h; cases h
  · rw [Cur.next_ok s n hn] at h; cases h
  · rw [Cur.next_eof s n hn] at h ⊢
    cases h
    exact ⟨nofun, rfl⟩
  · rw [Cur.next_ok s n hn] at h; cases h
  · rw [Cur.next_eof s n hn] at h; cases h

end Verif.TTH
