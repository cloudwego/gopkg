/-
  Lemmas/WriterLog: facts about the log spec (Spec/WriterLog): where the items lie in the
  concatenation (`layout`), what a store into one region does to the concatenation, and the
  healthy logs (`Compose.LogOK`).
-/
import Verif.Lemmas.WriterList
namespace Verif
open WLog

/-- (id, position, length) of every region item, positions counted from `b` -/
def layout : Nat → List Item → List (Nat × Nat × Nat)
  | _, [] => []
  | b, .region id n :: rest => (id, b, n) :: layout (b + n) rest
  | b, .payload bs :: rest => layout (b + bs.length) rest

/-- the concatenation of the items' latest contents -/
def concat (store : Nat → SBytes) (items : List Item) : SBytes :=
  (items.map (Item.content store)).flatten

def lenSum (items : List Item) : Nat := (items.map Item.len).sum

theorem concat_nil (store : Nat → SBytes) : concat store [] = [] := rfl

theorem concat_cons (store : Nat → SBytes) (it : Item) (items : List Item) :
    concat store (it :: items) = it.content store ++ concat store items := by
  simp [concat]

theorem concat_append (store : Nat → SBytes) (xs ys : List Item) :
    concat store (xs ++ ys) = concat store xs ++ concat store ys := by
  simp [concat]

theorem lenSum_append (xs ys : List Item) : lenSum (xs ++ ys) = lenSum xs + lenSum ys := by
  simp [lenSum]

theorem lenSum_cons (x : Item) (xs : List Item) : lenSum (x :: xs) = x.len + lenSum xs := rfl

theorem layout_cons (b : Nat) (x : Item) (xs : List Item) :
    layout b (x :: xs) = layout b [x] ++ layout (b + x.len) xs := by
  cases x <;> rfl

theorem layout_append (b : Nat) (xs ys : List Item) :
    layout b (xs ++ ys) = layout b xs ++ layout (b + lenSum xs) ys := by
  induction xs generalizing b with
  | nil => rfl
  | cons x xs ih =>
    rw [List.cons_append, layout_cons, ih, layout_cons b x xs, lenSum_cons, Nat.add_assoc, List.append_assoc]

theorem layout_snoc_region (items : List Item) (id n : Nat) :
    layout 0 (items ++ [.region id n]) = layout 0 items ++ [(id, lenSum items, n)] := by
  rw [layout_append, Nat.zero_add]; rfl

theorem layout_snoc_payload (items : List Item) (bs : List UInt8) :
    layout 0 (items ++ [.payload bs]) = layout 0 items := by
  rw [layout_append]; exact List.append_nil _

/-- every region lies at or after `b` and ends inside the concatenation -/
theorem layout_bounds (b : Nat) (items : List Item) (t : Nat × Nat × Nat) (h : t ∈ layout b items) :
    b ≤ t.2.1 ∧ t.2.1 + t.2.2 ≤ b + lenSum items := by
  induction items generalizing b with
  | nil => cases h
  | cons x xs ih =>
    cases x with
    | region id n =>
      simp only [layout, List.mem_cons] at h
      simp only [lenSum, List.map_cons, List.sum_cons, Item.len]
      rcases h with rfl | h
      · simp only; omega
      · have := ih _ h; simp only [lenSum] at this; omega
    | payload bs =>
      simp only [layout] at h
      simp only [lenSum, List.map_cons, List.sum_cons, Item.len]
      have := ih _ h; simp only [lenSum] at this; omega

theorem forall_layout_base {P : Nat → Nat → Prop} (b b' : Nat) (xs : List Item)
    (h : ∀ t ∈ layout b xs, P t.1 t.2.2) : ∀ t ∈ layout b' xs, P t.1 t.2.2 := by
  induction xs generalizing b b' with
  | nil => intro t ht; cases ht
  | cons x xs ih =>
    cases x with
    | region id n =>
      intro t ht
      rcases List.mem_cons.mp ht with rfl | ht
      · exact h (id, b, n) (List.mem_cons_self ..)
      · exact ih (b + n) (b' + n) (fun t ht => h t (List.mem_cons_of_mem _ ht)) t ht
    | payload bs => exact ih _ _ h

theorem forall_layout_tail {P : Nat → Nat → Prop} (x : Item) (xs : List Item)
    (h : ∀ t ∈ layout 0 (x :: xs), P t.1 t.2.2) : ∀ t ∈ layout 0 xs, P t.1 t.2.2 :=
  forall_layout_base (0 + x.len) 0 xs
    (fun t ht => h t (by rw [layout_cons]; exact List.mem_append_right _ ht))

/-- every region's stored content has the region's length -/
def StoreOK (store : Nat → SBytes) (items : List Item) : Prop :=
  ∀ t ∈ layout 0 items, (store t.1).length = t.2.2

theorem length_concat (store : Nat → SBytes) (items : List Item) (h : StoreOK store items) :
    (concat store items).length = lenSum items := by
  induction items with
  | nil => rfl
  | cons x xs ih =>
    rw [concat_cons, List.length_append,
      ih (forall_layout_tail (P := fun id n => (store id).length = n) x xs h)]
    show _ = (x.len :: xs.map Item.len).sum
    rw [List.sum_cons]
    congr 1
    cases x with
    | region id n => exact h (id, 0, n) (List.mem_cons_self ..)
    | payload bs => exact List.length_map _

/-- a store into an id that no item mentions is invisible -/
theorem concat_congr (store store' : Nat → SBytes) (items : List Item)
    (h : ∀ t ∈ layout 0 items, store' t.1 = store t.1) : concat store' items = concat store items := by
  induction items with
  | nil => rfl
  | cons x xs ih =>
    rw [concat_cons, concat_cons, ih (forall_layout_tail (P := fun id _ => store' id = store id) x xs h)]
    congr 1
    cases x with
    | region id n => exact h (id, 0, n) (List.mem_cons_self ..)
    | payload bs => rfl

/-- an item of length n in front of position p: positions behind it shift by n -/
private theorem shift_behind {p b n : Nat} (off : Nat) (h : b + n ≤ p) :
    n ≤ p - b + off ∧ p - b + off - n = p - (b + n) + off :=
  have h' : n ≤ p - b := Nat.le_sub_of_add_le' h
  ⟨Nat.le_trans h' (Nat.le_add_right _ _), by rw [Nat.sub_add_comm h', Nat.sub_sub]⟩

/-- THE spec-side fact: storing `bs` at offset `off` of the region that lies at position `p`
    overwrites the concatenation at `p + off`, and nothing else (ids are distinct) -/
theorem concat_fill (store : Nat → SBytes) (items : List Item) (b id p n off : Nat) (bs : SBytes)
    (hmem : (id, p, n) ∈ layout b items) (hnd : ((layout b items).map (·.1)).Nodup)
    (hs : ∀ t ∈ layout b items, (store t.1).length = t.2.2) (hfit : off + bs.length ≤ n) :
    concat (fun i => if i = id then overwrite (store id) off bs else store i) items
      = overwrite (concat store items) (p - b + off) bs := by
  induction items generalizing b with
  | nil => cases hmem
  | cons x xs ih =>
    rw [concat_cons, concat_cons]
    cases x with
    | region id' n' =>
      obtain ⟨hid', hnd'⟩ := List.nodup_cons.mp hnd
      have hlen' : (store id').length = n' := hs (id', b, n') (List.mem_cons_self ..)
      have hs' : ∀ t ∈ layout (b + n') xs, (store t.1).length = t.2.2 :=
        fun t ht => hs t (List.mem_cons_of_mem _ ht)
      rcases List.mem_cons.mp hmem with he | hmem'
      · -- the head item is the region; no later item has its id
        cases he
        rw [concat_congr store _ xs (forall_layout_base (P := fun i _ => (if i = id then _ else store i) = store i)
          (p + n) 0 xs (fun t ht => if_neg (fun (e : t.1 = id) => hid' (e ▸ List.mem_map_of_mem (f := (·.1)) ht))))]
        show (if id = id then _ else _) ++ _ = overwrite (store id ++ _) _ _
        rw [if_pos rfl, Nat.sub_self, Nat.zero_add, overwrite_append_left _ _ _ _ (by rw [hlen']; exact hfit)]
      · -- the region lies further right
        have hne : id' ≠ id := fun e => hid' (e ▸ List.mem_map_of_mem (f := (·.1)) hmem')
        have hb : b + n' ≤ p := (layout_bounds _ _ _ hmem').1
        rw [ih (b + n') hmem' hnd' hs']
        show (if id' = id then _ else store id') ++ _ = overwrite (store id' ++ _) _ _
        rw [if_neg hne, overwrite_append_of_le _ _ _ _ (by rw [hlen']; exact (shift_behind off hb).1), hlen',
          (shift_behind off hb).2]
    | payload pl =>
      have hb : b + pl.length ≤ p := (layout_bounds (b + pl.length) xs _ hmem).1
      rw [ih (b + pl.length) hmem hnd hs]
      show pl.map some ++ _ = overwrite (pl.map some ++ _) _ _
      rw [overwrite_append_of_le _ _ _ _ (by rw [List.length_map]; exact (shift_behind off hb).1),
        List.length_map, (shift_behind off hb).2]

theorem storeOK_fill {store : Nat → SBytes} {items : List Item} (h : StoreOK store items) (id off : Nat)
    (bs : SBytes) (hfit : off + bs.length ≤ (store id).length) :
    StoreOK (fun i => if i = id then overwrite (store id) off bs else store i) items := by
  intro t ht
  show List.length (if t.1 = id then _ else _) = _
  split
  · rename_i e; rw [length_overwrite _ _ _ hfit, ← e]; exact h t ht
  · exact h t ht

theorem Log.fill_of_fits (l : Log ε) (id off : Nat) (bs : List UInt8)
    (h : off + bs.length ≤ (l.store id).length) :
    l.fill id off bs =
      { l with store := fun i => if i = id then overwrite (l.store id) off (bs.map some) else l.store i } :=
  if_pos h

theorem unflushed_eq (l : Log ε) : l.unflushed = concat l.store l.items := rfl
theorem writtenLen_eq_lenSum (l : Log ε) : l.writtenLen = lenSum l.items := rfl

namespace Compose

/-- a healthy log in which every region item has its own id, below `nextId`, and a content of its length
    (what C05's simulation relation `WSim` says of the spec side) -/
structure LogOK (l : Log RErr) : Prop where
  err : l.err = none
  ids_lt : ∀ t ∈ layout 0 l.items, t.1 < l.nextId
  ids_nodup : ((layout 0 l.items).map (·.1)).Nodup
  store_ok : StoreOK l.store l.items

theorem logOK_new (fail : Nat → Option RErr) (init : Bytes) : LogOK (Log.new fail init) :=
  ⟨rfl, fun t ht => (by cases ht), List.nodup_nil, fun t ht => (by cases ht)⟩

end Compose

end Verif
