/-
  Lemmas/Kernels: umbrella over the kernel-equality lemmas (one file per family, so that a broken
  kernel only affects the properties it serves; the shared helpers are in Kernels/Base):
    Kernels/Wire (C01; `p2i32` also serves the skippers' `loadI32`)  Kernels/Fc (C11)
    Kernels/TTH (C06, C10)  Kernels/Buf (C04, C05)  Kernels/SMap (C07)
  plus: the translator refused none of the whitelisted kernels.
-/
import Verif.Lemmas.Kernels.Wire
import Verif.Lemmas.Kernels.Fc
import Verif.Lemmas.Kernels.TTH
import Verif.Lemmas.Kernels.Buf
import Verif.Lemmas.Kernels.SMap
namespace Verif.Kernels

/-- every whitelisted kernel was translated (a refused one is listed here with the reason) -/
theorem translated_all : unsupported = [] := by decide

end Verif.Kernels
