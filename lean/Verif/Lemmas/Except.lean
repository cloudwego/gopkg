/- Lemmas/Except: helper lemmas for C18. -/
import Verif.Spec.Except
namespace Verif

/-- every default message in the regenerated table is non-empty (checked over the whole table) -/
theorem defaultMsg_nonempty : ∀ p ∈ Facts.defaultAppExcMsg, bytesOf p.2 ≠ [] := by decide +kernel

theorem lookup_mem {t : Int} {d : String} :
    ∀ {l : List (Int × String)}, l.lookup t = some d → (t, d) ∈ l := by
  intro l
  induction l with
  | nil => simp [List.lookup]
  | cons hd tl ih =>
    obtain ⟨k, v⟩ := hd
    intro h
    simp only [List.lookup] at h
    split at h
    · rename_i heq
      have : t = k := by simpa using heq
      simp_all
    · exact List.mem_cons_of_mem _ (ih h)

/-- the regenerated format literal has exactly one `%d` verb, between these two parts -/
theorem unknownFormat_parts :
    splitD Facts.appExcUnknownFormat.toList [] = ["unknown exception type [".toList, "]".toList] := by decide +kernel

theorem unknownTypeText_eq (t : Int) :
    unknownTypeText t = bytesOf "unknown exception type [" ++ bytesOf (toString t) ++ bytesOf "]" := by
  simp only [unknownTypeText, sprintfD, unknownFormat_parts, joinD, String.ofList_toList, List.append_assoc]

theorem unknownTypeText_ne_nil (t : Int) : unknownTypeText t ≠ [] := by
  have h : bytesOf "unknown exception type [" ≠ [] := by decide
  intro h0
  rw [unknownTypeText_eq] at h0
  simp only [List.append_eq_nil_iff] at h0
  exact h h0.1.1

/-- every name in the regenerated order of PrependError's type tests is one the model knows -/
theorem prependErrorOrder_known :
    ∀ ty ∈ Facts.prependErrorOrder,
      ty ∈ ["*TransportException", "*ProtocolException", "*ApplicationException", "tException"] := by decide +kernel

/-- With the regenerated order of type tests, PrependError is this case table (a reordering in the
    source that changes any result — e.g. `tException` first — makes this proof fail). -/
theorem prependError_eq (fresh : Nat) (p : Bytes) (e : Err) :
    prependError fresh p e =
      match e with
      | .transport _ t m => .transport fresh t (p ++ appText t m)
      | .protocol _ t m => .protocol fresh t (p ++ appText t m)
      | .protocolW _ t m _ => .protocol fresh t (p ++ appText t m)
      | .application _ t m => .application fresh t (p ++ appText t m)
      | .foreign _ t tx => .application fresh t (p ++ tx)
      | .plain _ msg => .plain fresh (p ++ msg)
      | .wrapped _ msg _ => .plain fresh (p ++ msg) := by
  cases e <;>
    simp [prependError, Facts.prependErrorOrder, prependDispatch, prependBranch, Err.typeId, Err.text]

theorem specPrependKind_ne_foreign (k : Kind) : specPrependKind k ≠ .foreign := by
  cases k <;> decide

theorem specPrependKind_idem (k : Kind) : specPrependKind (specPrependKind k) = specPrependKind k := by
  cases k <;> rfl

/-- `ApplicationException.Error()` never returns the empty string -/
theorem appText_ne_nil (t : Int) (m : Bytes) : appText t m ≠ [] := by
  unfold appText
  split
  · assumption
  · split
    · rename_i d hd
      exact defaultMsg_nonempty _ (lookup_mem hd)
    · exact unknownTypeText_ne_nil t

theorem appText_of_ne_nil (t : Int) {m : Bytes} (h : m ≠ []) : appText t m = m := by
  simp [appText, h]

/-- a message that is `prefix ++ (non-empty)` is printed as it is -/
theorem appText_append (t : Int) (p : Bytes) {s : Bytes} (h : s ≠ []) : appText t (p ++ s) = p ++ s := by
  apply appText_of_ne_nil
  simp [h]

theorem nodeMatches_refl (e : Err) : nodeMatches e e = true := by
  simp only [nodeMatches, beq_self_eq_true, Bool.true_or]

theorem excMatch_eq (t : Int) (m : Bytes) (tg : Err) :
    excMatch t m tg = (tg.typeId == some t && tg.text == m) := by
  unfold excMatch
  cases tg.typeId <;> simp

theorem excMatch_iff (t : Int) (m : Bytes) (tg : Err) :
    excMatch t m tg = true ↔ tg.typeId = some t ∧ tg.text = m := by
  rw [excMatch_eq, Bool.and_eq_true, beq_iff_eq, beq_iff_eq]

/-- One turn of the loop in `errors.is`: this node matches, or the search goes on below `Unwrap`.
    (`ProtocolException.Is` searching the cause a second time changes nothing.) -/
theorem errorsIs_step (e tg : Err) :
    errorsIs e tg =
      (nodeMatches e tg || match e.unwrap with | some c => errorsIs c tg | none => false) := by
  cases e <;> simp only [errorsIs, nodeMatches, ownIdMsg, Err.unwrap, excMatch_eq, Bool.or_false,
    Bool.or_assoc, Bool.or_self]

theorem isSpec_step (e tg : Err) :
    isSpec e tg =
      (nodeMatches e tg || match e.unwrap with | some c => isSpec c tg | none => false) := by
  cases e <;> rfl

/-- the implementation of `errors.Is` (with `ProtocolException.Is` inlined) is the chain search:
    both obey the same recursion along `Unwrap` -/
theorem errorsIs_eq_isSpec (e tg : Err) : errorsIs e tg = isSpec e tg := by
  induction e <;> rw [errorsIs_step, isSpec_step] <;> simp only [Err.unwrap, *]

theorem errorsIs_refl (e : Err) : errorsIs e e = true := by
  rw [errorsIs_step, nodeMatches_refl, Bool.true_or]

theorem errorsIs_protocolW (id : Nat) (t : Int) (m : Bytes) (c tg : Err) :
    errorsIs (.protocolW id t m c) tg = (nodeMatches (.protocolW id t m c) tg || errorsIs c tg) :=
  errorsIs_step _ tg

theorem wrapErr_eq (fresh : Nat) (e : Err) :
    wrapErr fresh e = if e.isProtocol then e else .protocolW fresh Facts.peUNKNOWN e.text e := by
  cases e <;> rfl

theorem wrapErr_protocol (fresh : Nat) (c : Err) (h : c.isProtocol = true) : wrapErr fresh c = c := by
  rw [wrapErr_eq, if_pos h]

theorem wrapErr_of_not_protocol (fresh : Nat) (c : Err) (h : c.isProtocol = false) :
    wrapErr fresh c = .protocolW fresh Facts.peUNKNOWN c.text c := by
  rw [wrapErr_eq, h]
  rfl

theorem wrapErr_unwrap (fresh : Nat) (c : Err) (h : c.isProtocol = false) :
    (wrapErr fresh c).unwrap = some c := by
  rw [wrapErr_of_not_protocol fresh c h]
  rfl

theorem wrapErr_is_trans (fresh : Nat) (c tg : Err) (h : errorsIs c tg = true) :
    errorsIs (wrapErr fresh c) tg = true := by
  cases hp : c.isProtocol
  · rw [wrapErr_of_not_protocol fresh c hp, errorsIs_protocolW, h, Bool.or_true]
  · rw [wrapErr_protocol fresh c hp, h]

theorem wrapErr_is_cause (fresh : Nat) (c : Err) : errorsIs (wrapErr fresh c) c = true :=
  wrapErr_is_trans fresh c c (errorsIs_refl c)

end Verif
