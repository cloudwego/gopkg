/-
  Lemmas/SkipTplDemand: SkipDecoderTpl.Skip over a back end that serves a given list of requests.

  `DCursor B rem P Srv`: `Srv s ks` = "state `s` can serve the requests `ks`, in this order"; serving the
  head request returns exactly the next `k` bytes of `rem s`, advances by `k`, and the tail can still be
  served.  `skipTplAt_dem`: if refTpl accepts a value at the front of `rem s` and the back end can
  serve `tplTrace` of it (Spec/SkipDemand.lean) followed by `ks`, Skip succeeds, consumes exactly the
  value, and `ks` can still be served.

  Instance: ReaderSkipDecoder's read-full back end with `Srv := servesLen` (`reader_dcursor`), hence
  `readerDecNext_demand`: `readerLive t stream script` ⇒ Next(t) returns exactly the value.
-/
import Verif.Spec.SkipDemand
import Verif.Lemmas.SkipTplReader
namespace Verif

structure DCursor {σ : Type} (B : Backend σ) (rem : σ → Bytes) (P : σ → Prop) (Srv : σ → List Nat → Prop) :
    Prop where
  step : ∀ s k ks, P s → Srv s (k :: ks) →
    ∃ s', B.skipN s k = .ok ((rem s).take k, s') ∧ k ≤ (rem s).length ∧ rem s' = (rem s).drop k ∧
      P s' ∧ Srv s' ks
  avail : ∀ s, P s → (rem s).length ≤ B.avail s

section
variable {σ : Type} {B : Backend σ} {rem : σ → Bytes} {P : σ → Prop} {Srv : σ → List Nat → Prop}

/-- `Dm` (*matches*, over a *demand* cursor), the shape of all statements `…D` below: `x` succeeds,
    consumes `n` bytes, `ks` can still be served -/
def Dm (rem : σ → Bytes) (P : σ → Prop) (Srv : σ → List Nat → Prop) (x : TOut σ) (n : Nat) (ks : List Nat)
    (s : σ) : Prop :=
  ∃ s', x = .ok s' ∧ rem s' = (rem s).drop n ∧ P s' ∧ Srv s' ks

theorem Dm.shift {x : TOut σ} {n : Nat} {ks : List Nat} {s s1 : σ} {h : Nat} (hrem : rem s1 = (rem s).drop h)
    (hx : Dm rem P Srv x n ks s1) : Dm rem P Srv x (h + n) ks s := by
  obtain ⟨s', hx, hrem', hp, hs⟩ := hx
  exact ⟨s', hx, by rw [hrem', hrem, List.drop_drop], hp, hs⟩

theorem Dm.bind {x : TOut σ} {y : σ → TOut σ} {n1 n2 : Nat} {ks1 ks : List Nat} {s : σ}
    (hx : Dm rem P Srv x n1 ks1 s)
    (hy : ∀ s1, rem s1 = (rem s).drop n1 → P s1 → Srv s1 ks1 → Dm rem P Srv (y s1) n2 ks s1) :
    Dm rem P Srv (x.bind y) (n1 + n2) ks s := by
  obtain ⟨s1, hx, hrem1, hp1, hs1⟩ := hx
  obtain ⟨s2, hy, hrem2, hp2, hs2⟩ := hy s1 hrem1 hp1 hs1
  exact ⟨s2, by rw [hx]; exact hy, by rw [hrem2, hrem1, List.drop_drop], hp2, hs2⟩

theorem tplListLoopD {rec : UInt8 → σ → TOut σ} {f : Bytes → Option Nat} {g : Bytes → List Nat} (vt : UInt8)
    (HR : ∀ s n ks, P s → f (rem s) = some n → Srv s (g (rem s) ++ ks) → Dm rem P Srv (rec vt s) n ks s) :
    ∀ cnt s n ks, P s → refN f cnt (rem s) = some n → Srv s (trN f g cnt (rem s) ++ ks) →
      Dm rem P Srv (tplListLoop rec vt cnt s) n ks s := by
  intro cnt
  induction cnt with
  | zero =>
    intro s n ks hp hr hs
    cases hr
    exact ⟨s, rfl, rfl, hp, hs⟩
  | succ cnt ih =>
    intro s n ks hp hr hs
    obtain ⟨a, r, ha, hrr, rfl⟩ := refN_succ_eq_some.mp hr
    simp only [trN, ha, List.append_assoc] at hs
    simp only [tplListLoop, Out.bind_eq]
    refine Dm.bind (HR s a _ hp ha hs) fun s1 hrem1 hp1 hs1 => ?_
    rw [← hrem1] at hrr hs1
    exact ih s1 r ks hp1 hrr hs1

theorem tplMapLoopD {rec : UInt8 → σ → TOut σ} {fk fv : Bytes → Option Nat} {gk gv : Bytes → List Nat}
    (kt vt : UInt8)
    (HK : ∀ s n ks, P s → fk (rem s) = some n → Srv s (gk (rem s) ++ ks) → Dm rem P Srv (rec kt s) n ks s)
    (HV : ∀ s n ks, P s → fv (rem s) = some n → Srv s (gv (rem s) ++ ks) → Dm rem P Srv (rec vt s) n ks s) :
    ∀ cnt s n ks, P s → refKV fk fv cnt (rem s) = some n → Srv s (trKV fk fv gk gv cnt (rem s) ++ ks) →
      Dm rem P Srv (tplMapLoop rec kt vt cnt s) n ks s := by
  intro cnt
  induction cnt with
  | zero =>
    intro s n ks hp hr hs
    cases hr
    exact ⟨s, rfl, rfl, hp, hs⟩
  | succ cnt ih =>
    intro s n ks hp hr hs
    obtain ⟨a, v, r, ha, hv, hrr, rfl⟩ := refKV_succ_eq_some.mp hr
    simp only [trKV, ha, hv, List.append_assoc] at hs
    simp only [tplMapLoop, Out.bind_eq]
    rw [Nat.add_assoc]
    refine Dm.bind (HK s a _ hp ha hs) fun s1 hrem1 hp1 hs1 => ?_
    rw [← hrem1] at hv hs1
    refine Dm.bind (HV s1 v _ hp1 hv hs1) fun s2 hrem2 hp2 hs2 => ?_
    have hrem2' : rem s2 = (rem s).drop (a + v) := by rw [hrem2, hrem1, List.drop_drop]
    rw [← hrem2'] at hrr hs2
    exact ih s2 r ks hp2 hrr hs2

theorem tplStructLoopD (hC : DCursor B rem P Srv) {rec : UInt8 → σ → TOut σ} {f : UInt8 → Bytes → Option Nat}
    {g : UInt8 → Bytes → List Nat} (hG : ∀ t, Good (f t))
    (HR : ∀ t s n ks, P s → f t (rem s) = some n → Srv s (g t (rem s) ++ ks) → Dm rem P Srv (rec t s) n ks s) :
    ∀ fs fm s n ks, P s → (rem s).length < fm → refFields f fs (rem s) = some n →
      Srv s (trFields f g fs (rem s) ++ ks) → Dm rem P Srv (tplStructLoop B rec fm s) n ks s := by
  intro fs
  induction fs with
  | zero => intro fm s n ks _ _ hr _; cases hr
  | succ fs ih =>
    intro fm s n ks hp hfm hr hs
    match fm, hrem : rem s with
    | 0, _ => omega
    | _+1, [] => rw [hrem] at hr; cases hr
    | fm+1, t :: rest =>
      rw [hrem] at hr hs hfm
      by_cases ht : t = 0
      · subst ht
        rw [refFields_stop] at hr
        cases hr
        simp only [trFields, if_true, List.cons_append, List.nil_append] at hs
        obtain ⟨s1, hx, _, hrem1, hp1, hs1⟩ := hC.step s 1 ks hp hs
        rw [hrem] at hx
        have hx' : B.skipN s 1 = .ok ([0], s1) := hx
        refine ⟨s1, ?_, hrem1, hp1, hs1⟩
        simp only [tplStructLoop, hx', Out.bind_eq, Out.bind_ok, show idx [(0 : UInt8)] 0 = .ok 0 from rfl,
          T_STOP_eq, if_true, Out.pure_eq]
      · obtain ⟨hl, a, r, ha, hrr, rfl⟩ := (refFields_cons_eq_some ht).mp hr
        simp only [trFields, ht, if_false, ha, List.cons_append, List.append_assoc] at hs
        obtain ⟨s1, hx, _, hrem1, hp1, hs1⟩ := hC.step s 1 _ hp hs
        rw [hrem] at hx hrem1
        have hx' : B.skipN s 1 = .ok ([t], s1) := hx
        obtain ⟨s2, hy, _, hrem2, hp2, hs2⟩ := hC.step s1 2 _ hp1 hs1
        have hrem2' : rem s2 = rest.drop 2 := by rw [hrem2, hrem1]; rfl
        simp only [tplStructLoop, hx', Out.bind_eq, Out.bind_ok, show idx [t] 0 = .ok t from rfl, T_STOP_eq,
          ht, if_false, hy]
        rw [Nat.add_assoc]
        refine Dm.shift (h := 3) (s1 := s2) (by rw [hrem2', hrem]; rfl) ?_
        rw [← hrem2'] at ha hs2
        refine Dm.bind (HR t s2 a _ hp2 ha hs2) fun s3 hrem3 hp3 hs3 => ?_
        have hrem3' : rem s3 = rest.drop (2 + a) := by rw [hrem3, hrem2', List.drop_drop]
        have hk := (hG t _ a ha).2
        rw [← hrem3'] at hrr hs3
        refine ih fm s3 r ks hp3 ?_ hrr hs3
        rw [hrem3', List.length_drop]
        rw [List.length_cons] at hfm
        omega

theorem skipND (hC : DCursor B rem P Srv) (s : σ) (k : Nat) (ks : List Nat) (hp : P s) (hs : Srv s (k :: ks)) :
    Dm rem P Srv (tplSkip B s k) k ks s := by
  obtain ⟨s1, hx, _, hrem1, hp1, hs1⟩ := hC.step s k ks hp hs
  exact ⟨s1, by simp [tplSkip, hx], hrem1, hp1, hs1⟩

theorem tplStrD (hC : DCursor B rem P Srv) (s : σ) (n : Nat) (ks : List Nat) (hp : P s)
    (hr : refStr (rem s) = some n) (hs : Srv s (4 :: rd32 (rem s) :: ks)) :
    Dm rem P Srv (tplStr B s) n ks s := by
  unfold refStr at hr
  split at hr
  · rename_i hc
    cases hr
    obtain ⟨s1, hx, _, hrem1, hp1, hs1⟩ := hC.step s 4 _ hp hs
    rw [tplStr_header B hx hc.1]
    rcases toI32_rd32 (rem s) with ⟨hn', _⟩ | ⟨_, hneg, hnat⟩
    · exact absurd hc.2.1 hn'
    · rw [if_neg hneg, hnat]
      exact Dm.shift hrem1 (skipND hC s1 _ ks hp1 hs1)
  · cases hr

section
variable {rec : UInt8 → σ → TOut σ} {E : UInt8 → Bytes → Option Nat} {tr : UInt8 → Bytes → List Nat}
  (HR : ∀ t s n ks, P s → E t (rem s) = some n → Srv s (tr t (rem s) ++ ks) → Dm rem P Srv (rec t s) n ks s)
include HR

theorem tplMapD (hC : DCursor B rem P Srv) {s : σ} {kt vt : UInt8} {rest : Bytes} {r : Nat} {ks : List Nat}
    (hp : P s) (hrm : rem s = kt :: vt :: rest) (h4 : 4 ≤ rest.length) (hn : rd32 rest < 2147483648)
    (hr : refKV (tplK E kt vt) (tplV E kt vt) (rd32 rest) (rest.drop 4) = some r)
    (hs : Srv s (6 :: ((if fixedSize kt > 0 ∧ fixedSize vt > 0 then [rd32 rest * (fixedSize kt + fixedSize vt)]
      else trKV (E kt) (E vt) (tr kt) (tr vt) (rd32 rest) (rest.drop 4)) ++ ks))) :
    Dm rem P Srv (tplMap B rec s) (6 + r) ks s := by
  obtain ⟨s1, hx, _, hrem1, hp1, hs1⟩ := hC.step s 6 _ hp hs
  rw [hrm] at hx hrem1
  have hrem1' : rem s1 = rest.drop 4 := hrem1
  rw [tplMap_header B hx h4]
  rcases toI32_rd32 rest with ⟨hn', _⟩ | ⟨_, hneg, hnat⟩
  · exact absurd hn hn'
  · rw [if_neg hneg, hnat]
    refine Dm.shift (h := 6) (by rw [hrem1', hrm]; rfl) ?_
    rw [← hrem1'] at hr hs1
    by_cases hfast : 0 < fixedSize kt ∧ 0 < fixedSize vt
    · rw [if_pos hfast] at hs1 ⊢
      rw [(tplKV_fixed E hfast.1 hfast.2).1, (tplKV_fixed E hfast.1 hfast.2).2,
        refKV_fixed (fixedSize kt) (fixedSize vt) (fixedFn kt) (fixedFn vt)
          (fun _ => rfl) (fun _ => rfl)] at hr
      split at hr
      · cases hr; exact skipND hC s1 _ ks hp1 hs1
      · cases hr
    · rw [if_neg hfast] at hs1 ⊢
      rw [(tplKV_nested E hfast).1, (tplKV_nested E hfast).2] at hr
      exact tplMapLoopD kt vt (HR kt) (HR vt) _ s1 r ks hp1 hr hs1

theorem tplListD (hC : DCursor B rem P Srv) {s : σ} {et : UInt8} {rest : Bytes} {r : Nat} {ks : List Nat}
    (hp : P s) (hrm : rem s = et :: rest) (h4 : 4 ≤ rest.length) (hn : rd32 rest < 2147483648)
    (hr : refN (gFix E et) (rd32 rest) (rest.drop 4) = some r)
    (hs : Srv s (5 :: ((if fixedSize et > 0 then [rd32 rest * fixedSize et]
      else trN (E et) (tr et) (rd32 rest) (rest.drop 4)) ++ ks))) :
    Dm rem P Srv (tplList B rec s) (5 + r) ks s := by
  obtain ⟨s1, hx, _, hrem1, hp1, hs1⟩ := hC.step s 5 _ hp hs
  rw [hrm] at hx hrem1
  have hrem1' : rem s1 = rest.drop 4 := hrem1
  rw [tplList_header B hx h4]
  rcases toI32_rd32 rest with ⟨hn', _⟩ | ⟨_, hneg, hnat⟩
  · exact absurd hn hn'
  · rw [if_neg hneg, hnat]
    refine Dm.shift (h := 5) (by rw [hrem1', hrm]; rfl) ?_
    rw [← hrem1'] at hr hs1
    by_cases hfast : 0 < fixedSize et
    · rw [if_pos hfast] at hs1 ⊢
      rw [gFix_fixed E hfast, refN_fixed (fixedSize et) (fixedFn et) (fun _ => rfl)] at hr
      split at hr
      · cases hr; exact skipND hC s1 _ ks hp1 hs1
      · cases hr
    · rw [if_neg hfast] at hs1 ⊢
      rw [gFix_nested E hfast] at hr
      exact tplListLoopD et (HR et) _ s1 r ks hp1 hr hs1
end

/-- SkipDecoderTpl.Skip over a back end that can serve the value's requests -/
theorem skipTplAt_dem (hC : DCursor B rem P Srv) :
    ∀ d t s n ks, P s → refTpl d t (rem s) = some n → Srv s (tplTrace d t (rem s) ++ ks) →
      Dm rem P Srv (skipTplAt B d t s) n ks s := by
  intro d
  induction d with
  | zero => intro t s n ks _ hr _; cases hr
  | succ d ih =>
    intro t s n ks hp hr hs
    have hG := refTpl_good d
    rw [skipTplAt_succ]
    simp only [tplTrace] at hs
    change layerG (refTpl d) (gFix (refTpl d)) (tplK (refTpl d)) (tplV (refTpl d)) t (rem s) = some n at hr
    rcases layerG_cases t with ⟨hf, h⟩ | ⟨h0, rfl, h⟩ | ⟨h0, rfl, h⟩ | ⟨h0, hl, h⟩ | ⟨h0, rfl, h⟩ |
        ⟨_, _, _, _, _, h⟩ <;> rw [h] at hr
    · rw [if_pos hf]
      rw [if_pos hf] at hs
      unfold fixedFn at hr
      split at hr
      · cases hr; exact skipND hC s _ ks hp hs
      · cases hr
    · rw [if_neg (by decide), if_pos rfl]
      rw [if_neg (by decide), if_pos rfl] at hs
      exact tplStrD hC s n ks hp hr hs
    · rw [if_neg (by decide), if_neg (by decide), if_pos rfl]
      rw [if_neg (by decide), if_neg (by decide), if_pos rfl] at hs
      have hav := hC.avail s hp
      exact tplStructLoopD hC hG ih ((rem s).length + 1) (B.avail s + 1) s n ks hp (by omega) hr hs
    · have hns : t ≠ TT.STRING ∧ t ≠ TT.STRUCT ∧ t ≠ TT.MAP := by
        rcases hl with rfl | rfl <;> decide
      rw [if_neg (by omega), if_neg hns.1, if_neg hns.2.1, if_neg hns.2.2, if_pos hl.symm]
      obtain ⟨et, rest, r, hrm, h4, hn, hr', rfl⟩ := listBody_eq_some.mp hr
      rw [if_neg (by omega), if_neg hns.1, if_neg hns.2.1, if_pos hl, hrm] at hs
      exact tplListD ih hC hp hrm h4 hn hr' hs
    · rw [if_neg (by decide), if_neg (by decide), if_neg (by decide), if_pos rfl]
      obtain ⟨kt, vt, rest, r, hrm, h4, hn, hr', rfl⟩ := mapBody_eq_some.mp hr
      rw [if_neg (by decide), if_neg (by decide), if_neg (by decide), if_neg (by decide), if_pos rfl, hrm] at hs
      exact tplMapD ih hC hp hrm h4 hn hr' hs
    · cases hr
end

/-! ## the read-full back end serves what `servesLen` says -/

/-- ReaderSkipDecoder's back end serves the requests `servesLen` accepts -/
theorem reader_dcursor (S0 : Bytes) :
    DCursor readerBackend (fun s => s.src.stream) (fun s => s.got ++ s.src.stream = S0)
      (fun s ks => servesLen s.src.script s.src.stream.length ks = true) := by
  refine ⟨?_, ?_⟩
  · intro s k ks hgot hs
    simp only [servesLen] at hs
    cases hfl : fullLen s.src.script s.src.stream.length k with
    | none => simp [hfl] at hs
    | some p =>
      obtain ⟨script', l'⟩ := p
      simp only [hfl] at hs
      obtain ⟨hk, hl', e, hx⟩ := fullLen_read (s.src.script.length + 2) s.src.stream s.src.script k
        script' l' (by omega) hfl
      have hsrc : (⟨s.src.stream, s.src.script⟩ : Src) = s.src := rfl
      rw [hsrc] at hx
      have hlen : (List.take k s.src.stream).length ≥ k := by rw [List.length_take]; omega
      refine ⟨{ src := ⟨s.src.stream.drop k, script'⟩, got := s.got ++ s.src.stream.take k }, ?_, hk, rfl, ?_, ?_⟩
      · simp only [readerBackend, hx, hlen, if_true]
      · simp only [List.append_assoc, List.take_append_drop]; exact hgot
      · simp only [List.length_drop]; rw [← hl']; exact hs
  · intro s _; simp [readerBackend]

/-- ReaderSkipDecoder.Next(t): if the script serves the requests of the value at the front of the
    stream (`readerLive`, Spec/SkipDemand.lean), the value is returned exactly and the source has been
    read exactly that far -/
theorem readerDecNext_demand (src : Src) (t : UInt8) (n : Nat)
    (hr : refTpl Facts.defaultRecursionDepth t src.stream = some n)
    (hs : servesLen src.script src.stream.length (tplTrace Facts.defaultRecursionDepth t src.stream) = true) :
    ∃ src', readerDecNext src t = .ok (src.stream.take n, src') ∧ src'.stream = src.stream.drop n := by
  obtain ⟨s1, hx, hrem, hgot, _⟩ := skipTplAt_dem (reader_dcursor src.stream) Facts.defaultRecursionDepth t
    { src := src, got := [] } n [] rfl hr (by simpa using hs)
  have hrem' : s1.src.stream = src.stream.drop n := hrem
  have hgot' : s1.got ++ s1.src.stream = src.stream := hgot
  refine ⟨s1.src, ?_, hrem'⟩
  have hg : s1.got = src.stream.take n := by
    rw [hrem'] at hgot'
    have h2 : s1.got ++ List.drop n src.stream = List.take n src.stream ++ List.drop n src.stream := by
      rw [hgot', List.take_append_drop]
    exact List.append_cancel_right h2
  simp only [readerDecNext, hx, Out.bind_eq, Out.bind_ok, Out.pure_eq, hg]

end Verif
