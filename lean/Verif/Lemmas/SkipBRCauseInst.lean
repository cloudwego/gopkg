/-
  Lemmas/SkipBRCauseInst: the error-exact refinement of BufferReader.Skip (Lemmas/SkipBR.lean, `skipBRAt_m`
  over an exact reader) on concrete readers: bytes-backed readers (every byte string, every capacity),
  and C04's buffered reader over a live source (stream fully handed over, or no error seen and a steady
  script).
-/
import Verif.Lemmas.SkipBRBytes
import Verif.Lemmas.SkipBRInst
namespace Verif

/-- the result BufferReader.Skip must have on reader `r` for the classification `o` of what `r`
    still owes: consumed extent and ReadLen, or the error of the cause -/
def SkipRes (x : TOut (Unit × Rd)) (o : CRes) (r : Rd) : Prop :=
  match o with
  | .ok n => ∃ r', x = .ok ((), r') ∧ r'.remaining = r.remaining.drop n ∧ r'.readLen = r.readLen + n
  | .error c => ∃ e, x = .err e ∧ ErrFor c e

theorem SkipRes_of {P : Rd → Prop} {x : TOut (Unit × Rd)} {o : CRes} {r : Rd} (h : RMm P True x o r) :
    SkipRes x o r := by
  rcases h with ⟨e, hx, hc⟩ | ⟨n, a, r', ho, hx, h1, h2, _⟩
  · obtain ⟨c, ho, he⟩ := hc trivial
    rw [ho]; exact ⟨e, hx, he⟩
  · rw [ho]; exact ⟨r', hx, h1, h2⟩

theorem skipBR_dry_cause (r : Rd) (t : UInt8) (h : RdDry r) :
    SkipRes (skipBR t r) (causeStream 64 t r.remaining) r := by
  have := skipBRAt_m (rdc_dry reqBound) (Nat.le_refl _) Facts.defaultRecursionDepth t r h
  rw [defaultRecursionDepth_eq] at this
  exact SkipRes_of this

theorem skipBR_live_cause (r : Rd) (t : UInt8) (h : RdOK r) (hl : r.Live) :
    SkipRes (skipBR t r) (causeStream 64 t r.remaining) r := by
  have := skipBRAt_m (rdc_inst True) (by decide) Facts.defaultRecursionDepth t r ⟨h, fun _ => hl⟩
  rw [defaultRecursionDepth_eq] at this
  exact SkipRes_of this

end Verif
