/-
  Lemmas/WriterSteps: what Malloc, WriteBinary, a caller fill and Flush do to the invariant and to
  the logical content of the writer model.
-/
import Verif.Lemmas.WriterOps
namespace Verif
open WLog

/-! ## Malloc -/

structure MallocPost (w w2 : Wr) (n : Nat) (R : Bytes) : Prop where
  inv : WInv w2
  logical : w2.logical = w.logical ++ R
  rlen : R.length = n
  len : w2.bufLen = w.bufLen + n
  regions : ∃ o, w2.regions = w.regions ++ [⟨w.nextRegion, o, w.bufLen, n⟩]
  nextRegion : w2.nextRegion = w.nextRegion + 1
  err : w2.err = w.err
  dc : w2.disableCache = w.disableCache
  sink : w2.sink = w.sink
  target : w2.target = w.target
  buf_origin : w2.buf ≠ none → w.buf ≠ none ∨ 0 < n

theorem malloc_spec (a : WAlloc) (ha : a.Sound) (w : Wr) (hw : WInv w) (he : w.err = none)
    (n : Int) (hn : 0 ≤ n) :
    ∃ w2 cap R, w.malloc a n = (.ok (w.nextRegion, n.toNat, cap), w2) ∧ MallocPost w w2 n.toNat R := by
  obtain ⟨w1, hacq, P⟩ := acquire_spec a ha w hw n.toNat
  unfold Wr.malloc
  simp only [he, hacq]
  rw [if_neg (by omega)]
  rcases P.room with ⟨v, hv, hroom⟩ | ⟨hnone, hn0⟩
  · have ok := P.inv.buf_ok v hv
    have hvl : v.len = w.bufLen := by rw [← P.len]; simp [Wr.bufLen, hv]
    simp only [hv]
    rw [if_neg (by omega)]
    refine ⟨_, _, gslice (w1.heap v.obj) v.len (v.len + n.toNat), by rw [P.nextRegion], ?_⟩
    refine ⟨?_, ?_, ?_, ?_, ?_, ?_, P.err, P.dc, P.sink, P.target, ?_⟩
    · refine WInv.of_buf rfl P.inv.stats_len P.inv.stats_idx
        { ok.extend _ hroom with owned := fun r hr => ?_, rchain := ok.rchain.snoc _ _ _ }
      rcases List.mem_append.mp hr with hr | hr
      · exact (ok.extend _ hroom).owned r hr
      · cases List.mem_singleton.mp hr
        exact Or.inr (Owned.last ok.chain _)
    · rw [← P.logical]
      simp only [Wr.logical, hv]
      exact logicalFrom_extend _ _ _ _ _ _ ok.chain (by rw [ok.heap_len]; exact hroom)
    · rw [length_gslice _ _ _ (by rw [ok.heap_len]; exact hroom)]; omega
    · simp [Wr.bufLen, hvl]
    · exact ⟨v.obj, by simp only [P.regions, hvl]⟩
    · rfl
    · exact fun _ => P.buf_origin (by rw [hv]; exact Option.some_ne_none _)
  · simp only [hnone]
    rw [if_neg (by omega)]
    obtain ⟨np, nr, nc⟩ := P.inv.nil_buf hnone
    have hl0 : w.bufLen = 0 := by rw [← P.len]; simp [Wr.bufLen, hnone]
    refine ⟨_, _, [], by rw [P.nextRegion, hn0], ?_⟩
    refine ⟨?_, ?_, by simp [hn0], ?_, ?_, rfl, P.err, P.dc, P.sink, P.target, ?_⟩
    · refine ⟨P.inv.stats_len, P.inv.stats_idx, ?_, fun v h => by simp at h⟩
      intro _
      refine ⟨np, ?_, ?_⟩
      · intro r hr
        rcases List.mem_append.mp hr with hr | hr
        · exact nr r hr
        · simp only [List.mem_singleton] at hr; subst hr; rfl
      · exact nc.snoc _ _ _
    · rw [← P.logical]; simp [Wr.logical, hnone]
    · rw [hl0, hn0]; simp [Wr.bufLen]
    · exact ⟨0, by simp only [P.regions, hl0, hn0]⟩
    · intro h; simp at h

/-! ## WriteBinary -/

structure WritePost (w w2 : Wr) (bs : Bytes) : Prop where
  inv : WInv w2
  logical : w2.logical = w.logical ++ bs
  len : w2.bufLen = w.bufLen + bs.length
  regions : w2.regions = w.regions
  nextRegion : w2.nextRegion = w.nextRegion
  err : w2.err = w.err
  dc : w2.disableCache = w.disableCache
  sink : w2.sink = w.sink
  target : w2.target = w.target
  buf_origin : w2.buf ≠ none → w.buf ≠ none ∨ 0 < bs.length

theorem writeBinary_spec (a : WAlloc) (ha : a.Sound) (w : Wr) (hw : WInv w) (he : w.err = none)
    (bs : Bytes) :
    ∃ w2, w.writeBinary a bs = (.ok bs.length, w2) ∧ WritePost w w2 bs := by
  obtain ⟨w1, hacq, P⟩ := acquire_spec a ha w hw bs.length
  unfold Wr.writeBinary
  simp only [he, hacq]
  rcases P.room with ⟨v, hv, hroom⟩ | ⟨hnone, hn0⟩
  · have ok := P.inv.buf_ok v hv
    have hvl : v.len = w.bufLen := by rw [← P.len]; simp [Wr.bufLen, hv]
    have hk : min (v.cap - v.len) bs.length = bs.length := by omega
    simp only [hv, hk, List.take_length]
    have hfit : v.len + bs.length ≤ (w1.heap v.obj).length := by rw [ok.heap_len]; exact hroom
    refine ⟨_, rfl, ?_, ?_, ?_, P.regions, P.nextRegion, P.err, P.dc, P.sink, P.target, ?_⟩
    · exact WInv.of_buf rfl P.inv.stats_len P.inv.stats_idx
        ((ok.extend _ hroom).of_heap_len (length_hwrite _ _ _ _ hfit))
    · rw [← P.logical]
      simp only [Wr.logical, hv]
      exact logicalFrom_append _ _ _ _ _ _ ok.chain hfit ok.pend_ne
    · simp [Wr.bufLen, hvl]
    · exact fun _ => P.buf_origin (by rw [hv]; exact Option.some_ne_none _)
  · have hbs : bs = [] := List.eq_nil_of_length_eq_zero hn0
    simp only [hnone]
    refine ⟨w1, by rw [hn0], P.inv, ?_, ?_, P.regions, P.nextRegion, P.err, P.dc, P.sink, P.target, ?_⟩
    · rw [P.logical, hbs]; simp
    · rw [P.len, hn0]; rfl
    · intro h; exact absurd hnone h

/-! ## the caller stores into a region -/

structure FillPost (w w2 : Wr) (r : WRegion) (off : Nat) (bs : Bytes) : Prop where
  inv : WInv w2
  logical : w2.logical = overwrite w.logical (r.off + off) bs
  buf : w2.buf = w.buf
  pending : w2.pending = w.pending
  regions : w2.regions = w.regions
  nextRegion : w2.nextRegion = w.nextRegion
  err : w2.err = w.err
  dc : w2.disableCache = w.disableCache
  sink : w2.sink = w.sink
  target : w2.target = w.target

theorem fill_spec (w : Wr) (hw : WInv w) (rid off : Nat) (bs : Bytes) :
    ((w.fill rid off bs).1 = .ok ∧
      ∃ r, w.regions.find? (fun r => r.id = rid) = some r ∧ off + bs.length ≤ r.n ∧
        FillPost w (w.fill rid off bs).2 r off bs) ∨
    ((w.fill rid off bs).1 ≠ .ok ∧ (w.fill rid off bs).2 = w ∧
      ∀ r, w.regions.find? (fun r => r.id = rid) = some r → r.n < off + bs.length) := by
  unfold Wr.fill
  cases hf : w.regions.find? (fun r => r.id = rid) with
  | none => right; simp
  | some r =>
    simp only
    by_cases hfit : off + bs.length > r.n
    · right; rw [if_pos hfit]
      refine ⟨by simp, rfl, ?_⟩
      intro r' hr'; injection hr' with hr'; subst hr'; exact hfit
    · left; rw [if_neg hfit]
      refine ⟨rfl, r, rfl, by omega, ?_⟩
      have hmem : r ∈ w.regions := List.mem_of_find?_eq_some hf
      -- a region of length 0 (or an empty store) changes nothing
      by_cases hbs : bs = []
      · subst hbs
        simp only [hwrite_nil]
        exact ⟨hw, by rw [overwrite_nil], rfl, rfl, rfl, rfl, rfl, rfl, rfl, rfl⟩
      · have hbl : 0 < bs.length := List.length_pos_iff.mpr hbs
        cases hb : w.buf with
        | none =>
          have := (hw.nil_buf hb).2.1 r hmem
          omega
        | some v =>
          have ok := hw.buf_ok v hb
          have hown : Owned v.obj v.len 0 w.pending r.obj r.off r.n := by
            rcases ok.owned r hmem with h | h
            · omega
            · exact h
          have hcur : v.len ≤ (w.heap v.obj).length := by rw [ok.heap_len]; exact ok.len_le_cap
          have hfits := hown.fits ok.pend_len hcur
          obtain ⟨_, b2, b3⟩ := hown.bounds ok.chain
          have hwfit : r.off + off + bs.length ≤ (w.heap r.obj).length := by omega
          refine ⟨?_, ?_, hb.symm, rfl, rfl, rfl, rfl, rfl, rfl, rfl⟩
          · exact WInv.of_buf rfl hw.stats_len hw.stats_idx (ok.of_heap_len (length_hwrite _ _ _ _ hwfit))
          · simp only [Wr.logical, hb]
            have := logicalFrom_fill w.heap v.obj v.len 0 w.pending r.obj r.off r.n (r.off + off) bs hown
              (Nat.le_add_right _ _) (by omega) ok.chain hcur ok.pend_len ok.pend_ne ok.pend_nodup
            simpa using this

/-! ## Flush -/

/-- state after a Flush whose sink call was accepted -/
def Wr.flushedOk (w : Wr) (heap1 : Nat → Bytes) (v : WView) (tgt : Option WView) : Wr :=
  { w with heap := heap1, target := tgt,
           sink := { w.sink with calls := w.sink.calls ++ [(w.logical, none)] },
           stats := listSet w.stats w.statsIdx v.cap,
           statsIdx := (w.statsIdx + 1) % Facts.statsBucketNum,
           buf := none, pending := [], regions := [] }

/-- state after a Flush whose sink call was refused with e -/
def Wr.flushedErr (w : Wr) (heap1 : Nat → Bytes) (e : RErr) : Wr :=
  { w with heap := heap1, err := some e,
           sink := { w.sink with calls := w.sink.calls ++ [(w.logical, some e)] } }

/-- Flush with a non-nil buffer: stitching succeeds (no slice panic), and the ONE sink call gets
    exactly the logical content -/
theorem flush_some (w : Wr) (hw : WInv w) (he : w.err = none) (v : WView) (hb : w.buf = some v) :
    ∃ heap1, (∀ i, i ≠ v.obj → heap1 i = w.heap i) ∧ (heap1 v.obj).length = v.cap ∧
      gslice (heap1 v.obj) 0 v.len = w.logical ∧
      logicalFrom heap1 v.obj v.len 0 w.pending = w.logical ∧
      (w.disableCache = true → w.flush = (.ok (), w.flushedOk heap1 v (some v))) ∧
      (w.disableCache = false → ∀ e, w.sink.fail (w.sink.calls.length + 1) = some e →
          w.flush = (.err e, w.flushedErr heap1 e)) ∧
      (w.disableCache = false → w.sink.fail (w.sink.calls.length + 1) = none →
          w.flush = (.ok (), w.flushedOk heap1 v w.target)) := by
  have ok := hw.buf_ok v hb
  obtain ⟨heap1, off1, hs, f1, f2, _, f4, f5⟩ := stitch_spec v w.heap w.pending 0 ok.chain
    (by rw [ok.heap_len]; exact ok.len_le_cap) ok.pend_len ok.pend_ne
  have hdata : gslice (heap1 v.obj) 0 v.len = w.logical := by rw [f4]; simp [Wr.logical, hb]
  refine ⟨heap1, f1, by rw [f2, ok.heap_len], hdata, by rw [f5]; simp [Wr.logical, hb], ?_, ?_, ?_⟩
  · intro hdc
    simp only [Wr.flush, he, hb, hs, hdata, Wr.sinkWrite, hdc, if_true, Wr.flushedOk]
  · intro hdc e hf
    simp only [Wr.flush, he, hb, hs, hdata, Wr.sinkWrite, hdc, hf, Wr.flushedErr]
    simp
  · intro hdc hf
    simp only [Wr.flush, he, hb, hs, hdata, Wr.sinkWrite, hdc, hf, Wr.flushedOk]
    simp

theorem flushedOk_inv (w : Wr) (hw : WInv w) (heap1 : Nat → Bytes) (v : WView) (t : Option WView) :
    WInv (w.flushedOk heap1 v t) := by
  have hfacts : 0 < Facts.statsBucketNum := by decide
  exact ⟨by simp [Wr.flushedOk, listSet, hw.stats_len], Nat.mod_lt _ hfacts,
    fun _ => ⟨rfl, ⟨fun r hr => (by cases hr), Nat.le_refl (0 : Nat)⟩⟩, fun v h => by simp [Wr.flushedOk] at h⟩

theorem flushedErr_inv (w : Wr) (hw : WInv w) (heap1 : Nat → Bytes) (e : RErr) (v : WView)
    (hb : w.buf = some v) (f1 : ∀ i, i ≠ v.obj → heap1 i = w.heap i)
    (f2 : (heap1 v.obj).length = v.cap) : WInv (w.flushedErr heap1 e) := by
  refine WInv.of_buf hb hw.stats_len hw.stats_idx ((hw.buf_ok v hb).of_heap_len (fun i => ?_))
  show (heap1 i).length = (w.heap i).length
  by_cases hi : i = v.obj
  · rw [hi, f2, (hw.buf_ok v hb).heap_len]
  · exact congrArg List.length (f1 i hi)

theorem flush_nil (w : Wr) (he : w.err = none) (hb : w.buf = none) :
    w.flush = (.ok (), { w with regions := [] }) := by
  simp only [Wr.flush, he, hb]

theorem flush_nil_inv (w : Wr) (hw : WInv w) (hb : w.buf = none) : WInv { w with regions := [] } :=
  ⟨hw.stats_len, hw.stats_idx, fun _ => ⟨(hw.nil_buf hb).1, fun r hr => (by cases hr), Nat.le_refl 0⟩,
    fun v h => (by cases hb.symm.trans h)⟩

theorem malloc_stuck (a : WAlloc) (w : Wr) (e : RErr) (h : w.err = some e) (n : Int) :
    w.malloc a n = (.err e, w) := by
  simp only [Wr.malloc, h]

theorem malloc_neg (a : WAlloc) (w : Wr) (h : w.err = none) (n : Int) (hn : n < 0) :
    w.malloc a n = (.err .negCount, w) := by
  simp only [Wr.malloc, h, hn, if_true]

theorem writeBinary_stuck (a : WAlloc) (w : Wr) (e : RErr) (h : w.err = some e) (bs : Bytes) :
    w.writeBinary a bs = (.err e, w) := by
  simp only [Wr.writeBinary, h]

theorem flush_stuck (w : Wr) (e : RErr) (h : w.err = some e) : w.flush = (.err e, w) := by
  simp only [Wr.flush, h]

/-- Flush answers a sticky error; or the buffer is nil and only the epoch ends; or the sink is
    called once with the logical content and accepts (a bytes writer's fake sink always does, and
    publishes the buffer as the target); or it refuses, and the error sticks with nothing forgotten -/
theorem flush_cases (w : Wr) (hw : WInv w) :
    (∃ e, w.err = some e ∧ w.flush = (.err e, w)) ∨
    (w.err = none ∧ w.buf = none ∧ w.flush = (.ok (), { w with regions := [] })) ∨
    (∃ v heap1 t, w.err = none ∧ w.buf = some v ∧ gslice (heap1 v.obj) 0 v.len = w.logical ∧
      (w.disableCache = true ∧ t = some v ∨
        w.disableCache = false ∧ t = w.target ∧ w.sink.fail (w.sink.calls.length + 1) = none) ∧
      w.flush = (.ok (), w.flushedOk heap1 v t)) ∨
    (∃ v heap1 e, w.err = none ∧ w.buf = some v ∧ w.disableCache = false ∧
      w.sink.fail (w.sink.calls.length + 1) = some e ∧
      WInv (w.flushedErr heap1 e) ∧ (w.flushedErr heap1 e).logical = w.logical ∧
      w.flush = (.err e, w.flushedErr heap1 e)) := by
  rcases Option.eq_none_or_eq_some w.err with he | ⟨e, he⟩
  · rcases Option.eq_none_or_eq_some w.buf with hb | ⟨v, hb⟩
    · exact Or.inr (Or.inl ⟨he, hb, flush_nil w he hb⟩)
    · obtain ⟨heap1, f1, f2, f3, f5, hT, hE, hO⟩ := flush_some w hw he v hb
      rcases Bool.eq_false_or_eq_true w.disableCache with hdc | hdc
      · exact Or.inr (Or.inr (Or.inl ⟨v, heap1, _, he, hb, f3, Or.inl ⟨hdc, rfl⟩, hT hdc⟩))
      · rcases Option.eq_none_or_eq_some (w.sink.fail (w.sink.calls.length + 1)) with hf | ⟨e, hf⟩
        · exact Or.inr (Or.inr (Or.inl ⟨v, heap1, _, he, hb, f3, Or.inr ⟨hdc, rfl, hf⟩, hO hdc hf⟩))
        · refine Or.inr (Or.inr (Or.inr ⟨v, heap1, e, he, hb, hdc, hf, flushedErr_inv w hw heap1 e v hb f1 f2, ?_,
            hE hdc e hf⟩))
          rw [← f5]
          simp only [Wr.logical, Wr.flushedErr, hb]
  · exact Or.inl ⟨e, he, flush_stuck w e he⟩

/-- a bytes writer's Flush succeeds and publishes the logical content as the target (its fake sink
    accepts everything); with a nil buffer it leaves the target alone -/
theorem flush_bytesWriter (w : Wr) (hw : WInv w) (hdc : w.disableCache = true) (he : w.err = none) :
    w.flush.1 = .ok () ∧ (w.buf = none → w.flush.2.target = w.target) ∧
    (w.buf ≠ none → w.flush.2.targetBytes = w.logical) := by
  rcases flush_cases w hw with ⟨e, he', _⟩ | ⟨_, hb, hfl⟩ | ⟨v, heap1, t, _, hb, hview, ht, hfl⟩ |
    ⟨_, _, _, _, _, hdc', _⟩
  · rw [he] at he'; cases he'
  · rw [hfl]; exact ⟨rfl, fun _ => rfl, fun hne => absurd hb hne⟩
  · rw [hfl]
    refine ⟨rfl, fun hn => (by rw [hb] at hn; cases hn), fun _ => ?_⟩
    rcases ht with ⟨_, ht⟩ | ⟨hdc', _⟩
    · rw [ht]; exact hview
    · rw [hdc] at hdc'; cases hdc'
  · rw [hdc] at hdc'; cases hdc'

end Verif
