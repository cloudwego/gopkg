/-
  Lemmas/UnknownBase: small facts shared by the unknown-field proofs (uf family).
-/
import Verif.Spec.Unknown
namespace Verif

/-! ## the regenerated type codes are the Thrift specification's -/

theorem UT.STOP_eq : UT.STOP = 0 := by decide
theorem UT.BOOL_eq : UT.BOOL = TT.BOOL := by decide
theorem UT.BYTE_eq : UT.BYTE = TT.BYTE := by decide
theorem UT.DOUBLE_eq : UT.DOUBLE = TT.DOUBLE := by decide
theorem UT.I16_eq : UT.I16 = TT.I16 := by decide
theorem UT.I32_eq : UT.I32 = TT.I32 := by decide
theorem UT.I64_eq : UT.I64 = TT.I64 := by decide
theorem UT.STRING_eq : UT.STRING = TT.STRING := by decide
theorem UT.STRUCT_eq : UT.STRUCT = TT.STRUCT := by decide
theorem UT.MAP_eq : UT.MAP = TT.MAP := by decide
theorem UT.SET_eq : UT.SET = TT.SET := by decide
theorem UT.LIST_eq : UT.LIST = TT.LIST := by decide

/-! ## Go slicing -/

theorem ufSliceFrom_ok (b : Bytes) (k : Nat) (h : k ≤ b.length) : ufSliceFrom b k = .ok (b.drop k) := by
  simp [ufSliceFrom, h]

end Verif
