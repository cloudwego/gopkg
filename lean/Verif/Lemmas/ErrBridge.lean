/-
  Lemmas/ErrBridge: `NewProtocolExceptionWithErr` keeps its argument reachable — for EVERY error object,
  protocol exception or not — and the type id it ends up with.
-/
import Verif.Model.ErrBridge
import Verif.Lemmas.Except
namespace Verif

theorem wrapErr_typeId (fresh : Nat) (c : Err) : (wrapErr fresh c).typeId = wrapTypeId c := by
  cases c <;> rfl

/-- the bridge on a wrapped reader error: `errors.Is` finds the reader's error object, whatever it is;
    the type id is UNKNOWN_PROTOCOL_EXCEPTION, or the cause's own when that already is a protocol exception -/
theorem toErr_wrap (ρ : RErr → Err) (fresh : Nat) (m : Bytes) (se : RErr) :
    errorsIs ((TErr.wrap se).toErr ρ fresh m) (ρ se) = true ∧
    ((TErr.wrap se).toErr ρ fresh m).typeId = wrapTypeId (ρ se) ∧
    (∀ tg, errorsIs (ρ se) tg = true → errorsIs ((TErr.wrap se).toErr ρ fresh m) tg = true) ∧
    ((ρ se).isProtocol = false → ((TErr.wrap se).toErr ρ fresh m).unwrap = some (ρ se)) ∧
    ((ρ se).isProtocol = true → (TErr.wrap se).toErr ρ fresh m = ρ se) :=
  ⟨wrapErr_is_cause _ _, wrapErr_typeId _ _, fun tg h => wrapErr_is_trans _ _ tg h,
   wrapErr_unwrap _ _, wrapErr_protocol _ _⟩

/-- a cause-less exception: its own type id, nothing to unwrap -/
theorem toErr_pe (ρ : RErr → Err) (fresh : Nat) (m : Bytes) (t : Int) :
    ((TErr.pe t).toErr ρ fresh m).typeId = some t ∧ ((TErr.pe t).toErr ρ fresh m).unwrap = none :=
  ⟨rfl, rfl⟩

end Verif
