/-
  Lemmas/ComposeWriter: codecs that write through a bufiox.Writer, run over the REAL writer model `Wr`
  (Model/Writer) by way of C05.

  A codec talks to its writer in CHUNKS:
      reg n pieces   buf := Malloc(n); then the stores  copy(buf[off:], bs)  for (off, bs) in `pieces`, in order
      wb bs          WriteBinary(bs)
  The abstract writers of C01 (`Wire.WLog`) and C06 (`TTH.W`) execute such chunks on a value-level log;
  C05's history language `WOp` executes them on the object-level model of DefaultWriter / BytesWriter
  (`chunksOps`: Malloc returns the region id the following `fill`s name).  This file evaluates chunk
  lists on C05's SPEC log (append-only log + store of latest region contents) and then transports the
  result to the model through `C05.refines`, `flush_cases` and `C05.bytesWriter_target`:

      cmp_spec_chunks   on the spec log: every Malloc returns the next region id, every store fits, the
                        unflushed bytes grow by exactly the chunks' bytes, all of them specified
      cmp_real_run      the same chunks on a fresh writer of either kind: the observations, no error, the
                        sink untouched, and the spec log's unflushed bytes
      cmp_real_default  DefaultWriter (any sink script, any sound allocator, any number of growths):
                        the observations are the expected ones and Flush hands the sink the chunks' bytes
                        in ONE call
      cmp_real_bytes    BytesWriter over any initial slice: Flush succeeds, target = initial ++ bytes
-/
import Verif.Props.C05
namespace Verif.Compose
open Verif Verif.WLog Verif.C05

inductive Chunk where
  | reg (n : Nat) (pieces : List (Nat × Bytes))
  | wb (bs : Bytes)
deriving Repr, DecidableEq

/-- the pieces lie one behind the other from `off` to `n` (every byte of the region is stored, in order) -/
def Covers : Nat → Nat → List (Nat × Bytes) → Prop
  | off, n, [] => off = n
  | off, n, p :: ps => p.1 = off ∧ Covers (off + p.2.length) n ps

instance : ∀ off n ps, Decidable (Covers off n ps)
  | off, n, [] => inferInstanceAs (Decidable (off = n))
  | off, n, p :: ps => by
    have := instDecidableCovers (off + p.2.length) n ps
    unfold Covers; infer_instance

def Chunk.Full : Chunk → Prop
  | .reg n ps => Covers 0 n ps
  | .wb _ => True

/-- the bytes a (full) chunk contributes to the stream -/
def Chunk.bytes : Chunk → Bytes
  | .reg _ ps => (ps.map (·.2)).flatten
  | .wb bs => bs

def Chunk.regs : Chunk → Nat
  | .reg _ _ => 1
  | .wb _ => 0

def chunksBytes (cs : List Chunk) : Bytes := (cs.map Chunk.bytes).flatten
def chunksRegs (cs : List Chunk) : Nat := (cs.map Chunk.regs).sum

/-- one chunk as a history of the real writer; `rid` = the region id Malloc is going to return -/
def chunkOps (rid : Nat) : Chunk → List WOp
  | .reg n ps => .malloc (n : Int) :: ps.map (fun p => .fill rid p.1 p.2)
  | .wb bs => [.wb bs]

/-- what the caller must observe: Malloc returned region `rid` of n bytes, WriteBinary took everything -/
def chunkObs (rid : Nat) : Chunk → List WObs
  | .reg n ps => .region rid n :: ps.map (fun _ => .done)
  | .wb bs => [.wrote bs.length]

def chunksOps (rid : Nat) : List Chunk → List WOp
  | [] => []
  | c :: cs => chunkOps rid c ++ chunksOps (rid + c.regs) cs

def chunksObs (rid : Nat) : List Chunk → List WObs
  | [] => []
  | c :: cs => chunkObs rid c ++ chunksObs (rid + c.regs) cs

theorem chunksOps_append (rid : Nat) (xs ys : List Chunk) :
    chunksOps rid (xs ++ ys) = chunksOps rid xs ++ chunksOps (rid + chunksRegs xs) ys := by
  induction xs generalizing rid with
  | nil => simp [chunksOps, chunksRegs]
  | cons c xs ih =>
    simp only [List.cons_append, chunksOps, ih, List.append_assoc, chunksRegs, List.map_cons, List.sum_cons]
    rw [Nat.add_assoc]

theorem chunksObs_append (rid : Nat) (xs ys : List Chunk) :
    chunksObs rid (xs ++ ys) = chunksObs rid xs ++ chunksObs (rid + chunksRegs xs) ys := by
  induction xs generalizing rid with
  | nil => simp [chunksObs, chunksRegs]
  | cons c xs ih =>
    simp only [List.cons_append, chunksObs, ih, List.append_assoc, chunksRegs, List.map_cons, List.sum_cons]
    rw [Nat.add_assoc]

theorem chunksBytes_append (xs ys : List Chunk) : chunksBytes (xs ++ ys) = chunksBytes xs ++ chunksBytes ys := by
  simp [chunksBytes]

theorem chunksRegs_append (xs ys : List Chunk) : chunksRegs (xs ++ ys) = chunksRegs xs + chunksRegs ys := by
  simp [chunksRegs]

theorem chunksOps_noflush (rid : Nat) (cs : List Chunk) : ∀ op ∈ chunksOps rid cs, op ≠ .flush := by
  induction cs generalizing rid with
  | nil => intro op h; cases h
  | cons c cs ih =>
    intro op h
    simp only [chunksOps, List.mem_append] at h
    rcases h with h | h
    · cases c with
      | reg n ps =>
        simp only [chunkOps, List.mem_cons, List.mem_map] at h
        rcases h with rfl | ⟨p, _, rfl⟩ <;> simp
      | wb bs =>
        simp only [chunkOps, List.mem_singleton] at h
        subst h; simp
    · exact ih _ op h

/-! ## stores that cover a region -/

/-- the region after the stores; `f` = how a byte string is represented in the region
    (`id` for real memory, `map some` for the spec's partially specified content) -/
def cmpApply {α : Type} (f : Bytes → List α) (R : List α) (ps : List (Nat × Bytes)) : List α :=
  ps.foldl (fun R p => overwrite R p.1 (f p.2)) R

theorem covers_le : ∀ (ps : List (Nat × Bytes)) (off n : Nat), Covers off n ps → off ≤ n := by
  intro ps
  induction ps with
  | nil => intro off n h; exact Nat.le_of_eq h
  | cons p ps ih => intro off n h; have := ih _ _ h.2; omega

/-- covering stores determine the region, whatever it held before -/
theorem cmpApply_covers {α : Type} (f : Bytes → List α) (hf : ∀ b, (f b).length = b.length) :
    ∀ (ps : List (Nat × Bytes)) (off n : Nat) (R : List α), R.length = n → Covers off n ps →
      cmpApply f R ps = R.take off ++ (ps.map (fun p => f p.2)).flatten := by
  intro ps
  induction ps with
  | nil =>
    intro off n R hR hc
    have : off = n := hc
    subst this; subst hR
    simp [cmpApply]
  | cons p ps ih =>
    intro off n R hR hc
    obtain ⟨hp, hrest⟩ := hc
    have hle := covers_le _ _ _ hrest
    have hlen1 : (overwrite R off (f p.2)).length = n := by
      rw [length_overwrite _ _ _ (by rw [hf, hR]; exact hle), hR]
    have := ih (off + p.2.length) n (overwrite R off (f p.2)) hlen1 hrest
    simp only [cmpApply, List.foldl_cons, hp] at this ⊢
    rw [this]
    simp only [List.map_cons, List.flatten_cons, ← List.append_assoc]
    congr 1
    unfold overwrite
    rw [List.take_append_of_le_length (by simp [hf]; omega)]
    rw [List.take_of_length_le (by simp [hf]; omega)]

/-- every store of a covering piece list fits into the region -/
theorem covers_fit : ∀ (ps : List (Nat × Bytes)) (off n : Nat), Covers off n ps →
    ∀ p ∈ ps, p.1 + p.2.length ≤ n := by
  intro ps
  induction ps with
  | nil => intro off n _ p hp; cases hp
  | cons q ps ih =>
    intro off n h p hp
    rcases List.mem_cons.mp hp with rfl | hp
    · have := covers_le _ _ _ h.2; rw [h.1]; exact this
    · exact ih _ _ h.2 p hp

theorem cmp_concat_length (l : Log RErr) (h : LogOK l) : (concat l.store l.items).length = lenSum l.items :=
  length_concat _ _ h.store_ok

/-- the stores of one region chunk, after its Malloc: the region (at the end of the unflushed bytes so
    far `A`, current content `R`) receives the pieces; nothing else changes -/
theorem cmp_spec_fills (rid p n : Nat) : ∀ (ps : List (Nat × Bytes)) (l : Log RErr) (A R : SBytes),
    LogOK l → (rid, p, n) ∈ layout 0 l.items → concat l.store l.items = A ++ R → A.length = p → R.length = n →
    (∀ q ∈ ps, q.1 + q.2.length ≤ n) →
    ∃ l', specRun l (ps.map (fun q => .fill rid q.1 q.2)) = (ps.map (fun _ => .done), l') ∧ LogOK l' ∧
      l'.items = l.items ∧ concat l'.store l'.items = A ++ cmpApply (fun b => b.map some) R ps ∧
      l'.nextId = l.nextId ∧ l'.calls = l.calls ∧ l'.fail = l.fail ∧ l'.emitted = l.emitted := by
  intro ps
  induction ps with
  | nil =>
    intro l A R h _ hc _ _ _
    exact ⟨l, rfl, h, rfl, by simpa [cmpApply] using hc, rfl, rfl, rfl, rfl⟩
  | cons q ps ih =>
    intro l A R h hmem hc hA hR hfit
    have hq := hfit q (List.mem_cons_self ..)
    obtain ⟨l1, s1, ok1, it1, c1, n1, k1, f1, e1⟩ := cmp_spec_fill l h rid p n q.1 q.2 hmem hq
    have c1' : concat l1.store l1.items = A ++ overwrite R q.1 (q.2.map some) := by
      rw [c1, hc, ← hA, overwrite_append_right]
    obtain ⟨l2, s2, ok2, it2, c2, n2, k2, f2, e2⟩ := ih l1 A (overwrite R q.1 (q.2.map some)) ok1
      (by rw [it1]; exact hmem) c1' hA
      (by rw [length_overwrite _ _ _ (by rw [List.length_map, hR]; exact hq), hR])
      (fun q' hq' => hfit q' (List.mem_cons_of_mem _ hq'))
    refine ⟨l2, ?_, ok2, it2.trans it1, ?_, n2.trans n1, k2.trans k1, f2.trans f1, e2.trans e1⟩
    · simp only [List.map_cons, specRun, s1, s2]
    · rw [c2]; simp [cmpApply]

/-- ONE full chunk on the spec log -/
theorem cmp_spec_chunk (c : Chunk) (hfull : c.Full) (l : Log RErr) (h : LogOK l) :
    ∃ l', specRun l (chunkOps l.nextId c) = (chunkObs l.nextId c, l') ∧ LogOK l' ∧
      (∃ tail, l'.items = l.items ++ tail) ∧
      concat l'.store l'.items = concat l.store l.items ++ c.bytes.map some ∧
      l'.nextId = l.nextId + c.regs ∧ l'.calls = l.calls ∧ l'.fail = l.fail ∧ l'.emitted = l.emitted := by
  cases c with
  | wb bs =>
    obtain ⟨l1, s1, ok1, it1, c1, n1, k1, f1, e1⟩ := cmp_spec_wb l h bs
    exact ⟨l1, by simp only [chunkOps, chunkObs, specRun, s1], ok1, ⟨_, it1⟩, c1, n1, k1, f1, e1⟩
  | reg n ps =>
    have hcov : Covers 0 n ps := hfull
    obtain ⟨l1, s1, ok1, it1, c1, n1, k1, f1, e1⟩ := cmp_spec_malloc l h n
    have hmem : (l.nextId, lenSum l.items, n) ∈ layout 0 l1.items := by
      rw [it1, layout_snoc_region]; exact List.mem_append_right _ (List.mem_singleton_self _)
    obtain ⟨l2, s2, ok2, it2, c2, n2, k2, f2, e2⟩ := cmp_spec_fills l.nextId (lenSum l.items) n ps l1
      (concat l.store l.items) (List.replicate n none) ok1 hmem c1 (cmp_concat_length l h) (by simp)
      (covers_fit ps 0 n hcov)
    refine ⟨l2, ?_, ok2, ⟨_, it2.trans it1⟩, ?_, n2.trans n1, k2.trans k1, f2.trans f1,
      e2.trans e1⟩
    · simp only [chunkOps, chunkObs, specRun, s1, s2]
    · rw [c2, cmpApply_covers (fun b => b.map some) (fun b => by simp) ps 0 n _ (by simp) hcov]
      simp [Chunk.bytes, List.map_flatten, Function.comp_def]

/-- a LIST of full chunks on the spec log: the observations are the expected ones (every Malloc returns
    the id the stores use, WriteBinary takes everything), the log stays healthy and only grows, and the
    unflushed bytes grow by exactly the chunks' bytes — every one of them specified -/
theorem cmp_spec_chunks : ∀ (cs : List Chunk), (∀ c ∈ cs, c.Full) → ∀ (l : Log RErr), LogOK l →
    ∃ l', specRun l (chunksOps l.nextId cs) = (chunksObs l.nextId cs, l') ∧ LogOK l' ∧
      (∃ tail, l'.items = l.items ++ tail) ∧
      concat l'.store l'.items = concat l.store l.items ++ (chunksBytes cs).map some ∧
      l'.nextId = l.nextId + chunksRegs cs ∧ l'.calls = l.calls ∧ l'.fail = l.fail ∧ l'.emitted = l.emitted := by
  intro cs
  induction cs with
  | nil =>
    intro _ l h
    exact ⟨l, rfl, h, ⟨[], by simp⟩, by simp [chunksBytes], by simp [chunksRegs], rfl, rfl, rfl⟩
  | cons c cs ih =>
    intro hfull l h
    obtain ⟨l1, s1, ok1, ⟨t1, it1⟩, c1, n1, k1, f1, e1⟩ :=
      cmp_spec_chunk c (hfull c (List.mem_cons_self ..)) l h
    obtain ⟨l2, s2, ok2, ⟨t2, it2⟩, c2, n2, k2, f2, e2⟩ :=
      ih (fun c' hc' => hfull c' (List.mem_cons_of_mem _ hc')) l1 ok1
    rw [n1] at s2
    refine ⟨l2, ?_, ok2, ⟨t1 ++ t2, by rw [it2, it1, List.append_assoc]⟩, ?_, ?_, k2.trans k1,
      f2.trans f1, e2.trans e1⟩
    · simp only [chunksOps, chunksObs, specRun_append, s1, s2]
    · rw [c2, c1]; simp [chunksBytes]
    · rw [n2, n1]; simp [chunksRegs]; omega

/-! ## transport to the model (C05) -/

theorem start_spec_ok (s : Start) : LogOK s.spec ∧ s.spec.nextId = 0 ∧
    concat s.spec.store s.spec.items = s.init.map some ∧ s.spec.calls = 0 ∧ s.spec.emitted = [] := by
  cases s <;> exact ⟨logOK_new _ _, rfl, by simp [Start.spec, Start.init, Log.new, concat, Item.content], rfl, rfl⟩

/-- the chunks of a codec run on a FRESH real writer of any kind: what the caller observes, and the
    state of the spec log that C05 relates the model state to -/
theorem cmp_real_run (a : WAlloc) (ha : a.Sound) (s : Start) (cs : List Chunk) (hfull : ∀ c ∈ cs, c.Full) :
    (s.model.run a (chunksOps 0 cs)).1 = chunksObs 0 cs ∧
    (after a s (chunksOps 0 cs)).err = none ∧
    (after a s (chunksOps 0 cs)).sink = s.model.sink ∧
    (specAfter s (chunksOps 0 cs)).unflushed = (s.init ++ chunksBytes cs).map some ∧
    LogOK (specAfter s (chunksOps 0 cs)) := by
  obtain ⟨ok0, id0, c0, _, _⟩ := start_spec_ok s
  obtain ⟨l', hs, ok', _, hc, _⟩ := cmp_spec_chunks cs hfull s.spec ok0
  rw [id0] at hs
  obtain ⟨hobs, hsim⟩ := refines a ha s (chunksOps 0 cs)
  obtain ⟨fs, fe, _, _⟩ := run_noflush_frame a ha s.model s.spec (sim_start s) (chunksOps 0 cs)
    (chunksOps_noflush 0 cs)
  have hl' : specAfter s (chunksOps 0 cs) = l' := by unfold specAfter; rw [hs]
  refine ⟨by rw [hobs, hs], ?_, fs, ?_, by rw [hl']; exact ok'⟩
  · show (s.model.run a (chunksOps 0 cs)).2.err = none
    rw [fe]; cases s <;> rfl
  · rw [hl', unflushed_eq, hc, c0, List.map_append]

/-- Flush of a default writer that has not called its sink yet, in a state C05 relates to a log whose
    unflushed bytes are all specified (`= bs.map some`) -/
theorem cmp_flush_default (w : Wr) (l : Log RErr) (h : WSim w l) (he : w.err = none)
    (hdc : w.disableCache = false) (hcalls : w.sink.calls = []) (bs : Bytes) (hunf : l.unflushed = bs.map some) :
    (bs = [] → w.flush.2.sink.calls = [] ∧ w.flush.1 = .ok ()) ∧
    (bs ≠ [] → w.flush.2.sink.calls = [(bs, w.sink.fail 1)] ∧
       (w.sink.fail 1 = none → w.flush.1 = .ok () ∧ w.flush.2.sunk = bs) ∧
       (∀ e, w.sink.fail 1 = some e → w.flush.1 = .err e)) := by
  have hlog : w.logical = bs := match_all_some h.content bs hunf
  have h1 : w.sink.calls.length + 1 = 1 := by rw [hcalls]; rfl
  rcases flush_cases w h.inv with ⟨_, he', _⟩ | ⟨_, hb, hfl⟩ | ⟨v, _, _, _, hb, _, ht, hfl⟩ |
    ⟨v, _, e, _, hb, _, hf, _, _, hfl⟩
  · rw [he] at he'; cases he'
  · rw [hfl]
    exact ⟨fun _ => ⟨hcalls, rfl⟩, fun hne => absurd (hlog.symm.trans (Wr.logical_nil hb)) hne⟩
  all_goals
    have hne : bs ≠ [] := by
      intro e
      have hlen := h.writtenLen.2.2
      rw [hlog, e, Wr.writtenLen, Wr.bufLen, hb] at hlen
      exact absurd hlen.symm (Nat.ne_of_gt (h.nonempty hdc v hb))
    refine ⟨fun e => absurd e hne, fun _ => ?_⟩
    rw [hfl]
  · rcases ht with ⟨hdc', _⟩ | ⟨_, _, hf⟩
    · rw [hdc] at hdc'; cases hdc'
    · rw [h1] at hf
      rw [hf]
      refine ⟨by simp [Wr.flushedOk, hcalls, hlog], fun _ => ⟨rfl, ?_⟩, fun e' he' => (by cases he')⟩
      simp [Wr.sunk, Wr.flushedOk, WSink.accepted, hcalls, hlog]
  · rw [h1] at hf
    rw [hf]
    exact ⟨by simp [Wr.flushedErr, hcalls, hlog], fun hn => (by cases hn), fun e' he' => (by cases he'; rfl)⟩

/-- **DefaultWriter.**  After the chunks, Flush: nothing was written and the sink is not consulted, or
    the sink receives exactly the chunks' bytes in ONE Write call — its first — and Flush returns the
    sink's answer -/
theorem cmp_real_default (a : WAlloc) (ha : a.Sound) (fail : Nat → Option RErr) (cs : List Chunk)
    (hfull : ∀ c ∈ cs, c.Full) :
    ((Start.default fail).model.run a (chunksOps 0 cs)).1 = chunksObs 0 cs ∧
    (after a (.default fail) (chunksOps 0 cs)).err = none ∧
    (chunksBytes cs = [] → (after a (.default fail) (chunksOps 0 cs)).flush.2.sink.calls = [] ∧
       (after a (.default fail) (chunksOps 0 cs)).flush.1 = .ok ()) ∧
    (chunksBytes cs ≠ [] →
       (after a (.default fail) (chunksOps 0 cs)).flush.2.sink.calls = [(chunksBytes cs, fail 1)] ∧
       (fail 1 = none → (after a (.default fail) (chunksOps 0 cs)).flush.1 = .ok () ∧
          (after a (.default fail) (chunksOps 0 cs)).flush.2.sunk = chunksBytes cs) ∧
       (∀ e, fail 1 = some e → (after a (.default fail) (chunksOps 0 cs)).flush.1 = .err e)) := by
  obtain ⟨hobs, herr, hsink, hunf, _⟩ := cmp_real_run a ha (.default fail) cs hfull
  have hdc : (after a (.default fail) (chunksOps 0 cs)).disableCache = false := by
    have := (run_noflush_frame a ha (Start.default fail).model _ (sim_start _) (chunksOps 0 cs)
      (chunksOps_noflush 0 cs)).2.2.2
    show ((Start.default fail).model.run a (chunksOps 0 cs)).2.disableCache = false
    rw [this]; rfl
  simp only [Start.init, List.nil_append] at hunf
  have hf := cmp_flush_default _ _ (sim_after a ha (.default fail) (chunksOps 0 cs)) herr hdc
    (by rw [hsink]; rfl) _ hunf
  have hfail : (after a (.default fail) (chunksOps 0 cs)).sink.fail = fail := by rw [hsink]; rfl
  rw [hfail] at hf
  exact ⟨hobs, herr, hf.1, hf.2⟩

/-- **BytesWriter** over any initial slice (nil, empty, partly filled, full; any spare capacity): after
    the chunks, Flush succeeds and the target slice is the initial contents followed by exactly the
    chunks' bytes -/
theorem cmp_real_bytes (a : WAlloc) (ha : a.Sound) (s : Start) (hs : ∀ f, s ≠ .default f) (cs : List Chunk)
    (hfull : ∀ c ∈ cs, c.Full) :
    let w := after a s (chunksOps 0 cs)
    (s.model.run a (chunksOps 0 cs)).1 = chunksObs 0 cs ∧ w.err = none ∧
    w.flush.1 = .ok () ∧ w.flush.2.targetBytes = s.init ++ chunksBytes cs := by
  intro w
  obtain ⟨hobs, herr, _, hunf, _⟩ := cmp_real_run a ha s cs hfull
  obtain ⟨hok, written, hw, hm⟩ := bytesWriter_target a ha s hs (chunksOps 0 cs) (chunksOps_noflush 0 cs)
  refine ⟨hobs, herr, hok, ?_⟩
  rw [← hw, hunf] at hm
  exact match_all_some hm _ rfl

end Verif.Compose
