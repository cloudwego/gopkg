/-
  Lemmas/FcKey: the dispatch key `uint32(fid)<<8 | uint32(ftyp)` of the generated FastRead switches.
  With both sign extensions (fid int16, ftyp int8) the key equals a small constant only for the
  non-negative id / type pair it was built from.
-/
import Verif.Model.FastCodec
namespace Verif

/-- a key below 2^23 is hit exactly by a non-negative id and a non-negative type byte -/
theorem fieldKey_eq_small (fid : Nat) (t : UInt8) (c : Nat) (hf : fid < 65536) (hc : c < 8388608) :
    fieldKey fid t = c ↔ (fid < 32768 ∧ t.toNat < 128 ∧ fid * 256 + t.toNat = c) := by
  unfold fieldKey sext8 sext16
  by_cases hn : fid < 32768
  · by_cases h8 : t.toNat < 128
    · -- the shifted id is a multiple of 256 and the type byte is below 256: OR is addition
      have hor : fid * 256 ||| t.toNat = fid * 256 + t.toNat := by
        rw [← Nat.shiftLeft_eq fid 8, Nat.shiftLeft_add_eq_or_of_lt (by omega : t.toNat < 2 ^ 8)]
      rw [if_pos hn, if_pos h8, Nat.mod_eq_of_lt (by omega), hor]
      omega
    · -- a negative type byte sets the high bits of the key
      have := Nat.right_le_or (n := fid * 256 % 4294967296) (m := 4294967040 + t.toNat)
      rw [if_pos hn, if_neg h8]
      omega
  · -- so does a negative id
    have := Nat.left_le_or (n := (4294901760 + fid) * 256 % 4294967296)
      (m := if t.toNat < 128 then t.toNat else 4294967040 + t.toNat)
    rw [if_neg hn]
    omega

theorem caseIdx_key (c : Int) (cs : List Int) (i id fid : Nat) (ty t : UInt8)
    (hc : c = ((id * 256 + ty.toNat : Nat) : Int)) (hid : id < 32768) (hty : ty.toNat < 128) (hf : fid < 65536) :
    caseIdx (c :: cs) (fieldKey fid t) i =
      if fid = id ∧ t = ty then some i else caseIdx cs (fieldKey fid t) (i + 1) := by
  have : c = (fieldKey fid t : Int) ↔ fid = id ∧ t = ty := by
    rw [hc, Int.natCast_inj, eq_comm, fieldKey_eq_small fid t _ hf (by omega), ← UInt8.toNat_inj]
    omega
  simp only [caseIdx, this]

/-- the `case` constants of (*Base).FastRead select exactly the fields of the IDL -/
theorem caseIdx_base (fid : Nat) (t : UInt8) (hf : fid < 65536) :
    caseIdx Facts.fastReadKeysBase (fieldKey fid t) 0 =
      if fid = 1 ∧ t = 11 then some 0
      else if fid = 2 ∧ t = 11 then some 1
      else if fid = 3 ∧ t = 11 then some 2
      else if fid = 6 ∧ t = 13 then some 3
      else none := by
  unfold Facts.fastReadKeysBase
  rw [caseIdx_key 267 _ _ 1 fid 11 t rfl (by omega) (by decide) hf,
    caseIdx_key 523 _ _ 2 fid 11 t rfl (by omega) (by decide) hf,
    caseIdx_key 779 _ _ 3 fid 11 t rfl (by omega) (by decide) hf,
    caseIdx_key 1549 _ _ 6 fid 13 t rfl (by omega) (by decide) hf]
  rfl

/-- the `case` constants of (*BaseResp).FastRead select exactly the fields of the IDL -/
theorem caseIdx_resp (fid : Nat) (t : UInt8) (hf : fid < 65536) :
    caseIdx Facts.fastReadKeysBaseResp (fieldKey fid t) 0 =
      if fid = 1 ∧ t = 11 then some 0
      else if fid = 2 ∧ t = 8 then some 1
      else if fid = 3 ∧ t = 13 then some 2
      else none := by
  unfold Facts.fastReadKeysBaseResp
  rw [caseIdx_key 267 _ _ 1 fid 11 t rfl (by omega) (by decide) hf,
    caseIdx_key 520 _ _ 2 fid 8 t rfl (by omega) (by decide) hf,
    caseIdx_key 781 _ _ 3 fid 13 t rfl (by omega) (by decide) hf]
  rfl

end Verif
