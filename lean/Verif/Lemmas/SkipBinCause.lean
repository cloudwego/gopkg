/-
  Lemmas/SkipBinCause: the cause classifier `causeBin` (Spec/Cause.lean)
    (A) accepts exactly what the grammar `refBin` accepts, with the same extent, and
    (B) is refined *error-exactly* by Binary.Skip (model `skipBinAt`/`skipBin`): for every input the
        model returns the extent, or the protocol exception whose type id is `typeIdOf` of the cause.
  Both rest on the classifier read one step at a time (`causeN_succ`, `causeFields_field`,
  `causeLayer_map`, …); the stream skipper (Lemmas/SkipBR.lean) uses the same equations.
  In (B) the implementation's overshoot (fixed-size keys / values / fields added without a bounds check)
  is tolerated exactly where the spec says `truncated`.  Exact agreement with `refBin` (Lemmas/SkipBin.lean)
  is the corollary of (A) and (B) that forgets the error kinds.
-/
import Verif.Spec.Cause
import Verif.Lemmas.SkipBinBase
namespace Verif

/-! ## the exception values of the source carry Thrift's numbers -/

theorem typeIdOf_truncated : typeIdOf .truncated = Facts.peINVALID_DATA := by decide
theorem typeIdOf_unknownType : typeIdOf .unknownType = Facts.peINVALID_DATA := by decide
theorem typeIdOf_negativeSize : typeIdOf .negativeSize = Facts.peNEGATIVE_SIZE := by decide
theorem typeIdOf_depth : typeIdOf .depth = Facts.peDEPTH_LIMIT := by decide

theorem errShort_pe : errShort = .pe (typeIdOf .truncated) := by decide
theorem errUnknownType_pe : errUnknownType = .pe (typeIdOf .unknownType) := by decide
theorem errNeg_pe : errNeg = .pe (typeIdOf .negativeSize) := by decide
theorem errDepth_pe : errDepth = .pe (typeIdOf .depth) := by decide

/-! ## (A) consistency with the grammar -/

def okOf : CRes → Option Nat
  | .ok n => some n
  | .error _ => none

@[simp] theorem okOf_ok (n : Nat) : okOf (.ok n) = some n := rfl
@[simp] theorem okOf_error (c : Cause) : okOf (.error c) = none := rfl
@[simp] theorem cmap_ok (f : Nat → Nat) (n : Nat) : (Except.map f (.ok n : CRes)) = .ok (f n) := rfl
@[simp] theorem cmap_error (f : Nat → Nat) (c : Cause) : (Except.map f (.error c : CRes)) = .error c := rfl

theorem okOf_eq_some {x : CRes} {n : Nat} : okOf x = some n ↔ x = .ok n := by
  cases x <;> simp [okOf]

theorem okOf_map (f : Nat → Nat) (x : CRes) : okOf (x.map f) = (okOf x).map f := by
  cases x <;> rfl

theorem okOf_bind (x : CRes) (f : Nat → CRes) : okOf (x.bind f) = (okOf x).bind fun k => okOf (f k) := by
  cases x <;> rfl

theorem causeStr_short (b : Bytes) (h : b.length < 4) : causeStr b = .error .truncated := by
  unfold causeStr; rw [if_pos h]

/-- a string whose length field is there, as ReadI32 followed by skipn sees it -/
theorem causeStr_eq (b : Bytes) (h4 : 4 ≤ b.length) :
    causeStr b =
      (if toI32 (rd32 b) < 0 then .error .negativeSize
       else if (toI32 (rd32 b)).toNat ≤ (b.drop 4).length then .ok (toI32 (rd32 b)).toNat
       else .error .truncated : CRes).map (4 + ·) := by
  have hlt := rd32_lt b
  unfold causeStr
  rw [if_neg (by omega), List.length_drop]
  by_cases hn : rd32 b < 2147483648
  · have h0 : ¬ ((rd32 b : Nat) : Int) < 0 := by omega
    rw [toI32_eq_cast _ hn, if_neg (by simpa using hn), if_neg h0, Int.toNat_natCast]
    by_cases hfit : 4 + rd32 b ≤ b.length
    · rw [if_pos hfit, if_pos (by omega)]; rfl
    · rw [if_neg hfit, if_neg (by omega)]; rfl
  · rw [if_pos hn, if_pos ((toI32_neg_iff _ hlt).mpr hn)]; rfl

theorem causeN_succ (g : Bytes → CRes) (n : Nat) (b : Bytes) :
    causeN g (n + 1) b = (g b).bind fun k => (causeN g n (b.drop k)).map (k + ·) := by
  simp only [causeN]
  cases g b with
  | error c => rfl
  | ok k =>
    dsimp only [Except.bind]
    cases causeN g n (b.drop k) <;> rfl

theorem causeKV_succ (gk gv : Bytes → CRes) (n : Nat) (b : Bytes) :
    causeKV gk gv (n + 1) b = (gk b).bind fun k =>
      ((gv (b.drop k)).bind fun v => (causeKV gk gv n ((b.drop k).drop v)).map (v + ·)).map (k + ·) := by
  simp only [causeKV]
  cases gk b with
  | error c => rfl
  | ok k =>
    dsimp only [Except.bind]
    cases gv (b.drop k) with
    | error c => rfl
    | ok v =>
      dsimp only [Except.bind]
      rw [List.drop_drop]
      cases causeKV gk gv n (b.drop (k + v)) with
      | error c => rfl
      | ok x => exact congrArg Except.ok (Nat.add_assoc k v x)

theorem causeFields_nil (g : UInt8 → Bytes → CRes) (fuel : Nat) : causeFields g fuel [] = .error .truncated := by
  cases fuel <;> rfl

theorem causeFields_stop (g : UInt8 → Bytes → CRes) (fuel : Nat) (rest : Bytes) :
    causeFields g (fuel + 1) (0 :: rest) = .ok 1 := by
  simp only [causeFields, if_true]

theorem causeFields_short (g : UInt8 → Bytes → CRes) (fuel : Nat) (t : UInt8) (rest : Bytes) (ht : t ≠ 0)
    (hl : rest.length < 2) : causeFields g fuel (t :: rest) = .error .truncated := by
  cases fuel with
  | zero => rfl
  | succ fuel => simp only [causeFields, ht, hl, if_true, if_false]

theorem causeFields_field (g : UInt8 → Bytes → CRes) (fuel : Nat) (t : UInt8) (rest : Bytes) (ht : t ≠ 0)
    (hl : 2 ≤ rest.length) :
    causeFields g (fuel + 1) (t :: rest) =
      ((g t (rest.drop 2)).bind fun k => (causeFields g fuel ((rest.drop 2).drop k)).map (k + ·)).map (3 + ·) := by
  have hl' : ¬ rest.length < 2 := by omega
  simp only [causeFields, ht, hl', if_false]
  cases g t (rest.drop 2) with
  | error c => rfl
  | ok k =>
    dsimp only [Except.bind]
    rw [List.drop_drop]
    cases causeFields g fuel (rest.drop (2 + k)) with
    | error c => rfl
    | ok x => exact congrArg Except.ok (Nat.add_assoc 3 k x)

theorem causeLayer_fixed (E : UInt8 → Bytes → CRes) (t : UInt8) (b : Bytes) (h : 0 < fixedSize t) :
    causeLayer E t b = if fixedSize t ≤ b.length then .ok (fixedSize t) else .error .truncated := by
  unfold causeLayer; rw [if_pos h]

theorem causeLayer_string (E : UInt8 → Bytes → CRes) (b : Bytes) : causeLayer E TT.STRING b = causeStr b := by
  unfold causeLayer
  rw [if_neg (by decide), if_pos rfl]

theorem causeLayer_map (E : UInt8 → Bytes → CRes) (kt vt : UInt8) (rest : Bytes) :
    causeLayer E TT.MAP (kt :: vt :: rest) =
      if rest.length < 4 then .error .truncated
      else if ¬ rd32 rest < 2147483648 then .error .negativeSize
      else (causeKV (E kt) (E vt) (rd32 rest) (rest.drop 4)).map (6 + ·) := by
  unfold causeLayer
  simp only [show ¬ fixedSize TT.MAP > 0 by decide, show TT.MAP ≠ TT.STRING by decide,
    show TT.MAP ≠ TT.STRUCT by decide, show ¬ (TT.MAP = TT.LIST ∨ TT.MAP = TT.SET) by decide, if_true, if_false]

theorem causeLayer_map_short (E : UInt8 → Bytes → CRes) (b : Bytes) (h : b.length < 6) :
    causeLayer E TT.MAP b = .error .truncated :=
  match b, h with
  | [], _ => rfl
  | [_], _ => rfl
  | kt :: vt :: rest, h => by
    rw [causeLayer_map, if_pos (by simp only [List.length_cons] at h; omega)]

theorem listType_facts (t : UInt8) (htl : t = TT.LIST ∨ t = TT.SET) :
    ¬ fixedSize t > 0 ∧ t ≠ TT.STRING ∧ t ≠ TT.STRUCT ∧ t ≠ TT.MAP := by
  rcases htl with h | h <;> subst h <;> decide

theorem causeLayer_list (E : UInt8 → Bytes → CRes) (t : UInt8) (htl : t = TT.LIST ∨ t = TT.SET) (et : UInt8)
    (rest : Bytes) :
    causeLayer E t (et :: rest) =
      if rest.length < 4 then .error .truncated
      else if ¬ rd32 rest < 2147483648 then .error .negativeSize
      else (causeN (E et) (rd32 rest) (rest.drop 4)).map (5 + ·) := by
  obtain ⟨hf0, hns, hnst, _⟩ := listType_facts t htl
  unfold causeLayer
  simp only [hf0, hns, hnst, htl, if_true, if_false]

theorem causeLayer_list_short (E : UInt8 → Bytes → CRes) (t : UInt8) (htl : t = TT.LIST ∨ t = TT.SET)
    (b : Bytes) (h : b.length < 5) : causeLayer E t b = .error .truncated :=
  match b, h with
  | [], _ => by rcases htl with rfl | rfl <;> rfl
  | et :: rest, h => by
    rw [causeLayer_list E t htl, if_pos (by simp only [List.length_cons] at h; omega)]

theorem causeLayer_unknown (E : UInt8 → Bytes → CRes) (t : UInt8) (b : Bytes) (h0 : fixedSize t = 0)
    (hs : t ≠ TT.STRING) (hst : t ≠ TT.STRUCT) (hl : ¬ (t = TT.LIST ∨ t = TT.SET)) (hm : t ≠ TT.MAP) :
    causeLayer E t b = .error .unknownType := by
  unfold causeLayer
  simp only [h0, Nat.lt_irrefl, gt_iff_lt, hs, hst, hl, hm, if_false]

theorem causeLayer_struct (E : UInt8 → Bytes → CRes) (b : Bytes) :
    causeLayer E TT.STRUCT b = causeFields E (b.length + 1) b := by
  unfold causeLayer
  rw [if_neg (by decide), if_neg (by decide), if_pos rfl]

theorem causeStr_okOf (b : Bytes) : okOf (causeStr b) = refStr b := by
  unfold causeStr refStr
  by_cases h4 : b.length < 4
  · rw [if_pos h4, if_neg (fun h => by omega)]; rfl
  · rw [if_neg h4]
    by_cases hn : rd32 b < 2147483648
    · rw [if_neg (fun h => h hn)]
      by_cases hf : 4 + rd32 b ≤ b.length
      · rw [if_pos hf, if_pos ⟨by omega, hn, hf⟩]; rfl
      · rw [if_neg hf, if_neg (fun h => hf h.2.2)]; rfl
    · rw [if_pos hn, if_neg (fun h => hn h.2.1)]; rfl

theorem causeN_okOf {f : Bytes → CRes} {g : Bytes → Option Nat} (h : ∀ b, okOf (f b) = g b) :
    ∀ n b, okOf (causeN f n b) = refN g n b := by
  intro n
  induction n with
  | zero => intro b; rfl
  | succ n ih => intro b; simp only [causeN_succ, refN_succ, okOf_bind, okOf_map, h, ih]

theorem causeKV_okOf {fk fv : Bytes → CRes} {gk gv : Bytes → Option Nat}
    (hk : ∀ b, okOf (fk b) = gk b) (hv : ∀ b, okOf (fv b) = gv b) :
    ∀ n b, okOf (causeKV fk fv n b) = refKV gk gv n b := by
  intro n
  induction n with
  | zero => intro b; rfl
  | succ n ih => intro b; simp only [causeKV_succ, refKV_succ, okOf_bind, okOf_map, hk, hv, ih]

theorem causeFields_okOf {f : UInt8 → Bytes → CRes} {g : UInt8 → Bytes → Option Nat}
    (h : ∀ t b, okOf (f t b) = g t b) :
    ∀ fuel b, okOf (causeFields f fuel b) = refFields g fuel b := by
  intro fuel
  induction fuel with
  | zero => intro b; rfl
  | succ fuel ih =>
    intro b
    match b with
    | [] => rfl
    | t :: rest =>
      by_cases ht : t = 0
      · subst ht; rw [causeFields_stop, refFields_stop]; rfl
      by_cases hl : rest.length < 2
      · rw [causeFields_short f _ t rest ht hl]
        simp only [refFields, ht, hl, if_true, if_false]; rfl
      · simp only [causeFields_field f fuel t rest ht (by omega), refFields_field g fuel t rest ht (by omega),
          okOf_bind, okOf_map, h, ih]

theorem causeElem_okOf {f : UInt8 → Bytes → CRes} {g : UInt8 → Bytes → Option Nat}
    (h : ∀ t b, okOf (f t b) = g t b) (t : UInt8) (b : Bytes) :
    okOf (causeElem f t b) = gElem g t b := by
  unfold causeElem gElem
  by_cases hf : fixedSize t > 0
  · rw [if_pos hf, if_pos hf]; split <;> rfl
  · rw [if_neg hf, if_neg hf]
    by_cases hs : t = TT.STRING
    · rw [if_pos hs, if_pos hs]; exact causeStr_okOf b
    · rw [if_neg hs, if_neg hs]; exact h t b

theorem causeLayer_okOf {E : UInt8 → Bytes → CRes} {G : UInt8 → Bytes → Option Nat}
    (h : ∀ t b, okOf (E t b) = G t b) (t : UInt8) (b : Bytes) :
    okOf (causeLayer E t b) = layer G t b := by
  rw [layer_eq_layerG]
  rcases layerG_cases t with ⟨hf, e⟩ | ⟨_, rfl, e⟩ | ⟨_, rfl, e⟩ | ⟨_, hl, e⟩ | ⟨_, rfl, e⟩ |
      ⟨h0, hs, hst, hl, hm, e⟩ <;> rw [e]
  · rw [causeLayer_fixed E t b hf]; unfold fixedFn; split <;> rfl
  · rw [causeLayer_string]; exact causeStr_okOf b
  · rw [causeLayer_struct]; exact causeFields_okOf h _ b
  · match b with
    | [] => rw [causeLayer_list_short E t hl [] (by decide)]; rfl
    | et :: rest =>
      rw [causeLayer_list E t hl]
      simp only [listBody]
      by_cases h4 : rest.length < 4
      · rw [if_pos h4, if_neg (fun hc => by omega)]; rfl
      rw [if_neg h4]
      by_cases hn : rd32 rest < 2147483648
      · rw [if_neg (fun hc => hc hn), if_pos ⟨by omega, hn⟩, okOf_map, causeN_okOf (h et)]
      · rw [if_pos hn, if_neg (fun hc => hn hc.2)]; rfl
  · match b with
    | [] => rfl
    | [_] => rfl
    | kt :: vt :: rest =>
      rw [causeLayer_map]
      simp only [mapBody]
      by_cases h4 : rest.length < 4
      · rw [if_pos h4, if_neg (fun hc => by omega)]; rfl
      rw [if_neg h4]
      by_cases hn : rd32 rest < 2147483648
      · rw [if_neg (fun hc => hc hn), if_pos ⟨by omega, hn⟩, okOf_map, causeKV_okOf (h kt) (h vt)]
      · rw [if_pos hn, if_neg (fun hc => hn hc.2)]; rfl
  · rw [causeLayer_unknown E t b h0 hs hst hl hm]; rfl

theorem causeBin_okOf : ∀ d t b, okOf (causeBin d t b) = refBin d t b := by
  intro d
  induction d with
  | zero => intro t b; simp only [causeBin, refBin]; split <;> rfl
  | succ d ih =>
    intro t b
    simp only [causeBin, refBin]
    by_cases h0 : b.length = 0
    · have : b = [] := List.eq_nil_of_length_eq_zero h0
      subst this
      exact (good_nil (refBin_good (d+1) t)).symm
    · simp only [h0, if_false]
      exact causeLayer_okOf (fun t b => causeElem_okOf ih t b) t b

/-- the classifier reports an extent exactly when the grammar does, and the same one -/
theorem causeBin_ok_iff (d : Nat) (t : UInt8) (b : Bytes) (n : Nat) :
    causeBin d t b = .ok n ↔ refBin d t b = some n := by
  rw [← causeBin_okOf, okOf_eq_some]

/-- … so a cause is reported exactly for the inputs the grammar rejects -/
theorem causeBin_error_iff (d : Nat) (t : UInt8) (b : Bytes) :
    (∃ c, causeBin d t b = .error c) ↔ refBin d t b = none := by
  rw [← causeBin_okOf]
  cases causeBin d t b <;> simp

/-! ## (B) error-exact refinement -/

/-- what Binary.Skip must return for a classifier result -/
def toOut : CRes → TOut Nat
  | .ok n => .ok n
  | .error c => .err (.pe (typeIdOf c))

@[simp] theorem toOut_ok (n : Nat) : toOut (.ok n) = .ok n := rfl
@[simp] theorem toOut_error (c : Cause) : toOut (.error c) = .err (.pe (typeIdOf c)) := rfl

/-- a classifier of one value: extents are non-empty and within the input, nothing is truncated -/
def CGood (g : Bytes → CRes) : Prop :=
  (∀ b n, g b = .ok n → 1 ≤ n ∧ n ≤ b.length) ∧ g [] = .error .truncated

theorem skipStrBin_cause (b : Bytes) (i : Nat) (hi : i ≤ b.length) :
    skipStrBin b i = toOut (causeStr (b.drop i)) := by
  unfold skipStrBin
  by_cases h4 : i + 4 ≤ b.length
  · rw [if_pos h4, loadI32_ok b i h4, causeStr_eq _ (by rw [List.length_drop]; omega), List.length_drop,
      List.length_drop]
    simp only [Out.bind_eq, Out.bind_ok]
    by_cases hneg : toI32 (rd32 (b.drop i)) < 0
    · rw [if_pos hneg, if_pos hneg]; exact congrArg _ errNeg_pe
    rw [if_neg hneg, if_neg hneg]
    by_cases hfit : i + (4 + (toI32 (rd32 (b.drop i))).toNat) ≤ b.length
    · rw [if_pos hfit, if_pos (by omega)]; rfl
    · rw [if_neg hfit, if_neg (by omega)]; exact congrArg _ errShort_pe
  · rw [if_neg h4, causeStr_short _ (by rw [List.length_drop]; omega)]; exact congrArg _ errShort_pe

theorem causeStr_good : CGood causeStr := by
  constructor
  · intro b n h
    have := refStr_good b n (by rw [← causeStr_okOf, h]; rfl)
    exact this
  · simp [causeStr]

theorem causeN_fixed (s : Nat) (g : Bytes → CRes)
    (hg : ∀ bb : Bytes, g bb = if s ≤ bb.length then .ok s else .error .truncated) :
    ∀ n (b : Bytes), causeN g n b = if n * s ≤ b.length then .ok (n * s) else .error .truncated := by
  intro n
  induction n with
  | zero => intro b; simp [causeN]
  | succ n ih =>
    intro b
    rw [Nat.succ_mul]
    simp only [causeN, hg]
    by_cases h1 : s ≤ b.length
    · simp only [if_pos h1, ih, List.length_drop]
      by_cases h2 : n * s ≤ b.length - s
      · rw [if_pos h2, if_pos (by omega), Nat.add_comm]
      · rw [if_neg h2, if_neg (by omega)]
    · rw [if_neg h1, if_neg (by omega)]

theorem causeKV_fixed (k v : Nat) (gk gv : Bytes → CRes)
    (hgk : ∀ bb : Bytes, gk bb = if k ≤ bb.length then .ok k else .error .truncated)
    (hgv : ∀ bb : Bytes, gv bb = if v ≤ bb.length then .ok v else .error .truncated) :
    ∀ n (b : Bytes), causeKV gk gv n b =
      if n * (k + v) ≤ b.length then .ok (n * (k + v)) else .error .truncated := by
  intro n
  induction n with
  | zero => intro b; simp [causeKV]
  | succ n ih =>
    intro b
    rw [Nat.succ_mul]
    simp only [causeKV, hgk, hgv]
    by_cases h1 : k ≤ b.length
    · simp only [if_pos h1, List.length_drop]
      by_cases h2 : v ≤ b.length - k
      · simp only [if_pos h2, ih, List.length_drop]
        by_cases h3 : n * (k + v) ≤ b.length - (k + v)
        · rw [if_pos h3, if_pos (by omega)]; exact congrArg _ (Nat.add_comm _ _)
        · rw [if_neg h3, if_neg (by omega)]
      · rw [if_neg h2, if_neg (by omega)]
    · rw [if_neg h1, if_neg (by omega)]

theorem causeElem_fixed (f : UInt8 → Bytes → CRes) (t : UInt8) (h : 0 < fixedSize t) (bb : Bytes) :
    causeElem f t bb = if fixedSize t ≤ bb.length then .ok (fixedSize t) else .error .truncated := by
  unfold causeElem; simp [h]

theorem causeElem_good {f : UInt8 → Bytes → CRes} (h : ∀ t, CGood (f t)) (t : UInt8) :
    CGood (causeElem f t) := by
  unfold causeElem
  by_cases hf : fixedSize t > 0
  · constructor
    · intro b n hb
      simp only [hf, if_true] at hb
      split at hb
      · cases hb; omega
      · cases hb
    · have : ¬ fixedSize t ≤ 0 := by omega
      simp [hf, this]
  · by_cases hs : t = TT.STRING
    · subst hs; simpa [fixedSize_STRING] using causeStr_good
    · simpa [hf, hs] using h t

theorem causeBin_good (d : Nat) (t : UInt8) : CGood (causeBin d t) := by
  constructor
  · intro b n h
    exact refBin_good d t b n ((causeBin_ok_iff d t b n).mp h)
  · cases d <;> simp [causeBin]

theorem celemExact_of {rec : Bytes → Nat → UInt8 → TOut Nat} {f : UInt8 → Bytes → CRes} (b : Bytes)
    (HR : ∀ bb i tt, i < bb.length → rec bb i tt = toOut (f tt (bb.drop i)))
    (t : UInt8) (h0 : fixedSize t = 0) (i : Nat) (hi : i < b.length) :
    elemBin rec b i t ((fixedSize t : Nat) : Int) = toOut (causeElem f t (b.drop i)) := by
  simp only [elemBin, h0, causeElem]
  simp only [Int.natCast_zero, gt_iff_lt, Int.lt_irrefl, if_false, Nat.lt_irrefl, T_STRING_eq]
  by_cases hs : t = TT.STRING
  · simp only [hs, if_true]; exact skipStrBin_cause b i (by omega)
  · simp only [hs, if_false]; exact HR b i t hi

/-! ### sizes and offsets that may overshoot

  Binary.Skip adds a fixed-size key, value or field without a bounds check and only looks at the end of
  the slice before the next read.  `BS` ("Binary.Skip size") relates a size computed at offset `i`, `BO`
  ("Binary.Skip offset") an offset reached from offset `i`, to the classification of `b.drop i`: exactly the classified result — or, where the
  classifier says `truncated`, a value that lies beyond the end of the slice. -/

def BS (b : Bytes) (x : TOut Nat) (o : CRes) (i : Nat) : Prop :=
  x = toOut o ∨ (o = .error .truncated ∧ ∃ k, x = .ok k ∧ i + k > b.length)

def BO (b : Bytes) (x : TOut Nat) (o : CRes) (i : Nat) : Prop :=
  x = toOut (o.map (i + ·)) ∨ (o = .error .truncated ∧ ∃ j, x = .ok j ∧ j > b.length)

theorem BO.short {b : Bytes} {o : CRes} (i : Nat) (h : o = .error .truncated) : BO b (.err errShort) o i :=
  .inl (by rw [h]; exact congrArg _ errShort_pe)

/-- sequencing: a size, then whatever goes on from the offset behind it — which must cope with every
    offset, beyond the end of the slice too, where the classifier sees nothing left -/
theorem BO.bind {b : Bytes} {x : TOut Nat} {o : CRes} {i : Nat} {f : Nat → TOut Nat} {g : Bytes → CRes}
    (hg : ∀ c, g [] = .error c → c = .truncated) (h1 : BS b x o i) (h2 : ∀ j, BO b (f j) (g (b.drop j)) j) :
    BO b (x.bind fun k => f (i + k)) (o.bind fun k => (g ((b.drop i).drop k)).map (k + ·)) i := by
  rcases h1 with rfl | ⟨rfl, k, rfl, hk⟩
  · cases o with
    | error c => exact .inl rfl
    | ok k =>
      rcases h2 (i + k) with h | ⟨hc, j, hj, hjl⟩
      · left
        simp only [toOut_ok, Out.bind_ok, Except.bind, List.drop_drop, h]
        cases g (b.drop (i + k)) with
        | error c => rfl
        | ok r => exact congrArg Out.ok (Nat.add_assoc i k r)
      · right
        simp only [toOut_ok, Out.bind_ok, Except.bind, List.drop_drop, hc]
        exact ⟨rfl, j, hj, hjl⟩
  · have hnil : b.drop (i + k) = [] := List.drop_eq_nil_of_le (by omega)
    have h := h2 (i + k)
    rw [hnil] at h
    rcases h with h | ⟨_, j, hj, hjl⟩
    · cases hg0 : g [] with
      | ok r => rw [hg0] at h; exact .inr ⟨rfl, i + k + r, h, by omega⟩
      | error c => rw [hg0, hg c hg0] at h; exact .inl h
    · exact .inr ⟨rfl, j, hj, hjl⟩

theorem elemBin_BS {rec : Bytes → Nat → UInt8 → TOut Nat} {f : UInt8 → Bytes → CRes} (b : Bytes)
    (HR : ∀ bb i tt, i < bb.length → rec bb i tt = toOut (f tt (bb.drop i)))
    (t : UInt8) (i : Nat) (hi : i < b.length) :
    BS b (elemBin rec b i t ((fixedSize t : Nat) : Int)) (causeElem f t (b.drop i)) i := by
  by_cases hf : 0 < fixedSize t
  · have hx : elemBin rec b i t ((fixedSize t : Nat) : Int) = .ok (fixedSize t) := by
      simp only [elemBin, gt_iff_lt, Int.natCast_pos, hf, if_true, Int.toNat_natCast]
    rw [hx, causeElem_fixed f t hf, List.length_drop]
    by_cases hl : fixedSize t ≤ b.length - i
    · rw [if_pos hl]; exact .inl rfl
    · rw [if_neg hl]; exact .inr ⟨rfl, _, rfl, by omega⟩
  · exact .inl (celemExact_of b HR t (by omega) i hi)

theorem mapLoopBin_succ (rec : Bytes → Nat → UInt8 → TOut Nat) (b : Bytes) (kt vt : UInt8) (ksz vsz : Int)
    (cnt i : Nat) :
    mapLoopBin rec b kt vt ksz vsz (cnt + 1) i =
      if i ≥ b.length then .err errShort else
      (elemBin rec b i kt ksz).bind fun ki =>
        (fun j => if j ≥ b.length then .err errShort else
          (elemBin rec b j vt vsz).bind fun vi => mapLoopBin rec b kt vt ksz vsz cnt (j + vi)) (i + ki) := rfl

theorem causeKV_nil (fk fv : Bytes → CRes) (hk0 : fk [] = .error .truncated) (cnt : Nat) (c : Cause)
    (h : causeKV fk fv cnt [] = .error c) : c = .truncated := by
  cases cnt with
  | zero => cases h
  | succ n => rw [causeKV_succ, hk0] at h; cases h; rfl

theorem mapLoop_cause {rec b kt vt ksz vsz fk fv}
    (hK : ∀ i, i < b.length → BS b (elemBin rec b i kt ksz) (fk (b.drop i)) i) (hk0 : fk [] = .error .truncated)
    (hV : ∀ i, i < b.length → BS b (elemBin rec b i vt vsz) (fv (b.drop i)) i) (hv0 : fv [] = .error .truncated) :
    ∀ cnt i, BO b (mapLoopBin rec b kt vt ksz vsz cnt i) (causeKV fk fv cnt (b.drop i)) i := by
  intro cnt
  induction cnt with
  | zero => intro i; exact .inl rfl
  | succ cnt ih =>
    intro i
    rw [mapLoopBin_succ, causeKV_succ]
    by_cases hi : i ≥ b.length
    · rw [if_pos hi, List.drop_eq_nil_of_le hi, hk0]
      exact BO.short i rfl
    rw [if_neg hi]
    refine BO.bind (f := fun j => if j ≥ b.length then .err errShort else
        (elemBin rec b j vt vsz).bind fun vi => mapLoopBin rec b kt vt ksz vsz cnt (j + vi))
      (g := fun b' => (fv b').bind fun v => (causeKV fk fv cnt (b'.drop v)).map (v + ·))
      (fun c hc => by rw [show (fv []).bind _ = _ from congrArg (Except.bind · _) hv0] at hc; cases hc; rfl)
      (hK i (by omega)) fun j => ?_
    by_cases hj : j ≥ b.length
    · simp only [if_pos hj]
      rw [List.drop_eq_nil_of_le hj, hv0]
      exact BO.short j rfl
    · simp only [if_neg hj]
      exact BO.bind (f := mapLoopBin rec b kt vt ksz vsz cnt) (g := causeKV fk fv cnt)
        (causeKV_nil fk fv hk0 cnt) (hV j (by omega)) ih

theorem toOut_map_add (i k : Nat) (y : CRes) :
    toOut ((y.map (k + ·)).map (i + ·)) = toOut (y.map (i + k + ·)) := by
  cases y with
  | error c => rfl
  | ok r => exact congrArg Out.ok (Nat.add_assoc i k r).symm

/-- the list loop runs only over elements that are measured exactly, so it never overshoots -/
theorem listLoop_exact {rec b vt vsz} {g : Bytes → CRes}
    (hx : ∀ i, i < b.length → elemBin rec b i vt vsz = toOut (g (b.drop i))) (hg : CGood g) :
    ∀ cnt i, i ≤ b.length →
      listLoopBin rec b vt vsz cnt i = toOut ((causeN g cnt (b.drop i)).map (i + ·)) := by
  intro cnt
  induction cnt with
  | zero => intro i _; rfl
  | succ cnt ih =>
    intro i hi
    rw [causeN_succ]
    simp only [listLoopBin]
    by_cases hge : i ≥ b.length
    · rw [if_pos hge, List.drop_eq_nil_of_le hge, hg.2]
      exact congrArg _ errShort_pe
    rw [if_neg hge, hx i (by omega)]
    cases hgi : g (b.drop i) with
    | error c => rfl
    | ok k =>
      have hk := (hg.1 _ k hgi).2
      rw [List.length_drop] at hk
      simp only [toOut_ok, Out.bind_eq, Out.bind_ok, Except.bind, List.drop_drop]
      rw [ih (i + k) (by omega), toOut_map_add]

theorem structLoopBin_succ (rec : Bytes → Nat → UInt8 → TOut Nat) (b : Bytes) (fuel i : Nat) :
    structLoopBin rec b (fuel + 1) i =
      if i ≥ b.length then .err errShort else
      (load b i).bind fun ft =>
        if ft = 0 then .ok (i + 1) else
        if i + 1 + 2 ≥ b.length then .err errShort else
        (elemBin rec b (i + 1 + 2) ft ((fixedSize ft : Nat) : Int)).bind fun fi =>
          structLoopBin rec b fuel (i + 1 + 2 + fi) := by
  simp only [structLoopBin, typeSize_eq, Out.bind_eq, Out.bind_ok, T_STOP_eq]

/-- the struct loop looks at the end of the slice before every read, so an overshooting field value
    surfaces as errBufferTooShort in the next round -/
theorem structLoop_cause {rec b} {g : UInt8 → Bytes → CRes}
    (hF : ∀ ft i, i < b.length → BS b (elemBin rec b i ft ((fixedSize ft : Nat) : Int)) (g ft (b.drop i)) i)
    (hg : ∀ ft, g ft [] = .error .truncated) :
    ∀ fuel i, b.length - i < fuel →
      structLoopBin rec b fuel i = toOut ((causeFields g fuel (b.drop i)).map (i + ·)) := by
  intro fuel
  induction fuel with
  | zero => intro i h; omega
  | succ fuel ih =>
    intro i hfuel
    rw [structLoopBin_succ]
    by_cases hi : i ≥ b.length
    · rw [if_pos hi, List.drop_eq_nil_of_le hi]
      exact congrArg _ errShort_pe
    have hlt : i < b.length := by omega
    rw [if_neg hi, load_ok b i hlt, List.drop_eq_getElem_cons hlt]
    simp only [Out.bind_ok]
    by_cases ht : b[i] = 0
    · rw [if_pos ht, ht, causeFields_stop]; rfl
    rw [if_neg ht]
    by_cases hi2 : i + 1 + 2 ≥ b.length
    · rw [if_pos hi2]
      by_cases hl : (b.drop (i + 1)).length < 2
      · rw [causeFields_short g _ _ _ ht hl]; exact congrArg _ errShort_pe
      · have hnil : (b.drop (i + 1)).drop 2 = [] := by
          rw [List.drop_drop]; exact List.drop_eq_nil_of_le (by omega)
        rw [causeFields_field g fuel _ _ ht (by omega), hnil, hg]
        exact congrArg _ errShort_pe
    rw [if_neg hi2, causeFields_field g fuel _ _ ht (by rw [List.length_drop]; omega), List.drop_drop]
    have hfuel1 : 1 ≤ fuel := by omega
    rcases hF b[i] (i + 1 + 2) (by omega) with hx | ⟨ho, k, hx, hk⟩
    · rw [hx]
      cases hgi : g b[i] (b.drop (i + 1 + 2)) with
      | error c => rfl
      | ok k =>
        simp only [toOut_ok, Out.bind_ok, Except.bind, List.drop_drop]
        rw [ih (i + 1 + 2 + k) (by omega)]
        cases causeFields g fuel (b.drop (i + 1 + 2 + k)) with
        | error c => rfl
        | ok r => exact congrArg Out.ok (by simp only []; omega)
    · obtain ⟨fuel', rfl⟩ : ∃ f', fuel = f' + 1 := ⟨fuel - 1, by omega⟩
      rw [hx, ho, Out.bind_ok, structLoopBin_succ, if_pos (by omega)]
      exact congrArg _ errShort_pe

/-! ### skipType, one case at a time

  The MAP and LIST/SET cases on the slice `b` that is left, as functions of their own; the dispatch
  equation `skipBinAt_succ` is the only place where `skipBinAt` is unfolded. -/

def binMap (rec : Bytes → Nat → UInt8 → TOut Nat) (b : Bytes) : TOut Nat :=
  if 6 > b.length then .err errShort else do
  let kt ← load b 0
  let vt ← load b 1
  let sz ← loadI32 b 2
  if sz < 0 then .err errNeg else do
  let ksz ← typeSize kt
  let vsz ← typeSize vt
  if ksz > 0 ∧ vsz > 0 then
    let kv := sz.toNat * (ksz.toNat + vsz.toNat)
    if 6 + kv > b.length then .err errShort else .ok (6 + kv)
  else do
    let i ← mapLoopBin rec b kt vt ksz vsz sz.toNat 6
    if i > b.length then .err errShort else .ok i

def binList (rec : Bytes → Nat → UInt8 → TOut Nat) (b : Bytes) : TOut Nat :=
  if 5 > b.length then .err errShort else do
  let vt ← load b 0
  let sz ← loadI32 b 1
  if sz < 0 then .err errNeg else do
  let vsz ← typeSize vt
  if vsz > 0 then
    let lv := sz.toNat * vsz.toNat
    if 5 + lv > b.length then .err errShort else .ok (5 + lv)
  else listLoopBin rec b vt vsz sz.toNat 5

theorem skipBinAt_succ (d : Nat) (b0 : Bytes) (off : Nat) (t : UInt8) :
    skipBinAt (d+1) b0 off t =
      if 0 < fixedSize t then
        (if fixedSize t > (b0.drop off).length then .err errShort else .ok (fixedSize t))
      else if t = TT.STRING then skipStrBin (b0.drop off) 0
      else if t = TT.MAP then binMap (skipBinAt d) (b0.drop off)
      else if t = TT.LIST ∨ t = TT.SET then binList (skipBinAt d) (b0.drop off)
      else if t = TT.STRUCT then structLoopBin (skipBinAt d) (b0.drop off) ((b0.drop off).length + 1) 0
      else .err errUnknownType := by
  simp only [skipBinAt, binMap, binList, typeSize_eq, Out.bind_eq, Out.bind_ok, gt_iff_lt, Int.natCast_pos,
    Int.toNat_natCast, T_STRING_eq, T_STRUCT_eq, T_MAP_eq, T_SET_eq, T_LIST_eq]

theorem cmap_id (y : CRes) : Except.map (fun x => x) y = y := by cases y <;> rfl

section
variable (d : Nat)
  (ih : ∀ (bb : Bytes) (i : Nat) (tt : UInt8), i < bb.length →
    skipBinAt d bb i tt = toOut (causeBin d tt (bb.drop i)))
include ih

theorem binMap_cause (b : Bytes) :
    binMap (skipBinAt d) b = toOut (causeLayer (causeElem (causeBin d)) TT.MAP b) := by
  by_cases h6 : b.length < 6
  · rw [causeLayer_map_short _ _ h6]
    unfold binMap
    rw [if_pos h6]
    exact congrArg _ errShort_pe
  match b, h6 with
  | [], h6 => exact (h6 (by decide)).elim
  | [_], h6 => exact (h6 (by simp only [List.length_cons, List.length_nil]; omega)).elim
  | kt :: vt :: rest, h6 =>
    have h4 : 4 ≤ rest.length := by simp only [List.length_cons] at h6; omega
    have hl2 : loadI32 (kt :: vt :: rest) 2 = .ok (toI32 (rd32 rest)) :=
      loadI32_ok _ 2 (by simp only [List.length_cons]; omega)
    simp only [binMap, gt_iff_lt, h6, if_false, show load (kt :: vt :: rest) 0 = .ok kt from rfl,
      show load (kt :: vt :: rest) 1 = .ok vt from rfl, hl2, typeSize_eq, Out.bind_eq, Out.bind_ok,
      Int.natCast_pos, Int.toNat_natCast]
    rw [causeLayer_map, if_neg (show ¬ rest.length < 4 by omega)]
    rcases toI32_rd32 rest with ⟨hn, hneg⟩ | ⟨hn, hneg, hnat⟩
    · rw [if_pos hneg, if_pos hn]; exact congrArg _ errNeg_pe
    rw [if_neg hneg, if_neg (show ¬ ¬ rd32 rest < 2147483648 from fun h => h hn), hnat]
    by_cases hfast : 0 < fixedSize kt ∧ 0 < fixedSize vt
    · rw [if_pos hfast, causeKV_fixed _ _ _ _ (causeElem_fixed _ kt hfast.1)
        (causeElem_fixed _ vt hfast.2), List.length_drop]
      by_cases hfit : rd32 rest * (fixedSize kt + fixedSize vt) ≤ rest.length - 4
      · rw [if_pos hfit, if_neg (by simp only [List.length_cons]; omega)]; rfl
      · rw [if_neg hfit, if_pos (by simp only [List.length_cons]; omega)]; exact congrArg _ errShort_pe
    rw [if_neg hfast]
    have hE := elemBin_BS (rec := skipBinAt d) (f := causeBin d) (kt :: vt :: rest) ih
    have hnil := fun t => (causeElem_good (causeBin_good d) t).2
    rcases mapLoop_cause (hE kt) (hnil kt) (hE vt) (hnil vt) (rd32 rest) 6 with hx | ⟨ho, j, hx, hj⟩
    · rw [hx]
      have hd : List.drop 6 (kt :: vt :: rest) = rest.drop 4 := rfl
      rw [hd]
      cases hr : causeKV (causeElem (causeBin d) kt) (causeElem (causeBin d) vt) (rd32 rest) (rest.drop 4) with
      | error c => rfl
      | ok r =>
        have hr' : refKV (gElem (refBin d) kt) (gElem (refBin d) vt) (rd32 rest) (rest.drop 4) = some r := by
          rw [← causeKV_okOf (fun b => causeElem_okOf (causeBin_okOf d) kt b)
            (fun b => causeElem_okOf (causeBin_okOf d) vt b), hr]; rfl
        have hle := refKV_le (gElem_inlines.good (refBin_good d) kt) (gElem_inlines.good (refBin_good d) vt) _ _ _ hr'
        rw [List.length_drop] at hle
        simp only [cmap_ok, toOut_ok, Out.bind_ok]
        rw [if_neg (by simp only [List.length_cons]; omega)]
    · have ho' : causeKV (causeElem (causeBin d) kt) (causeElem (causeBin d) vt) (rd32 rest) (rest.drop 4)
          = .error .truncated := ho
      rw [hx, ho', Out.bind_ok, if_pos hj]
      exact congrArg _ errShort_pe

theorem binList_cause (b : Bytes) (t : UInt8) (hl : t = TT.LIST ∨ t = TT.SET) :
    binList (skipBinAt d) b = toOut (causeLayer (causeElem (causeBin d)) t b) := by
  by_cases h5 : b.length < 5
  · rw [causeLayer_list_short _ t hl _ h5]
    unfold binList
    rw [if_pos h5]
    exact congrArg _ errShort_pe
  match b, h5 with
  | [], h5 => exact (h5 (by decide)).elim
  | et :: rest, h5 =>
    have h4 : 4 ≤ rest.length := by simp only [List.length_cons] at h5; omega
    have hl1 : loadI32 (et :: rest) 1 = .ok (toI32 (rd32 rest)) :=
      loadI32_ok _ 1 (by simp only [List.length_cons]; omega)
    simp only [binList, gt_iff_lt, h5, if_false, show load (et :: rest) 0 = .ok et from rfl, hl1, typeSize_eq,
      Out.bind_eq, Out.bind_ok, Int.natCast_pos, Int.toNat_natCast]
    rw [causeLayer_list _ t hl, if_neg (show ¬ rest.length < 4 by omega)]
    rcases toI32_rd32 rest with ⟨hn, hneg⟩ | ⟨hn, hneg, hnat⟩
    · rw [if_pos hneg, if_pos hn]; exact congrArg _ errNeg_pe
    rw [if_neg hneg, if_neg (show ¬ ¬ rd32 rest < 2147483648 from fun h => h hn), hnat]
    by_cases hfast : 0 < fixedSize et
    · rw [if_pos hfast, causeN_fixed _ _ (causeElem_fixed _ et hfast), List.length_drop]
      by_cases hfit : rd32 rest * fixedSize et ≤ rest.length - 4
      · rw [if_pos hfit, if_neg (by simp only [List.length_cons]; omega)]; rfl
      · rw [if_neg hfit, if_pos (by simp only [List.length_cons]; omega)]; exact congrArg _ errShort_pe
    rw [if_neg hfast]
    exact listLoop_exact (fun i hi => celemExact_of (et :: rest) ih et (by omega) i hi)
      (causeElem_good (causeBin_good d) et) (rd32 rest) 5 (by simp only [List.length_cons]; omega)
end

/-- skipType at any offset inside the slice: the extent, or exactly the exception of the cause -/
theorem skipBinAt_cause : ∀ d (b0 : Bytes) (off : Nat) (t : UInt8), off < b0.length →
    skipBinAt d b0 off t = toOut (causeBin d t (b0.drop off)) := by
  intro d
  induction d with
  | zero =>
    intro b0 off t hoff
    have : ¬ b0.length - off = 0 := by omega
    simp [skipBinAt, causeBin, this, errDepth_pe]
  | succ d ih =>
    intro b0 off t hoff
    have hbl : ¬ (b0.drop off).length = 0 := by rw [List.length_drop]; omega
    rw [skipBinAt_succ]
    simp only [causeBin, hbl, if_false]
    generalize b0.drop off = b
    rcases layerG_cases t with ⟨hf, _⟩ | ⟨h0, rfl, _⟩ | ⟨h0, rfl, _⟩ | ⟨h0, hl, _⟩ | ⟨h0, rfl, _⟩ |
        ⟨h0, hs, hst, hl, hm, _⟩
    · rw [if_pos hf, causeLayer_fixed _ t b hf]
      by_cases hfit : fixedSize t ≤ b.length
      · rw [if_neg (by omega), if_pos hfit]; rfl
      · rw [if_pos (by omega), if_neg hfit]; exact congrArg _ errShort_pe
    · rw [if_neg (by decide), if_pos rfl, causeLayer_string]
      exact skipStrBin_cause b 0 (Nat.zero_le _)
    · rw [if_neg (by decide), if_neg (by decide), if_neg (by decide), if_neg (by decide), if_pos rfl,
        causeLayer_struct, structLoop_cause (elemBin_BS b ih)
          (fun t => (causeElem_good (causeBin_good d) t).2) (b.length + 1) 0 (by omega)]
      simp only [List.drop_zero, Nat.zero_add, cmap_id]
    · obtain ⟨hf0, hns, _, hnm⟩ := listType_facts t hl
      rw [if_neg hf0, if_neg hns, if_neg hnm, if_pos hl]
      exact binList_cause d ih b t hl
    · rw [if_neg (by decide), if_neg (by decide), if_pos rfl]
      exact binMap_cause d ih b
    · rw [if_neg (by omega), if_neg hs, if_neg hm, if_neg hl, if_neg hst, causeLayer_unknown _ t b h0 hs hst hl hm]
      exact congrArg _ errUnknownType_pe

theorem toOut_eq (x : CRes) :
    toOut x = match x with | .ok n => .ok n | .error c => .err (.pe (typeIdOf c)) := by
  cases x <;> rfl

/-- Binary.Skip, whole function, EVERY byte string and type byte: the extent when the grammar accepts,
    otherwise the protocol exception whose type id is Thrift's for the classified cause -/
theorem skipBin_cause (b : Bytes) (t : UInt8) : skipBin b t = toOut (causeBin 64 t b) := by
  unfold skipBin
  by_cases h0 : b.length = 0
  · simp [h0, causeBin, errShort_pe]
  · simp only [h0, if_false, defaultRecursionDepth_eq]
    have := skipBinAt_cause 64 b 0 t (by omega)
    simpa using this

end Verif
