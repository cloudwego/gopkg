/-
  Lemmas/TthUtil: the exported helpers of protocol/ttheader/utils.go that Encode/Decode do not use:
  IsStreaming, WriteUint32, WriteString.
-/
import Verif.Lemmas.TthRt
namespace Verif.TTH
open Verif.Frame (layout infoSize)

theorem and_two (f : Nat) : f &&& 2 = 2 * (f / 2 % 2) := by
  rw [← Nat.div_add_mod (f &&& 2) (2 ^ 1), Nat.and_div_two_pow, Nat.and_mod_two_pow]
  show 2 * (f / 2 &&& 2 ^ 1 - 1) + (f % 2 &&& 0) = _
  rw [Nat.and_two_pow_sub_one_eq_mod, Nat.and_zero, Nat.add_zero]

/-- IsStreaming never panics and decides exactly the spec's predicate -/
theorem isStreaming_eq (b : Bytes) : isStreaming b = .ok (Frame.streaming b) := by
  unfold isStreaming Frame.streaming
  by_cases h8 : b.length < 8
  · rw [if_pos h8, decide_eq_false (fun h => Nat.not_le_of_lt h8 h.1)]
  have h8' : 8 ≤ b.length := Nat.le_of_not_lt h8
  have hd (lo : Nat) (h : 2 + lo ≤ 8) : 2 ≤ (b.drop lo).length := by
    rw [List.length_drop]; exact Nat.le_sub_of_add_le (Nat.le_trans h h8')
  rw [if_neg h8]
  simp only [Facts.ttSize32, Facts.ttSize16, Facts.ttMagic, Facts.ttFlagsStreaming, Nat.reduceAdd, Nat.reduceDiv,
    Nat.reduceMod]
  rw [sliceFrom_ok b 4 (Nat.le_trans (by decide) h8'), Out.bind_ok, beU16_ok _ (hd 4 (by decide)), Out.bind_ok,
    sliceFrom_ok b 6 (Nat.le_trans (by decide) h8'), Out.bind_ok, beU16_ok _ (hd 6 (by decide)), Out.bind_ok]
  simp only [and_two]
  by_cases hm : rd16 (b.drop 4) = 4096
  · rw [if_neg (not_not_intro hm)]
    refine congrArg Out.ok (decide_eq_decide.mpr ?_)
    rcases Nat.mod_two_eq_zero_or_one (rd16 (b.drop 6) / 2) with h | h
    · rw [h]; exact ⟨fun hn => absurd rfl hn, fun hn => absurd hn.2.2 (by decide)⟩
    · rw [h]; exact ⟨fun _ => ⟨h8', hm, rfl⟩, fun _ => by decide⟩
  · rw [if_pos hm, decide_eq_false (fun h => hm h.2.1)]

theorem writeU32_ok (w : W) (hb : w.broken = false) (v : Nat) : writeU32 w v = .ok (w.app [be32 v]) :=
  malloc_fill w hb (be32 v)

theorem writeStr4_ok (w : W) (hb : w.broken = false) (s : Bytes) :
    writeStr4 w s = .ok (s.length + 4, w.app [be32 (s.length % 4294967296), s]) := by
  unfold writeStr4
  rw [writeU32_ok w hb]
  simp only [Out.bind_ok]
  rw [writeBinary_ok _ (by simpa using hb)]
  simp [W.app_app]

/-- IsStreaming of a laid-out frame (followed by anything) reads the streaming bit of the flags -/
theorem isStreaming_layout (p : EncParam) (lf rest : Bytes) (hlf : lf.length = 4) (hf : p.flags < 65536) :
    Frame.streaming (layout lf (fp p) ++ rest) = decide (p.flags / 2 % 2 = 1) := by
  have hlen : 8 ≤ (layout lf (fp p) ++ rest).length := by
    rw [List.length_append, layout_length lf (fp p) hlf]; omega
  unfold Frame.streaming
  rw [layout_magic lf rest (fp p) hlf, layout_flags lf rest (fp p) hlf hf]
  simp only [hlen, true_and]
  rfl

end Verif.TTH
