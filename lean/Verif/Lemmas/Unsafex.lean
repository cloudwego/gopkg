/- Lemmas/Unsafex: reads/writes of the tiny heap; the conversions on well-formed values. -/
import Verif.Model.Unsafex
namespace Verif.Usx

theorem read_zero (h : Heap) (p : Option Ptr) : h.read p 0 = some [] := by simp [Heap.read]

theorem read_length {h : Heap} {p : Option Ptr} {n : Nat} {c : Bytes} (hr : h.read p n = some c) :
    c.length = n := by
  unfold Heap.read at hr
  split at hr
  · simp_all
  · split at hr
    · simp at hr
    · split at hr
      · simp at hr
      · split at hr
        · rename_i o _ hle
          have hc := (Option.some.inj hr).symm
          subst hc
          simp only [List.length_take, List.length_drop]; omega
        · simp at hr

/-- a read only depends on the object it points into -/
theorem read_congr {h h' : Heap} {p : Ptr} (n : Nat) (hobj : h'[p.obj]? = h[p.obj]?) :
    h'.read (some p) n = h.read (some p) n := by
  simp only [Heap.read, hobj]

/-- a well-formed slice can be read -/
theorem Slice.content_isSome {h : Heap} {b : Slice} (hw : b.WF h) : ∃ c, b.content h = some c := by
  obtain ⟨hle, hp⟩ := hw
  unfold Slice.content Heap.read
  by_cases h0 : b.len = 0
  · simp [h0]
  · cases hb : b.ptr with
    | none => rw [hb] at hp; simp only at hp; omega
    | some p =>
      rw [hb] at hp
      obtain ⟨o, ho, hr⟩ := hp
      have : p.off + b.len ≤ o.length := by omega
      simp [h0, ho, this]

/-- a well-formed string can be read -/
theorem GoStr.content_isSome {h : Heap} {s : GoStr} (hw : s.WF h) : ∃ c, s.content h = some c := by
  unfold GoStr.content Heap.read
  rcases hw with h0 | ⟨p, o, hp, ho, hr⟩
  · simp [h0]
  · by_cases h0 : s.len = 0
    · simp [h0]
    · simp [h0, hp, ho, hr]

/-- the string of a well-formed non-empty string points into an existing object -/
theorem GoStr.obj_lt {h : Heap} {s : GoStr} (hw : s.WF h) (hn : s.len ≠ 0) :
    ∃ p, s.ptr = some p ∧ p.obj < h.length := by
  rcases hw with h0 | ⟨p, o, hp, ho, _⟩
  · exact absurd h0 hn
  · refine ⟨p, hp, ?_⟩
    rcases Nat.lt_or_ge p.obj h.length with hlt | hge
    · exact hlt
    · rw [List.getElem?_eq_none hge] at ho; simp at ho

theorem read_ptr_congr (h : Heap) {p q : Option Ptr} {n : Nat} (hpq : n ≠ 0 → p = q) : h.read p n = h.read q n := by
  by_cases h0 : n = 0
  · rw [h0, read_zero, read_zero]
  · rw [hpq h0]

theorem sliceData_of_ne {b : Slice} (u : Ptr) (hle : b.len ≤ b.cap) (hn : b.len ≠ 0) : sliceData b u = b.ptr :=
  if_pos (by omega)

theorem stringData_of_ne {s : GoStr} (u : Option Ptr) (hn : s.len ≠ 0) : stringData s u = s.ptr :=
  if_neg hn

theorem binaryToString_eq {h : Heap} {b : Slice} (hw : b.WF h) (u : Ptr) :
    binaryToString b u = .ok ⟨sliceData b u, b.len⟩ := by
  refine if_neg fun ⟨hnil, hn⟩ => ?_
  rw [sliceData_of_ne u hw.1 hn] at hnil
  have hp := hw.2
  cases hb : b.ptr with
  | none => rw [hb] at hp; exact hn (by have := hw.1; simp only at hp; omega)
  | some p => rw [hb] at hnil; cases hnil

theorem stringToBinary_eq {h : Heap} {s : GoStr} (hw : s.WF h) (u : Option Ptr) :
    stringToBinary s u = .ok ⟨stringData s u, s.len, s.len⟩ := by
  unfold stringToBinary unsafeSlice
  cases hd : stringData s u with
  | some p => rfl
  | none =>
    have h0 : s.len = 0 := Decidable.byContradiction fun hn => by
      obtain ⟨p, hp, _⟩ := GoStr.obj_lt hw hn
      rw [stringData_of_ne u hn, hp] at hd
      cases hd
    simp only [h0, if_true]

theorem append_nil (h : Heap) {b : Slice} (extra : Nat) (hle : b.len ≤ b.cap) : append h b [] extra = some (h, b) := by
  simp [append, hle, Heap.write]

theorem append_grow (h : Heap) {b : Slice} {c : Bytes} (xs : Bytes) (extra : Nat)
    (hgt : b.cap < b.len + xs.length) (hr : h.read b.ptr b.len = some c) :
    append h b xs extra = some (h ++ [c ++ xs ++ List.replicate extra 0],
      ⟨some ⟨h.length, 0⟩, b.len + xs.length, b.len + xs.length + extra⟩) := by
  simp only [append, Nat.not_le.mpr hgt, if_false, hr]

theorem read_new_object (h : Heap) (o : Bytes) {n : Nat} (h0 : n ≠ 0) (hn : n ≤ o.length) :
    (h ++ [o]).read (some ⟨h.length, 0⟩) n = some (o.take n) := by
  simp only [Heap.read, h0, if_false, List.getElem?_concat_length, Nat.zero_add, hn, if_true, List.drop_zero]

end Verif.Usx
