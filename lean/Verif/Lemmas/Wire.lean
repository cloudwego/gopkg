/- Lemmas/Wire: the spec's byte-level printers agree with Base's big-endian codecs; two's complement. -/
import Verif.Model.WireMsg
namespace Verif.Wire

theorem byte_eq (n : Nat) : byte n = UInt8.ofNat n := by
  unfold byte
  apply UInt8.toNat_inj.mp
  simp [UInt8.toNat_ofNat']

theorem u16_eq (n : Nat) : u16 n = be16 n := by
  simp [u16, be16, byte_eq]

theorem u32_eq (n : Nat) : u32 n = be32 n := by
  simp [u32, be32, byte_eq]

theorem u64_eq (n : Nat) : u64 n = be64 n := by
  simp [u64, be64, be32, byte_eq, Nat.div_div_eq_div_mul]

theorem twos_ofInt (bits : Nat) (v : Int) (hlo : -(2 : Int) ^ bits ≤ v) (hhi : v < (2 : Int) ^ bits) :
    twos bits v = ofInt bits v := by
  have := ofInt_cast bits v hlo hhi
  unfold twos
  split at this <;> rename_i h <;> simp only [h, if_true, if_false] <;> omega

theorem twos8 (v : Int) (h : inI8 v) : twos 8 v = ofInt 8 v :=
  twos_ofInt 8 v (by unfold inI8 at h; omega) (by unfold inI8 at h; omega)
theorem twos16 (v : Int) (h : inI16 v) : twos 16 v = ofInt 16 v :=
  twos_ofInt 16 v (by unfold inI16 at h; omega) (by unfold inI16 at h; omega)
theorem twos32 (v : Int) (h : inI32 v) : twos 32 v = ofInt 32 v :=
  twos_ofInt 32 v (by unfold inI32 at h; omega) (by unfold inI32 at h; omega)
theorem twos64 (v : Int) (h : inI64 v) : twos 64 v = ofInt 64 v :=
  twos_ofInt 64 v (by unfold inI64 at h; omega) (by unfold inI64 at h; omega)

theorem inI32_toI32 (n : Nat) (h : n < 4294967296) : inI32 (toI32 n) := by
  unfold inI32 toI32; split <;> omega

theorem ofInt32_toI32 (n : Nat) (h : n < 4294967296) : ofInt 32 (toI32 n) = n := by
  have hi := inI32_toI32 n h
  have hv : toI32 n = if n < 2147483648 then (n : Int) else (n : Int) - 4294967296 := rfl
  generalize toI32 n = v at *
  have := ofInt_cast 32 v (by have := hi.1; omega) (by have := hi.2; omega)
  split at this <;> split at hv <;> omega

theorem twos32_toI32 (n : Nat) (h : n < 4294967296) : twos 32 (toI32 n) = n := by
  rw [twos32 _ (inI32_toI32 n h), ofInt32_toI32 n h]

end Verif.Wire
