/- Lemmas/WireRefine: the stream readers on the reader model refine the buffer readers: whenever
   a BufferReader.Read* succeeds (any state with the representation invariant, any source script), it
   returned what Binary.Read* returns on the remaining stream and consumed exactly that many bytes. -/
import Verif.Lemmas.WireRd
namespace Verif.Wire

/-- BufferReader.next on the reader model, when it returns a slice, returned exactly the next n bytes of
    the remaining stream (the `(nil, nil)` return of finding F2 cannot happen: a short acquire always has
    an error recorded) -/
theorem brNext_sound (r : Rd) (n : Nat) (bs : Bytes) (r' : Rd) (hI : RInv r)
    (h : brNext (n : Int) r = .ok (bs, r')) :
    remaining r = bs ++ remaining r' ∧ bs.length = n ∧ r'.readLen = r.readLen + n ∧ RInv r' := by
  unfold brNext at h
  generalize hn : r.next (n : Int) = res at h
  obtain ⟨x, r1⟩ := res
  cases x with
  | ok b =>
    simp at h
    obtain ⟨h1, h2⟩ := h
    subst h1; subst h2
    obtain ⟨e1, e2, e3, e4, e5⟩ := next_sound r n _ _ hI hn
    refine ⟨?_, e2, e4, e5⟩
    rw [e1, e3, List.take_append_drop]
  | fail e =>
    exfalso
    cases e with
    | some e => simp at h
    | none =>
      -- a failing Next always carries an error
      unfold Rd.next at hn
      rw [if_neg (by omega)] at hn
      simp only [Int.toNat_natCast] at hn
      generalize ha : r.acquire n = a at hn
      cases a with
      | none => simp at hn
      | some p =>
        obtain ⟨m, r2⟩ := p
        obtain ⟨_, _, _, _, i5⟩ := acquire_spec r n m r2 hI ha
        simp only at hn
        split at hn
        · rename_i hlt
          simp at hn
          have := i5 (by omega)
          rw [hn.1] at this
          simp at this
        · simp at hn
  | nofuel => simp at h

/-- BufferReader.readBinary(bs) with len(bs) = k, when it returns no error, copied exactly the next k
    bytes of the remaining stream -/
theorem brReadFull_sound (r : Rd) (k : Nat) (out : Bytes) (r' : Rd) (hI : RInv r)
    (h : brReadFull k r = .ok (out, r')) :
    remaining r = out ++ remaining r' ∧ out.length = k ∧ r'.readLen = r.readLen + k ∧ RInv r' := by
  unfold brReadFull at h
  generalize hn : r.readBinary k = res at h
  obtain ⟨x, r1⟩ := res
  cases x with
  | none => simp at h
  | some p =>
    obtain ⟨o, m, e⟩ := p
    cases e with
    | some e => simp at h
    | none =>
      simp at h
      obtain ⟨h1, h2⟩ := h
      subst h1; subst h2
      -- the reported count is k
      have hm : m = k := by
        unfold Rd.readBinary at hn
        generalize ha : r.acquire k = a at hn
        cases a with
        | none => simp at hn
        | some q =>
          obtain ⟨m0, r2⟩ := q
          obtain ⟨_, _, _, _, i5⟩ := acquire_spec r k m0 r2 hI ha
          simp at hn
          obtain ⟨⟨_, hm, he⟩, _⟩ := hn
          by_cases hlt : m0 < k
          · have := i5 hlt
            have hk : k ≤ if k < m0 then k else m0 := by
              rcases Nat.lt_or_ge (if k < m0 then k else m0) k with c | c
              · have := he c; simp_all
              · exact c
            split at hk <;> omega
          · rw [← hm]; split <;> omega
      subst hm
      obtain ⟨e1, e3, e4, e5⟩ := readBinary_sound r m _ _ hI hn
      have hl : m ≤ (remaining r).length := by
        -- m bytes were copied out of the remaining stream
        unfold Rd.readBinary at hn
        generalize ha : r.acquire m = a at hn
        cases a with
        | none => simp at hn
        | some q =>
          obtain ⟨m0, r2⟩ := q
          obtain ⟨_, i2, _, i4, i5⟩ := acquire_spec r m m0 r2 hI ha
          simp at hn
          obtain ⟨⟨_, hm, _⟩, _⟩ := hn
          rw [← i2]; simp [remaining]
          rcases Nat.lt_or_ge m m0 with c | c
          · omega
          · have := hm c; omega
      refine ⟨?_, ?_, e4, e5⟩
      · rw [e1, e3, List.take_append_drop]
      · rw [e1]; simp; omega

/-- what a successful stream read means: the buffer reader, run on the remaining stream, returns the
    same value with length n; the reader is left with the stream after those n bytes; ReadLen grew by n -/
def Refines {α} (r : Rd) (x : α) (r' : Rd) (y : BOut (α × Nat)) : Prop :=
  ∃ n, y = .ok (x, n) ∧ remaining r = (remaining r).take n ++ remaining r' ∧ n ≤ (remaining r).length ∧
       r'.readLen = r.readLen + n ∧ RInv r'

theorem refines_of {α} (r r' : Rd) (x : α) (bs : Bytes) (n : Nat) (y : BOut (α × Nat))
    (h1 : remaining r = bs ++ remaining r') (h2 : bs.length = n) (h3 : r'.readLen = r.readLen + n) (h4 : RInv r')
    (hy : y = .ok (x, n)) : Refines r x r' y := by
  refine ⟨n, hy, ?_, ?_, h3, h4⟩
  · rw [h1, ← h2]; simp
  · rw [h1]; simp; omega

theorem brRead_refines_fixed (k : Kind) (n : Nat) (hk : k.width = some n) (r : Rd) (v : Val) (r' : Rd)
    (hI : RInv r) (h : brRead k r = .ok (v, r')) : Refines r v r' (binRead k (remaining r)) := by
  rw [brRead_fixed k n hk] at h
  cases hb : brNext n r with
  | ok p =>
    obtain ⟨bs, r1⟩ := p
    obtain ⟨e1, e2, e3, e4⟩ := brNext_sound r n bs r1 hI hb
    obtain ⟨v', ht, hv'⟩ := brTail_ok k n hk bs e2
    rw [hb, Out.bind_ok, ht, Out.bind_ok] at h
    simp only [Out.ok.injEq, Prod.mk.injEq] at h
    obtain ⟨rfl, rfl⟩ := h
    exact refines_of r r1 v' bs n _ e1 e2 e3 e4 (by rw [e1]; exact hv' _)
  | err e => rw [hb] at h; cases h
  | panic s => rw [hb] at h; cases h
  | oob => rw [hb] at h; cases h

theorem brReadI32_refines (r : Rd) (v : Int) (r' : Rd) (hI : RInv r) (h : brReadI32 r = .ok (v, r')) :
    Refines r v r' (binReadI32 (remaining r)) := by
  obtain ⟨n, h1, h2⟩ := brRead_refines_fixed .i32 4 rfl r (.i32 v) r' hI (by simp only [brRead, h, mapRM])
  refine ⟨n, ?_, h2⟩
  simp only [binRead] at h1
  cases hy : binReadI32 (remaining r) <;> rw [hy] at h1 <;> simp [mapOk] at h1
  rw [← h1.1, ← h1.2]

theorem brReadFieldBegin_refines (r : Rd) (v : UInt8 × Int) (r' : Rd) (hI : RInv r)
    (h : brReadFieldBegin r = .ok (v, r')) :
    Refines r v r' ((binReadFieldBegin (remaining r)).bind fun x => .ok ((x.1, x.2.1), x.2.2)) := by
  unfold brReadFieldBegin at h
  cases hb : brNext 1 r with
  | ok p =>
    obtain ⟨bs, r1⟩ := p
    obtain ⟨e1, e2, e3, e4⟩ := brNext_sound r 1 bs r1 hI (by simpa using hb)
    obtain ⟨t, rfl⟩ : ∃ t, bs = [t] := by match bs, e2 with | [t], _ => exact ⟨t, rfl⟩
    rw [hb] at h
    simp only [Out.bind_eq, Out.bind_ok, idx_zero] at h
    by_cases ht : t = T_STOP
    · simp [ht] at h
      obtain ⟨hv, hr⟩ := h; subst hr
      refine refines_of r r1 v _ 1 _ e1 e2 e3 e4 ?_
      rw [binReadFieldBegin_char, e1, ← hv]; simp [ht, tstop]
    · rw [if_neg ht] at h
      cases hc : brNext 2 r1 with
      | ok q =>
        obtain ⟨cs, r2⟩ := q
        obtain ⟨f1, f2, f3, f4⟩ := brNext_sound r1 2 cs r2 e4 (by simpa using hc)
        obtain ⟨a, b, rfl⟩ : ∃ a b, cs = [a, b] := by match cs, f2 with | [a, b], _ => exact ⟨a, b, rfl⟩
        simp only [hc, Out.bind_ok] at h
        simp [u16of] at h
        obtain ⟨hv, hr⟩ := h; subst hr
        refine refines_of r r2 v [t, a, b] 3 _ (by rw [e1, f1]; simp) rfl (by omega) f4 ?_
        rw [binReadFieldBegin_char, e1, f1, ← hv]
        have ht0 : ¬ t = 0 := by rw [← tstop]; exact ht
        simp [ht0, rd16]
        rw [if_neg (by omega)]; rfl
      | err e => simp [hc] at h
      | panic s => simp [hc] at h
      | oob => simp [hc] at h
  | err e => rw [hb] at h; simp at h
  | panic s => rw [hb] at h; simp at h
  | oob => rw [hb] at h; simp at h

theorem toI32_nonneg (n : Nat) (hn : n < 4294967296) (h : ¬ toI32 n < 0) : n < 2147483648 ∧ (toI32 n).toNat = n := by
  unfold toI32 at *; split at h <;> simp_all <;> omega

theorem drop_of_take_append (x y : Bytes) (n : Nat) (h : x = x.take n ++ y) : x.drop n = y := by
  have h2 : x.take n ++ x.drop n = x.take n ++ y := by rw [List.take_append_drop]; exact h
  exact List.append_cancel_left h2

theorem brReadBinary_refines (r : Rd) (s : Bytes) (r' : Rd) (hI : RInv r) (h : brReadBinary r = .ok (s, r')) :
    Refines r s r' (binReadBinary (remaining r)) := by
  unfold brReadBinary at h
  cases hb : brReadI32 r with
  | ok p =>
    obtain ⟨sz, r1⟩ := p
    obtain ⟨n1, a1, a2, a3, a4, a5⟩ := brReadI32_refines r sz r1 hI hb
    obtain ⟨h4, hsz, rfl⟩ := binReadI32_inv _ _ _ a1
    replace hsz := hsz.symm
    simp only [hb, Out.bind_eq, Out.bind_ok] at h
    by_cases hneg : sz < 0
    · simp [hneg] at h
    · rw [if_neg hneg] at h
      obtain ⟨e1, e2, e3, e4⟩ := brReadFull_sound r1 sz.toNat s r' a5 h
      have hw := rd32_lt (remaining r)
      rw [← hsz] at hneg e2
      obtain ⟨w1, w2⟩ := toI32_nonneg _ hw hneg
      rw [w2] at e2
      have hd4 : (remaining r).drop 4 = remaining r1 := drop_of_take_append _ _ 4 a2
      have hlen : (remaining r).length = 4 + (s.length + (remaining r').length) := by
        have := congrArg List.length a2
        simp [e1] at this; omega
      refine ⟨4 + rd32 (remaining r), ?_, ?_, by omega, by rw [e3, a4, ← hsz, w2]; omega, e4⟩
      · rw [binReadBinary_char, if_neg h4, if_neg (by omega), if_neg (by omega), hd4, e1, ← e2]; simp
      · have : (remaining r).take (4 + rd32 (remaining r)) = (remaining r).take 4 ++ s := by
          rw [List.take_add, hd4, e1, ← e2]; simp
        rw [this, List.append_assoc, ← e1]; exact a2
  | err e => rw [hb] at h; simp at h
  | panic s => rw [hb] at h; simp at h
  | oob => rw [hb] at h; simp at h

theorem brReadMessageBegin_refines (r : Rd) (v : Bytes × Int × Int) (r' : Rd) (hI : RInv r)
    (h : brReadMessageBegin r = .ok (v, r')) :
    Refines r v r' ((binReadMessageBegin (remaining r)).bind fun x => .ok ((x.1, x.2.1, x.2.2.1), x.2.2.2)) := by
  unfold brReadMessageBegin at h
  cases hb : brReadI32 r with
  | err e => rw [hb] at h; simp at h
  | panic s => rw [hb] at h; simp at h
  | oob => rw [hb] at h; simp at h
  | ok p =>
    obtain ⟨hd, r1⟩ := p
    obtain ⟨n1, a1, a2, a3, a4, a5⟩ := brReadI32_refines r hd r1 hI hb
    obtain ⟨h4, rfl, rfl⟩ := binReadI32_inv _ _ _ a1
    simp only [hb, Out.bind_eq, Out.bind_ok, ofInt32_toI32 _ (rd32_lt _)] at h
    by_cases hver : rd32 (remaining r) &&& Facts.msgVersionMask ≠ Facts.msgVersion1
    · rw [if_pos hver] at h; simp at h
    rw [if_neg hver] at h
    cases hc : brReadBinary r1 with
    | err e => rw [hc] at h; simp at h
    | panic s => rw [hc] at h; simp at h
    | oob => rw [hc] at h; simp at h
    | ok q =>
      obtain ⟨name, r2⟩ := q
      obtain ⟨n2, b1, b2, b3, b4, b5⟩ := brReadBinary_refines r1 name r2 a5 hc
      simp only [hc, Out.bind_ok] at h
      cases hs : brReadI32 r2 with
      | err e => rw [hs] at h; simp at h
      | panic s => rw [hs] at h; simp at h
      | oob => rw [hs] at h; simp at h
      | ok q3 =>
        obtain ⟨seq, r3⟩ := q3
        obtain ⟨n3, c1, c2, c3, c4, c5⟩ := brReadI32_refines r2 seq r3 b5 hs
        obtain ⟨_, _, rfl⟩ := binReadI32_inv _ _ _ c1
        simp only [hs, Out.bind_ok, Out.pure_eq, Out.ok.injEq, Prod.mk.injEq] at h
        obtain ⟨rfl, rfl⟩ := h
        -- the buffer reader, run on the remaining stream, meets the three reads at the same places
        have d4 : (remaining r).drop 4 = remaining r1 := drop_of_take_append _ _ 4 a2
        have dn : (remaining r1).drop n2 = remaining r2 := drop_of_take_append _ _ _ b2
        have d4n : (remaining r).drop (4 + n2) = remaining r2 := by rw [← List.drop_drop, d4, dn]
        have hlen : (remaining r).length = 4 + (remaining r1).length := by
          have := congrArg List.length a2; simp at this; omega
        have hlen1 : (remaining r1).length = n2 + (remaining r2).length := by
          have := congrArg List.length b2; simp at this; omega
        refine ⟨4 + n2 + 4, ?_, ?_, by omega, by omega, c5⟩
        · rw [binReadMessageBegin_ok (remaining r) name n2 seq h4 hver (by rw [d4]; exact b1) (by omega)
            (by rw [d4n]; exact c1)]
          rfl
        · rw [List.take_add, List.take_add, d4n, d4, List.append_assoc, List.append_assoc, ← c2, ← b2]
          exact a2

theorem mapRM_inv {α} (f : α → Val) (x : TOut (α × Rd)) (v : Val) (r' : Rd) (h : mapRM f x = .ok (v, r')) :
    ∃ a, x = .ok (a, r') ∧ v = f a := by
  cases x with
  | ok p => simp [mapRM] at h; exact ⟨p.1, by rw [← h.2], h.1.symm⟩
  | err e => simp [mapRM] at h
  | panic s => simp [mapRM] at h
  | oob => simp [mapRM] at h

theorem refines_conv {α} (r r' : Rd) (a : α) (f : α → Val) (Y : BOut (α × Nat)) (Z : BOut (Val × Nat))
    (h : Refines r a r' Y) (hY : ∀ n, Y = .ok (a, n) → Z = .ok (f a, n)) : Refines r (f a) r' Z := by
  obtain ⟨n, h1, h2⟩ := h
  exact ⟨n, hY n h1, h2⟩

/-- REFINEMENT: whenever a stream reader succeeds — on any reader state satisfying the representation
    invariant, under any source script — the buffer reader run on the remaining stream returns the
    same value with some length n, exactly those n bytes have been consumed, and ReadLen grew by n -/
theorem brRead_refines (k : Kind) (r : Rd) (v : Val) (r' : Rd) (hI : RInv r) (h : brRead k r = .ok (v, r')) :
    Refines r v r' (binRead k (remaining r)) := by
  cases hw : k.width with
  | some n => exact brRead_refines_fixed k n hw r v r' hI h
  | none =>
    cases k <;> simp only [Kind.width, reduceCtorEq] at hw <;> simp only [brRead] at h <;>
      obtain ⟨a, ha, rfl⟩ := mapRM_inv _ _ _ _ h <;> simp only [binRead]
    case binary =>
      exact refines_conv r r' a _ _ _ (brReadBinary_refines r a r' hI ha) (fun n hn => by simp [hn, mapOk])
    case str =>
      exact refines_conv r r' a _ _ _ (brReadBinary_refines r a r' hI ha) (fun n hn => by simp [hn, mapOk])
    case field =>
      refine refines_conv r r' a (fun v => fieldVal v.1 v.2) _ _ (brReadFieldBegin_refines r a r' hI ha) ?_
      intro n hn
      cases hy : binReadFieldBegin (remaining r) <;> simp [hy] at hn
      simp [mapOk, ← hn.1, ← hn.2]
    case msg =>
      refine refines_conv r r' a (fun v => Val.messageBegin v.1 v.2.1 v.2.2) _ _
        (brReadMessageBegin_refines r a r' hI ha) ?_
      intro n hn
      cases hy : binReadMessageBegin (remaining r) <;> simp [hy] at hn
      simp [mapOk, ← hn.1, ← hn.2]

end Verif.Wire
