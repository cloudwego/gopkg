/-
  Lemmas/SkipBRCauseRef: the stream-flavoured classifier `causeStream` (Spec/Cause.lean, used by the
  Tie B verdict of the `cause` family) accepts exactly what the acceptance discipline of
  BufferReader.Skip, `refBR` (Lemmas/GrammarG.lean), accepts — with the same extent.
-/
import Verif.Lemmas.SkipBinCause
import Verif.Lemmas.GrammarG
namespace Verif

theorem layerG_eq_layer_of_not_struct (F E : UInt8 → Bytes → Option Nat) (t : UInt8) (b : Bytes)
    (ht : t ≠ TT.STRUCT) :
    layerG F E (fun kt _ => E kt) (fun _ vt => E vt) t b = layer E t b := by
  rw [layer_eq_layerG]
  simp only [layerG, if_neg ht]

theorem causeStream_okOf : ∀ d t b, okOf (causeStream d t b) = refBR d t b := by
  intro d
  induction d with
  | zero => intro t b; rfl
  | succ d ih =>
    intro t b
    simp only [causeStream, refBR]
    by_cases hst : t = TT.STRUCT
    · subst hst
      simp only [if_true]
      have : layerG (gFix (refBR d)) (gElem (refBR d)) (fun kt _ => gElem (refBR d) kt)
          (fun _ vt => gElem (refBR d) vt) TT.STRUCT b = refFields (gFix (refBR d)) (b.length + 1) b := by
        simp [layerG, show fixedSize TT.STRUCT = 0 by decide, show TT.STRUCT ≠ TT.STRING by decide]
      rw [this]
      apply causeFields_okOf
      intro ft bb
      unfold causeField gFix fixedFn
      by_cases hf : fixedSize ft > 0
      · by_cases hl : fixedSize ft ≤ bb.length <;> simp [hf, hl]
      · simp [hf, ih]
    · simp only [hst, if_false]
      rw [layerG_eq_layer_of_not_struct _ _ _ _ hst]
      exact causeLayer_okOf (fun t b => causeElem_okOf ih t b) t b

/-- the stream classifier reports an extent exactly when `refBR` does, and the same one -/
theorem causeStream_ok_iff (d : Nat) (t : UInt8) (b : Bytes) (n : Nat) :
    causeStream d t b = .ok n ↔ refBR d t b = some n := by
  rw [← causeStream_okOf, okOf_eq_some]

end Verif
