/-
  Lemmas/UnknownSafe: on EVERY byte string the unknown-field reader either fails with an error or succeeds
  with a consumed count inside the slice it was given: no `buf[k:]` can panic, and the fuel of the two
  `for {}` loops never runs out (each iteration consumes ≥ 1 byte), i.e. the Go loops terminate.
-/
import Verif.Lemmas.UnknownBase
namespace Verif

def Post {β : Type} (Q : β → Prop) : UOut β → Prop
  | .ok a => Q a
  | .err _ => True
  | _ => False

theorem Post.bind {β γ : Type} {Q' : β → Prop} {Q : γ → Prop} {x : UOut β} {f : β → UOut γ}
    (hx : Post Q' x) (hf : ∀ a, Q' a → Post Q (f a)) : Post Q (x.bind f) := by
  cases x with
  | ok a => exact hf a hx
  | err e => trivial
  | panic s => exact hx
  | oob => exact hx

theorem Post.ite {β : Type} {Q : β → Prop} {c : Prop} [Decidable c] {x y : UOut β} (hx : c → Post Q x)
    (hy : ¬c → Post Q y) : Post Q (if c then x else y) := by
  by_cases hc : c
  · rw [if_pos hc]
    exact hx hc
  · rw [if_neg hc]
    exact hy hc

theorem Post.ok_or_err {β : Type} {Q : β → Prop} {x : UOut β} (h : Post Q x) :
    (∃ a, x = .ok a ∧ Q a) ∨ ∃ e, x = .err e := by
  cases x with
  | ok a => exact .inl ⟨a, rfl, h⟩
  | err e => exact .inr ⟨e, rfl⟩
  | panic s => exact h.elim
  | oob => exact h.elim

abbrev InB {α : Type} (len : Nat) : UOut (α × Nat) → Prop := Post fun p => p.2 ≤ len

abbrev NoPanic {β : Type} : UOut β → Prop := Post fun _ => True

theorem NoPanic.safe {β : Type} {x : UOut β} (h : NoPanic x) : x.Safe := by
  cases x with
  | ok a => exact ⟨nofun, nofun⟩
  | err e => exact ⟨nofun, nofun⟩
  | panic s => exact h.elim
  | oob => exact h.elim

theorem add_le_of_le_drop {b : Bytes} {off n : Nat} (ho : off ≤ b.length) (h : n ≤ (b.drop off).length) :
    off + n ≤ b.length :=
  Nat.add_le_of_le_sub' ho (List.length_drop ▸ h)

theorem readElems_inB {α : Type} (rd : Bytes → UInt16 → UOut (α × Nat)) (H : ∀ s i, InB s.length (rd s i))
    (b : Bytes) : ∀ cnt i off, off ≤ b.length → InB b.length (readElems rd cnt i b off) := by
  intro cnt
  induction cnt with
  | zero => exact fun _ _ h => h
  | succ cnt ih =>
    intro i off h
    rw [readElems, ufSliceFrom_ok b off h, Out.bind_ok]
    exact (H _ _).bind fun r hr => (ih _ _ (add_le_of_le_drop h hr)).bind fun rs hrs => hrs

theorem readKVs_inB {α : Type} (rk rv : Bytes → UInt16 → UOut (α × Nat)) (HK : ∀ s i, InB s.length (rk s i))
    (HV : ∀ s i, InB s.length (rv s i)) (b : Bytes) :
    ∀ cnt i off, off ≤ b.length → InB b.length (ufReadKVs rk rv cnt i b off) := by
  intro cnt
  induction cnt with
  | zero => exact fun _ _ h => h
  | succ cnt ih =>
    intro i off h
    rw [ufReadKVs, ufSliceFrom_ok b off h, Out.bind_ok]
    refine (HK _ _).bind fun k hk => ?_
    have h1 := add_le_of_le_drop h hk
    rw [ufSliceFrom_ok b _ h1, Out.bind_ok]
    exact (HV _ _).bind fun v hv => (ih _ _ (add_le_of_le_drop h1 hv)).bind fun rs hrs => hrs

/-- ReadFieldBegin: an error, or 1 ≤ l ≤ len(buf) -/
theorem rdFieldBegin_post (s : Bytes) : Post (fun h => 1 ≤ h.2.2 ∧ h.2.2 ≤ s.length) (rdFieldBegin s) := by
  cases s with
  | nil => trivial
  | cons t rest =>
    rw [rdFieldBegin]
    by_cases ht : t = UT.STOP
    · rw [if_pos ht]
      exact ⟨Nat.le_refl 1, Nat.le_add_left 1 _⟩
    · rw [if_neg ht]
      by_cases hr : rest.length < 2
      · rw [if_pos hr]
        trivial
      · rw [if_neg hr]
        show 1 ≤ 3 ∧ 3 ≤ (t :: rest).length
        rw [List.length_cons]
        omega

theorem readFields_inB {α : Type} (rd : Bytes → UInt8 → UInt16 → UOut (α × Nat))
    (H : ∀ s t i, InB s.length (rd s t i)) (b : Bytes) :
    ∀ fuel off, off ≤ b.length → b.length - off + 1 ≤ fuel → InB b.length (readFields rd fuel b off) := by
  intro fuel
  induction fuel with
  | zero => exact fun _ _ hf => absurd hf (Nat.not_succ_le_zero _)
  | succ fuel ih =>
    intro off h hf
    rw [readFields, ufSliceFrom_ok b off h, Out.bind_ok]
    refine (rdFieldBegin_post _).bind fun hd hl => ?_
    have h1 := add_le_of_le_drop h hl.2
    refine .ite (fun _ => h1) fun _ => ?_
    rw [ufSliceFrom_ok b _ h1, Out.bind_ok]
    refine (H _ _ _).bind fun r hr => ?_
    -- the header is at least one byte, so one unit of fuel pays for the iteration
    exact (ih _ (add_le_of_le_drop h1 hr) (by omega)).bind fun rs hrs => hrs

theorem convertLoop_noPanic {α : Type} (rd : Bytes → UInt8 → UInt16 → UOut (α × Nat))
    (H : ∀ s t i, InB s.length (rd s t i)) (b : Bytes) :
    ∀ fuel off, off ≤ b.length → b.length - off + 1 ≤ fuel → NoPanic (convertLoop rd fuel b off) := by
  intro fuel
  induction fuel with
  | zero => exact fun _ _ hf => absurd hf (Nat.not_succ_le_zero _)
  | succ fuel ih =>
    intro off h hf
    rw [convertLoop]
    refine .ite (fun _ => trivial) fun _ => ?_
    rw [ufSliceFrom_ok b off h, Out.bind_ok]
    refine (rdFieldBegin_post _).bind fun hd hl => ?_
    have h1 := add_le_of_le_drop h hl.2
    rw [ufSliceFrom_ok b _ h1, Out.bind_ok]
    refine (H _ _ _).bind fun r hr => ?_
    exact (ih _ (add_le_of_le_drop h1 hr) (by omega)).bind fun rs _ => trivial

theorem scalarUF_inB {α : Type} {id : UInt16} {t : UInt8} {len : Nat} {r : UOut (UVal α × Nat)} (h : InB len r) :
    InB len (scalarUF id t r) :=
  Post.bind h fun _ hp => hp

theorem rdBool_inB {α : Type} (b : Bytes) : InB b.length (rdBool (α := α) b) := by
  cases b with
  | nil => trivial
  | cons x r => exact Nat.le_add_left 1 _

theorem rdByte_inB {α : Type} (b : Bytes) : InB b.length (rdByte (α := α) b) := by
  cases b with
  | nil => trivial
  | cons x r => exact Nat.le_add_left 1 _

theorem rdI16_inB {α : Type} (b : Bytes) : InB b.length (rdI16 (α := α) b) := by
  unfold rdI16
  exact .ite (fun _ => trivial) fun h => Nat.le_of_not_lt h

theorem rdI32_inB {α : Type} (b : Bytes) : InB b.length (rdI32 (α := α) b) := by
  unfold rdI32
  exact .ite (fun _ => trivial) fun h => Nat.le_of_not_lt h

theorem rdI64_inB {α : Type} (b : Bytes) : InB b.length (rdI64 (α := α) b) := by
  unfold rdI64
  exact .ite (fun _ => trivial) fun h => Nat.le_of_not_lt h

theorem rdDouble_inB {α : Type} (b : Bytes) : InB b.length (rdDouble (α := α) b) := by
  unfold rdDouble
  exact .ite (fun _ => trivial) fun h => Nat.le_of_not_lt h

theorem rdStr_inB {α : Type} (b : Bytes) : InB b.length (rdStr (α := α) b) := by
  unfold rdStr
  exact .ite (fun _ => trivial) fun _ => .ite (fun _ => trivial) fun _ => .ite (fun _ => trivial) fun h =>
    Nat.le_of_not_lt h

theorem readListLike_inB {α : Type} (rd : UInt8 → Bytes → UInt16 → UOut (α × Nat))
    (H : ∀ t s i, InB s.length (rd t s i)) (id : UInt16) (t : UInt8) (b : Bytes) :
    InB b.length (readListLike rd id t b) := by
  cases b with
  | nil => trivial
  | cons et rest =>
    rw [readListLike]
    by_cases hr : rest.length < 4
    · rw [if_pos hr]
      trivial
    · rw [if_neg hr]
      have h5 : 5 ≤ (et :: rest).length := by rw [List.length_cons]; omega
      exact (readElems_inB (rd et) (H et) (et :: rest) (rd32 rest) 0 5 h5).bind fun rs hrs => hrs

theorem readMapLike_inB {α : Type} (rd : UInt8 → Bytes → UInt16 → UOut (α × Nat))
    (H : ∀ t s i, InB s.length (rd t s i)) (id : UInt16) (t : UInt8) (b : Bytes) :
    InB b.length (readMapLike rd id t b) := by
  match b with
  | [] => trivial
  | [_] => trivial
  | kt :: vt :: rest =>
    rw [readMapLike]
    by_cases hr : rest.length < 4
    · rw [if_pos hr]
      trivial
    · rw [if_neg hr]
      have h6 : 6 ≤ (kt :: vt :: rest).length := by rw [List.length_cons, List.length_cons]; omega
      exact (readKVs_inB (rd kt) (rd vt) (H kt) (H vt) _ (rd32 rest) 0 6 h6).bind fun rs hrs => hrs

theorem readNode_inB {α : Type} (rd : Bytes → UInt8 → UInt16 → UOut (α × Nat))
    (H : ∀ s t i, InB s.length (rd s t i)) (b : Bytes) (t : UInt8) (id : UInt16) :
    InB b.length (readNode rd b t id) := by
  have HL := fun t s i => H s t i
  unfold readNode
  exact .ite (fun _ => scalarUF_inB (rdBool_inB b)) fun _ => .ite (fun _ => scalarUF_inB (rdByte_inB b)) fun _ =>
    .ite (fun _ => scalarUF_inB (rdI16_inB b)) fun _ => .ite (fun _ => scalarUF_inB (rdI32_inB b)) fun _ =>
    .ite (fun _ => scalarUF_inB (rdI64_inB b)) fun _ => .ite (fun _ => scalarUF_inB (rdDouble_inB b)) fun _ =>
    .ite (fun _ => scalarUF_inB (rdStr_inB b)) fun _ => .ite (fun _ => readListLike_inB _ HL _ _ _) fun _ =>
    .ite (fun _ => readListLike_inB _ HL _ _ _) fun _ => .ite (fun _ => readMapLike_inB _ HL _ _ _) fun _ =>
    .ite (fun _ => (readFields_inB rd H b _ 0 (Nat.zero_le _) (Nat.le_refl _)).bind fun rs hrs => hrs) fun _ =>
    trivial

/-- readUnknownField on every input, every type byte, every depth limit: error, or success within the slice -/
theorem readUF_inB : ∀ (m : Nat) (b : Bytes) (t : UInt8) (id : UInt16), InB b.length (readUF m b t id)
  | 0, _, _, _ => trivial
  | m+1, b, t, id => readNode_inB _ (fun s t i => readUF_inB m s t i) b t id

/-- ConvertUnknownFields with any depth limit never panics and never runs out of loop fuel -/
theorem convertM_noPanic (m : Nat) (b : Bytes) : NoPanic (convertM m b) := by
  unfold convertM
  split
  · trivial
  · exact convertLoop_noPanic _ (fun s t i => readUF_inB m s t i) b _ 0 (Nat.zero_le _) (Nat.le_refl _)

end Verif
