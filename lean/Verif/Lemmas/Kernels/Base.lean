/-
  Lemmas/Kernels/Base: helpers for the kernel-equality lemmas (Tie A, translated integer kernels).

  `Verif/Gen/Kernels.lean` is regenerated from the Go source on every run: each `k_<name>` is the
  mechanical translation of one straight-line integer expression of /repo into `BitVec` operations.
  The files in this directory prove every `k_<name>` equal to the function (or the inline formula) the
  hand-written models use for the same piece of code, so that a changed arithmetic detail in the
  source breaks a proof obligation here.  Core only.
-/
import Verif.Gen.Kernels
import Verif.Base.Bytes
namespace Verif.Kernels
open Verif

/-- the bytes of an append-style kernel as model bytes -/
def toBytes (l : List (BitVec 8)) : Bytes := l.map UInt8.ofBitVec

/-- a byte with value `n mod 256` is the model's `UInt8.ofNat n` (Go's `byte(n)`) -/
theorem u8_eq (b : BitVec 8) (n : Nat) (h : b.toNat = n % 256) : UInt8.ofBitVec b = UInt8.ofNat n := by
  apply UInt8.toNat_inj.mp
  simp [UInt8.toNat_ofNat', h]

/-- the models carry signed Go integers as `Int`; their two's complement is the bit pattern -/
theorem ofInt_toInt (w : Nat) (v : BitVec w) : ofInt w v.toInt = v.toNat := by
  unfold ofInt
  rw [BitVec.toInt_eq_toNat_bmod, Int.bmod_emod]
  have := v.isLt
  rw [Int.emod_eq_of_lt (by omega) (by exact_mod_cast this)]
  simp

theorem or_shl {x : Nat} (y k : Nat) (hx : x < 2 ^ k) : x ||| y <<< k = y * 2 ^ k + x := by
  rw [Nat.or_comm, ← Nat.shiftLeft_add_eq_or_of_lt hx, Nat.shiftLeft_eq]

theorem u32_shl {x : Nat} (k : Nat) (hx : x < 256) (hk : k ≤ 24) : (x % 2 ^ 32) <<< k % 2 ^ 32 = x * 2 ^ k := by
  have h : x * 2 ^ k < 2 ^ 8 * 2 ^ 24 :=
    Nat.mul_lt_mul_of_lt_of_le hx (Nat.pow_le_pow_right (by decide) hk) (Nat.two_pow_pos _)
  rw [Nat.mod_eq_of_lt (Nat.lt_trans hx (by decide)), Nat.shiftLeft_eq, Nat.mod_eq_of_lt h]

/-- four bytes OR-ed at their big-endian positions (after the `uint32` conversions) add up -/
theorem or_be32 (a c d e : Nat) (ha : a < 256) (hc : c < 256) (hd : d < 256) (he : e < 256) :
    e % 2 ^ 32 ||| (d % 2 ^ 32) <<< 8 % 2 ^ 32 ||| (c % 2 ^ 32) <<< 16 % 2 ^ 32 ||| (a % 2 ^ 32) <<< 24 % 2 ^ 32
      = a * 16777216 + c * 65536 + d * 256 + e := by
  rw [Nat.mod_eq_of_lt (Nat.lt_trans he (by decide)), u32_shl 8 hd (by decide), u32_shl 16 hc (by decide),
    u32_shl 24 ha (by decide), ← Nat.shiftLeft_eq, ← Nat.shiftLeft_eq, ← Nat.shiftLeft_eq,
    or_shl d 8 he, or_shl c 16 (by omega), or_shl a 24 (by omega)]
  omega

/-- on non-negative operands Go's signed `%` is the remainder of the values -/
theorem srem_nonneg (a b : BitVec 64) (ha : a.toNat < 2 ^ 63) (hb : b.toNat < 2 ^ 63) :
    (BitVec.srem a b).toNat = a.toNat % b.toNat := by
  have hma : a.msb = false := by rw [BitVec.msb_eq_decide]; simp; omega
  have hmb : b.msb = false := by rw [BitVec.msb_eq_decide]; simp; omega
  simp [BitVec.srem_eq, hma, hmb]

end Verif.Kernels
