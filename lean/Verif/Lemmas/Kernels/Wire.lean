/-
  Lemmas/Kernels/Wire (C01): the translated kernels of protocol/thrift's append helpers, `p2i32` and
  the message-envelope word equal the functions of Model/Wire.lean and Model/Skip.lean.
-/
import Verif.Lemmas.Kernels.Base
import Verif.Model.Wire
import Verif.Model.Skip
namespace Verif.Kernels
open Verif Verif.Wire

/-- `appendUint32(buf, v)` — Model/Wire `aU32` -/
theorem appendUint32_eq (buf : Bytes) (v : BitVec 32) :
    aU32 buf v.toNat = buf ++ toBytes (k_appendUint32 v) := by
  simp only [aU32, k_appendUint32, toBytes, List.map]
  congr 1
  repeat (first | rfl | (congr 1; · (symm; apply u8_eq; simp [BitVec.toNat_setWidth, BitVec.toNat_ushiftRight, Nat.shiftRight_eq_div_pow])))

/-- the same bytes are `Base/Bytes.be32` (what `putU32` stores and `rd32` reads back) -/
theorem appendUint32_be32 (v : BitVec 32) : toBytes (k_appendUint32 v) = be32 v.toNat := by
  have := appendUint32_eq [] v
  simpa [aU32, be32] using this.symm

/-- `appendUint64(buf, v)` — Model/Wire `aU64` -/
theorem appendUint64_eq (buf : Bytes) (v : BitVec 64) :
    aU64 buf v.toNat = buf ++ toBytes (k_appendUint64 v) := by
  simp only [aU64, k_appendUint64, toBytes, List.map]
  congr 1
  repeat (first | rfl | (congr 1; · (symm; apply u8_eq; simp [BitVec.toNat_setWidth, BitVec.toNat_ushiftRight, Nat.shiftRight_eq_div_pow])))

/-- `Binary.AppendI16(buf, v)` — Model/Wire `aI16` (the model carries `v` as an `Int`) -/
theorem AppendI16_eq (buf : Bytes) (v : BitVec 16) :
    aI16 buf v.toInt = buf ++ toBytes (k_AppendI16 v) := by
  simp only [aI16, k_AppendI16, toBytes, List.map, ofInt_toInt]
  congr 1
  repeat (first | rfl | (congr 1; · (symm; apply u8_eq; simp [BitVec.toNat_setWidth, BitVec.toNat_ushiftRight, Nat.shiftRight_eq_div_pow])))

/-- `Binary.AppendByte(buf, v)` — Model/Wire `aByte` -/
theorem AppendByte_eq (buf : Bytes) (v : BitVec 8) :
    aByte buf v.toInt = buf ++ toBytes (k_AppendByte v) := by
  simp only [aByte, k_AppendByte, toBytes, List.map, ofInt_toInt]
  congr 2
  symm; apply u8_eq; have := v.isLt; omega

/-- `Binary.AppendFieldBegin(buf, typeID, id)` — Model/Wire `aFieldBegin`; `id>>8` is an arithmetic
    shift of an int16 (the model's floor division of the `Int`) -/
theorem AppendFieldBegin_eq (buf : Bytes) (t : UInt8) (id : BitVec 16) :
    aFieldBegin buf t id.toInt = buf ++ toBytes (k_AppendFieldBegin t.toBitVec id) := by
  have h : id.toInt / 256 = (BitVec.sshiftRight id 8).toInt := by
    rw [BitVec.toInt_sshiftRight, Int.shiftRight_eq_div_pow]; rfl
  simp only [aFieldBegin, k_AppendFieldBegin, toBytes, List.map, h, ofInt_toInt]
  congr 1

/-- `p2i32(p)` on the four bytes it loads — the value Model/Skip `loadI32` computes -/
theorem p2i32_eq (a c d e : UInt8) :
    toI32 (a.toNat * 16777216 + c.toNat * 65536 + d.toNat * 256 + e.toNat)
      = (k_p2i32 a.toBitVec c.toBitVec d.toBitVec e.toBitVec).toInt := by
  have ha := a.toNat_lt; have hc := c.toNat_lt; have hd := d.toNat_lt; have he := e.toNat_lt
  have hn : (k_p2i32 a.toBitVec c.toBitVec d.toBitVec e.toBitVec).toNat
      = a.toNat * 16777216 + c.toNat * 65536 + d.toNat * 256 + e.toNat := by
    simp only [k_p2i32, BitVec.toNat_or, BitVec.toNat_shiftLeft, BitVec.toNat_setWidth, UInt8.toNat_toBitVec]
    exact or_be32 _ _ _ _ (by omega) (by omega) (by omega) (by omega)
  rw [BitVec.toInt_eq_toNat_cond, hn]
  unfold toI32
  split <;> split <;> omega

/-- Model/Skip `loadI32` is four loads followed by the translated kernel -/
theorem loadI32_kernel (b : Bytes) (i : Nat) :
    loadI32 b i = (do
      let a ← load b i
      let c ← load b (i + 1)
      let d ← load b (i + 2)
      let e ← load b (i + 3)
      pure (k_p2i32 a.toBitVec c.toBitVec d.toBitVec e.toBitVec).toInt) := by
  simp only [loadI32, p2i32_eq]

/-! The message-envelope proofs accept the operands of `|` and of `!=` in either order, whichever the
    source has. -/

/-- first word of `Binary.WriteMessageBegin` — Model/Wire `msgHeader` -/
theorem msgWord_Write_eq (t : BitVec 32) : (k_msgWord_Write t).toNat = msgHeader t.toInt := by
  first
    | (simp [k_msgWord_Write, msgHeader, ofInt_toInt, Facts.msgVersion1, Facts.msgTypeMask]; done)
    | (unfold k_msgWord_Write; rw [BitVec.or_comm]; simp [msgHeader, ofInt_toInt, Facts.msgVersion1, Facts.msgTypeMask])

/-- first word of `Binary.AppendMessageBegin` -/
theorem msgWord_Append_eq (t : BitVec 32) : (k_msgWord_Append t).toNat = msgHeader t.toInt := by
  first
    | (simp [k_msgWord_Append, msgHeader, ofInt_toInt, Facts.msgVersion1, Facts.msgTypeMask]; done)
    | (unfold k_msgWord_Append; rw [BitVec.or_comm]; simp [msgHeader, ofInt_toInt, Facts.msgVersion1, Facts.msgTypeMask])

/-- first word of `(*BufferWriter).WriteMessageBegin` -/
theorem msgWord_BufferWriter_eq (t : BitVec 32) :
    (k_msgWord_BufferWriter t).toNat = msgHeader t.toInt := by
  first
    | (simp [k_msgWord_BufferWriter, msgHeader, ofInt_toInt, Facts.msgVersion1, Facts.msgTypeMask]; done)
    | (unfold k_msgWord_BufferWriter; rw [BitVec.or_comm]; simp [msgHeader, ofInt_toInt, Facts.msgVersion1, Facts.msgTypeMask])

/-- `header&msgVersionMask != msgVersion1` of `Binary.ReadMessageBegin` — the guard of Model/Wire
    `binReadMessageBegin` -/
theorem msgBadVersion_Read_eq (h : BitVec 32) :
    k_msgBadVersion_Read h = true ↔ h.toNat &&& Facts.msgVersionMask ≠ Facts.msgVersion1 := by
  first
    | (simp [k_msgBadVersion_Read, Facts.msgVersionMask, Facts.msgVersion1, ← BitVec.toNat_inj]; done)
    | (unfold k_msgBadVersion_Read; rw [bne_comm]; simp [Facts.msgVersionMask, Facts.msgVersion1, ← BitVec.toNat_inj])

/-- `header & msgTypeMask` of `Binary.ReadMessageBegin` -/
theorem msgType_Read_eq (h : BitVec 32) :
    (k_msgType_Read h).toNat = h.toNat &&& Facts.msgTypeMask := by
  simp [k_msgType_Read, Facts.msgTypeMask]

/-- `uint32(header)&msgVersionMask != msgVersion1` of `(*BufferReader).ReadMessageBegin` (header is an
    int32 there; Model/Wire `brReadMessageBegin` converts with `ofInt 32`) -/
theorem msgBadVersion_BufferReader_eq (h : BitVec 32) :
    k_msgBadVersion_BufferReader h = true ↔
      ofInt 32 h.toInt &&& Facts.msgVersionMask ≠ Facts.msgVersion1 := by
  first
    | (simp [ofInt_toInt, k_msgBadVersion_BufferReader, Facts.msgVersionMask, Facts.msgVersion1, ← BitVec.toNat_inj]; done)
    | (unfold k_msgBadVersion_BufferReader; rw [bne_comm]; simp [ofInt_toInt, Facts.msgVersionMask, Facts.msgVersion1, ← BitVec.toNat_inj])

/-- `uint32(header) & msgTypeMask` of `(*BufferReader).ReadMessageBegin` -/
theorem msgType_BufferReader_eq (h : BitVec 32) :
    (k_msgType_BufferReader h).toNat = ofInt 32 h.toInt &&& Facts.msgTypeMask := by
  simp [ofInt_toInt, k_msgType_BufferReader, Facts.msgTypeMask]

/-! ## concrete instances (the kernels compute; sign handling is visible) -/
example : toBytes (k_appendUint32 0x01020304#32) = [1, 2, 3, 4] := by decide
example : toBytes (k_AppendFieldBegin 11#8 (-2 : BitVec 16)) = [11, 0xff, 0xfe] := by decide
example : (k_p2i32 0xff#8 0xff#8 0xff#8 0xfe#8).toInt = -2 := by decide
example : k_msgWord_Write 1#32 = 0x80010001#32 := by decide
example : k_msgWord_Write 0xffff0002#32 = 0x80010002#32 := by decide   -- the type mask applies
example : k_msgBadVersion_Read 0x80010001#32 = false ∧ k_msgBadVersion_Read 0x80020001#32 = true := by decide

end Verif.Kernels
