/-
  Lemmas/Kernels/TTH (C06, C10): the framing arithmetic of protocol/ttheader, translated from the
  source, equals the arithmetic of Model/TTHeader.lean.
-/
import Verif.Lemmas.Kernels.Base
import Verif.Model.TTHeader
namespace Verif.Kernels
open Verif

theorem toInt_of_lt (v : BitVec 64) (h : v.toNat < 2 ^ 63) : v.toInt = v.toNat :=
  BitVec.toInt_eq_toNat_of_lt (by omega)

theorem toNat_of_toInt (v : BitVec 64) (m : Nat) (hm : m < 2 ^ 64) (h : v.toInt = m) : v.toNat = m := by
  rw [← BitVec.ofInt_toInt (x := v), h, BitVec.ofInt_natCast, BitVec.toNat_ofNat]
  exact Nat.mod_eq_of_lt hm

/-- `int(x)` of a `uint32` is its value -/
theorem toInt_ofU32 (t : BitVec 32) : (BitVec.setWidth 64 t).toInt = t.toNat := by
  have := t.isLt
  have hn : (BitVec.setWidth 64 t).toNat = t.toNat :=
    (BitVec.toNat_setWidth 64 t).trans (Nat.mod_eq_of_lt (by omega))
  rw [toInt_of_lt _ (by omega), hn]

theorem toInt_four : (4#64 : BitVec 64).toInt = 4 := rfl

/-! ## Encode -/

/-- `(4 - writeSize%4) % 4` with Go's truncated `%` on a 64-bit int, for EVERY int (negative too) -/
theorem ttPadding_int (x : BitVec 64) :
    (k_ttPadding x).toInt = (4 - x.toInt.tmod 4).tmod 4 := by
  simp only [k_ttPadding, BitVec.toInt_srem, BitVec.toInt_sub, toInt_four]
  -- the inner remainder lies in (-4, 4), so the subtraction does not wrap
  have h1 : -4 < x.toInt.tmod 4 := Int.lt_tmod_of_pos _ (by decide)
  have h2 : x.toInt.tmod 4 < 4 := Int.tmod_lt_of_pos _ (by decide)
  rw [Int.bmod_eq_of_le (by omega) (by omega)]

/-- on a size (non-negative int) it is the formula of Model/TTHeader `writePadding` -/
theorem ttPadding_nat (x : BitVec 64) (h : x.toNat < 2 ^ 63) :
    (k_ttPadding x).toNat = (4 - x.toNat % 4) % 4 := by
  apply toNat_of_toInt _ _ (by omega)
  rw [ttPadding_int, toInt_of_lt x h]
  have hr : x.toNat % 4 ≤ 4 := Nat.le_of_lt (Nat.mod_lt _ (by decide))
  rw [Int.tmod_eq_emod_of_nonneg (Int.natCast_nonneg _), Int.tmod_eq_emod_of_nonneg (b := 4)]
  · rw [Int.natCast_emod, Int.natCast_sub hr, Int.natCast_emod]; rfl
  · exact Int.sub_nonneg_of_le (Int.le_of_lt (Int.emod_lt_of_pos _ (by decide)))

/-- Model/TTHeader `writePadding` computes its padding with the translated kernel -/
theorem writePadding_kernel (sz : Nat) (h : sz < 2 ^ 63) (w : TTH.W) :
    TTH.writePadding sz w =
      (w.malloc (k_ttPadding (BitVec.ofNat 64 sz)).toNat).bind fun r =>
      (r.2.put r.1 0 (List.replicate (k_ttPadding (BitVec.ofNat 64 sz)).toNat 0)).bind fun w1 =>
        .ok (sz + (k_ttPadding (BitVec.ofNat 64 sz)).toNat, w1) := by
  have hs : (BitVec.ofNat 64 sz).toNat = sz := Nat.mod_eq_of_lt (by omega)
  rw [ttPadding_nat (BitVec.ofNat 64 sz) (hs.symm ▸ h), hs]
  rfl

/-- `TTHeaderMagic + uint32(param.Flags)` — the word Model/TTHeader `encode` stores at offset 4 -/
theorem ttEncodeMagicFlags_eq (flags : BitVec 16) :
    (k_ttEncodeMagicFlags flags).toNat = (Facts.ttMagic + flags.toNat) % 4294967296 := by
  simp only [k_ttEncodeMagicFlags, BitVec.toNat_add, BitVec.toNat_setWidth, BitVec.toNat_ofNat, Facts.ttMagic,
    Nat.add_mod_mod, Nat.reducePow, Nat.reduceMod]

/-- `uint16(headerInfoSize/4)` — the size field Model/TTHeader `encode` stores at offset 12 -/
theorem ttEncodeSizeField_eq (x : BitVec 64) (h : x.toNat < 2 ^ 63) :
    (k_ttEncodeSizeField x).toNat = (x.toNat / 4) % 65536 := by
  have hm : x.msb = false := BitVec.msb_eq_false_iff_two_mul_lt.2 (by omega)
  have h4 : (4#64 : BitVec 64).msb = false := rfl
  simp only [k_ttEncodeSizeField, BitVec.sdiv_eq, hm, h4, BitVec.toNat_setWidth, BitVec.udiv_eq, BitVec.toNat_udiv,
    BitVec.toNat_ofNat, Nat.reducePow, Nat.reduceMod]

/-! ## Decode -/

/-- `uint32(<u16 size field>) * 4` — `size` of Model/TTHeader `decodeMeta`, in the width Tie A reports
    (a product taken in uint16 again would change both the kernel's type and `ttHeaderSizeBits`) -/
theorem ttDecodeInfoSize_eq (sf : BitVec 16) :
    (k_ttDecodeInfoSize sf).toNat = (sf.toNat * 4) % 2 ^ Facts.ttHeaderSizeBits := by
  simp only [k_ttDecodeInfoSize, BitVec.toNat_mul, BitVec.toNat_setWidth, BitVec.toNat_ofNat,
    Facts.ttHeaderSizeBits, Nat.mod_mul_mod, Nat.reducePow, Nat.reduceMod]

/-- the header-size product cannot wrap: it is `4 * field` as a number -/
theorem ttDecodeInfoSize_exact (sf : BitVec 16) : (k_ttDecodeInfoSize sf).toNat = 4 * sf.toNat := by
  have := sf.isLt
  rw [ttDecodeInfoSize_eq, Nat.mul_comm]
  exact Nat.mod_eq_of_lt (by rw [Facts.ttHeaderSizeBits]; omega)

/-- `param.HeaderLen = int(headerInfoSize + TTHeaderMetaSize)` (the translator inlines the
    single-assignment local `headerInfoSize`) — `headerLen` of Model/TTHeader `decodeInfo` -/
theorem ttDecodeHeaderLen_eq (sf : BitVec 16) :
    (k_ttDecodeHeaderLen sf).toInt
      = (((sf.toNat * 4) % 2 ^ Facts.ttHeaderSizeBits + Facts.ttMetaSize) % 4294967296 : Nat) := by
  simp only [k_ttDecodeHeaderLen, toInt_ofU32, BitVec.toNat_mul, BitVec.toNat_add, BitVec.toNat_setWidth,
    BitVec.toNat_ofNat, Facts.ttHeaderSizeBits, Facts.ttMetaSize, Nat.mod_mul_mod, Nat.reducePow, Nat.reduceMod]

/-- `param.PayloadLen = int(totalLen) + Size32 - param.HeaderLen` — `payloadLen` of Model/TTHeader
    `decodeInfo`; HeaderLen comes from a uint32, so it is never negative -/
theorem ttDecodePayloadLen_eq (total : BitVec 32) (hl : BitVec 64) (h : 0 ≤ hl.toInt) :
    (k_ttDecodePayloadLen total hl).toInt = (total.toNat : Int) + Facts.ttSize32 - hl.toInt := by
  have ht := total.isLt
  have hb : hl.toInt < 2 ^ 63 := hl.toInt_lt
  simp only [k_ttDecodePayloadLen, BitVec.toInt_sub, BitVec.toInt_add, toInt_four, toInt_ofU32, Facts.ttSize32,
    Int.cast_ofNat_Int]
  -- neither the sum (below 2^32 + 4) nor the difference (above -2^63) leaves the int range
  rw [Int.bmod_eq_of_le (n := (total.toNat : Int) + 4) (by omega) (by omega),
    Int.bmod_eq_of_le (by omega) (by omega)]

/-! ## concrete instances / non-vacuity -/
example : (k_ttPadding 2#64, k_ttPadding 5#64, k_ttPadding 8#64) = (2#64, 3#64, 0#64) := by decide
example : (5#64 : BitVec 64).toNat < 2 ^ 63 := by decide
example : k_ttDecodeInfoSize 0xffff#16 = 0x3fffc#32 := by decide        -- no wrap at 65535*4
example : k_ttDecodeHeaderLen 4#16 = 30#64 := by decide
example : (k_ttDecodePayloadLen 100#32 30#64).toInt = 74 ∧ 0 ≤ (30#64 : BitVec 64).toInt := by decide
example : (k_ttDecodePayloadLen 10#32 30#64).toInt = -16 := by decide    -- a short frame gives a negative length
example : k_ttEncodeMagicFlags 2#16 = 0x10000002#32 := by decide
example : k_ttEncodeSizeField 0x40000#64 = 0#16 := by decide             -- 65536 words wrap the field (C06 limit)

end Verif.Kernels
