/-
  Lemmas/UnknownEqns: the equations of the unknown-field model and of its grammar, case by case:
  the typing of container children, what one step of each loop does on a given form of input, what `layer`
  demands of a value of each type, the Binary scalar readers on input that is long enough and on what the
  Binary writers wrote, and what readUF / writeUF / wt / lenUF are at each type code (the `switch` of the Go
  code, case by case).
-/
import Verif.Lemmas.UnknownBase
import Verif.Lemmas.Grammar
namespace Verif

theorem elemsOK_cons {α : Type} {mt : α → UMeta} {p : α → Bool} {t : UInt8} {i : Nat} {c : α} {cs : List α} :
    elemsOK mt p t i (c :: cs) = true ↔
      (mt c).id = UInt16.ofNat i ∧ (mt c).typ = t ∧ p c = true ∧ elemsOK mt p t (i + 1) cs = true := by
  simp only [elemsOK, Bool.and_eq_true, beq_iff_eq, and_assoc]

theorem ufKvsOK_cons_cons {α : Type} {mt : α → UMeta} {p : α → Bool} {kt vt : UInt8} {i : Nat} {k v : α}
    {cs : List α} :
    ufKvsOK mt p kt vt i (k :: v :: cs) = true ↔
      ((mt k).id = UInt16.ofNat i ∧ (mt k).typ = kt ∧ p k = true) ∧
      ((mt v).id = UInt16.ofNat i ∧ (mt v).typ = vt ∧ p v = true) ∧ ufKvsOK mt p kt vt (i + 1) cs = true := by
  simp only [ufKvsOK, Bool.and_eq_true, beq_iff_eq, and_assoc]

theorem refN_succ_some {g : Bytes → Option Nat} {n : Nat} {b : Bytes} {k : Nat} (h : refN g (n+1) b = some k) :
    ∃ k1 r, g b = some k1 ∧ refN g n (b.drop k1) = some r ∧ k = k1 + r := by
  rw [refN] at h
  split at h
  · cases h
  · split at h
    · cases h
    · exact ⟨_, _, ‹_›, ‹_›, (Option.some.inj h).symm⟩

theorem refKV_succ_some {gk gv : Bytes → Option Nat} {n : Nat} {b : Bytes} {k : Nat}
    (h : refKV gk gv (n+1) b = some k) :
    ∃ k1 v1 r, gk b = some k1 ∧ gv (b.drop k1) = some v1 ∧ refKV gk gv n (b.drop (k1 + v1)) = some r ∧
      k = k1 + v1 + r := by
  rw [refKV] at h
  split at h
  · cases h
  · split at h
    · cases h
    · split at h
      · cases h
      · exact ⟨_, _, _, ‹_›, ‹_›, ‹_›, (Option.some.inj h).symm⟩

theorem refFields_cons_some {g : UInt8 → Bytes → Option Nat} {fuel : Nat} {t : UInt8} {rest : Bytes} {k : Nat}
    (ht : t ≠ 0) (h : refFields g (fuel+1) (t :: rest) = some k) :
    2 ≤ rest.length ∧ ∃ k1 r, g t (rest.drop 2) = some k1 ∧ refFields g fuel (rest.drop (2 + k1)) = some r ∧
      k = 3 + k1 + r := by
  rw [refFields, if_neg ht] at h
  by_cases h2 : rest.length < 2
  · rw [if_pos h2] at h
    cases h
  · rw [if_neg h2] at h
    split at h
    · cases h
    · split at h
      · cases h
      · exact ⟨Nat.le_of_not_lt h2, _, _, ‹_›, ‹_›, (Option.some.inj h).symm⟩

theorem encSeq_cons_true {g : UInt8 → Bytes → Option Nat} {fuel : Nat} {t : UInt8} {rest : Bytes}
    (h : encSeq g (fuel+1) (t :: rest) = true) :
    t ≠ 0 ∧ 2 ≤ rest.length ∧ ∃ k1, g t (rest.drop 2) = some k1 ∧ encSeq g fuel (rest.drop (2 + k1)) = true := by
  rw [encSeq] at h
  by_cases ht : t = 0
  · rw [if_pos ht] at h
    cases h
  · rw [if_neg ht] at h
    by_cases h2 : rest.length < 2
    · rw [if_pos h2] at h
      cases h
    · rw [if_neg h2] at h
      split at h
      · cases h
      · exact ⟨ht, Nat.le_of_not_lt h2, _, ‹_›, h⟩

theorem refStr_some {b : Bytes} {k : Nat} (h : refStr b = some k) :
    4 ≤ b.length ∧ rd32 b < 2147483648 ∧ 4 + rd32 b ≤ b.length ∧ k = 4 + rd32 b := by
  unfold refStr at h
  by_cases hc : 4 ≤ b.length ∧ rd32 b < 2147483648 ∧ 4 + rd32 b ≤ b.length
  · rw [if_pos hc] at h
    exact ⟨hc.1, hc.2.1, hc.2.2, (Option.some.inj h).symm⟩
  · rw [if_neg hc] at h
    cases h

theorem ttype_cases (t : UInt8) :
    t = TT.BOOL ∨ t = TT.BYTE ∨ t = TT.I16 ∨ t = TT.I32 ∨ t = TT.I64 ∨ t = TT.DOUBLE ∨ t = TT.STRING ∨
    (t = TT.LIST ∨ t = TT.SET) ∨ t = TT.MAP ∨ t = TT.STRUCT ∨
    (t ≠ TT.BOOL ∧ t ≠ TT.BYTE ∧ t ≠ TT.I16 ∧ t ≠ TT.I32 ∧ t ≠ TT.I64 ∧ t ≠ TT.DOUBLE ∧ t ≠ TT.STRING ∧
      ¬(t = TT.LIST ∨ t = TT.SET) ∧ t ≠ TT.MAP ∧ t ≠ TT.STRUCT) :=
  (Decidable.em _).imp_right fun h1 => (Decidable.em _).imp_right fun h2 => (Decidable.em _).imp_right fun h3 =>
  (Decidable.em _).imp_right fun h4 => (Decidable.em _).imp_right fun h5 => (Decidable.em _).imp_right fun h6 =>
  (Decidable.em _).imp_right fun h7 => (Decidable.em _).imp_right fun h8 => (Decidable.em _).imp_right fun h9 =>
  (Decidable.em _).imp_right fun h10 => ⟨h1, h2, h3, h4, h5, h6, h7, h8, h9, h10⟩

theorem layer_fixed {E : UInt8 → Bytes → Option Nat} {t : UInt8} {b : Bytes} {k : Nat} (n : Nat)
    (hn : fixedSize t = n + 1) (h : layer E t b = some k) : n + 1 ≤ b.length ∧ k = n + 1 := by
  unfold layer at h
  rw [hn, if_pos (Nat.succ_pos n)] at h
  by_cases hl : n + 1 ≤ b.length
  · rw [if_pos hl] at h
    exact ⟨hl, (Option.some.inj h).symm⟩
  · rw [if_neg hl] at h
    cases h

theorem layer_list {E : UInt8 → Bytes → Option Nat} {t : UInt8} {b : Bytes} {k : Nat}
    (ht : t = TT.LIST ∨ t = TT.SET) (h : layer E t b = some k) :
    ∃ et rest r, b = et :: rest ∧ 4 ≤ rest.length ∧ rd32 rest < 2147483648 ∧
      refN (E et) (rd32 rest) (rest.drop 4) = some r ∧ k = 5 + r := by
  cases b with
  | nil => rcases ht with rfl | rfl <;> cases h
  | cons et rest =>
    have e : layer E t (et :: rest) = if 4 ≤ rest.length ∧ rd32 rest < 2147483648 then
        (refN (E et) (rd32 rest) (rest.drop 4)).map (5 + ·) else none := by
      rcases ht with rfl | rfl <;> rfl
    rw [e] at h
    by_cases hc : 4 ≤ rest.length ∧ rd32 rest < 2147483648
    · rw [if_pos hc] at h
      obtain ⟨r, hr, hk⟩ := Option.map_eq_some_iff.mp h
      exact ⟨et, rest, r, rfl, hc.1, hc.2, hr, hk.symm⟩
    · rw [if_neg hc] at h
      cases h

theorem layer_map {E : UInt8 → Bytes → Option Nat} {b : Bytes} {k : Nat} (h : layer E TT.MAP b = some k) :
    ∃ kt vt rest r, b = kt :: vt :: rest ∧ 4 ≤ rest.length ∧ rd32 rest < 2147483648 ∧
      refKV (E kt) (E vt) (rd32 rest) (rest.drop 4) = some r ∧ k = 6 + r := by
  match b, h with
  | kt :: vt :: rest, h =>
    have e : layer E TT.MAP (kt :: vt :: rest) = if 4 ≤ rest.length ∧ rd32 rest < 2147483648 then
        (refKV (E kt) (E vt) (rd32 rest) (rest.drop 4)).map (6 + ·) else none := rfl
    rw [e] at h
    by_cases hc : 4 ≤ rest.length ∧ rd32 rest < 2147483648
    · rw [if_pos hc] at h
      obtain ⟨r, hr, hk⟩ := Option.map_eq_some_iff.mp h
      exact ⟨kt, vt, rest, r, rfl, hc.1, hc.2, hr, hk.symm⟩
    · rw [if_neg hc] at h
      cases h

theorem layer_other {E : UInt8 → Bytes → Option Nat} {t : UInt8} {b : Bytes}
    (h : t ≠ TT.BOOL ∧ t ≠ TT.BYTE ∧ t ≠ TT.I16 ∧ t ≠ TT.I32 ∧ t ≠ TT.I64 ∧ t ≠ TT.DOUBLE ∧ t ≠ TT.STRING ∧
      ¬(t = TT.LIST ∨ t = TT.SET) ∧ t ≠ TT.MAP ∧ t ≠ TT.STRUCT) : layer E t b = none := by
  obtain ⟨(h1 : t ≠ 2), (h2 : t ≠ 3), (h3 : t ≠ 6), (h4 : t ≠ 8), (h5 : t ≠ 10), (h6 : t ≠ 4), h7, h8, h9, h10⟩ := h
  have hf : fixedSize t = 0 := by
    unfold fixedSize
    rw [if_neg (fun h => h.elim h1 h2), if_neg h3, if_neg h4, if_neg (fun h => h.elim h6 h5)]
  unfold layer
  rw [hf, if_neg (Nat.lt_irrefl 0), if_neg h7, if_neg h10, if_neg h8, if_neg h9]

theorem drop_of_cons {b : Bytes} {off : Nat} {t : UInt8} {rest : Bytes} (hs : b.drop off = t :: rest) (j : Nat) :
    b.drop (off + (j + 1)) = rest.drop j := by
  rw [← List.drop_drop, hs, List.drop_succ_cons]

theorem length_of_drop_cons {b : Bytes} {off : Nat} {t : UInt8} {rest : Bytes} (hs : b.drop off = t :: rest) :
    off + rest.length + 1 = b.length := by
  have h := congrArg List.length hs
  rw [List.length_drop, List.length_cons] at h
  omega

theorem rdFieldBegin_cons {t : UInt8} {rest : Bytes} (ht : t ≠ UT.STOP) (h2 : 2 ≤ rest.length) :
    rdFieldBegin (t :: rest) = .ok (t, UInt16.ofNat (rd16 rest), 3) := by
  rw [rdFieldBegin, if_neg ht, if_neg (Nat.not_lt.mpr h2)]

theorem readFields_stop {α : Type} (rd : Bytes → UInt8 → UInt16 → UOut (α × Nat)) (fuel : Nat) {b : Bytes}
    {off : Nat} {rest : Bytes} (ho : off ≤ b.length) (hs : b.drop off = UT.STOP :: rest) :
    readFields rd (fuel+1) b off = .ok ([], off + 1) := by
  rw [readFields, ufSliceFrom_ok b off ho, Out.bind_ok, hs]
  rfl

theorem readFields_field {α : Type} (rd : Bytes → UInt8 → UInt16 → UOut (α × Nat)) (fuel : Nat) {b : Bytes}
    {off : Nat} {t : UInt8} {rest : Bytes} (hs : b.drop off = t :: rest) (ht : t ≠ UT.STOP) (h2 : 2 ≤ rest.length) :
    readFields rd (fuel+1) b off = (rd (rest.drop 2) t (UInt16.ofNat (rd16 rest))).bind fun r =>
      (readFields rd fuel b (off + 3 + r.2)).bind fun rs => .ok (r.1 :: rs.1, rs.2) := by
  have hl : off ≤ b.length ∧ off + 3 ≤ b.length := by
    have := length_of_drop_cons hs
    omega
  rw [readFields, ufSliceFrom_ok b off hl.1, Out.bind_ok, hs, rdFieldBegin_cons ht h2, Out.bind_ok, if_neg ht,
    ufSliceFrom_ok b (off + 3) hl.2, Out.bind_ok, drop_of_cons hs 2]

theorem convertLoop_end {α : Type} (rd : Bytes → UInt8 → UInt16 → UOut (α × Nat)) (fuel : Nat) (b : Bytes) :
    convertLoop rd (fuel+1) b b.length = .ok [] := by
  rw [convertLoop, if_pos rfl]

theorem convertLoop_field {α : Type} (rd : Bytes → UInt8 → UInt16 → UOut (α × Nat)) (fuel : Nat) {b : Bytes}
    {off : Nat} {t : UInt8} {rest : Bytes} (hs : b.drop off = t :: rest) (ht : t ≠ UT.STOP) (h2 : 2 ≤ rest.length) :
    convertLoop rd (fuel+1) b off = (rd (rest.drop 2) t (UInt16.ofNat (rd16 rest))).bind fun r =>
      (convertLoop rd fuel b (off + 3 + r.2)).bind fun rs => .ok (r.1 :: rs) := by
  have hl : off ≠ b.length ∧ off ≤ b.length ∧ off + 3 ≤ b.length := by
    have := length_of_drop_cons hs
    omega
  rw [convertLoop, if_neg hl.1, ufSliceFrom_ok b off hl.2.1, Out.bind_ok, hs, rdFieldBegin_cons ht h2,
    Out.bind_ok, ufSliceFrom_ok b (off + 3) hl.2.2, Out.bind_ok, drop_of_cons hs 2]

theorem rdI16_ok {α : Type} (b : Bytes) (h : 2 ≤ b.length) :
    rdI16 (α := α) b = .ok (.i16 (UInt16.ofNat (rd16 b)), 2) := if_neg (Nat.not_lt.mpr h)

theorem rdI32_ok {α : Type} (b : Bytes) (h : 4 ≤ b.length) :
    rdI32 (α := α) b = .ok (.i32 (UInt32.ofNat (rd32 b)), 4) := if_neg (Nat.not_lt.mpr h)

theorem rdI64_ok {α : Type} (b : Bytes) (h : 8 ≤ b.length) :
    rdI64 (α := α) b = .ok (.i64 (UInt64.ofNat (rd64 b)), 8) := if_neg (Nat.not_lt.mpr h)

theorem rdDouble_ok {α : Type} (b : Bytes) (h : 8 ≤ b.length) :
    rdDouble (α := α) b = .ok (.f64 (UInt64.ofNat (rd64 b)), 8) := if_neg (Nat.not_lt.mpr h)

theorem rdStr_ok {α : Type} (b : Bytes) (h4 : 4 ≤ b.length) (hn : rd32 b < 2147483648) (hl : 4 + rd32 b ≤ b.length) :
    rdStr (α := α) b = .ok (.str ((b.drop 4).take (rd32 b)), 4 + rd32 b) := by
  rw [rdStr, if_neg (Nat.not_lt.mpr h4), if_neg (Nat.not_le.mpr hn), if_neg (Nat.not_lt.mpr hl)]

theorem rdI16_be16 {α : Type} (x : UInt16) (rest : Bytes) : rdI16 (α := α) (be16 x.toNat ++ rest) = .ok (.i16 x, 2) := by
  rw [rdI16_ok _ (by rw [List.length_append, be16_length]; omega), rd16_be16 x.toNat x.toNat_lt rest,
    UInt16.ofNat_toNat]

theorem rdI32_be32 {α : Type} (x : UInt32) (rest : Bytes) : rdI32 (α := α) (be32 x.toNat ++ rest) = .ok (.i32 x, 4) := by
  rw [rdI32_ok _ (by rw [List.length_append, be32_length]; omega), rd32_be32 x.toNat x.toNat_lt rest,
    UInt32.ofNat_toNat]

theorem rdI64_be64 {α : Type} (x : UInt64) (rest : Bytes) : rdI64 (α := α) (be64 x.toNat ++ rest) = .ok (.i64 x, 8) := by
  rw [rdI64_ok _ (by rw [List.length_append, be64_length]; omega), rd64_be64 x.toNat x.toNat_lt rest,
    UInt64.ofNat_toNat]

theorem rdDouble_be64 {α : Type} (x : UInt64) (rest : Bytes) :
    rdDouble (α := α) (be64 x.toNat ++ rest) = .ok (.f64 x, 8) := by
  rw [rdDouble_ok _ (by rw [List.length_append, be64_length]; omega), rd64_be64 x.toNat x.toNat_lt rest,
    UInt64.ofNat_toNat]

theorem rdStr_be32 {α : Type} (x : Bytes) (hl : x.length < 2147483648) (rest : Bytes) :
    rdStr (α := α) (be32 x.length ++ x ++ rest) = .ok (.str x, (be32 x.length ++ x).length) := by
  have h32 : rd32 (be32 x.length ++ (x ++ rest)) = x.length := rd32_be32 _ (by omega) _
  rw [List.append_assoc, rdStr_ok _ (by rw [List.length_append, be32_length]; omega) (by omega)
    (by rw [h32, List.length_append, List.length_append, be32_length]; omega), h32,
    List.drop_left' (be32_length _), List.take_left' rfl, List.length_append, be32_length]

theorem readUF_BOOL (m : Nat) (b : Bytes) (id : UInt16) :
    readUF (m+1) b TT.BOOL id = scalarUF id TT.BOOL (rdBool b) := rfl

theorem readUF_BYTE (m : Nat) (b : Bytes) (id : UInt16) :
    readUF (m+1) b TT.BYTE id = scalarUF id TT.BYTE (rdByte b) := rfl

theorem readUF_I16 (m : Nat) (b : Bytes) (id : UInt16) :
    readUF (m+1) b TT.I16 id = scalarUF id TT.I16 (rdI16 b) := rfl

theorem readUF_I32 (m : Nat) (b : Bytes) (id : UInt16) :
    readUF (m+1) b TT.I32 id = scalarUF id TT.I32 (rdI32 b) := rfl

theorem readUF_I64 (m : Nat) (b : Bytes) (id : UInt16) :
    readUF (m+1) b TT.I64 id = scalarUF id TT.I64 (rdI64 b) := rfl

theorem readUF_DOUBLE (m : Nat) (b : Bytes) (id : UInt16) :
    readUF (m+1) b TT.DOUBLE id = scalarUF id TT.DOUBLE (rdDouble b) := rfl

theorem readUF_STRING (m : Nat) (b : Bytes) (id : UInt16) :
    readUF (m+1) b TT.STRING id = scalarUF id TT.STRING (rdStr b) := rfl

theorem readUF_list (m : Nat) (b : Bytes) {t : UInt8} (id : UInt16) (ht : t = TT.LIST ∨ t = TT.SET) :
    readUF (m+1) b t id = readListLike (fun et s i => readUF m s et i) id t b := by
  rcases ht with rfl | rfl <;> rfl

theorem readUF_MAP (m : Nat) (b : Bytes) (id : UInt16) :
    readUF (m+1) b TT.MAP id = readMapLike (fun et s i => readUF m s et i) id TT.MAP b := rfl

theorem readUF_STRUCT (m : Nat) (b : Bytes) (id : UInt16) :
    readUF (m+1) b TT.STRUCT id = (readFields (fun s ft fid => readUF m s ft fid) (b.length + 1) b 0).bind fun rs =>
      .ok ((⟨id, TT.STRUCT, 0, 0⟩, .fields rs.1), rs.2) := rfl

theorem readUF_unknown (m : Nat) (b : Bytes) (t : UInt8) (id : UInt16)
    (h : t ≠ UT.BOOL ∧ t ≠ UT.BYTE ∧ t ≠ UT.I16 ∧ t ≠ UT.I32 ∧ t ≠ UT.I64 ∧ t ≠ UT.DOUBLE ∧ t ≠ UT.STRING ∧
      t ≠ UT.SET ∧ t ≠ UT.LIST ∧ t ≠ UT.MAP ∧ t ≠ UT.STRUCT) :
    readUF (m+1) b t id = .err .unktype := by
  obtain ⟨h1, h2, h3, h4, h5, h6, h7, h8, h9, h10, h11⟩ := h
  rw [readUF, readNode, if_neg h1, if_neg h2, if_neg h3, if_neg h4, if_neg h5, if_neg h6, if_neg h7, if_neg h8,
    if_neg h9, if_neg h10, if_neg h11]
  rfl

theorem writeUF_BOOL (m : Nat) (id : UInt16) (kt vt : UInt8) (v : UVal (UF m)) :
    writeUF (m+1) (⟨id, TT.BOOL, kt, vt⟩, v) =
      match v with
      | .bool x => .ok [if x then 1 else 0]
      | _ => .panic "typeassert" := rfl

theorem writeUF_BYTE (m : Nat) (id : UInt16) (kt vt : UInt8) (v : UVal (UF m)) :
    writeUF (m+1) (⟨id, TT.BYTE, kt, vt⟩, v) =
      match v with
      | .i8 x => .ok [x]
      | _ => .panic "typeassert" := rfl

theorem writeUF_I16 (m : Nat) (id : UInt16) (kt vt : UInt8) (v : UVal (UF m)) :
    writeUF (m+1) (⟨id, TT.I16, kt, vt⟩, v) =
      match v with
      | .i16 x => .ok (be16 x.toNat)
      | _ => .panic "typeassert" := rfl

theorem writeUF_I32 (m : Nat) (id : UInt16) (kt vt : UInt8) (v : UVal (UF m)) :
    writeUF (m+1) (⟨id, TT.I32, kt, vt⟩, v) =
      match v with
      | .i32 x => .ok (be32 x.toNat)
      | _ => .panic "typeassert" := rfl

theorem writeUF_I64 (m : Nat) (id : UInt16) (kt vt : UInt8) (v : UVal (UF m)) :
    writeUF (m+1) (⟨id, TT.I64, kt, vt⟩, v) =
      match v with
      | .i64 x => .ok (be64 x.toNat)
      | _ => .panic "typeassert" := rfl

theorem writeUF_DOUBLE (m : Nat) (id : UInt16) (kt vt : UInt8) (v : UVal (UF m)) :
    writeUF (m+1) (⟨id, TT.DOUBLE, kt, vt⟩, v) =
      match v with
      | .f64 x => .ok (be64 x.toNat)
      | _ => .panic "typeassert" := rfl

theorem writeUF_STRING (m : Nat) (id : UInt16) (kt vt : UInt8) (v : UVal (UF m)) :
    writeUF (m+1) (⟨id, TT.STRING, kt, vt⟩, v) =
      match v with
      | .str s => .ok (be32 (u32 s.length) ++ s)
      | _ => .panic "typeassert" := rfl

theorem writeUF_list (m : Nat) (id : UInt16) {t : UInt8} (kt vt : UInt8) (v : UVal (UF m))
    (ht : t = TT.LIST ∨ t = TT.SET) :
    writeUF (m+1) (⟨id, t, kt, vt⟩, v) =
      match v with
      | .fields vs => (writeList (writeUF m) vs).bind fun r => .ok (vt :: be32 (u32 vs.length) ++ r)
      | _ => .panic "typeassert" := by
  rcases ht with rfl | rfl <;> rfl

theorem writeUF_MAP (m : Nat) (id : UInt16) (kt vt : UInt8) (v : UVal (UF m)) :
    writeUF (m+1) (⟨id, TT.MAP, kt, vt⟩, v) =
      match v with
      | .fields kvs => (writeKVs (writeUF m) kvs).bind fun r => .ok (kt :: vt :: be32 (u32 (kvs.length / 2)) ++ r)
      | _ => .panic "typeassert" := rfl

theorem writeUF_STRUCT (m : Nat) (id : UInt16) (kt vt : UInt8) (v : UVal (UF m)) :
    writeUF (m+1) (⟨id, TT.STRUCT, kt, vt⟩, v) =
      match v with
      | .fields fs => (writeFields (ufMeta m) (writeUF m) fs).bind fun r => .ok (r ++ [UT.STOP])
      | _ => .panic "typeassert" := rfl

theorem wt_BOOL (m : Nat) (id : UInt16) (kt vt : UInt8) (v : UVal (UF m)) :
    wt (m+1) (⟨id, TT.BOOL, kt, vt⟩, v) =
      (kt == 0 && vt == 0 && (match v with | .bool _ => true | _ => false)) := rfl

theorem wt_BYTE (m : Nat) (id : UInt16) (kt vt : UInt8) (v : UVal (UF m)) :
    wt (m+1) (⟨id, TT.BYTE, kt, vt⟩, v) =
      (kt == 0 && vt == 0 && (match v with | .i8 _ => true | _ => false)) := rfl

theorem wt_I16 (m : Nat) (id : UInt16) (kt vt : UInt8) (v : UVal (UF m)) :
    wt (m+1) (⟨id, TT.I16, kt, vt⟩, v) =
      (kt == 0 && vt == 0 && (match v with | .i16 _ => true | _ => false)) := rfl

theorem wt_I32 (m : Nat) (id : UInt16) (kt vt : UInt8) (v : UVal (UF m)) :
    wt (m+1) (⟨id, TT.I32, kt, vt⟩, v) =
      (kt == 0 && vt == 0 && (match v with | .i32 _ => true | _ => false)) := rfl

theorem wt_I64 (m : Nat) (id : UInt16) (kt vt : UInt8) (v : UVal (UF m)) :
    wt (m+1) (⟨id, TT.I64, kt, vt⟩, v) =
      (kt == 0 && vt == 0 && (match v with | .i64 _ => true | _ => false)) := rfl

theorem wt_DOUBLE (m : Nat) (id : UInt16) (kt vt : UInt8) (v : UVal (UF m)) :
    wt (m+1) (⟨id, TT.DOUBLE, kt, vt⟩, v) =
      (kt == 0 && vt == 0 && (match v with | .f64 _ => true | _ => false)) := rfl

theorem wt_STRING (m : Nat) (id : UInt16) (kt vt : UInt8) (v : UVal (UF m)) :
    wt (m+1) (⟨id, TT.STRING, kt, vt⟩, v) =
      (kt == 0 && vt == 0 && (match v with | .str s => decide (s.length < 2147483648) | _ => false)) := rfl

theorem wt_list (m : Nat) (id : UInt16) {t : UInt8} (kt vt : UInt8) (v : UVal (UF m)) (ht : t = TT.LIST ∨ t = TT.SET) :
    wt (m+1) (⟨id, t, kt, vt⟩, v) = (kt == 0 &&
      (match v with
       | .fields cs => decide (cs.length < 4294967296) && elemsOK (ufMeta m) (wt m) vt 0 cs
       | _ => false)) := by
  rcases ht with rfl | rfl <;> rfl

theorem wt_MAP (m : Nat) (id : UInt16) (kt vt : UInt8) (v : UVal (UF m)) :
    wt (m+1) (⟨id, TT.MAP, kt, vt⟩, v) =
      (match v with
       | .fields kvs => decide (kvs.length / 2 < 4294967296) && ufKvsOK (ufMeta m) (wt m) kt vt 0 kvs
       | _ => false) := rfl

theorem wt_STRUCT (m : Nat) (id : UInt16) (kt vt : UInt8) (v : UVal (UF m)) :
    wt (m+1) (⟨id, TT.STRUCT, kt, vt⟩, v) =
      (kt == 0 && vt == 0 && (match v with | .fields fs => fs.all (wt m) | _ => false)) := rfl

theorem wt_other (m : Nat) (f : UF (m+1))
    (h : f.1.typ ≠ TT.BOOL ∧ f.1.typ ≠ TT.BYTE ∧ f.1.typ ≠ TT.I16 ∧ f.1.typ ≠ TT.I32 ∧ f.1.typ ≠ TT.I64 ∧
      f.1.typ ≠ TT.DOUBLE ∧ f.1.typ ≠ TT.STRING ∧ ¬(f.1.typ = TT.LIST ∨ f.1.typ = TT.SET) ∧ f.1.typ ≠ TT.MAP ∧
      f.1.typ ≠ TT.STRUCT) : wt (m+1) f = false := by
  obtain ⟨h1, h2, h3, h4, h5, h6, h7, h8, h9, h10⟩ := h
  simp only [wt, h1, h2, h3, h4, h5, h6, h7, h8, h9, h10, ↓reduceIte]

theorem lenUF_list (m : Nat) (id : UInt16) {t : UInt8} (kt vt : UInt8) (v : UVal (UF m))
    (ht : t = TT.LIST ∨ t = TT.SET) :
    lenUF (m+1) (⟨id, t, kt, vt⟩, v) =
      match v with
      | .fields vs => (lenList (lenUF m) vs).bind fun r => .ok (5 + r)
      | _ => .panic "typeassert" := by
  rcases ht with rfl | rfl <;> rfl

theorem lenUF_MAP (m : Nat) (id : UInt16) (kt vt : UInt8) (v : UVal (UF m)) :
    lenUF (m+1) (⟨id, TT.MAP, kt, vt⟩, v) =
      match v with
      | .fields kvs => (lenKVs (lenUF m) kvs).bind fun r => .ok (6 + r)
      | _ => .panic "typeassert" := rfl

theorem lenUF_STRUCT (m : Nat) (id : UInt16) (kt vt : UInt8) (v : UVal (UF m)) :
    lenUF (m+1) (⟨id, TT.STRUCT, kt, vt⟩, v) =
      match v with
      | .fields fs => (lenFields (lenUF m) fs).bind fun r => .ok (r + 1)
      | _ => .panic "typeassert" := rfl

theorem writeUF_other (m : Nat) (f : UF (m+1))
    (h : f.1.typ ≠ TT.BOOL ∧ f.1.typ ≠ TT.BYTE ∧ f.1.typ ≠ TT.I16 ∧ f.1.typ ≠ TT.I32 ∧ f.1.typ ≠ TT.I64 ∧
      f.1.typ ≠ TT.DOUBLE ∧ f.1.typ ≠ TT.STRING ∧ ¬(f.1.typ = TT.LIST ∨ f.1.typ = TT.SET) ∧ f.1.typ ≠ TT.MAP ∧
      f.1.typ ≠ TT.STRUCT) : writeUF (m+1) f = .err .unktype := by
  obtain ⟨h1, h2, h3, h4, h5, h6, h7, h8, h9, h10⟩ := h
  obtain ⟨h8, h8'⟩ := not_or.mp h8
  simp only [writeUF, UT.BOOL_eq, UT.BYTE_eq, UT.I16_eq, UT.I32_eq, UT.I64_eq, UT.DOUBLE_eq, UT.STRING_eq,
    UT.LIST_eq, UT.SET_eq, UT.MAP_eq, UT.STRUCT_eq, h1, h2, h3, h4, h5, h6, h7, h8, h8', h9, h10, ↓reduceIte]

end Verif
