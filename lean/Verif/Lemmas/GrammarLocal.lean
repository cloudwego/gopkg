/-
  Lemmas/GrammarLocal: the reference grammar is *local* — whether a value is present and how long it
  is depends only on the bytes of the value itself, never on what follows. Consequences: a value
  followed by arbitrary bytes has the same extent; a strict prefix of a value is never a value.
-/
import Verif.Lemmas.Grammar
namespace Verif

/-- f's answer depends only on the bytes it reports -/
def Local (f : Bytes → Option Nat) : Prop := ∀ b n, f b = some n → ∀ c, f (b.take n ++ c) = some n

theorem take_add_append (b : Bytes) (a r : Nat) (c : Bytes) :
    b.take (a + r) ++ c = b.take a ++ ((b.drop a).take r ++ c) := by
  rw [List.take_add, List.append_assoc]

theorem drop_take_append (b : Bytes) (a : Nat) (h : a ≤ b.length) (c : Bytes) :
    (b.take a ++ c).drop a = c := by
  have : (b.take a).length = a := by simp; omega
  rw [List.drop_append_of_le_length (by omega)]
  simp [List.drop_eq_nil_of_le (Nat.le_of_eq this)]

theorem drop_take_add_append (b : Bytes) (a r : Nat) (h : a ≤ b.length) (c : Bytes) :
    (b.take (a + r) ++ c).drop a = (b.drop a).take r ++ c := by
  rw [take_add_append, drop_take_append b a h]

theorem Local.add {f : Bytes → Option Nat} (hl : Local f) {b : Bytes} {a : Nat} (h : f b = some a)
    (r : Nat) (c : Bytes) : f (b.take (a + r) ++ c) = some a := by
  rw [take_add_append]; exact hl b a h _

theorem refN_local {f : Bytes → Option Nat} (hl : Local f) (hg : Good f) :
    ∀ n, Local (refN f n) := by
  intro n
  induction n with
  | zero => intro b k hk c; cases hk; rfl
  | succ n ih =>
    intro b k hk c
    obtain ⟨a, r, ha, hr, rfl⟩ := refN_succ_eq_some.mp hk
    refine refN_succ_eq_some.mpr ⟨a, r, hl.add ha r c, ?_, rfl⟩
    rw [drop_take_add_append b a r (hg b a ha).2]
    exact ih _ r hr c

theorem refKV_local {f g : Bytes → Option Nat} (hlf : Local f) (hgf : Good f) (hlg : Local g) (hgg : Good g) :
    ∀ n, Local (refKV f g n) := by
  intro n
  induction n with
  | zero => intro b k hk c; cases hk; rfl
  | succ n ih =>
    intro b k hk c
    obtain ⟨a, v, r, ha, hv, hr, rfl⟩ := refKV_succ_eq_some.mp hk
    have hale := (hgf b a ha).2
    have hvle := (hgg _ v hv).2
    rw [List.length_drop] at hvle
    refine refKV_succ_eq_some.mpr ⟨a, v, r, ?_, ?_, ?_, rfl⟩
    · rw [Nat.add_assoc]; exact hlf.add ha _ c
    · rw [Nat.add_assoc, drop_take_add_append b a _ hale]; exact hlg.add hv r c
    · rw [drop_take_add_append b (a + v) r (by omega)]; exact ih _ r hr c

/-- more fuel never changes a successful field scan, and `extent + 1` is always enough -/
theorem refFields_fuel {f : UInt8 → Bytes → Option Nat} :
    ∀ fuel fuel' b k, refFields f fuel b = some k → k < fuel' → refFields f fuel' b = some k := by
  intro fuel
  induction fuel with
  | zero => intro fuel' b k h; cases h
  | succ fuel ih =>
    intro fuel' b k h hk
    match fuel', b with
    | 0, _ => omega
    | _+1, [] => cases h
    | fuel'+1, t :: rest =>
      by_cases ht : t = 0
      · subst ht; rw [refFields_stop] at h ⊢; exact h
      · obtain ⟨hl, a, r, ha, hr, rfl⟩ := (refFields_cons_eq_some ht).mp h
        exact (refFields_cons_eq_some ht).mpr ⟨hl, a, r, ha, ih fuel' _ r hr (by omega), rfl⟩

theorem refFields_local {f : UInt8 → Bytes → Option Nat} (hl : ∀ t, Local (f t)) (hg : ∀ t, Good (f t)) :
    ∀ fuel, Local (refFields f fuel) := by
  intro fuel
  induction fuel with
  | zero => intro b k hk; cases hk
  | succ fuel ih =>
    intro b k hk c
    match b with
    | [] => cases hk
    | t :: rest =>
      by_cases ht : t = 0
      · subst ht; rw [refFields_stop] at hk; cases hk; exact refFields_stop f fuel _
      · obtain ⟨hl2, a, r, ha, hr, rfl⟩ := (refFields_cons_eq_some ht).mp hk
        have hale := (hg t _ a ha).2
        rw [List.length_drop] at hale
        have e : (t :: rest).take (3 + a + r) ++ c = t :: (rest.take (2 + (a + r)) ++ c) := by
          rw [show 3 + a + r = (2 + (a + r)) + 1 by omega]; rfl
        rw [e]
        refine (refFields_cons_eq_some ht).mpr ⟨?_, a, r, ?_, ?_, rfl⟩
        · rw [List.length_append, List.length_take]; omega
        · rw [drop_take_add_append rest 2 _ hl2]; exact (hl t).add ha r c
        · rw [← Nat.add_assoc, drop_take_add_append rest (2 + a) r (by omega)]; exact ih _ r hr c

theorem rd32_take_append (b : Bytes) (n : Nat) (c : Bytes) (hn : 4 ≤ n) (hb : 4 ≤ b.length) :
    rd32 (b.take n ++ c) = rd32 b := by
  obtain ⟨m, rfl⟩ : ∃ m, n = m + 1 + 1 + 1 + 1 := ⟨n - 4, by omega⟩
  match b, hb with
  | x0 :: x1 :: x2 :: x3 :: tl, _ =>
    rw [List.take_succ_cons, List.take_succ_cons, List.take_succ_cons, List.take_succ_cons]
    rfl

theorem refStr_local : Local refStr := by
  intro b n h c
  unfold refStr at h ⊢
  split at h
  · rename_i hc
    simp only [Option.some.injEq] at h
    subst h
    have h4 : 4 ≤ b.length := hc.1
    have hrd : rd32 (b.take (4 + rd32 b) ++ c) = rd32 b :=
      rd32_take_append b _ c (by omega) h4
    have hlen : (b.take (4 + rd32 b) ++ c).length = 4 + rd32 b + c.length := by
      simp; omega
    simp only [hrd, hlen, hc.2.1, true_and]
    have : 4 ≤ 4 + rd32 b + c.length ∧ 4 + rd32 b ≤ 4 + rd32 b + c.length := by omega
    simp [this]
  · simp at h

theorem fixedFn_local (t : UInt8) : Local (fixedFn t) := by
  intro b n h c
  unfold fixedFn at h ⊢
  split at h
  · cases h; rw [if_pos]; rw [List.length_append, List.length_take]; omega
  · cases h

theorem listBody_local {L : UInt8 → Bytes → Option Nat} (hl : ∀ t, Local (L t)) (hg : ∀ t, Good (L t)) :
    Local (listBody L) := by
  intro b n h c
  obtain ⟨et, rest, r, rfl, h4, hn, hr, rfl⟩ := listBody_eq_some.mp h
  have hle := refN_le (hg et) _ _ r hr
  rw [List.length_drop] at hle
  have e : (et :: rest).take (5 + r) ++ c = et :: (rest.take (4 + r) ++ c) := by
    rw [show 5 + r = (4 + r) + 1 by omega]; rfl
  have hrd := rd32_take_append rest (4 + r) c (by omega) h4
  rw [e]
  refine listBody_eq_some.mpr ⟨et, _, r, rfl, ?_, ?_, ?_, rfl⟩
  · rw [List.length_append, List.length_take]; omega
  · rw [hrd]; exact hn
  · rw [hrd, drop_take_add_append rest 4 r h4]; exact refN_local (hl et) (hg et) _ _ r hr c

theorem mapBody_local {K V : UInt8 → UInt8 → Bytes → Option Nat}
    (hlK : ∀ k v, Local (K k v)) (hgK : ∀ k v, Good (K k v))
    (hlV : ∀ k v, Local (V k v)) (hgV : ∀ k v, Good (V k v)) : Local (mapBody K V) := by
  intro b n h c
  obtain ⟨kt, vt, rest, r, rfl, h4, hn, hr, rfl⟩ := mapBody_eq_some.mp h
  have hle := refKV_le (hgK kt vt) (hgV kt vt) _ _ r hr
  rw [List.length_drop] at hle
  have e : (kt :: vt :: rest).take (6 + r) ++ c = kt :: vt :: (rest.take (4 + r) ++ c) := by
    rw [show 6 + r = ((4 + r) + 1) + 1 by omega]; rfl
  have hrd := rd32_take_append rest (4 + r) c (by omega) h4
  rw [e]
  refine mapBody_eq_some.mpr ⟨kt, vt, _, r, rfl, ?_, ?_, ?_, rfl⟩
  · rw [List.length_append, List.length_take]; omega
  · rw [hrd]; exact hn
  · rw [hrd, drop_take_add_append rest 4 r h4]
    exact refKV_local (hlK kt vt) (hgK kt vt) (hlV kt vt) (hgV kt vt) _ _ r hr c

theorem layer_local {E : UInt8 → Bytes → Option Nat} (hl : ∀ t, Local (E t)) (hg : ∀ t, Good (E t))
    (t : UInt8) : Local (layer E t) := by
  have e : layer E t = layerG E E (fun kt _ => E kt) (fun _ vt => E vt) t := funext (layer_eq_layerG E t)
  rcases layerG_cases t with ⟨_, h⟩ | ⟨_, _, h⟩ | ⟨_, _, h⟩ | ⟨_, _, h⟩ | ⟨_, _, h⟩ | ⟨_, _, _, _, _, h⟩ <;>
    rw [e, h]
  · exact fixedFn_local t
  · exact refStr_local
  · intro b n h c
    have hn := (refFields_good hg _ b n h).2
    refine refFields_fuel _ _ _ _ (refFields_local hl hg _ b n h c) ?_
    rw [List.length_append, List.length_take]; omega
  · exact listBody_local hl hg
  · exact mapBody_local (fun k _ => hl k) (fun k _ => hg k) (fun _ v => hl v) (fun _ v => hg v)
  · exact fun _ _ h => nomatch h

theorem refLen_local : ∀ d t, Local (refLen d t) := by
  intro d
  induction d with
  | zero => intro t b n h; simp [refLen] at h
  | succ d ih => intro t; simp only [refLen]; exact layer_local ih (refLen_good d) t

/-- a well-formed value followed by arbitrary further bytes has exactly the value's extent -/
theorem refLen_append {d t} {v : Bytes} (h : refLen d t v = some v.length) (rest : Bytes) :
    refLen d t (v ++ rest) = some v.length := by
  have := refLen_local d t v v.length h rest
  simpa using this

/-- the extent of a value is unique across depth budgets -/
theorem refLen_unique {d d' t b n m} (h : refLen d t b = some n) (h' : refLen d' t b = some m) : n = m := by
  have h1 := refLen_mono (Nat.le_max_left d d') t b n h
  have h2 := refLen_mono (Nat.le_max_right d d') t b m h'
  rw [h1] at h2; exact Option.some.inj h2

/-- every strict prefix of a well-formed value is rejected, at every depth budget -/
theorem refLen_strict_prefix {d t b n} (h : refLen d t b = some n) (m : Nat) (hm : m < n) (d' : Nat) :
    refLen d' t (b.take m) = none := by
  cases hp : refLen d' t (b.take m) with
  | none => rfl
  | some k =>
    exfalso
    have hk := (refLen_good d' t _ k hp).2
    have hn := refLen_le h
    simp only [List.length_take] at hk
    -- extend the prefix back to b: locality gives the same extent k on b
    have hext := refLen_local d' t _ k hp (b.drop k)
    have : (b.take m).take k ++ b.drop k = b := by
      rw [List.take_take, Nat.min_eq_left (by omega), List.take_append_drop]
    rw [this] at hext
    have := refLen_unique h hext
    omega

end Verif
