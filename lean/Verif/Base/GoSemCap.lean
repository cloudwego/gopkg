/-
  Base/GoSemCap: Go semantics for code that lives on slice CAPACITY — the target of the translator
  `extract/bufiox.go` (output `Verif/Gen/Bufiox.lean`: bufiox/defaultbuf.go). Core-only; extends Base/GoSem
  (outcome monad `GM`, `wrap`, `LoopR`), whose slices have cap = len and therefore do not fit this file.

  * a `[]byte` is `Sl`: `mem` = the backing memory FROM THE SLICE'S START UP TO ITS CAPACITY (`cap s = mem.length`),
    `len` ≤ cap, and whether the slice is non-nil. `s[a:b]` is legal up to the capacity (Go panics "slice" beyond
    cap; an index expression would panic "index" beyond len); the result shares the memory from `a` on.
  * slices are VALUES. A write through a sub-slice expression `base[a:b]` (the destination of `copy`, the argument of
    `io.Reader.Read`, a written-through parameter of a translated callee) is written back to `base` by the translator
    with `putBack` right after the call — the borrow reading of Go's aliasing: `r.rd.Read(r.buf[len:cap])` followed by
    `r.buf = r.buf[:len+m]` sees the bytes that were read. Aliasing between two different variables (the slice `Next`
    returns and `r.buf`; the entries of `pendingBuf`) is NOT tracked: memory identity is Model/Mem*.lean.
  * an `io.Reader` is an abstract state `σ` with `read : σ → room → (data, err, σ')` (`IoReader`); `ioRead` stores the
    data in the slice it was given and reports `len data` — a reader that claims more than `room` makes the caller's
    `buf[:len+m]` panic, exactly as in Go. An interface-typed field is `Option σ` (`none` = nil interface: a method call
    panics "nilderef").
  * `mcache.Malloc(n[, c])`: len n, cap = `1 << calcIndex(max n c)` (the next power of two; index ≥ 46 panics "index"
    as `caches[i]` does), contents ARBITRARY: taken from the oracle `O site cap` (`site` = the static number of the call
    site, so two allocations of one call are independent). `mcache.Free` does nothing to contents.
  * Go `error` values are the small type `Err`; integers are `Int`s wrapped to their static type by `wrap`.
-/
import Verif.Base.GoSem
namespace Verif.GoSemCap
open Verif
open Verif.GoSem (GM wrap IT toU)

/-- Go `error` values of bufiox -/
inductive Err where
  | nil
  | eof          -- io.EOF
  | noProgress   -- io.ErrNoProgress
  | negCount     -- bufiox.errNegativeCount
  | src (k : Nat) -- an error of the underlying io.Reader / io.Writer
deriving Repr, DecidableEq

/-- a `[]byte` with capacity -/
structure Sl where
  mem : Bytes := []
  len : Nat := 0
  nonnil : Bool := false
deriving Repr, DecidableEq

/-- the nil slice (Go's zero value) -/
def Sl.nil : Sl := {}

/-- `len(s)`, `cap(s)` -/
def slen (s : Sl) : Int := (s.len : Int)
def scap (s : Sl) : Int := (s.mem.length : Int)
/-- the content `s[0:len]` -/
def Sl.data (s : Sl) : Bytes := s.mem.take s.len
/-- `s == nil` -/
def Sl.isNil (s : Sl) : Bool := !s.nonnil

/-- a slice over exactly these bytes (cap = len) -/
def Sl.ofBytes (b : Bytes) : Sl := { mem := b, len := b.length, nonnil := true }

/-- `s[lo:hi]` — bounds are checked against the CAPACITY -/
def sslice (s : Sl) (lo hi : Int) : GM Sl :=
  if hi < 0 ∨ hi > scap s then .panic "slice"
  else if lo < 0 ∨ lo > hi then .panic "slice"
  else .ok { s with mem := s.mem.drop lo.toNat, len := hi.toNat - lo.toNat }

/-- `s[lo:]` = `s[lo:len(s)]` -/
def ssliceFrom (s : Sl) (lo : Int) : GM Sl := sslice s lo (slen s)
/-- `s[:hi]` -/
def ssliceTo (s : Sl) (hi : Int) : GM Sl := sslice s 0 hi

/-- `copy(dst, src)`: the destination afterwards and the count (source bytes are read first: memmove) -/
def copySl (dst src : Sl) : Sl × Int :=
  let n := min dst.len src.len
  ({ dst with mem := src.mem.take n ++ dst.mem.drop n }, (n : Int))

/-- write-back of the sub-slice `sub = base[lo:…]` (possibly written through) into `base` -/
def putBack (base : Sl) (lo : Int) (sub : Sl) : Sl :=
  { base with mem := base.mem.take lo.toNat ++ sub.mem ++ base.mem.drop (lo.toNat + sub.mem.length) }

/-- `[][]byte`: `none` = nil -/
abbrev SlL := Option (List Sl)
/-- `append(l, x)` -/
def appendSl (l : SlL) (x : Sl) : SlL := some (l.getD [] ++ [x])
/-- the elements `range l` visits -/
def rangeSl (l : SlL) : List Sl := l.getD []

/-! ## io.Reader / io.Writer as abstract states -/

structure IoReader (σ : Type) where
  /-- `Read(p)` with `len(p) = room`: the bytes it stores at the front of `p`, its error, the reader afterwards -/
  read : σ → Nat → Bytes × Err × σ

/-- `n, err := rd.Read(p)`: `p` afterwards, `n`, `err`, the reader afterwards -/
def ioRead {σ : Type} (R : IoReader σ) (s : σ) (p : Sl) : Sl × Int × Err × σ :=
  let r := R.read s p.len
  let d := r.1.take p.len
  ({ p with mem := d ++ p.mem.drop d.length }, (r.1.length : Int), r.2.1, r.2.2)

structure IoWriter (ω : Type) where
  /-- `Write(p)` with the content of `p`: the count, the error, the writer afterwards -/
  write : ω → Bytes → Int × Err × ω

def ioWrite {ω : Type} (W : IoWriter ω) (s : ω) (p : Sl) : Int × Err × ω := W.write s p.data

/-- a method call on an interface value: nil panics -/
def ifaceGet {σ : Type} (x : Option σ) : GM σ :=
  match x with
  | some s => .ok s
  | none => .panic "nilderef"

/-! ## mcache / dirtmake -/

/-- `1 << calcIndex(c)` of bytedance/gopkg/lang/mcache: 0 ↦ 1, a power of two ↦ itself, else 2^(bsr c + 1) -/
def mcacheCap (c : Nat) : Nat :=
  if c = 0 then 1 else if 2 ^ Nat.log2 c = c then c else 2 ^ (Nat.log2 c + 1)

/-- `cap` arbitrary bytes from the oracle -/
def dirty (o : Nat → Bytes) (cap : Nat) : Bytes := (o cap ++ List.replicate cap 0).take cap

/-- `mcache.Malloc(size)` / `mcache.Malloc(size, capacity)`: pools exist for 2^0 … 2^45 -/
def mcacheMalloc (o : Nat → Bytes) (size : Int) (capacity : Option Int) : GM Sl :=
  let c := match capacity with
    | some k => if k > size then k else size
    | none => size
  if c < 0 ∨ c > 35184372088832 then .panic "index"
  else if size < 0 then .oob      -- a slice header with a negative length: not memory-safe, no panic
  else .ok { mem := dirty o (mcacheCap c.toNat), len := size.toNat, nonnil := true }

/-- `mcache.Free(buf)`: nothing happens to contents (ownership: Model/Mem*) -/
def mcacheFree (_ : Sl) : Unit := ()

/-- `dirtmake.Bytes(len, cap)` -/
def dirtmakeBytes (o : Nat → Bytes) (len cap : Int) : GM Sl :=
  if len < 0 ∨ len > cap then .panic "dirtmake.Bytes: len out of range"
  else .ok { mem := dirty o cap.toNat, len := len.toNat, nonnil := true }

/-! ## arrays of integers, `%` -/

def arrGet (a : List Int) (i : Int) : GM Int :=
  if i < 0 then .panic "index"
  else match a[i.toNat]? with
    | some x => .ok x
    | none => .panic "index"

def arrSet (a : List Int) (i v : Int) : GM (List Int) :=
  if i < 0 ∨ i ≥ (a.length : Int) then .panic "index" else .ok (a.set i.toNat v)

/-- `a % b` (truncated, sign of the dividend); a zero divisor panics -/
def goMod (a b : Int) : GM Int := if b = 0 then .panic "divzero" else .ok (Int.tmod a b)

/-! ## basic facts -/

theorem wrap_i64_id (x : Int) (h0 : -9223372036854775808 ≤ x) (h1 : x < 9223372036854775808) :
    wrap .i64 x = x :=
  GoSem.wrap_i64_of_range x h0 h1

@[simp] theorem dirty_length (o : Nat → Bytes) (cap : Nat) : (dirty o cap).length = cap := by
  simp [dirty]

end Verif.GoSemCap
