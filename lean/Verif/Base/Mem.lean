/-
  Base/Mem: an object-level heap for the ownership / aliasing properties (C09, C16).

  * an object is a fixed-capacity byte array with an OWNER state:
      caller  memory that belongs to the user of the library (reader input, WriteBinary payload,
              bytes-writer target).  Positions `< wfrom` must never be written by the library
              (`wfrom = capacity` for a read-only input; `wfrom = len` for a bytes-writer target, whose
              spare capacity `[len:cap]` is what the writer is documented to fill);
      live    obtained from the shared pool (`mcache.Malloc`) and not yet given back;
      freed   given back to the pool (`mcache.Free`): the co-tenant may own and overwrite it now;
      gc      ordinary Go allocation (`dirtmake.Bytes`, `make`, `[]byte(string)`): never pooled.
    The object id is its index in `objs`; ids are never reused (the model never recycles an id, so a
    stale slice can never be mistaken for a fresh one; recycling is what the environment step does to
    the CONTENT of freed objects).
  * a slice is a Go slice header `(obj, off, len, cap)`.
  * every access through the library is checked; a violation is LOGGED in `faults` (the function stays
    total, the theorems say the log stays empty):
      useAfterFree  read or write of a freed object
      writeToCaller write below `wfrom` of a caller object
      freeCaller / doubleFree / freeForeign / freeInterior   wrong argument of `Free`
      bounds / badObj   access outside the object (a Go slice/index panic)
  * allocator calls are recorded in `events` (newest first).
  * `dirty` is the content of memory handed out by the allocators: ARBITRARY (a field of the heap that
    the environment may change at will); no theorem may depend on it.
  * `Env h h'` is one step of the adversarial co-tenant: it may overwrite every freed object, allocate
    new objects of its own and change `dirty`; it cannot touch caller/live/gc objects.
-/
import Verif.Base.Bytes
import Verif.Model.Reader
namespace Verif

inductive Owner where
  | caller | live | freed | gc
deriving Repr, DecidableEq

structure Obj where
  data : Bytes
  owner : Owner
  wfrom : Nat
deriving Repr, DecidableEq

/-- allocator calls: `malloc id cap` (id = object id), `free id cap` (cap = cap of the slice passed) -/
inductive Ev where
  | malloc (obj cap : Nat)
  | free (obj cap : Nat)
deriving Repr, DecidableEq

inductive Fault where
  | useAfterFree (obj : Nat)
  | writeToCaller (obj : Nat)
  | freeCaller (obj : Nat)
  | doubleFree (obj : Nat)
  | freeForeign (obj : Nat)
  | freeInterior (obj : Nat)
  | bounds
  | badObj
deriving Repr, DecidableEq

structure Heap where
  objs : List Obj
  events : List Ev
  faults : List Fault
  dirty : Nat → Nat → UInt8

structure Slice where
  obj : Nat
  off : Nat
  len : Nat
  cap : Nat
deriving Repr, DecidableEq

def Slice.nil : Slice := ⟨0, 0, 0, 0⟩

namespace Heap

def empty (dirty : Nat → Nat → UInt8) : Heap := ⟨[], [], [], dirty⟩

def obj? (h : Heap) (o : Nat) : Option Obj := h.objs[o]?
def size (h : Heap) : Nat := h.objs.length
def owner? (h : Heap) (o : Nat) : Option Owner := (h.obj? o).map (·.owner)
/-- byte `p` of object `o` -/
def byte? (h : Heap) (o p : Nat) : Option UInt8 := (h.obj? o).bind (fun x => x.data[p]?)
/-- the `n` bytes of object `o` from position `p` (pure; the access check is `chk`) -/
def bytes (h : Heap) (o p n : Nat) : Bytes :=
  match h.obj? o with
  | some x => (x.data.drop p).take n
  | none => []
/-- content seen through a slice -/
def view (h : Heap) (s : Slice) : Bytes := h.bytes s.obj s.off s.len

def fault (h : Heap) (f : Fault) : Heap := { h with faults := f :: h.faults }

/-- a Go bounds check made by the modelled code itself (`b[lo:hi]`, `b[i]`) -/
def assert (h : Heap) (c : Bool) : Heap := if c then h else h.fault .bounds

/-- access check for `n` bytes at `(o, p)`; `n = 0` touches nothing -/
def chk (h : Heap) (o p n : Nat) (write : Bool) : Heap :=
  if n = 0 then h else
  match h.obj? o with
  | none => h.fault .badObj
  | some x =>
    if p + n > x.data.length then h.fault .bounds
    else if x.owner = .freed then h.fault (.useAfterFree o)
    else if write ∧ x.owner = .caller ∧ p < x.wfrom then h.fault (.writeToCaller o)
    else h

/-- replace `d.length` bytes at position `p` -/
def splice (data : Bytes) (p : Nat) (d : Bytes) : Bytes :=
  data.take p ++ d ++ data.drop (p + d.length)

def setData (h : Heap) (o p : Nat) (d : Bytes) : Heap :=
  { h with objs := h.objs.modify o (fun x => { x with data := splice x.data p d }) }

/-- checked write of `d` at `(o, p)` -/
def write (h : Heap) (o p : Nat) (d : Bytes) : Heap :=
  (h.chk o p d.length true).setData o p d

/-- checked read -/
def read (h : Heap) (o p n : Nat) : Bytes × Heap := (h.bytes o p n, h.chk o p n false)

/-- Go `copy` of `n` bytes (memmove semantics: read everything, then write) -/
def copy (h : Heap) (dst dpos src spos n : Nat) : Heap :=
  (h.chk src spos n false).write dst dpos (h.bytes src spos n)

/-- a write made by the USER of the library into memory it legitimately holds (its own buffers, a
    region handed out by the writer, a decoded result): not an access of the library, so nothing is
    checked and nothing logged -/
def userWrite (h : Heap) (o p : Nat) (d : Bytes) : Heap := h.setData o p d

def push (h : Heap) (x : Obj) : Heap := { h with objs := h.objs ++ [x] }

/-- capacity of `mcache.Malloc` for a request of `c` bytes: `1 << calcIndex(c)`, the next power of two
    (1 for c = 0).  ASSUMPTION "allocation succeeds": for c > 2^45 the real Malloc panics (index out
    of range in `caches[46]`); the model then pretends an exact allocation instead of stopping. -/
def mcap (c : Nat) : Nat := if c ≤ 2 ^ 45 then pow2ceil c else c

def fresh (h : Heap) (cap : Nat) : Bytes := (List.range cap).map (h.dirty h.size)

/-- `mcache.Malloc(size, capReq)` (`capReq = 0` when absent): a fresh live object, dirty content -/
def malloc (h : Heap) (size capReq : Nat) : Slice × Heap :=
  let c := if capReq > size then capReq else size
  (⟨h.size, 0, size, mcap c⟩,
   { (h.push ⟨h.fresh (mcap c), .live, 0⟩) with events := .malloc h.size (mcap c) :: h.events })

/-- `dirtmake.Bytes(len, cap)` / `make` / `[]byte(string)`: a fresh gc object, dirty content, no event -/
def gcAlloc (h : Heap) (len cap : Nat) : Slice × Heap :=
  (⟨h.size, 0, len, cap⟩, h.push ⟨h.fresh cap, .gc, 0⟩)

/-- memory of the caller with the given content; positions `≥ wfrom` may be written by the library -/
def callerAlloc (h : Heap) (data : Bytes) (len wfrom : Nat) : Slice × Heap :=
  (⟨h.size, 0, len, data.length⟩, h.push ⟨data, .caller, wfrom⟩)

def setOwner (h : Heap) (o : Nat) (w : Owner) : Heap :=
  { h with objs := h.objs.modify o (fun x => { x with owner := w }) }

/-- `mcache.Free(buf)`.  `cap(buf) = 0` returns at once.  Every other call is recorded, and is a fault
    unless `buf` is the full slice of a live object.  (The real Free silently ignores capacities that
    are no power of two; live objects always have the capacity Malloc gave them, so that case only
    arises together with a fault.  The model is the stronger adversary: every Free recycles.) -/
def free (h : Heap) (s : Slice) : Heap :=
  if s.cap = 0 then h else
  let h1 : Heap := { h with events := .free s.obj s.cap :: h.events }
  match h1.obj? s.obj with
  | none => h1.fault .badObj
  | some x =>
    match x.owner with
    | .caller => h1.fault (.freeCaller s.obj)
    | .freed => h1.fault (.doubleFree s.obj)
    | .gc => h1.fault (.freeForeign s.obj)
    | .live =>
      (if s.off = 0 ∧ s.cap = x.data.length then h1 else h1.fault (.freeInterior s.obj)).setOwner s.obj .freed

/-- `for _, buf := range pending { mcache.Free(buf) }` -/
def freeAll (h : Heap) (l : List Slice) : Heap := l.foldl (fun h s => h.free s) h

/-- executable environment step used by the driver: every freed object is overwritten by `f id pos`
    and `k` foreign one-byte gc objects are allocated; `dirty` is left as it is -/
def scribble (h : Heap) (f : Nat → Nat → UInt8) (k : Nat) : Heap :=
  { h with
    objs := (h.objs.zipIdx.map (fun (x : Obj × Nat) =>
              if x.1.owner = .freed then { x.1 with data := (List.range x.1.data.length).map (f x.2) } else x.1))
            ++ List.replicate k ⟨[f 0 0], .gc, 0⟩ }

end Heap

/-- one step of the environment (the adversarial co-tenant of the shared pool) -/
structure Env (h h' : Heap) : Prop where
  events : h'.events = h.events
  faults : h'.faults = h.faults
  size : h.size ≤ h'.size
  keep : ∀ o x, h.obj? o = some x → ∃ x', h'.obj? o = some x' ∧ x'.owner = x.owner ∧ x'.wfrom = x.wfrom
            ∧ x'.data.length = x.data.length ∧ (x.owner ≠ .freed → x'.data = x.data)

/-! ## slices -/

namespace Slice

/-- `s[lo:hi]` (Go panics unless lo ≤ hi ≤ cap; the caller of `sub` asserts that) -/
def sub (s : Slice) (lo hi : Nat) : Slice := ⟨s.obj, s.off + lo, hi - lo, s.cap - lo⟩

/-- positions of the slice's elements -/
def Has (s : Slice) (o p : Nat) : Prop := s.obj = o ∧ s.off ≤ p ∧ p < s.off + s.len

/-- two slices share no element -/
def Disjoint (s t : Slice) : Prop :=
  s.len = 0 ∨ t.len = 0 ∨ s.obj ≠ t.obj ∨ s.off + s.len ≤ t.off ∨ t.off + t.len ≤ s.off

/-- the capacity regions (what `append` may write in place) share nothing -/
def CapDisjoint (s t : Slice) : Prop :=
  s.cap = 0 ∨ t.cap = 0 ∨ s.obj ≠ t.obj ∨ s.off + s.cap ≤ t.off ∨ t.off + t.cap ≤ s.off

instance (s t : Slice) : Decidable (s.Disjoint t) := by unfold Disjoint; exact inferInstance
instance (s t : Slice) : Decidable (s.CapDisjoint t) := by unfold CapDisjoint; exact inferInstance

end Slice

/-- the slice lies inside an existing object -/
def Heap.Valid (h : Heap) (s : Slice) : Prop :=
  s.len ≤ s.cap ∧ ∃ x, h.obj? s.obj = some x ∧ s.off + s.cap ≤ x.data.length

/-! ## basic lemmas about the checks, `write`, `setData`, `push` and `setOwner`
  (allocation, `free`, `copy` and `bytes`: Lemmas/MemHeap) -/

namespace Heap

@[simp] theorem fault_objs (h : Heap) (f : Fault) : (h.fault f).objs = h.objs := rfl
@[simp] theorem fault_events (h : Heap) (f : Fault) : (h.fault f).events = h.events := rfl
@[simp] theorem fault_obj? (h : Heap) (f : Fault) (o : Nat) : (h.fault f).obj? o = h.obj? o := rfl
@[simp] theorem fault_size (h : Heap) (f : Fault) : (h.fault f).size = h.size := rfl

@[simp] theorem assert_objs (h : Heap) (c : Bool) : (h.assert c).objs = h.objs := by
  unfold assert; split <;> rfl
@[simp] theorem assert_events (h : Heap) (c : Bool) : (h.assert c).events = h.events := by
  unfold assert; split <;> rfl
@[simp] theorem assert_obj? (h : Heap) (c : Bool) (o : Nat) : (h.assert c).obj? o = h.obj? o := by
  unfold assert; split <;> rfl
@[simp] theorem assert_true (h : Heap) : h.assert true = h := rfl
theorem assert_faults (h : Heap) (c : Bool) (hc : c = true) : (h.assert c).faults = h.faults := by
  subst hc; rfl
theorem assert_of (h : Heap) {c : Prop} [Decidable c] (hc : c) : h.assert (decide c) = h := by
  rw [decide_eq_true hc]; rfl

theorem chk_eq (h : Heap) (o p n : Nat) (w : Bool) : h.chk o p n w = h ∨ ∃ f, h.chk o p n w = h.fault f := by
  unfold chk
  by_cases hn : n = 0
  · exact Or.inl (if_pos hn)
  rw [if_neg hn]
  cases h.obj? o with
  | none => exact Or.inr ⟨_, rfl⟩
  | some x =>
    dsimp only
    by_cases h1 : p + n > x.data.length
    · exact Or.inr ⟨_, if_pos h1⟩
    rw [if_neg h1]
    by_cases h2 : x.owner = .freed
    · exact Or.inr ⟨_, if_pos h2⟩
    rw [if_neg h2]
    by_cases h3 : w ∧ x.owner = .caller ∧ p < x.wfrom
    · exact Or.inr ⟨_, if_pos h3⟩
    · exact Or.inl (if_neg h3)

@[simp] theorem chk_objs (h : Heap) (o p n : Nat) (w : Bool) : (h.chk o p n w).objs = h.objs := by
  rcases chk_eq h o p n w with e | ⟨f, e⟩ <;> rw [e]; rfl
@[simp] theorem chk_events (h : Heap) (o p n : Nat) (w : Bool) : (h.chk o p n w).events = h.events := by
  rcases chk_eq h o p n w with e | ⟨f, e⟩ <;> rw [e]; rfl
@[simp] theorem chk_obj? (h : Heap) (o p n : Nat) (w : Bool) (o' : Nat) :
    (h.chk o p n w).obj? o' = h.obj? o' := by
  unfold obj?; rw [chk_objs]
@[simp] theorem chk_dirty (h : Heap) (o p n : Nat) (w : Bool) : (h.chk o p n w).dirty = h.dirty := by
  rcases chk_eq h o p n w with e | ⟨f, e⟩ <;> rw [e]; rfl
@[simp] theorem chk_zero (h : Heap) (o p : Nat) (w : Bool) : h.chk o p 0 w = h := if_pos rfl

theorem chk_ok (h : Heap) (o p n : Nat) (w : Bool) (x : Obj) (hx : h.obj? o = some x)
    (hb : p + n ≤ x.data.length) (hf : x.owner ≠ .freed)
    (hc : w = true → x.owner = .caller → x.wfrom ≤ p) : h.chk o p n w = h := by
  unfold chk
  by_cases hn : n = 0
  · exact if_pos hn
  rw [if_neg hn, hx]
  exact (if_neg (Nat.not_lt.mpr hb)).trans
    ((if_neg hf).trans (if_neg fun ⟨h1, h2, h3⟩ => Nat.not_le.mpr h3 (hc h1 h2)))

theorem chk_read_ok (h : Heap) (o p n : Nat) (x : Obj) (hx : h.obj? o = some x)
    (hb : p + n ≤ x.data.length) (hf : x.owner ≠ .freed) : h.chk o p n false = h :=
  chk_ok h o p n false x hx hb hf (fun hw => Bool.noConfusion hw)

theorem chk_write_ok (h : Heap) (o p n : Nat) (x : Obj) (hx : h.obj? o = some x)
    (hb : p + n ≤ x.data.length) (hf : x.owner ≠ .freed)
    (hc : x.owner = .caller → x.wfrom ≤ p) : h.chk o p n true = h :=
  chk_ok h o p n true x hx hb hf (fun _ => hc)

theorem splice_length (data : Bytes) (p : Nat) (d : Bytes) (hb : p + d.length ≤ data.length) :
    (splice data p d).length = data.length := by
  unfold splice
  rw [List.length_append, List.length_append, List.length_take, List.length_drop]; omega

theorem splice_getElem?_out (data : Bytes) (p : Nat) (d : Bytes) (q : Nat)
    (hb : p + d.length ≤ data.length) (hq : q < p ∨ p + d.length ≤ q) :
    (splice data p d)[q]? = data[q]? := by
  unfold splice
  have hl : (data.take p ++ d).length = p + d.length := by
    rw [List.length_append, List.length_take]; omega
  rcases hq with hq | hq
  · rw [List.append_assoc, List.getElem?_append_left (by rw [List.length_take]; omega), List.getElem?_take, if_pos hq]
  · rw [List.getElem?_append_right (by omega), List.getElem?_drop, hl]
    congr 1; omega

theorem splice_getElem?_in (data : Bytes) (p : Nat) (d : Bytes) (q : Nat)
    (hb : p + d.length ≤ data.length) (hq : p ≤ q ∧ q < p + d.length) :
    (splice data p d)[q]? = d[q - p]? := by
  unfold splice
  have hl : (data.take p).length = p := by rw [List.length_take]; omega
  rw [List.getElem?_append_left (by rw [List.length_append, hl]; omega),
    List.getElem?_append_right (by omega), hl]

@[simp] theorem splice_nil (data : Bytes) (p : Nat) : splice data p [] = data := by
  unfold splice; simp

@[simp] theorem setData_events (h : Heap) (o p : Nat) (d : Bytes) : (h.setData o p d).events = h.events := rfl
@[simp] theorem setData_faults (h : Heap) (o p : Nat) (d : Bytes) : (h.setData o p d).faults = h.faults := rfl
@[simp] theorem setData_dirty (h : Heap) (o p : Nat) (d : Bytes) : (h.setData o p d).dirty = h.dirty := rfl
@[simp] theorem setData_size (h : Heap) (o p : Nat) (d : Bytes) : (h.setData o p d).size = h.size := by
  simp [setData, size]

theorem setData_obj? (h : Heap) (o p : Nat) (d : Bytes) (o' : Nat) :
    (h.setData o p d).obj? o' =
      (h.obj? o').map (fun x => if o = o' then { x with data := splice x.data p d } else x) := by
  simp only [setData, obj?, List.getElem?_modify]
  cases h.objs[o']? <;> simp

theorem setData_obj?_ne (h : Heap) (o p : Nat) (d : Bytes) (o' : Nat) (hne : o' ≠ o) :
    (h.setData o p d).obj? o' = h.obj? o' := by
  rw [setData_obj?]; cases h.obj? o' <;> simp [Ne.symm hne]

theorem setData_nil (h : Heap) (o p : Nat) : h.setData o p [] = h := by
  unfold setData
  have : h.objs.modify o (fun x => { x with data := splice x.data p [] }) = h.objs := by
    apply List.ext_getElem?; intro i
    rw [List.getElem?_modify]; cases h.objs[i]? <;> simp
  rw [this]

@[simp] theorem write_events (h : Heap) (o p : Nat) (d : Bytes) : (h.write o p d).events = h.events := by
  simp [write]
@[simp] theorem write_size (h : Heap) (o p : Nat) (d : Bytes) : (h.write o p d).size = h.size := by
  simp [write, size, setData]
@[simp] theorem write_dirty (h : Heap) (o p : Nat) (d : Bytes) : (h.write o p d).dirty = h.dirty := by
  simp [write]
theorem write_faults (h : Heap) (o p : Nat) (d : Bytes) :
    (h.write o p d).faults = (h.chk o p d.length true).faults := rfl

theorem write_obj? (h : Heap) (o p : Nat) (d : Bytes) (o' : Nat) :
    (h.write o p d).obj? o' =
      (h.obj? o').map (fun x => if o = o' then { x with data := splice x.data p d } else x) := by
  unfold write; rw [setData_obj?, chk_obj?]

theorem write_obj?_ne (h : Heap) (o p : Nat) (d : Bytes) (o' : Nat) (hne : o' ≠ o) :
    (h.write o p d).obj? o' = h.obj? o' := by
  rw [write_obj?]; cases h.obj? o' <;> simp [Ne.symm hne]

@[simp] theorem write_nil (h : Heap) (o p : Nat) : h.write o p [] = h := by
  unfold write; simp [setData_nil]

@[simp] theorem write_owner? (h : Heap) (o p : Nat) (d : Bytes) (o' : Nat) :
    (h.write o p d).owner? o' = h.owner? o' := by
  unfold owner?; rw [write_obj?]; cases h.obj? o' <;> simp
  split <;> rfl

@[simp] theorem push_events (h : Heap) (x : Obj) : (h.push x).events = h.events := rfl
@[simp] theorem push_faults (h : Heap) (x : Obj) : (h.push x).faults = h.faults := rfl
@[simp] theorem push_size (h : Heap) (x : Obj) : (h.push x).size = h.size + 1 := by simp [push, size]
theorem push_obj?_lt (h : Heap) (x : Obj) (o : Nat) (ho : o < h.size) : (h.push x).obj? o = h.obj? o := by
  simp only [push, obj?]; exact List.getElem?_append_left ho
theorem push_obj?_new (h : Heap) (x : Obj) : (h.push x).obj? h.size = some x := by
  simp [push, obj?, size]
theorem obj?_lt (h : Heap) (o : Nat) (x : Obj) (hx : h.obj? o = some x) : o < h.size := by
  unfold obj? at hx; unfold size
  rcases Nat.lt_or_ge o h.objs.length with hlt | hge
  · exact hlt
  · rw [List.getElem?_eq_none hge] at hx; cases hx
theorem obj?_none (h : Heap) (o : Nat) (ho : h.size ≤ o) : h.obj? o = none :=
  List.getElem?_eq_none ho

@[simp] theorem fresh_length (h : Heap) (c : Nat) : (h.fresh c).length = c := by simp [fresh]

@[simp] theorem setOwner_events (h : Heap) (o : Nat) (w : Owner) : (h.setOwner o w).events = h.events := rfl
@[simp] theorem setOwner_faults (h : Heap) (o : Nat) (w : Owner) : (h.setOwner o w).faults = h.faults := rfl
@[simp] theorem setOwner_dirty (h : Heap) (o : Nat) (w : Owner) : (h.setOwner o w).dirty = h.dirty := rfl
@[simp] theorem setOwner_size (h : Heap) (o : Nat) (w : Owner) : (h.setOwner o w).size = h.size := by
  simp [setOwner, size]
theorem setOwner_obj? (h : Heap) (o : Nat) (w : Owner) (o' : Nat) :
    (h.setOwner o w).obj? o' = (h.obj? o').map (fun x => if o = o' then { x with owner := w } else x) := by
  simp only [setOwner, obj?, List.getElem?_modify]
  cases h.objs[o']? <;> simp

theorem bytes_eq_of_byte? (h h' : Heap) (o p n : Nat) (x x' : Obj)
    (hx : h.obj? o = some x) (hx' : h'.obj? o = some x')
    (hb : ∀ q, p ≤ q → q < p + n → x'.data[q]? = x.data[q]?) :
    h'.bytes o p n = h.bytes o p n := by
  unfold bytes; rw [hx, hx']; simp only []
  apply List.ext_getElem?; intro i
  rw [List.getElem?_take, List.getElem?_take]
  split
  · rw [List.getElem?_drop, List.getElem?_drop]; exact hb _ (by omega) (by omega)
  · rfl

end Heap

theorem mem_pow2ceilAux_ge (fuel c n : Nat) (hc : n ≤ c * 2 ^ fuel) : n ≤ pow2ceilAux fuel c n := by
  induction fuel generalizing c with
  | zero => simpa [pow2ceilAux] using hc
  | succ f ih =>
    unfold pow2ceilAux; split
    · assumption
    · apply ih; rw [Nat.pow_succ] at hc; rw [Nat.mul_assoc, Nat.mul_comm 2]; exact hc

theorem le_mcap (c : Nat) : c ≤ Heap.mcap c := by
  unfold Heap.mcap; split
  · unfold pow2ceil; apply mem_pow2ceilAux_ge
    have : (2:Nat) ^ 45 ≤ 2 ^ 64 := Nat.pow_le_pow_right (by decide) (by decide)
    omega
  · exact Nat.le_refl c

end Verif
