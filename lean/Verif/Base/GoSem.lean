/-
  Base/GoSem: the small Go semantics library that the function translator (`extract/funcs.go`,
  Tie A third part, output `Verif/Gen/Funcs.lean`) targets.  Core-only.

  * a translated Go function is a Lean function into `GM α = Out Empty α`: the non-normal outcomes are a
    Go run-time panic (`panic "index"`, `panic "slice"`, `panic "divzero"`) and `oob`, an unsafe load outside its
    slice; Go `error` results are ordinary values (`GoErr`);
  * every Go integer (int8…int64, uint8…uint64, int, uint, uintptr — the last three 64 bits wide) is a Lean
    `Int` that lies in the range of its Go type; every arithmetic operation and every conversion the
    translator emits goes through `wrap`, which is two's-complement wrap-around to the static Go type
    (read from go/types, never guessed);
  * `[]byte` and `string` are `Bytes`; a slice has `cap = len` (slicing beyond `len` panics in the
    translation, in Go it panics beyond `cap`: the translation is the stricter reading);
  * a `[]byte` parameter that the function writes through is a *view* `(whole, off)`: the Go slice is
    `whole[off:]`, writes go into `whole`, and the function returns the new `whole` as an extra result.
-/
import Verif.Base.Bytes
import Verif.Base.Out
namespace Verif.GoSem

abbrev GM (α : Type) := Out Empty α

/-- Go integer types (`int`/`uint`/`uintptr` are `i64`/`u64`: 64-bit platforms only) -/
inductive IT where
  | i8 | i16 | i32 | i64 | u8 | u16 | u32 | u64
deriving Repr, DecidableEq

def IT.bits : IT → Nat
  | .i8 | .u8 => 8
  | .i16 | .u16 => 16
  | .i32 | .u32 => 32
  | .i64 | .u64 => 64

def IT.signed : IT → Bool
  | .i8 | .i16 | .i32 | .i64 => true
  | _ => false

/-- the unsigned `bits`-bit pattern of an integer -/
def toU (bits : Nat) (x : Int) : Int := x % (2 ^ bits : Nat)

/-- two's-complement wrap-around of a mathematical integer to the Go type `t` -/
def wrap (t : IT) (x : Int) : Int :=
  let m := toU t.bits x
  if t.signed && m ≥ (2 ^ (t.bits - 1) : Nat) then m - (2 ^ t.bits : Nat) else m

/-- `x` is a value of the Go type `t` -/
def InRange (t : IT) (x : Int) : Prop :=
  if t.signed then -(2 ^ (t.bits - 1) : Nat) ≤ x ∧ x < (2 ^ (t.bits - 1) : Nat)
  else 0 ≤ x ∧ x < (2 ^ t.bits : Nat)

/-- bitwise operations on the two's-complement patterns of width `t.bits` -/
def band (t : IT) (a b : Int) : Int := wrap t (Int.ofNat ((toU t.bits a).toNat &&& (toU t.bits b).toNat))
def bor (t : IT) (a b : Int) : Int := wrap t (Int.ofNat ((toU t.bits a).toNat ||| (toU t.bits b).toNat))
def bxor (t : IT) (a b : Int) : Int := wrap t (Int.ofNat ((toU t.bits a).toNat ^^^ (toU t.bits b).toNat))
/-- `a << n` (constant `n`) in type `t` -/
def shl (t : IT) (a : Int) (n : Nat) : Int := wrap t (a * (2 ^ n : Nat))
/-- `a >> n` (constant `n`): arithmetic for signed, logical for unsigned — both are floor division of the value -/
def shr (a : Int) (n : Nat) : Int := a / (2 ^ n : Nat)

/-- Go `error` values as far as the translated functions produce them -/
inductive GoErr where
  | nil
  | pe (typeId : Int) (msg : String)   -- a package-level `NewProtocolException(id, msg)` value
  | named (name : String)              -- another package-level or imported error value (io.EOF, …)
deriving Repr, DecidableEq

/-- outcome of a translated `for` loop: the enclosing function returns (`ret`), or the loop is left normally with the
    values of the variables it assigns (`done`) -/
inductive LoopR (ρ σ : Type) where
  | ret (r : ρ)
  | done (s : σ)

/-- a Go map as an association list, newest entry first (`List.lookup` finds what the Go map holds); `none` = nil map -/
abbrev GoMap (κ ν : Type) := Option (List (κ × ν))

/-- `m[k] = v` (a store into a nil map panics) -/
def mapSet {κ ν : Type} (m : GoMap κ ν) (k : κ) (v : ν) : GM (GoMap κ ν) :=
  match m with
  | none => .panic "nilmap"
  | some l => .ok (some ((k, v) :: l))

/-- `thrift.PrependError(prefix, err)`: the exception kind and type id are kept (property C18), the text — which is not
    modelled — changes; any other error stays what it is -/
def prependErr : GoErr → GoErr
  | .pe id _ => .pe id ""
  | e => e

/-- `NewProtocolExceptionWithErr(err)`: a protocol exception is returned as it is, any other error is wrapped
    (the wrapped error stays reachable: `named "wrap:<name>"`) -/
def wrapErr : GoErr → GoErr
  | .pe id m => .pe id m
  | .named s => .named ("wrap:" ++ s)
  | .nil => .named "wrap:nil"

/-- the behaviour of a `bufiox.Reader` interface value: an abstract state `ρ` and its methods. A translated
    function that calls the interface takes such a record as a parameter; the equivalence theorems instantiate it with
    the reader model. `readBinary r k` is `ReadBinary(bs)` with `len(bs) = k`: the bytes copied to the front of `bs`,
    the reported count and the error. -/
structure ReaderI (ρ : Type) where
  next : ρ → Int → GM ((Bytes × GoErr) × ρ)
  peek : ρ → Int → GM ((Bytes × GoErr) × ρ)
  skip : ρ → Int → GM (GoErr × ρ)
  readBinary : ρ → Int → GM ((Bytes × Int × GoErr) × ρ)
  readLen : ρ → Int

/-- the behaviour of a `SkipDecoderIface` value (the back end of the generic skip decoder): `SkipN(n)` -/
structure SkipNI (ρ : Type) where
  skipN : ρ → Int → GM ((Bytes × GoErr) × ρ)

/-- the behaviour of a `bufiox.Writer` interface value. `malloc w n` hands out a region: its (arbitrary) initial contents,
    a handle and the error; the bytes the function stores in the region are given back with `commit w handle contents`
    before the function returns (the region aliases the writer's memory: whatever is in it when the function returns is
    what the writer holds). `writeBinary w v` returns the reported count and the error. -/
structure WriterI (ω : Type) where
  malloc : ω → Int → GM ((Bytes × Nat × GoErr) × ω)
  commit : ω → Nat → Bytes → ω
  writeBinary : ω → Bytes → GM ((Int × GoErr) × ω)
  writtenLen : ω → Int

/-- `dirtmake.Bytes(n, n)`: a fresh slice of length n with arbitrary contents (zeros here); a negative length panics -/
def dirtyBytes (n : Int) : GM Bytes :=
  if n < 0 then .panic "makeslice" else .ok (List.replicate n.toNat 0)

/-- `make([]byte, n)`: n zero bytes; a negative length panics -/
def makeBytes (n : Int) : GM Bytes :=
  if n < 0 then .panic "makeslice" else .ok (List.replicate n.toNat 0)

/-! ## slices (cap = len) -/

def len (b : Bytes) : Int := (b.length : Int)

/-- `b[i]` as an integer 0…255 -/
def idx (b : Bytes) (i : Int) : GM Int :=
  if i < 0 then .panic "index"
  else match b[i.toNat]? with
    | some x => .ok (x.toNat : Int)
    | none => .panic "index"

/-- an unsafe load of the byte at offset `i` of the slice's memory: outside the slice it is an out-of-bounds read
    (no Go panic; the outcome `oob`) -/
def uload (b : Bytes) (i : Int) : GM Int :=
  if i < 0 then .oob
  else match b[i.toNat]? with
    | some x => .ok (x.toNat : Int)
    | none => .oob

/-- `tbl[i]` for a package-level array of integer constants -/
def tblIdx (tbl : List Int) (i : Int) : GM Int :=
  if i < 0 then .panic "index"
  else match tbl[i.toNat]? with
    | some x => .ok x
    | none => .panic "index"

/-- `b[lo:]` -/
def sliceFrom (b : Bytes) (lo : Int) : GM Bytes :=
  if lo < 0 ∨ lo > len b then .panic "slice" else .ok (b.drop lo.toNat)

/-- `b[:hi]` -/
def sliceTo (b : Bytes) (hi : Int) : GM Bytes :=
  if hi < 0 ∨ hi > len b then .panic "slice" else .ok (b.take hi.toNat)

/-- `b[lo:hi]` -/
def slice (b : Bytes) (lo hi : Int) : GM Bytes :=
  if hi < 0 ∨ hi > len b then .panic "slice"
  else if lo < 0 ∨ lo > hi then .panic "slice"
  else .ok ((b.take hi.toNat).drop lo.toNat)

/-- `binary.BigEndian.Uint16(b)` (`_ = b[1]` first) -/
def beU16 (b : Bytes) : GM Int := if b.length < 2 then .panic "index" else .ok (rd16 b : Int)
def beU32 (b : Bytes) : GM Int := if b.length < 4 then .panic "index" else .ok (rd32 b : Int)
def beU64 (b : Bytes) : GM Int := if b.length < 8 then .panic "index" else .ok (rd64 b : Int)

/-- the byte with value `x mod 256` -/
def byteOf (x : Int) : UInt8 := UInt8.ofNat (toU 8 x).toNat

/-- `append(b, x1, …, xn)` with the bytes given as integers -/
def appendInts (b : Bytes) (xs : List Int) : Bytes := b ++ xs.map byteOf

/-! ## views: a Go slice `whole[off:]` that the function writes through -/

/-- bytes `bs` stored at `whole[at : at+len bs]` (callers guarantee the range) -/
def putAt (whole : Bytes) (at_ : Nat) (bs : Bytes) : Bytes :=
  whole.take at_ ++ bs ++ whole.drop (at_ + bs.length)

/-- `len(whole[off:])` -/
def vlen (whole : Bytes) (off : Int) : Int := len whole - off

/-- taking the sub-view `v[lo:]` of the view `(whole, off)`: the new offset -/
def vfrom (whole : Bytes) (off lo : Int) : GM Int :=
  if lo < 0 ∨ lo > vlen whole off then .panic "slice" else .ok (off + lo)

/-- `v[i] = x` -/
def vset (whole : Bytes) (off i x : Int) : GM Bytes :=
  if i < 0 ∨ i ≥ vlen whole off then .panic "index"
  else .ok (putAt whole (off + i).toNat [byteOf x])

/-- `v[i]` -/
def vidx (whole : Bytes) (off i : Int) : GM Int :=
  if i < 0 ∨ i ≥ vlen whole off then .panic "index" else idx whole (off + i)

/-- `binary.BigEndian.PutUintNN(v, x)` -/
def vputU16 (whole : Bytes) (off x : Int) : GM Bytes :=
  if vlen whole off < 2 then .panic "index" else .ok (putAt whole off.toNat (be16 (toU 16 x).toNat))
def vputU32 (whole : Bytes) (off x : Int) : GM Bytes :=
  if vlen whole off < 4 then .panic "index" else .ok (putAt whole off.toNat (be32 (toU 32 x).toNat))
def vputU64 (whole : Bytes) (off x : Int) : GM Bytes :=
  if vlen whole off < 8 then .panic "index" else .ok (putAt whole off.toNat (be64 (toU 64 x).toNat))

/-- `copy(v, src)`: the buffer afterwards and the number of bytes copied -/
def vcopy (whole : Bytes) (off : Int) (src : Bytes) : Bytes × Int :=
  let n := min (vlen whole off).toNat src.length
  (putAt whole off.toNat (src.take n), (n : Int))

/-! ## basic facts used by the equivalence lemmas -/

theorem toU_of_range {bits : Nat} {x : Int} (h0 : 0 ≤ x) (h1 : x < (2 ^ bits : Nat)) : toU bits x = x := by
  unfold toU; exact Int.emod_eq_of_lt h0 h1

theorem toU_nonneg (bits : Nat) (x : Int) : 0 ≤ toU bits x := by
  unfold toU; exact Int.emod_nonneg _ (by have := Nat.two_pow_pos bits; omega)

theorem toU_lt (bits : Nat) (x : Int) : toU bits x < (2 ^ bits : Nat) := by
  unfold toU; exact Int.emod_lt_of_pos _ (by have := Nat.two_pow_pos bits; omega)

theorem wrap_i64_of_range (x : Int) (h0 : -9223372036854775808 ≤ x) (h1 : x < 9223372036854775808) :
    wrap .i64 x = x := by
  simp only [wrap, toU, IT.bits, IT.signed]
  simp
  split <;> omega

theorem wrap_i32_of_range (x : Int) (h0 : -2147483648 ≤ x) (h1 : x < 2147483648) : wrap .i32 x = x := by
  simp only [wrap, toU, IT.bits, IT.signed]
  simp
  split <;> omega

/-! ## the write side (generated struct writers, TTHeader encoder): nil pointers, nil-able interface
    values, `range` over a map, `len(map)`, `m[k]` reads, integer division, bounded sub-slices of a local slice -/

/-- `p.F` / `w.M(…)` through a pointer or interface value that may be nil -/
def derefP {α : Type} : Option α → GM α
  | some a => .ok a
  | none => .panic "nilderef"

/-- the behaviour of a `thrift.NocopyWriter` interface value: `WriteDirect(b, remainCap)`. A translated function that takes
    such a parameter takes it as `Option ν` (`none` = the nil interface) together with this record. -/
structure NocopyI (ν : Type) where
  writeDirect : ν → Bytes → Int → GM (GoErr × ν)

/-- the instance passed along with a literal `nil` writer (never called: the value is `none`) -/
def nilNocopy : NocopyI Unit := ⟨fun s _ _ => .ok (GoErr.nil, s)⟩

/-- the entries a Go map holds, given its association list (newest first): the first occurrence of every key -/
def mapEntriesL {κ ν : Type} [BEq κ] : List (κ × ν) → List (κ × ν)
  | [] => []
  | e :: r => e :: (mapEntriesL r).filter (fun x => !(x.1 == e.1))

def mapEntries {κ ν : Type} [BEq κ] (m : GoMap κ ν) : List (κ × ν) :=
  match m with
  | none => []
  | some l => mapEntriesL l

/-- `len(m)` (0 for a nil map) -/
def mapLen {κ ν : Type} [BEq κ] (m : GoMap κ ν) : Int := ((mapEntries m).length : Int)

/-- `v, ok := m[k]` (`none`: no such key; a nil map has no keys) -/
def mapGet {κ ν : Type} [BEq κ] (m : GoMap κ ν) (k : κ) : Option ν :=
  match m with
  | none => none
  | some l => l.lookup k

/-- `for k, v := range m` visits every entry of `m` exactly once, in an order Go does not specify. A translated function
    takes the sequence of visited entries as an explicit parameter `ord`; this is what Go guarantees about it. -/
def MapOrder {κ ν : Type} [BEq κ] (m : GoMap κ ν) (ord : List (κ × ν)) : Prop := ord.Perm (mapEntries m)

/-- `a / b` and `a % b` in the integer type `t`: Go truncates toward zero, a zero divisor panics (a non-zero constant
    divisor is translated to `wrap t (Int.tdiv a c)` / `wrap t (Int.tmod a c)` directly) -/
def goDiv (t : IT) (a b : Int) : GM Int := if b = 0 then .panic "divzero" else .ok (wrap t (Int.tdiv a b))
def goMod (t : IT) (a b : Int) : GM Int := if b = 0 then .panic "divzero" else .ok (wrap t (Int.tmod a b))

/-- `s[lo:hi]` of a slice of length `n` the function writes through: the bounds check (cap = len) -/
def bchk (n lo hi : Int) : GM Unit :=
  if hi < 0 ∨ hi > n then .panic "slice"
  else if lo < 0 ∨ lo > hi then .panic "slice"
  else .ok ()

/-- `binary.BigEndian.PutUintNN(whole[off : off+n], x)`: the sub-slice has length `n` (checked like `_ = b[k-1]`) -/
def bputU16 (whole : Bytes) (off n x : Int) : GM Bytes :=
  if n < 2 then .panic "index" else .ok (putAt whole off.toNat (be16 (toU 16 x).toNat))
def bputU32 (whole : Bytes) (off n x : Int) : GM Bytes :=
  if n < 4 then .panic "index" else .ok (putAt whole off.toNat (be32 (toU 32 x).toNat))
def bputU64 (whole : Bytes) (off n x : Int) : GM Bytes :=
  if n < 8 then .panic "index" else .ok (putAt whole off.toNat (be64 (toU 64 x).toNat))

/-- the contents of `whole[off : off+n]` (what a slice that aliases a part of `whole` holds when it is read) -/
def bsub (whole : Bytes) (off n : Int) : Bytes := (whole.drop off.toNat).take n.toNat

end Verif.GoSem
