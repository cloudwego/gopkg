/-
  Base/Out: outcome of a modelled Go call.
  `ok a`    normal return with err == nil
  `err e`   normal return with err != nil (`e` in the error type `ε` of the model family)
  `panic s` Go runtime panic (index/slice out of range, divide by zero, nil deref ...)
  `oob`     an unsafe load outside the slice (no Go panic, but memory-unsafe)
-/
namespace Verif

inductive Out (ε α : Type) where
  | ok (a : α)
  | err (e : ε)
  | panic (why : String)
  | oob
deriving Repr, DecidableEq

namespace Out
variable {ε α β : Type}

@[inline] def bind (x : Out ε α) (f : α → Out ε β) : Out ε β :=
  match x with
  | ok a => f a
  | err e => err e
  | panic s => panic s
  | oob => oob

instance : Monad (Out ε) where
  pure := Out.ok
  bind := Out.bind

def isOk : Out ε α → Bool | ok _ => true | _ => false
def isPanic : Out ε α → Bool | panic _ => true | _ => false
def isOob : Out ε α → Bool | oob => true | _ => false
/-- neither a Go panic nor an out-of-bounds unsafe load -/
def Safe (x : Out ε α) : Prop := (∀ s, x ≠ panic s) ∧ x ≠ oob

@[simp] theorem bind_ok (a : α) (f : α → Out ε β) : (ok a : Out ε α).bind f = f a := rfl
@[simp] theorem bind_err (e : ε) (f : α → Out ε β) : (err e : Out ε α).bind f = err e := rfl
@[simp] theorem bind_panic (s : String) (f : α → Out ε β) : (panic s : Out ε α).bind f = panic s := rfl
@[simp] theorem bind_oob (f : α → Out ε β) : (oob : Out ε α).bind f = oob := rfl
@[simp] theorem pure_eq (a : α) : (pure a : Out ε α) = ok a := rfl
@[simp] theorem bind_eq (x : Out ε α) (f : α → Out ε β) : (x >>= f) = x.bind f := rfl

/-- a call whose outcome is known: as a `↓` rule it lets `simp` replace the call before it looks into the continuation -/
theorem bind_of_ok {x : Out ε α} {a : α} (h : x = ok a) (f : α → Out ε β) : (x >>= f) = f a := by
  rw [h]; rfl

theorem bind_assoc {γ : Type} (x : Out ε α) (f : α → Out ε β) (g : β → Out ε γ) :
    (x.bind f).bind g = x.bind fun a => (f a).bind g := by
  cases x <;> rfl

theorem bind_eq_ok (x : Out ε α) (f : α → Out ε β) (b : β) :
    x.bind f = ok b ↔ ∃ a, x = ok a ∧ f a = ok b := by
  cases x <;> simp [bind]

theorem bind_ok_inv {x : Out ε α} {f : α → Out ε β} {b : β} (h : x.bind f = ok b) :
    ∃ a, x = ok a ∧ f a = ok b :=
  (bind_eq_ok x f b).mp h

end Out
end Verif
