/-
  Base/Bytes: byte strings, big-endian integers, hex printing/parsing.
  Core-only (no Mathlib) so that the drivers link as lean_exe.
-/
namespace Verif

abbrev Bytes := List UInt8

/-! ## big-endian encoders (values are Nat, range stated where needed) -/

def be16 (n : Nat) : Bytes := [UInt8.ofNat (n / 256), UInt8.ofNat n]
def be32 (n : Nat) : Bytes :=
  [UInt8.ofNat (n / 16777216), UInt8.ofNat (n / 65536), UInt8.ofNat (n / 256), UInt8.ofNat n]
def be64 (n : Nat) : Bytes :=
  be32 (n / 4294967296) ++ be32 n

/-! ## big-endian decoders on the first bytes of a list (total: missing bytes read as 0;
    every model call site is guarded by an explicit length check, mirrored from the code) -/

def rd8 (b : Bytes) : Nat := (b.headD 0).toNat
def rd16 (b : Bytes) : Nat :=
  match b with
  | a :: c :: _ => a.toNat * 256 + c.toNat
  | _ => 0
def rd32 (b : Bytes) : Nat :=
  match b with
  | a :: c :: d :: e :: _ => a.toNat * 16777216 + c.toNat * 65536 + d.toNat * 256 + e.toNat
  | _ => 0
def rd64 (b : Bytes) : Nat := rd32 b * 4294967296 + rd32 (b.drop 4)

/-! ## signed views -/
def toI8 (n : Nat) : Int := if n < 128 then n else (n : Int) - 256
def toI16 (n : Nat) : Int := if n < 32768 then n else (n : Int) - 65536
def toI32 (n : Nat) : Int := if n < 2147483648 then n else (n : Int) - 4294967296
def toI64 (n : Nat) : Int := if n < 9223372036854775808 then n else (n : Int) - 18446744073709551616
/-- two's complement of an Int in `bits` bits -/
def ofInt (bits : Nat) (i : Int) : Nat := (i % (2 ^ bits : Nat)).toNat

/-! ## lemmas -/

@[simp] theorem be16_length (n : Nat) : (be16 n).length = 2 := rfl
@[simp] theorem be32_length (n : Nat) : (be32 n).length = 4 := rfl
@[simp] theorem be64_length (n : Nat) : (be64 n).length = 8 := rfl

theorem rd16_be16 (n : Nat) (h : n < 65536) (r : Bytes) : rd16 (be16 n ++ r) = n := by
  simp [be16, rd16, UInt8.toNat_ofNat']; omega

theorem rd32_be32 (n : Nat) (h : n < 4294967296) (r : Bytes) : rd32 (be32 n ++ r) = n := by
  simp [be32, rd32, UInt8.toNat_ofNat']; omega

theorem rd64_be64 (n : Nat) (h : n < 18446744073709551616) (r : Bytes) :
    rd64 (be64 n ++ r) = n := by
  have h1 : rd32 (be64 n ++ r) = n / 4294967296 := by
    unfold be64; rw [List.append_assoc]; apply rd32_be32; omega
  have h2 : (be64 n ++ r).drop 4 = be32 n ++ r := by
    simp [be64, be32]
  unfold rd64; rw [h1, h2]
  have h3 : rd32 (be32 n ++ r) = n % 4294967296 := by
    simp [be32, rd32, UInt8.toNat_ofNat']; omega
  rw [h3]; omega

theorem rd16_lt (b : Bytes) : rd16 b < 65536 := by
  unfold rd16; split
  · rename_i a c _; have := a.toNat_lt; have := c.toNat_lt; omega
  · omega

theorem rd32_lt (b : Bytes) : rd32 b < 4294967296 := by
  unfold rd32; split
  · rename_i a c d e _
    have := a.toNat_lt; have := c.toNat_lt; have := d.toNat_lt; have := e.toNat_lt; omega
  · omega

theorem digit_div (x y m : Nat) (hy : y < m) : (x * m + y) / m = x := by
  rw [Nat.add_comm, Nat.add_mul_div_right _ _ (Nat.zero_lt_of_lt hy), Nat.div_eq_of_lt hy, Nat.zero_add]

theorem u8_ofNat_mul_add (x : Nat) (y : UInt8) : UInt8.ofNat (x * 256 + y.toNat) = y := by
  apply UInt8.toNat.inj
  rw [UInt8.toNat_ofNat', Nat.mul_add_mod_self_right, Nat.mod_eq_of_lt y.toNat_lt]

theorem u8_ofNat_mod (n c : Nat) (h : 256 ∣ c) : UInt8.ofNat (n % c) = UInt8.ofNat n := by
  apply UInt8.toNat.inj
  rw [UInt8.toNat_ofNat', UInt8.toNat_ofNat', Nat.mod_mod_of_dvd _ h]

theorem u8_ofNat_mod_div (n a c : Nat) (h : 256 ∣ c) : UInt8.ofNat (n % (a * c) / a) = UInt8.ofNat (n / a) := by
  rw [Nat.mod_mul_right_div_self, u8_ofNat_mod _ _ h]

theorem be16_rd16 (b : Bytes) (h : 2 ≤ b.length) : be16 (rd16 b) = b.take 2 := by
  match b, h with
  | a :: c :: r, _ =>
    show [UInt8.ofNat ((a.toNat * 256 + c.toNat) / 256), UInt8.ofNat (a.toNat * 256 + c.toNat)] = [a, c]
    rw [digit_div a.toNat c.toNat 256 c.toNat_lt, u8_ofNat_mul_add, UInt8.ofNat_toNat]

theorem be32_rd32 (b : Bytes) (h : 4 ≤ b.length) : be32 (rd32 b) = b.take 4 := by
  match b, h with
  | a :: c :: d :: e :: r, _ =>
    -- in Horner form each byte is one `digit_div` away
    have hN : rd32 (a :: c :: d :: e :: r) = ((a.toNat * 256 + c.toNat) * 256 + d.toNat) * 256 + e.toNat := by
      simp only [rd32, Nat.add_mul, Nat.mul_assoc, Nat.reduceMul]
    have h3 := digit_div ((a.toNat * 256 + c.toNat) * 256 + d.toNat) e.toNat 256 e.toNat_lt
    have h2 := digit_div (a.toNat * 256 + c.toNat) d.toNat 256 d.toNat_lt
    have h1 := digit_div a.toNat c.toNat 256 c.toNat_lt
    show [UInt8.ofNat (rd32 _ / (256 * 256 * 256)), UInt8.ofNat (rd32 _ / (256 * 256)), UInt8.ofNat (rd32 _ / 256),
      UInt8.ofNat (rd32 _)] = [a, c, d, e]
    rw [hN, ← Nat.div_div_eq_div_mul, ← Nat.div_div_eq_div_mul, h3, h2, h1, u8_ofNat_mul_add, u8_ofNat_mul_add,
      u8_ofNat_mul_add, UInt8.ofNat_toNat]

theorem be32_mod (n : Nat) : be32 (n % 4294967296) = be32 n := by
  unfold be32
  congr 1
  · exact u8_ofNat_mod_div n 16777216 256 ⟨1, rfl⟩
  congr 1
  · exact u8_ofNat_mod_div n 65536 65536 ⟨256, rfl⟩
  congr 1
  · exact u8_ofNat_mod_div n 256 16777216 ⟨65536, rfl⟩
  congr 1
  exact u8_ofNat_mod n 4294967296 ⟨16777216, rfl⟩

theorem be64_rd64 (b : Bytes) (h : 8 ≤ b.length) : be64 (rd64 b) = b.take 8 := by
  have h1 : rd64 b / 4294967296 = rd32 b := digit_div _ _ _ (rd32_lt (b.drop 4))
  have h2 : rd64 b % 4294967296 = rd32 (b.drop 4) := by
    rw [rd64, Nat.mul_add_mod_self_right, Nat.mod_eq_of_lt (rd32_lt (b.drop 4))]
  unfold be64
  rw [h1, ← be32_mod (rd64 b), h2, be32_rd32 b (by omega), be32_rd32 (b.drop 4) (by rw [List.length_drop]; omega)]
  exact (List.take_add (i := 4) (j := 4)).symm

theorem rd64_lt (b : Bytes) : rd64 b < 18446744073709551616 := by
  have := rd32_lt b; have := rd32_lt (b.drop 4); unfold rd64; omega

theorem u16_ofNat_rd16 (b : Bytes) : (UInt16.ofNat (rd16 b)).toNat = rd16 b := by
  have := rd16_lt b; simp [UInt16.toNat_ofNat']; omega
theorem u32_ofNat_rd32 (b : Bytes) : (UInt32.ofNat (rd32 b)).toNat = rd32 b := by
  have := rd32_lt b; simp [UInt32.toNat_ofNat']; omega
theorem u64_ofNat_rd64 (b : Bytes) : (UInt64.ofNat (rd64 b)).toNat = rd64 b := by
  have := rd64_lt b; simp [UInt64.toNat_ofNat']; omega

theorem rd32_take (b : Bytes) (k : Nat) (h : 4 ≤ k) : rd32 (b.take k) = rd32 b := by
  obtain ⟨k, rfl⟩ := Nat.exists_eq_add_of_le' h
  rcases b with _ | ⟨a, _ | ⟨c, _ | ⟨d, _ | ⟨e, r⟩⟩⟩⟩ <;> rfl

theorem toI32_eq_cast (n : Nat) (h : n < 2147483648) : toI32 n = (n : Int) := by
  unfold toI32; simp [h]

theorem ofInt_cast (bits : Nat) (v : Int) (hlo : -(2 : Int) ^ bits ≤ v) (hhi : v < (2 : Int) ^ bits) :
    ((ofInt bits v : Nat) : Int) = if v < 0 then v + (2 : Int) ^ bits else v := by
  have hp : (0 : Int) < (2 : Int) ^ bits := Int.pow_pos (by decide)
  unfold ofInt
  rw [Int.natCast_pow, show ((2 : Nat) : Int) = 2 from rfl, Int.toNat_of_nonneg (Int.emod_nonneg _ (Int.ne_of_gt hp))]
  split
  · rw [← Int.add_emod_right, Int.emod_eq_of_lt (by omega) (by omega)]
  · exact Int.emod_eq_of_lt (by omega) hhi

/-- the signed view (`toI8` … `toI64`: `half` = 2^(bits-1), `m` = 2^bits) of `ofInt` gives a value of the
    signed range back -/
theorem signed_ofInt (bits : Nat) (v : Int) (half m : Nat) (hm : (m : Int) = (2 : Int) ^ bits) (hh : m = 2 * half)
    (hlo : -(half : Int) ≤ v) (hhi : v < half) :
    (if ofInt bits v < half then ((ofInt bits v : Nat) : Int) else ((ofInt bits v : Nat) : Int) - m) = v := by
  have := ofInt_cast bits v (by omega) (by omega)
  split at this <;> split <;> omega

theorem ofInt_lt (bits : Nat) (v : Int) : ofInt bits v < 2 ^ bits := by
  have hp : (0 : Int) < ((2 ^ bits : Nat) : Int) := by have := Nat.two_pow_pos bits; omega
  have h1 := Int.emod_lt_of_pos v hp
  have h2 := Int.emod_nonneg v (Int.ne_of_gt hp)
  unfold ofInt; omega

theorem ofInt32_lt (v : Int) : ofInt 32 v < 4294967296 := ofInt_lt 32 v

theorem toI32_ofInt (v : Int) (h1 : -2147483648 ≤ v) (h2 : v < 2147483648) : toI32 (ofInt 32 v) = v :=
  signed_ofInt 32 v 2147483648 4294967296 rfl rfl h1 h2

/-! ## hex -/

def hexDigit (n : Nat) : Char :=
  if n < 10 then Char.ofNat (48 + n) else Char.ofNat (87 + n)

def toHex (b : Bytes) : String :=
  if b.isEmpty then "-" else
  String.ofList (b.foldr (fun x acc => hexDigit (x.toNat / 16) :: hexDigit (x.toNat % 16) :: acc) [])

def hexVal (c : Char) : Option Nat :=
  if '0' ≤ c ∧ c ≤ '9' then some (c.toNat - 48)
  else if 'a' ≤ c ∧ c ≤ 'f' then some (c.toNat - 87)
  else none

def parseHexAux : List Char → Option Bytes
  | [] => some []
  | [_] => none
  | a :: c :: rest => do
    let x ← hexVal a
    let y ← hexVal c
    let r ← parseHexAux rest
    pure (UInt8.ofNat (x * 16 + y) :: r)

def parseHex (s : String) : Option Bytes :=
  if s == "-" then some [] else parseHexAux s.toList

end Verif
