/-
  Audit/C07Current: the value-conditional C07 theorems (`…_current`) instantiated with the constants
  as extracted from the source (load factor 3/4). Deliberately NOT a lean_target of registry/C07.json: a
  harmless change of the policy constants breaks only this file, not a proof obligation.
-/
import Verif.Props.C07
namespace Verif.C07
open Verif Verif.SMap

/-- the hypotheses of the `_current` theorems hold on the tree as extracted (non-vacuity); this is
    the only place that mentions the concrete values of the load factor -/
example : (∃ s, calcSlots 1000 = .ok s ∧ 1000 < s) ∧ calcSlots 1610612736 = .panic "too many items" :=
  ⟨by obtain ⟨s, hs⟩ := (calcSlots_ok_iff 1000).mpr (by decide)
      exact ⟨s, hs, slots_gt_current rfl rfl hs⟩,
   (slots_panic_iff_current rfl rfl _).mpr (Nat.le_refl _)⟩

end Verif.C07
