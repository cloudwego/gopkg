/-
  Spec/Cause: WHY a byte string is not a Thrift Binary value — an independent classifier of the first
  failure in parse order, sitting beside the grammar (Spec/Grammar.lean, Lemmas/Grammar.lean `refBin`).
  Nothing here comes from the repository: type codes and sizes are the Thrift specification's
  (`fixedSize`, `TT.*` of Spec/Grammar), the exception type ids are Thrift's TProtocolException numbers.

  Reading, left to right, of a value of type t with `d` levels of nesting still allowed:
    * nothing left to read                                  → truncated
    * a nested value (container, struct, or a type code that is none of the 11 Thrift types) is entered
      with no level left                                    → depth        (checked first on entering)
    * fixed-size value / string body / header / field id that does not fit  → truncated
    * a 32-bit size field with the sign bit set (≥ 2^31)    → negativeSize
    * a type code that is none of the 11 Thrift types and has to be parsed  → unknownType
  Fixed-size and string elements are measured in line and do not use up a level (the acceptance
  discipline of `refBin`); `causeBin d t b = .ok n` iff `refBin d t b = some n`
  (Lemmas/SkipBinCause.lean `causeBin_ok_iff`).
-/
import Verif.Spec.Grammar
namespace Verif

inductive Cause where
  | truncated       -- the input ends before the value does
  | unknownType     -- a type code that is none of the 11 Thrift types has to be parsed
  | negativeSize    -- a string / container size field is negative as int32
  | depth           -- nesting deeper than the allowed number of levels
deriving Repr, DecidableEq

/-- Thrift's TProtocolException type for each cause: INVALID_DATA = 1, NEGATIVE_SIZE = 2,
    DEPTH_LIMIT = 6 (literal Thrift numbers; related to the repository's constants in
    Lemmas/SkipBinCause.lean by `decide`) -/
def typeIdOf : Cause → Int
  | .truncated => 1
  | .unknownType => 1
  | .negativeSize => 2
  | .depth => 6

abbrev CRes := Except Cause Nat

instance : DecidableEq CRes := fun a b =>
  match a, b with
  | .ok x, .ok y => if h : x = y then isTrue (by rw [h]) else isFalse (fun h' => h (by cases h'; rfl))
  | .error x, .error y => if h : x = y then isTrue (by rw [h]) else isFalse (fun h' => h (by cases h'; rfl))
  | .ok _, .error _ => isFalse (fun h' => by cases h')
  | .error _, .ok _ => isFalse (fun h' => by cases h')

/-- a string/binary: 4-byte big-endian length, then that many bytes -/
def causeStr (b : Bytes) : CRes :=
  if b.length < 4 then .error .truncated
  else if ¬ rd32 b < 2147483648 then .error .negativeSize
  else if 4 + rd32 b ≤ b.length then .ok (4 + rd32 b)
  else .error .truncated

/-- n values in a row: the first failure, or the total length -/
def causeN (f : Bytes → CRes) : Nat → Bytes → CRes
  | 0, _ => .ok 0
  | n+1, b =>
    match f b with
    | .error c => .error c
    | .ok k =>
      match causeN f n (b.drop k) with
      | .error c => .error c
      | .ok r => .ok (k + r)

/-- n key/value pairs in a row -/
def causeKV (fk fv : Bytes → CRes) : Nat → Bytes → CRes
  | 0, _ => .ok 0
  | n+1, b =>
    match fk b with
    | .error c => .error c
    | .ok k =>
      match fv (b.drop k) with
      | .error c => .error c
      | .ok v =>
        match causeKV fk fv n (b.drop (k + v)) with
        | .error c => .error c
        | .ok r => .ok (k + v + r)

/-- fields until STOP: (type ≠ 0, 2-byte id, value)* 0.  Fuel b.length + 1 always suffices (every
    field takes ≥ 3 bytes); running out of fuel is reported like running out of input. -/
def causeFields (f : UInt8 → Bytes → CRes) : Nat → Bytes → CRes
  | 0, _ => .error .truncated
  | fuel+1, b =>
    match b with
    | [] => .error .truncated
    | t :: rest =>
      if t = 0 then .ok 1
      else if rest.length < 2 then .error .truncated
      else
        match f t (rest.drop 2) with
        | .error c => .error c
        | .ok k =>
          match causeFields f fuel (rest.drop (2 + k)) with
          | .error c => .error c
          | .ok r => .ok (3 + k + r)

/-- one element / key / value / field value: fixed-size and string in line, everything else nested -/
def causeElem (f : UInt8 → Bytes → CRes) (t : UInt8) (b : Bytes) : CRes :=
  if fixedSize t > 0 then (if fixedSize t ≤ b.length then .ok (fixedSize t) else .error .truncated)
  else if t = TT.STRING then causeStr b
  else f t b

/-- one level: a value of type t whose elements / fields are classified by `E` -/
def causeLayer (E : UInt8 → Bytes → CRes) (t : UInt8) (b : Bytes) : CRes :=
  if fixedSize t > 0 then (if fixedSize t ≤ b.length then .ok (fixedSize t) else .error .truncated)
  else if t = TT.STRING then causeStr b
  else if t = TT.STRUCT then causeFields E (b.length + 1) b
  else if t = TT.LIST ∨ t = TT.SET then
    match b with
    | et :: rest =>
      if rest.length < 4 then .error .truncated
      else if ¬ rd32 rest < 2147483648 then .error .negativeSize
      else (causeN (E et) (rd32 rest) (rest.drop 4)).map (5 + ·)
    | [] => .error .truncated
  else if t = TT.MAP then
    match b with
    | kt :: vt :: rest =>
      if rest.length < 4 then .error .truncated
      else if ¬ rd32 rest < 2147483648 then .error .negativeSize
      else (causeKV (E kt) (E vt) (rd32 rest) (rest.drop 4)).map (6 + ·)
    | _ => .error .truncated
  else .error .unknownType

/-- the first failure of reading one value of type t from b with d levels allowed (d = 64 for
    Binary.Skip), or its extent -/
def causeBin : Nat → UInt8 → Bytes → CRes
  | 0, _, b => if b.length = 0 then .error .truncated else .error .depth
  | d+1, t, b => if b.length = 0 then .error .truncated else causeLayer (causeElem (causeBin d)) t b

/-- a struct field value as a stream skipper reads it: fixed-size in line, everything else — a string
    too — is a nested value -/
def causeField (f : UInt8 → Bytes → CRes) (t : UInt8) (b : Bytes) : CRes :=
  if fixedSize t > 0 then (if fixedSize t ≤ b.length then .ok (fixedSize t) else .error .truncated)
  else f t b

/-- Stream flavour, for BufferReader.Skip (Tie B verdict of the `cause` family; refined by the model
    over live readers, `skipBRAt_m` in Lemmas/SkipBR.lean).
    A stream reader asks its source for bytes only when a header or a scalar is actually read, so on
    entering a nested value the remaining depth and the type code are judged before any byte of the
    value is requested — there is no "nothing left" check ahead of them; and a struct field that is
    not fixed-size (a string too) is a nested value.  `truncated` here means: the stream ends before
    the value does — the one cause that must surface as the wrapped error of the underlying reader. -/
def causeStream : Nat → UInt8 → Bytes → CRes
  | 0, _, _ => .error .depth
  | d+1, t, b =>
    if t = TT.STRUCT then causeFields (causeField (causeStream d)) (b.length + 1) b
    else causeLayer (causeElem (causeStream d)) t b

end Verif
