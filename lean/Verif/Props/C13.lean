/-
  Props/C13 — Unknown-field trees convert to and from bytes without loss (property theorems only).
  Model: Model/Unknown (ConvertUnknownFields / UnknownFieldsLength / WriteUnknownFields).
  Spec: Spec/Unknown (`EncFields`: ≥ 1 well-formed encoded fields, canonical bools, nesting ≤ d;
  `WTs`: ≥ 1 well-typed field trees).  Helper lemmas: Lemmas/Unknown*.
-/
import Verif.Lemmas.UnknownWC
import Verif.Lemmas.UnknownLen
import Verif.Lemmas.UnknownCW
import Verif.Lemmas.UnknownEnc
namespace Verif.C13

/-- The one fact about the policy constant that a result below needs (`skip_accepted_converts`): the limit is
    at least Binary.Skip's `defaultRecursionDepth` + 1 (64 container levels plus the innermost scalar, which
    readUnknownField counts as a level), i.e. 65 ≤ maxRecursionDepth with the constants of the source. Everything else
    (`write_convert`, `convert_write`, `C03.uf_recDepth_le`) is generic in `MD`, so a larger regenerated limit
    flows through; a smaller one fails exactly here. -/
theorem maxdepth_ge : Facts.defaultRecursionDepth + 1 ≤ Facts.ufMaxRecursionDepth := by decide

/-- maxRecursionDepth of the source -/
abbrev MD : Nat := Facts.ufMaxRecursionDepth

/-- ConvertUnknownFields of zero bytes returns its documented error (DESIGN §6.2). -/
theorem convert_empty : convertUF [] = .err .empty := rfl

/-- bytes → tree → bytes, for every depth limit m: on every sequence of ≥ 1 well-formed encoded fields
    (canonical bools, value nesting ≤ m) conversion succeeds, the tree is well typed (tags set exactly
    where meaningful), writing it back reproduces the input and the computed length is the byte count. -/
theorem write_convert_at (m : Nat) (b : Bytes) (h : EncFields m b) :
    ∃ fs : List (UF m), convertM m b = .ok fs ∧ writeUFs m fs = .ok b ∧ lenUFs m fs = .ok b.length ∧ WTs m fs := by
  simp only [EncFields, ufEncFields, Bool.and_eq_true, decide_eq_true_eq] at h
  obtain ⟨hne, hseq⟩ := h
  have hpos : 0 < b.length := List.length_pos_iff.mpr hne
  obtain ⟨fs, hc, hcs⟩ :=
    convertLoop_of_encSeq True _ _ _ _ _ (readUF_of_encLen m) b (b.length + 1) (b.length + 1) 0 (Nat.zero_le _)
      (Nat.le_refl _) hseq
  obtain ⟨hw, hall, hnn⟩ := hcs trivial
  refine ⟨fs, ?_, hw, lenUFs_of_writeUFs m fs b hw, ?_⟩
  · rw [convertM, if_neg (Nat.ne_of_gt hpos)]
    exact hc
  · simp [WTs, wts, hall, hnn hpos]

/-- C13, first half, for the real entry points (depth limit `maxRecursionDepth`). -/
theorem write_convert (b : Bytes) (h : EncFields MD b) :
    ∃ fs, convertUF b = .ok fs ∧ writeUFs MD fs = .ok b ∧ lenUFs MD fs = .ok b.length ∧ WTs MD fs :=
  write_convert_at MD b h

/-- tree → bytes → tree, for every depth limit m: a sequence of ≥ 1 well-typed field trees of nesting ≤ m
    (the type `UF m` bounds the nesting) is written without error or panic, and converting the written
    bytes gives back exactly the same trees — ids, types, element/key/value type tags and payloads. -/
theorem convert_write_at (m : Nat) (fs : List (UF m)) (h : WTs m fs) :
    ∃ bs, writeUFs m fs = .ok bs ∧ convertM m bs = .ok fs := by
  simp only [WTs, wts, Bool.and_eq_true, decide_eq_true_eq] at h
  obtain ⟨hne, hall⟩ := h
  obtain ⟨hw, hr⟩ := convertLoop_of_writeFields _ _ _ _ _ (rt_readUF m) fs hall
  refine ⟨ufSpecEncs m fs, hw, ?_⟩
  -- a field header makes the encoding of a non-empty sequence non-empty
  have hpos : (ufSpecEncs m fs).length ≠ 0 := by
    cases fs with
    | nil => exact absurd rfl hne
    | cons c cs => exact nofun
  rw [convertM, if_neg hpos]
  exact hr _ 0 _ (Nat.zero_le _) rfl (Nat.le_refl _)

/-- C13, second half, for the real entry points (`UF MD` = trees of nesting ≤ maxRecursionDepth). -/
theorem convert_write (fs : List (UF MD)) (h : WTs MD fs) :
    ∃ bs, writeUFs MD fs = .ok bs ∧ convertUF bs = .ok fs :=
  convert_write_at MD fs h

/-- every well-typed tree is written without error or panic, at any depth -/
theorem write_ok_of_WT (d : Nat) (fs : List (UF d)) (h : WTs d fs) : ∃ bs, writeUFs d fs = .ok bs :=
  (convert_write_at d fs h).imp fun _ h => h.1

/-- UnknownFieldsLength equals the number of bytes WriteUnknownFields writes, for every tree of every depth on
    which the writer succeeds (in particular every well-typed tree, see `write_ok_of_WT`). -/
theorem length_eq_write (d : Nat) (fs : List (UF d)) (bs : Bytes) (h : writeUFs d fs = .ok bs) :
    lenUFs d fs = .ok bs.length := lenUFs_of_writeUFs d fs bs h

/-- On well-typed trees (any nesting) WriteUnknownFields writes exactly the spec encoding `ufSpecEncs` (the Thrift
    Binary layout written down directly in Spec/Unknown) and UnknownFieldsLength is that encoding's length.
    This is what the driver's `bad:C13:length` / `bad:C13:write-bytes` verdicts evaluate. -/
theorem write_is_spec_encoding (d : Nat) (fs : List (UF d)) (h : fs.all (wt d) = true) :
    writeUFs d fs = .ok (ufSpecEncs d fs) ∧ lenUFs d fs = .ok (ufSpecEncs d fs).length :=
  writeUFs_eq_spec d fs h

/-- GetUnknownFields on a struct, or a non-nil pointer to a struct, whose `_unknownFields` field holds b is
    ConvertUnknownFields b (so everything above applies to it). -/
theorem getUF_eq_convert (b : Bytes) :
    getUF (.structPtr b) = liftConv (convertUF b) ∧ getUF (.structVal b) = liftConv (convertUF b) := ⟨rfl, rfl⟩

/-- The byte domain is a restriction of the shared Thrift grammar (Spec/Grammar `refLen`): the only extra
    requirement of `encLen` is that BOOL bytes are 0 or 1. -/
theorem enc_is_grammar (d : Nat) (t : UInt8) (b : Bytes) (k : Nat) (h : encLen d t b = some k) :
    refLen d t b = some k := encLen_refLen d t b k h

/-- Why maxRecursionDepth is (at least) 65: every sequence of ≥ 1 fields whose values thrift.Binary.Skip accepts
    (`refBin defaultRecursionDepth`, Lemmas/Grammar — exactly Binary.Skip's acceptance set, proved in the skip
    family; fixed-size and string leaves do not cost Skip a level, but they cost readUnknownField one) is
    converted by ConvertUnknownFields — whatever the boolean bytes. So everything FastRead keeps as unknown
    bytes can be converted; with canonical bools `write_convert` then gives the byte-exact round trip. -/
theorem skip_accepted_converts (b : Bytes) (hne : b ≠ [])
    (h : encSeq (refBin Facts.defaultRecursionDepth) (b.length + 1) b = true) : ∃ fs, convertUF b = .ok fs :=
  convertM_of_skipAccepted Facts.defaultRecursionDepth Facts.ufMaxRecursionDepth maxdepth_ge b hne h

/-! ## non-vacuity -/

/-- the nested struct {1: map<i32,i64>{}, 2: i32 7} as field 1 -/
def exBytes : Bytes :=
  [0x0c, 0, 1,  0x0d, 0, 1, 0x08, 0x0a, 0, 0, 0, 0,  0x08, 0, 2, 0, 0, 0, 7,  0]

def exTree : List (UF MD) :=
  [(⟨1, 12, 0, 0⟩, .fields [(⟨1, 13, 8, 10⟩, .fields []), (⟨2, 8, 0, 0⟩, .i32 7)])]

example : EncFields MD exBytes := by decide
example : WTs MD exTree := by decide
example : convertUF exBytes = .ok exTree := by decide
example : writeUFs MD exTree = .ok exBytes := by decide
example : lenUFs MD exTree = .ok 20 := by decide
example : ufSpecEncs MD exTree = exBytes := by decide

/-- the tree the unfixed code produced (field 2 inherits the map's tags) is *not* well typed -/
example : ¬ WTs MD [(⟨1, 12, 0, 0⟩, .fields [(⟨1, 13, 8, 10⟩, .fields []), (⟨2, 8, 8, 10⟩, .i32 7)])] := by decide

/-- a non-canonical boolean byte is outside the byte domain (and does not round-trip: it is written as 0) -/
example : ¬ EncFields MD [2, 0, 1, 5] := by decide
example : (convertUF [2, 0, 1, 5]).bind (writeUFs MD) = .ok [2, 0, 1, 0] := by decide

/-- 64 nested lists around a byte leaf: accepted by Binary.Skip's discipline (`refBin 64`), not within nesting 64
    of the plain grammar, within 65 — and converted -/
def deepLists : Nat → Bytes
  | 0 => [9]
  | k+1 => (if k = 0 then 3 else 15) :: 0 :: 0 :: 0 :: 1 :: deepLists k

-- evaluated at the concrete constants (conditional, so that regenerated constants do not break the build)
set_option maxRecDepth 8000 in
example : Facts.defaultRecursionDepth ≠ 64 ∨ Facts.ufMaxRecursionDepth < 65 ∨
    (encSeq (refBin Facts.defaultRecursionDepth) (([15, 0, 5] ++ deepLists 64).length + 1)
        ([15, 0, 5] ++ deepLists 64) = true ∧
      refLen 64 15 (deepLists 64) = none ∧ EncFields MD ([15, 0, 5] ++ deepLists 64)) := by decide

end Verif.C13
