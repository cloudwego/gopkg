/-
  Props/C17_bridge — C17, the `errors.Is` half of the statement: "failures of the stream reader that are
  caused by the underlying reader wrap that reader's error so it remains matchable with errors.Is".
  `TErr.wrap se` of the reader/skipper models is interpreted as the Go object
  `NewProtocolExceptionWithErr(ρ se)` of C18's model (`TErr.toErr`, Model/ErrBridge.lean), for EVERY
  interpretation `ρ` of the reader's error values as Go error objects; `errorsIs`, `typeId`, `unwrap` are
  C18's (`errors.Is` of go1.23, `TypeId()`, `Unwrap()`).  Property theorems only.
-/
import Verif.Props.C17
import Verif.Props.C17_wire
import Verif.Lemmas.ErrBridge
namespace Verif.C17
open Verif.Wire

/-- what the bridge guarantees about one returned error `e` whose failure came from the source's error
    `se`: the source's error object is found by `errors.Is`, together with everything it matches itself
    (e.g. an io.EOF it wraps); `TypeId()` is UNKNOWN_PROTOCOL_EXCEPTION — or, when the source's error is
    itself a `*ProtocolException`, that very object is returned and keeps its own id; otherwise
    `Unwrap()` is exactly the source's error object -/
def CarriesCause (ρ : RErr → Err) (fresh : Nat) (m : Bytes) (e : TErr) (se : RErr) : Prop :=
  errorsIs (e.toErr ρ fresh m) (ρ se) = true ∧
  (e.toErr ρ fresh m).typeId = wrapTypeId (ρ se) ∧
  (∀ tg, errorsIs (ρ se) tg = true → errorsIs (e.toErr ρ fresh m) tg = true) ∧
  ((ρ se).isProtocol = false → (e.toErr ρ fresh m).unwrap = some (ρ se)) ∧
  ((ρ se).isProtocol = true → e.toErr ρ fresh m = ρ se)

/-- `BufferReader.Read<kind>` / `ReadMessageBegin` over C04's buffered reader on a
    source with script `s0`, EVERY interpretation ρ of the source's error values as Go error objects:
    a failure is either caused by the source — then the source's own error `se` (first error of its
    script / io.EOF / io.ErrNoProgress, `stream_err_source`) is matched by `errors.Is` on the returned
    error and the type id is the one `NewProtocolExceptionWithErr` gives (`CarriesCause`) — or it is a
    cause-less NEGATIVE_SIZE / BAD_VERSION exception with exactly that type id. -/
theorem stream_err_is_cause (ρ : RErr → Err) (fresh : Nat) (m : Bytes) (s0 : List Resp) (k : Wire.Kind) (r : Rd)
    (h : SrcInv s0 r) (e : TErr) (hx : brRead k r = .err e) :
    (∃ se, e = .wrap se ∧ SrcErrOf s0 se ∧ CarriesCause ρ fresh m e se) ∨
    ((e = .pe 2 ∨ e = .pe 4) ∧ (e.toErr ρ fresh m).unwrap = none ∧
      ((e.toErr ρ fresh m).typeId = some 2 ∨ (e.toErr ρ fresh m).typeId = some 4)) := by
  rcases stream_err_source s0 k r h e hx with ⟨se, he, hs⟩ | he | he
  · subst he; exact .inl ⟨se, rfl, hs, toErr_wrap ρ fresh m se⟩
  · subst he; exact .inr ⟨.inl rfl, rfl, .inl rfl⟩
  · subst he; exact .inr ⟨.inr rfl, rfl, .inr rfl⟩

/-- the same for `BufferReader.Skip`, every type byte: source-caused failures carry
    the source's error (`CarriesCause`); the others are cause-less NEGATIVE_SIZE / DEPTH_LIMIT /
    INVALID_DATA exceptions with exactly that type id. -/
theorem skipBR_err_is_cause (ρ : RErr → Err) (fresh : Nat) (m : Bytes) (s0 : List Resp) (r : Rd)
    (h : SrcInv s0 r) (t : UInt8) (e : TErr) (hx : skipBR t r = .err e) :
    (∃ se, e = .wrap se ∧ SrcErrOf s0 se ∧ CarriesCause ρ fresh m e se) ∨
    (∃ id, (id = 2 ∨ id = 6 ∨ id = 1) ∧ e = .pe id ∧ (e.toErr ρ fresh m).typeId = some id ∧
      (e.toErr ρ fresh m).unwrap = none) := by
  rcases skipBR_err_source_any s0 r h t e hx with ⟨se, he, hs⟩ | he | he | he
  · subst he; exact .inl ⟨se, rfl, hs, toErr_wrap ρ fresh m se⟩
  · subst he; exact .inr ⟨2, .inl rfl, by decide, rfl, rfl⟩
  · subst he; exact .inr ⟨6, .inr (.inl rfl), by decide, rfl, rfl⟩
  · subst he; exact .inr ⟨1, .inr (.inr rfl), by decide, rfl, rfl⟩

/-- whatever reader error is wrapped, in whatever reader state (no invariant needed): the bridge object
    carries it -/
theorem wrap_carries_cause (ρ : RErr → Err) (fresh : Nat) (m : Bytes) (se : RErr) :
    CarriesCause ρ fresh m (.wrap se) se := toErr_wrap ρ fresh m se

/-- read off for the usual case — the source's error is an ordinary error value (io.EOF, a net error, …),
    not a protocol exception: `errors.Is(err, srcErr)`, `TypeId() == UNKNOWN_PROTOCOL_EXCEPTION (0)`,
    `Unwrap() == srcErr` -/
theorem wrap_plain_cause (ρ : RErr → Err) (fresh : Nat) (m : Bytes) (se : RErr) (hp : (ρ se).isProtocol = false) :
    errorsIs ((TErr.wrap se).toErr ρ fresh m) (ρ se) = true ∧
    ((TErr.wrap se).toErr ρ fresh m).typeId = some 0 ∧
    ((TErr.wrap se).toErr ρ fresh m).unwrap = some (ρ se) := by
  obtain ⟨h1, h2, _, h4, _⟩ := toErr_wrap ρ fresh m se
  refine ⟨h1, ?_, h4 hp⟩
  rw [h2]; simp [wrapTypeId, hp]; decide

/-! ### non-vacuity -/

-- the harness's objects: an injected `*SrcErr`, io.EOF, and source error 9 = a transport-style error that
-- WRAPS a protocol exception: it is not itself a `*ProtocolException`, so it is wrapped
-- with id 0, stays matchable, and the inner exception is still found through it
example : errorsIs ((TErr.wrap (.src 2)).toErr goSrc 1000 []) (goSrc (.src 2)) = true ∧
    ((TErr.wrap (.src 2)).toErr goSrc 1000 []).typeId = some 0 := by decide +kernel
example : errorsIs ((TErr.wrap (.src 9)).toErr goSrc 1000 []) (goSrc (.src 9)) = true ∧
    ((TErr.wrap (.src 9)).toErr goSrc 1000 []).typeId = some 0 ∧
    errorsIs ((TErr.wrap (.src 9)).toErr goSrc 1000 []) (.protocol 1009 1 (bytesOf "inner")) = true := by decide +kernel
-- a source whose error IS a protocol exception (id 3): handed on as the same object, id 3 kept
example : (TErr.wrap .eof).toErr (fun _ => .protocol 7 3 [65]) 1000 [] = .protocol 7 3 [65] ∧
    wrapTypeId (.protocol 7 3 [65]) = some 3 := by decide +kernel
-- a cause-less exception matches none of the source's errors
example : isObserved (.pe 2) = [] ∧ isObserved (.wrap .eof) = [.eof] ∧ isObserved (.wrap (.src 9)) = [.src 9] := by
  decide +kernel
-- end to end on a concrete reader: the source fails with error 7 after 3 bytes
example : ∃ se, brRead .i32 (Rd.newDefault ⟨[1, 2, 3], [⟨3, some (.src 7)⟩]⟩) = .err (.wrap se) ∧
    errorsIs ((TErr.wrap se).toErr goSrc 1000 []) (goSrc (.src 7)) = true := ⟨.src 7, by decide +kernel, by decide +kernel⟩

end Verif.C17
