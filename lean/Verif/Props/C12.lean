/-
  Props/C12 — Message envelope round-trips; strict version; exceptions surface as errors.
  Property theorems only; helper lemmas are in Lemmas/Wire*.lean.
    spec  : `enc (.messageBegin name typ seq)` (Spec/Wire.lean): first word 0x8001_0000 + (typ mod 2^16),
            4-byte name length, name, 4-byte seq
    model : `write/append/bwWrite` on `.messageBegin`, `binReadMessageBegin`, `brReadMessageBegin`
            (Model/Wire.lean), `marshalFastMsg`, `unmarshalFastMsg`, ApplicationException's codec
            (Model/WireMsg.lean); the payload struct is an abstract FastCodec `C` satisfying `CodecOK`.
-/
import Verif.Lemmas.WireRd
import Verif.Lemmas.WireMsg
import Verif.Lemmas.WireTotal
import Verif.Lemmas.WireMsgAny
namespace Verif.C12
open Verif.Wire

/-- MessageBeginLength(name) is the length of the encoded header -/
theorem msgbegin_length (name : Bytes) (typ seq : Int) :
    lenMessageBegin name = (enc (.messageBegin name typ seq)).length := by
  simp [enc, u32, lenMessageBegin]; omega

/-- for every name shorter than 2^31 bytes, every int32 message type and seq
    (`inI32 typ`, `inI32 seq` are exactly the ranges of the Go parameters `typeID TMessageType` = int32
    and `seq int32`: nothing else is representable at the call; `name.length < 2^31` is the writers'
    length limit — they emit `uint32(len(name))` and the readers take it back as an int32; what
    happens beyond is `msgbegin_rejects_long_name`):
    the three writers emit the same bytes `enc (.messageBegin name typ seq)`, and both readers read
    them back as the same name, `typ mod 2^16` (= `typ & 0xffff`), the same seq, consuming exactly
    MessageBeginLength(name) bytes. The stream reader is stated over the cursor contract
    (Spec/WireCursor), i.e. for every reader state / source script that can deliver the header. -/
theorem msgbegin_roundtrip (name : Bytes) (typ seq : Int) (hn : name.length < 2^31)
    (ht : inI32 typ) (hs : inI32 seq) :
    let m := Val.messageBegin name typ seq
    (∀ buf : Bytes, (enc m).length ≤ buf.length →
        write buf 0 m = .ok (enc m ++ buf.drop (enc m).length, lenMessageBegin name)) ∧
    (∀ buf : Bytes, Wire.append buf m = buf ++ enc m) ∧
    (∀ (w : WLog) (d : Nat → UInt8), w.err = none →
        ∃ w', bwWrite w d m = .ok w' ∧ w'.bytes = w.bytes ++ enc m) ∧
    (∀ rest : Bytes, binReadMessageBegin (enc m ++ rest) =
        .ok (name, (msgType16 typ : Int), seq, lenMessageBegin name)) ∧
    (∀ (rem : Rd → Bytes) (live : Rd → Nat → Prop), Cursor rem live → ∀ (r : Rd) (rest : Bytes),
        rem r = enc m ++ rest → live r (enc m).length →
        ∃ r', brReadMessageBegin r = .ok ((name, (msgType16 typ : Int), seq), r') ∧ rem r' = rest ∧
              r'.readLen = r.readLen + lenMessageBegin name) := by
  intro m
  have ha : m.args := ⟨ht, hs⟩
  have hn' : name.length < 2147483648 := by simpa using hn
  have he := enc_eq_encM m ha
  have hlen : (encM m).length = lenMessageBegin name := by simp [m, encM, lenMessageBegin]; omega
  refine ⟨?_, ?_, ?_, ?_, ?_⟩
  · intro buf h
    rw [he] at h ⊢
    rw [write_encM buf 0 m (by omega), putAt_zero, hlen]
  · intro buf; rw [he, append_encM]
  · intro w d h
    exact ⟨_, bwWrite_encM w d m h, by simp [WLog.bytes, itemsOf_bytes, he]⟩
  · intro rest
    rw [he]
    have := binReadMessageBegin_enc name rest typ seq hn hs
    simp only [m, encM, lenMessageBegin]
    rw [this]; congr 4; omega
  · intro rem live C r rest hrem hl
    rw [he] at hrem hl
    obtain ⟨r', h1, h2, h3⟩ := brReadMessageBegin_ok C r name rest typ seq hn' hs (by simpa [m, encM] using hrem)
      (by rw [hlen] at hl; unfold lenMessageBegin at hl
          have e : 12 + name.length = 4 + (4 + name.length) + 4 := by omega
          rw [e]; exact hl)
    refine ⟨r', h1, h2, ?_⟩
    unfold lenMessageBegin; omega

/-- the stream-reader part of `msgbegin_roundtrip` on the reader model itself (no contract assumed):
    every reader state satisfying the representation invariant whose remaining stream starts with the
    header and that can still deliver it (`Live`), under every source script -/
theorem msgbegin_stream_live (name : Bytes) (typ seq : Int) (hn : name.length < 2^31)
    (ht : inI32 typ) (hs : inI32 seq) (r : Rd) (rest : Bytes) (hI : RInv r)
    (hrem : remaining r = enc (.messageBegin name typ seq) ++ rest)
    (hl : Live r (enc (.messageBegin name typ seq)).length) :
    ∃ r', brReadMessageBegin r = .ok ((name, (msgType16 typ : Int), seq), r') ∧ remaining r' = rest ∧
          r'.readLen = r.readLen + lenMessageBegin name :=
  (msgbegin_roundtrip name typ seq hn ht hs).2.2.2.2 remaining _ liveCursor r rest hrem ⟨hI, hl⟩

/-- bad_version_iff (buffer reader): given at least 4 bytes, ReadMessageBegin fails with BAD_VERSION
    (type id 4) exactly when the first word's upper half is not the strict-version marker 0x8001 -/
theorem bad_version_iff (b : Bytes) (h : 4 ≤ b.length) :
    (∃ l, binReadMessageBegin b = .err (.pe 4, l)) ↔ rd32 b / 65536 ≠ 0x8001 := by
  rw [binReadMessageBegin_char]
  constructor
  · rintro ⟨l, hl⟩
    by_cases hb : 4 ≤ b.length ∧ rd32 b / 65536 ≠ 0x8001
    · exact hb.2
    · by_cases hok : rd32 b / 65536 = 0x8001 ∧ rd32 (b.drop 4) < 2147483648 ∧ 12 + rd32 (b.drop 4) ≤ b.length
      · rw [if_pos hok] at hl; cases hl
      · rw [if_neg hok, if_neg hb, errShort_id] at hl; simp at hl
  · intro hv
    exact ⟨0, by rw [if_neg (fun c => hv c.1), if_pos ⟨h, hv⟩, errBadVersion_id]⟩

/-- bad_version_iff (stream reader): on a state that can deliver 4 bytes `w`, ReadMessageBegin fails
    with BAD_VERSION exactly when `w`'s upper half is not 0x8001 (it never fails that way otherwise) -/
theorem bad_version_iff_stream {rem : Rd → Bytes} {live : Rd → Nat → Prop} (C : Cursor rem live)
    (r : Rd) (w : Nat) (hw : w < 4294967296) (rest : Bytes) (hrem : rem r = be32 w ++ rest) (hl : live r 4) :
    brReadMessageBegin r = .err (.pe 4) ↔ w / 65536 ≠ 0x8001 := by
  obtain ⟨r1, h1, _, _, _⟩ := brReadI32_ok C r w hw rest hrem hl
  have hv := ver_test w hw
  unfold brReadMessageBegin
  simp only [h1, Out.bind_eq, Out.bind_ok, ofInt32_toI32 w hw]
  constructor
  · intro h
    by_cases hb : w &&& Facts.msgVersionMask ≠ Facts.msgVersion1
    · exact hv.mp hb
    · rw [if_neg hb] at h
      exfalso
      rcases errIn_brMsgTail r1 _ _ h with ⟨se, hse⟩ | hneg
      · cases hse
      · rw [errNeg_id] at hneg; cases hneg
  · intro h
    rw [if_pos (hv.mpr h), errBadVersion_id]

/-- every strict prefix of an encoded header is rejected by the buffer reader
    (with INVALID_DATA and l = 0) -/
theorem truncated_err (name : Bytes) (typ seq : Int) (hn : name.length < 2^31) (ht : inI32 typ) (hs : inI32 seq)
    (p : Bytes) (hp : p <+: enc (.messageBegin name typ seq)) (hne : p ≠ enc (.messageBegin name typ seq)) :
    binReadMessageBegin p = .err (.pe 1, 0) := by
  have hn' : name.length < 2147483648 := by simpa using hn
  rw [enc_eq_encM _ (show (Val.messageBegin name typ seq).args from ⟨ht, hs⟩)] at hp hne
  have hlen : (encM (.messageBegin name typ seq)).length = 12 + name.length := by simp [encM]; omega
  have hk : p.length < 12 + name.length := by
    rw [← hlen]
    rcases Nat.lt_or_ge p.length (encM (.messageBegin name typ seq)).length with h | h
    · exact h
    · exact absurd (hp.eq_of_length_le h) hne
  have hpe : p = (encM (.messageBegin name typ seq)).take p.length := (List.prefix_iff_eq_take.mp hp)
  rw [hpe, ← errShort_id]
  exact msg_prefix_err name typ seq hn' p.length hk

/-- whatever the buffer reader accepts is exactly an encoded header of the domain: the consumed bytes
    are `enc` of the returned name, type and seq (so nothing truncated, version-less or otherwise
    malformed is ever accepted) -/
theorem accepted_exact (b name : Bytes) (typ seq : Int) (l : Nat)
    (h : binReadMessageBegin b = .ok (name, typ, seq, l)) :
    b.take l = enc (.messageBegin name typ seq) ∧ (Val.messageBegin name typ seq).wf :=
  msg_accept_exact b name typ seq l h

/-- stream counterpart of `accepted_exact`: whatever `BufferReader.ReadMessageBegin` accepts — on any
    reader state with the representation invariant, under any source script — is exactly an encoded
    header at the front of the remaining stream: those bytes are `enc` of the returned name, type and
    seq (a value of the domain), exactly they have been consumed, and ReadLen grew by their number -/
theorem stream_accepted_exact (r r' : Rd) (name : Bytes) (typ seq : Int) (hI : RInv r)
    (h : brReadMessageBegin r = .ok ((name, typ, seq), r')) :
    remaining r = enc (.messageBegin name typ seq) ++ remaining r' ∧
    r'.readLen = r.readLen + (enc (.messageBegin name typ seq)).length ∧
    (Val.messageBegin name typ seq).wf := by
  obtain ⟨n, h1, h2, _, h4, _⟩ := brReadMessageBegin_refines r (name, typ, seq) r' hI h
  cases hy : binReadMessageBegin (remaining r) with
  | ok p =>
    rw [hy] at h1; simp at h1
    obtain ⟨⟨e1, e2, e3⟩, e4⟩ := h1
    have := msg_accept_exact (remaining r) name typ seq n (by rw [hy, ← e1, ← e2, ← e3, ← e4])
    rename_i hle _
    refine ⟨by rw [← this.1]; exact h2, ?_, this.2⟩
    rw [← this.1, h4, List.length_take]; omega
  | err e => rw [hy] at h1; simp at h1
  | panic s => rw [hy] at h1; simp at h1
  | oob => rw [hy] at h1; simp at h1

/-- truncated_err (stream reader): if all that is left — buffered bytes and source stream together —
    is a strict prefix of an encoded header, ReadMessageBegin fails with an error, whatever the script
    (it never accepts, never panics); by `Verif.C17.stream_err_wraps`/`stream_err_source` the error
    is the source's own, wrapped -/
theorem truncated_err_stream (name : Bytes) (typ seq : Int) (hn : name.length < 2^31) (ht : inI32 typ)
    (hs : inI32 seq) (r : Rd) (hI : RInv r)
    (hp : remaining r <+: enc (.messageBegin name typ seq)) (hne : remaining r ≠ enc (.messageBegin name typ seq)) :
    ∃ e, brRead .msg r = .err e := by
  rcases brRead_total .msg r hI with ⟨v, r', hok⟩ | herr
  · exfalso
    obtain ⟨n, h1, _⟩ := brRead_refines .msg r v r' hI hok
    have ht' := truncated_err name typ seq hn ht hs (remaining r) hp hne
    simp only [binRead] at h1
    rw [ht'] at h1
    simp [mapOk] at h1
  · exact herr

/-- for a non-empty method, any int32 type that is not EXCEPTION (mod 2^16) and
    any payload codec that writes what it advertises and reads back what it wrote, MarshalFastMsg
    produces header ++ payload and UnmarshalFastMsg of those bytes returns the same method, seq and
    payload struct with a nil error -/
theorem marshal_unmarshal {α : Type} (C : Codec α) (dom : α → Prop) (encP : α → Bytes) (hC : CodecOK C dom encP)
    (dirty : Nat → UInt8) (method : Bytes) (typ seq : Int) (msg target : α)
    (hm : method ≠ []) (hn : method.length < 2^31) (ht : inI32 typ) (hs : inI32 seq)
    (hne : msgType16 typ ≠ 3) (hx : dom msg) :
    ∃ b, marshalFastMsg C dirty method typ seq msg = .ok b ∧
         b = enc (.messageBegin method typ seq) ++ encP msg ∧
         unmarshalFastMsg C b target = .ok ⟨method, seq, none, msg⟩ := by
  have hn' : method.length < 2147483648 := by simpa using hn
  have he := enc_eq_encM (.messageBegin method typ seq) (show (Val.messageBegin method typ seq).args from ⟨ht, hs⟩)
  refine ⟨_, marshal_ok C dom encP hC dirty method typ seq msg hm hx, by rw [he], ?_⟩
  have hexc : Facts.mEXCEPTION = 3 := by decide
  rw [unmarshal_plain C method (encP msg) typ seq target hn' hs (by rw [hexc]; exact hne), hC.read msg target hx]

/-- MarshalFastMsg with an empty method returns its documented error (DESIGN §6.3) -/
theorem marshal_empty_method {α : Type} (C : Codec α) (dirty : Nat → UInt8) (typ seq : Int) (msg : α) :
    marshalFastMsg C dirty [] typ seq msg = .err .methodNotSet := by
  simp [marshalFastMsg]

/-- a message whose type is EXCEPTION (mod 2^16) and whose body is an encoded
    ApplicationException is returned by UnmarshalFastMsg — for any payload codec and any caller
    struct — as an application-exception error carrying the original type id and text, together
    with the method and seq; the caller's struct is returned unchanged. With MarshalFastMsg as the
    producer this is the full round trip. -/
theorem exception_surfaces {α : Type} (C : Codec α) (dirty : Nat → UInt8) (method : Bytes) (typ seq : Int)
    (ex : AppEx) (target : α)
    (hm : method ≠ []) (hn : method.length < 2^31) (hs : inI32 seq)
    (hexc : msgType16 typ = 3) (hx : ex.wf) :
    ∃ b, marshalFastMsg appExCodec dirty method typ seq ex = .ok b ∧
         unmarshalFastMsg C b target = .ok ⟨method, seq, some (.appEx ex.t ex.m), target⟩ := by
  have hn' : method.length < 2147483648 := by simpa using hn
  refine ⟨_, marshal_ok appExCodec AppEx.wf appExEncM appExCodecOK dirty method typ seq ex hm hx, ?_⟩
  have h3 : Facts.mEXCEPTION = 3 := by decide
  exact unmarshal_exception C method typ seq ex target hn' hs (by rw [h3]; exact hexc) hx

/-- beyond the length limit the behaviour is defined and safe: a name of 2^31 … 2^32-1 bytes is written
    with its length as uint32, which the buffer reader sees as a negative int32 and rejects with
    INVALID_DATA (DESIGN §6.5) — it is never read back as a different header. (Lengths ≥ 2^32 wrap the
    4-byte prefix; the statement does not cover them.) -/
theorem msgbegin_rejects_long_name (name rest : Bytes) (typ seq : Int) (ht : inI32 typ) (hs : inI32 seq)
    (h1 : 2^31 ≤ name.length) (h2 : name.length < 2^32) :
    binReadMessageBegin (enc (.messageBegin name typ seq) ++ rest) = .err (.pe 1, 0) := by
  rw [enc_eq_encM _ (show (Val.messageBegin name typ seq).args from ⟨ht, hs⟩), ← errShort_id]
  exact msg_long_name_rejected name rest typ seq (by simpa using h1) (by simpa using h2)

/-- for EVERY byte string `b`, every payload codec and every caller struct `s`:
    if the header of `b` reads as message type EXCEPTION (the 16-bit type field equals 3 — the code
    compares `TMessageType(header & 0xffff) == EXCEPTION`, mirrored at that width), UnmarshalFastMsg
    returns (method, seq) and a non-nil error — the ApplicationException decoded from the body (for any
    body its FastRead accepts, marshalled by this library or not), or the body's decode error — and
    the caller's struct is returned exactly as it was passed (the payload codec is never run). -/
theorem exception_always_error {α : Type} (C : Codec α) (b : Bytes) (s : α) (method : Bytes) (typ seq : Int)
    (i : Nat) (h : binReadMessageBegin b = .ok (method, typ, seq, i)) (ht : typ = 3) :
    ∃ e, unmarshalFastMsg C b s = .ok ⟨method, seq, some e, s⟩ ∧
      ((∃ ex n, appExRead ⟨0, []⟩ (b.drop i) = (ex, .ok n) ∧ e = .appEx ex.t ex.m) ∨
       (∃ ex er, appExRead ⟨0, []⟩ (b.drop i) = (ex, .err er) ∧ e = .t er)) := by
  have h3 : ((Facts.mEXCEPTION : Nat) : Int) = 3 := by decide
  have h0 : Facts.aeUNKNOWN = 0 := by decide
  have := unmarshal_exception_any C b s method typ seq i h (by rw [h3]; exact ht)
  rwa [h0] at this

/-- for EVERY byte string whose header reads with a type other than
    EXCEPTION (CALL = 1, REPLY = 2, ONEWAY = 4, and every other value of the 16-bit field), the outcome
    is exactly that of the caller's own `FastRead` on the bytes after the header: nil error and the
    struct as FastRead left it, or FastRead's error — never an application exception, and
    ApplicationException.FastRead is not run -/
theorem non_exception_never_exception_path {α : Type} (C : Codec α) (b : Bytes) (s : α) (method : Bytes)
    (typ seq : Int) (i : Nat) (h : binReadMessageBegin b = .ok (method, typ, seq, i)) (ht : typ ≠ 3) :
    unmarshalFastMsg C b s =
      match (C.read s (b.drop i)).2 with
      | .ok _ => .ok ⟨method, seq, none, (C.read s (b.drop i)).1⟩
      | .err e => .ok ⟨method, seq, some (.t e), (C.read s (b.drop i)).1⟩
      | .panic p => .panic p
      | .oob => .oob := by
  have h3 : ((Facts.mEXCEPTION : Nat) : Int) = 3 := by decide
  have hi := msgbegin_ok_le b _ h
  exact unmarshal_plain_gen C b s method typ seq i h (by simpa using hi) (by rw [h3]; exact ht)

/-- the type the header check sees is the low 16 bits of the first word: CALL, REPLY and ONEWAY headers
    never take the exception path, whatever follows -/
theorem call_reply_oneway_not_exception (b method : Bytes) (typ seq : Int) (i : Nat)
    (h : binReadMessageBegin b = .ok (method, typ, seq, i)) :
    typ = ((rd32 b % 65536 : Nat) : Int) ∧ (rd32 b % 65536 = 1 ∨ rd32 b % 65536 = 2 ∨ rd32 b % 65536 = 4 → typ ≠ 3) := by
  obtain ⟨_, _, _, _, rfl, _, _⟩ := binReadMessageBegin_inv b method typ seq i h
  exact ⟨rfl, fun hc => by omega⟩

/-- the complement of `marshal_unmarshal` (so the round trip is stated for
    every int32 type): for typ mod 2^16 = EXCEPTION, marshalling an ApplicationException `(t, m)` gives
    header ++ its Thrift struct encoding, and unmarshalling those bytes — into any codec / any caller
    struct — returns the same method and seq and the error carrying exactly `(t, m)`; the caller's struct
    is unchanged -/
theorem marshal_unmarshal_exception {α : Type} (C : Codec α) (dirty : Nat → UInt8) (method : Bytes) (typ seq : Int)
    (ex : AppEx) (target : α) (hm : method ≠ []) (hn : method.length < 2^31) (ht : inI32 typ) (hs : inI32 seq)
    (hexc : msgType16 typ = 3) (hx : ex.wf) :
    ∃ b, marshalFastMsg appExCodec dirty method typ seq ex = .ok b ∧
         b = enc (.messageBegin method typ seq) ++
             (enc (.fieldBegin 11 1) ++ enc (.str ex.m) ++ enc (.fieldBegin 8 2) ++ enc (.i32 ex.t) ++ enc .fieldStop) ∧
         unmarshalFastMsg C b target = .ok ⟨method, seq, some (.appEx ex.t ex.m), target⟩ := by
  have hn' : method.length < 2147483648 := by simpa using hn
  have h3 : Facts.mEXCEPTION = 3 := by decide
  refine ⟨_, marshal_ok appExCodec AppEx.wf appExEncM appExCodecOK dirty method typ seq ex hm hx, ?_, ?_⟩
  · rw [enc_eq_encM _ (show (Val.messageBegin method typ seq).args from ⟨ht, hs⟩), appExEncM_eq_enc ex hx.2]
  · exact unmarshal_exception C method typ seq ex target hn' hs (by rw [h3]; exact hexc) hx

/-! ## non-vacuity -/

/-- a ONEWAY header followed by an exception-shaped body: hypotheses of `non_exception_never_exception_path` -/
example : ∃ m t s i, binReadMessageBegin [0x80, 0x01, 0, 4, 0, 0, 0, 1, 0x66, 0, 0, 0, 7, 11, 0, 1, 0, 0, 0, 0, 0] = .ok (m, t, s, i)
    ∧ t ≠ 3 := ⟨[0x66], 4, 7, 13, by decide +kernel, by decide⟩
/-- an EXCEPTION header with a body that is NOT a marshalled exception (unknown field first): hypotheses
    of `exception_always_error` -/
example : ∃ m t s i, binReadMessageBegin [0x80, 0x01, 0, 3, 0, 0, 0, 0, 0, 0, 0, 9, 2, 0, 5, 1, 0] = .ok (m, t, s, i)
    ∧ t = 3 := ⟨[], 3, 9, 12, by decide +kernel, by decide⟩
example : (2:Nat)^31 ≤ 2147483648 ∧ 2147483648 < (2:Nat)^32 := by decide

/-- ApplicationException's own FastCodec satisfies the codec hypotheses of `marshal_unmarshal` -/
example : CodecOK appExCodec AppEx.wf appExEncM := appExCodecOK

example : (⟨6, [0x62, 0x6f]⟩ : AppEx).wf := ⟨by decide, by decide⟩
example : msgType16 1 ≠ 3 ∧ msgType16 65539 = 3 ∧ msgType16 (-65533) = 3 ∧ inI32 (-65533) := by decide
example : 4 ≤ ([0x80, 0x02, 0, 1, 0, 0, 0, 0, 0, 0, 0, 0] : Bytes).length ∧
    rd32 [0x80, 0x02, 0, 1, 0, 0, 0, 0, 0, 0, 0, 0] / 65536 ≠ 0x8001 := by decide
example : ([0x66] : Bytes).length < 2^31 ∧ inI32 65537 ∧ inI32 (-1) ∧ ([0x66] : Bytes) ≠ [] := by decide
example : [0x80, 0x01, 0, 1, 0] <+: enc (.messageBegin [0x66] 1 7) := by decide

end Verif.C12
