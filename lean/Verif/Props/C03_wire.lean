/-
  Props/C03_wire — C03 (decoders never panic or over-report on arbitrary bytes), the part about the
  12 scalar/header buffer readers and ReadMessageBegin. Property theorems only.
-/
import Verif.Lemmas.WireR
import Verif.Lemmas.WireMsgSafe
namespace Verif.C03
open Verif.Wire

/-- for every reader kind and EVERY byte string: `Binary.Read<kind>(b)` does not panic, makes no
    out-of-bounds load, and whenever it reports success the consumed length is at most `len(b)` -/
theorem wire_read_safe (k : Kind) (b : Bytes) :
    (∀ s, binRead k b ≠ .panic s) ∧ binRead k b ≠ .oob ∧
    (∀ v n, binRead k b = .ok (v, n) → n ≤ b.length) := by
  have h := binRead_sound k b
  refine ⟨?_, ?_, ?_⟩
  · intro s hs; rw [hs] at h; exact h
  · intro hs; rw [hs] at h; exact h
  · intro v n hs; rw [hs] at h; exact h

/-- also the length returned beside an error (0, or 4 by ReadBinary/ReadString on a short body) never
    exceeds `len(b)` -/
theorem wire_read_err_len (k : Kind) (b : Bytes) (e : TErr) (l : Nat) (h : binRead k b = .err (e, l)) :
    l ≤ b.length := by
  have hs := binRead_sound k b
  rw [h] at hs; exact hs

/-- ReadMessageBegin in particular (its own entry of the statement) -/
theorem wire_msgbegin_safe (b : Bytes) :
    (∀ s, binReadMessageBegin b ≠ .panic s) ∧ binReadMessageBegin b ≠ .oob ∧
    (∀ r, binReadMessageBegin b = .ok r → r.2.2.2 ≤ b.length) := by
  have h := outcome_msg b
  refine ⟨?_, ?_, ?_⟩
  · intro s hs; rw [hs] at h; exact h
  · intro hs; rw [hs] at h; exact h
  · intro r hs; rw [hs] at h; exact h

/-- generic message unmarshal: `UnmarshalFastMsg(b, msg)` with an ApplicationException as the caller's
    struct returns normally on EVERY byte string and every previous content of the struct — no index
    or slice panic (`b[i:]`, the FastRead loops), no out-of-bounds load inside Skip, loop fuel never
    exhausted. (No length is reported by this entry point; inside it every offset stays ≤ len(b):
    `appExReadLoop_safe`.) -/
theorem wire_unmarshal_safe (b : Bytes) (msg : AppEx) :
    ∃ u, unmarshalFastMsg appExCodec b msg = .ok u :=
  unmarshal_safe appExCodec (fun t b => by rw [appExCodec_read]; exact appExRead_safe t b) b msg

/-- the same in the vocabulary of the other C03 theorems -/
theorem wire_unmarshal_no_panic (b : Bytes) (msg : AppEx) : (unmarshalFastMsg appExCodec b msg).Safe := by
  obtain ⟨u, h⟩ := wire_unmarshal_safe b msg
  simp [Out.Safe, h]

/-- for ANY payload codec whose FastRead returns normally with an offset inside its input (the fc
    family proves this for Base / BaseResp), UnmarshalFastMsg returns normally on every byte string -/
theorem wire_unmarshal_safe_codec {α : Type} (C : Codec α)
    (hC : ∀ t b, (∃ n, (C.read t b).2 = .ok n ∧ n ≤ b.length) ∨ (∃ e, (C.read t b).2 = .err e))
    (b : Bytes) (msg : α) : ∃ u, unmarshalFastMsg C b msg = .ok u :=
  unmarshal_safe C hC b msg

/-! non-vacuity: the statement is about every input; two inputs that exercise an error and a success -/
example : binRead .str [0, 0, 0, 5, 0x68] = .err (.pe 1, 4) := by decide
example : binRead .map [11, 8, 0xff, 0xff, 0xff, 0xff] = .ok (.mapBegin 11 8 4294967295, 6) := by decide

end Verif.C03
