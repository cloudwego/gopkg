/-
  Props/C02 — Skip consumes exactly one well-formed value, on every skipper: Binary.Skip, the skip
  decoders, BufferReader.Skip, and the tie to the skip driver's verdict.
-/
import Verif.Lemmas.SkipBinCor
import Verif.Lemmas.SkipTplBytes
import Verif.Lemmas.SkipBRInst
import Verif.Lemmas.SkipBRBytes
import Verif.Lemmas.SkipTplBufiox
import Verif.Lemmas.SkipTplReader
import Verif.Lemmas.SkipBenign
import Verif.Lemmas.SkipTplDemand
namespace Verif.C02

/-- For every well-formed encoded value `v` of any type (nesting ≤ 64, i.e. up to 63 container
    levels) followed by arbitrary further bytes, Binary.Skip reports exactly the encoded length. -/
theorem skipBin_exact (v rest : Bytes) (t : UInt8) (h : refLen 64 t v = some v.length) :
    skipBin (v ++ rest) t = .ok v.length := by
  rw [skipBin_ok_iff, defaultRecursionDepth_eq]
  exact refLen_le_refBin 64 t _ _ (refLen_append h rest)

/-- the value of the examples: map<i32,string>{7:"A"} -/
theorem exMap_wf : refLen 64 TT.MAP [8, 11, 0,0,0,1, 0,0,0,7, 0,0,0,1, 65] = some 15 := by decide

/-- non-vacuity: map<i32,string>{7:"A"} followed by two bytes -/
example : refLen 64 TT.MAP [8, 11, 0,0,0,1, 0,0,0,7, 0,0,0,1, 65] = some 15 := exMap_wf
example : skipBin ([8, 11, 0,0,0,1, 0,0,0,7, 0,0,0,1, 65] ++ [1, 2]) TT.MAP = .ok 15 :=
  skipBin_exact [8, 11, 0,0,0,1, 0,0,0,7, 0,0,0,1, 65] [1, 2] TT.MAP exMap_wf

/-- BytesSkipDecoder.Next: for every well-formed value `v` (nesting ≤ 64) followed by arbitrary bytes,
    the decoder returns exactly the bytes of `v` and keeps exactly `rest`. -/
theorem bytesDec_exact (v rest : Bytes) (t : UInt8) (h : refLen 64 t v = some v.length) :
    bytesDecNext ⟨v ++ rest, 0⟩ t = .ok (v, ⟨rest, 0⟩) := by
  have h1 := refLen_le_refTpl 64 t _ _ (refLen_append h rest)
  have h2 := bytesDecNext_exact (v ++ rest) t
  rw [defaultRecursionDepth_eq, h1] at h2
  simpa using h2

example : bytesDecNext ⟨[8, 11, 0,0,0,1, 0,0,0,7, 0,0,0,1, 65] ++ [1, 2], 0⟩ TT.MAP
    = .ok ([8, 11, 0,0,0,1, 0,0,0,7, 0,0,0,1, 65], ⟨[1, 2], 0⟩) :=
  bytesDec_exact _ _ _ exMap_wf

/-! ## the three stream skippers

  Reader hypotheses (all from C04, Lemmas/Reader*.lean, restated in Lemmas/SkipBRInst.lean):
    `RdOK r`  = C04's invariant `Inv r` ∧ `ri + |remaining r| ≤ 2^40`            (sizes in range)
    `r.Live`  = the source's stream is exhausted, or no error has been seen and the rest of the
                script is `Steady` (error-free until the last byte is out — the last byte may
                arrive together with an error such as io.EOF —, zero-byte reads in runs shorter
                than the empty-read limit, every other entry ≥ 1 byte): ANY fragmentation.
    `remaining r` = buffered-unread ++ unread source stream (what the reader still owes).
  Plain io.Reader: `Delivers script |stream|` (Lemmas/SkipTplReader.lean): all bytes come out before any
  error, except that the very last byte may arrive together with one; implied by `Steady`. -/

/-- BufferReader.Skip on a bytes-backed reader (`NewBytesReader(buf)`, any capacity ≥ len): for every
    well-formed value `v` (nesting ≤ 64) followed by arbitrary bytes it succeeds, the reader then
    owes exactly `rest`, and ReadLen is exactly the encoded length.  No size hypothesis. -/
theorem skipBR_exact_bytes (v rest : Bytes) (t : UInt8) (cap : Nat) (hcap : (v ++ rest).length ≤ cap)
    (h : refLen 64 t v = some v.length) :
    ∃ r', skipBR t (Rd.newBytes (v ++ rest) cap) = .ok ((), r') ∧ r'.remaining = rest ∧
      r'.readLen = v.length := by
  have h2 := skipBR_newBytes (v ++ rest) cap t hcap
  rw [refLen_le_refBR 64 t _ _ (refLen_append h rest)] at h2
  obtain ⟨r', hx, hrem, hlen⟩ := h2
  exact ⟨r', hx, by rw [hrem, List.drop_left], hlen⟩

/-- BufferReader.Skip on the buffered reader in ANY reachable state over ANY live source (any
    fragmentation of the stream, final data together with io.EOF included): if what the reader still
    owes starts with a well-formed value `v` (nesting ≤ 64), Skip succeeds, consumes exactly `v`
    (the reader then owes exactly `rest`), ReadLen grows by exactly `|v|`; the state stays good and
    live, so the statement applies to the next value again. -/
theorem skipBR_exact_stream (r : Rd) (v rest : Bytes) (t : UInt8) (hok : RdOK r) (hl : r.Live)
    (hrem : r.remaining = v ++ rest) (h : refLen 64 t v = some v.length) :
    ∃ r', skipBR t r = .ok ((), r') ∧ r'.remaining = rest ∧ r'.readLen = r.readLen + v.length ∧
      RdOK r' ∧ r'.Live :=
  skipBR_exactL liveLike_live r v rest t hok hl hrem h

/-- … in particular for a fresh `NewDefaultReader(src)` over every stream `v ++ rest` (≤ 2^40 bytes)
    and every `Steady` script -/
theorem skipBR_exact_fresh (v rest : Bytes) (script : List Resp) (t : UInt8)
    (hsz : (v ++ rest).length ≤ sizeBound)
    (hst : Steady Facts.maxConsecutiveEmptyReads script (v ++ rest).length 0 = true)
    (h : refLen 64 t v = some v.length) :
    ∃ r', skipBR t (Rd.newDefault ⟨v ++ rest, script⟩) = .ok ((), r') ∧ r'.remaining = rest ∧
      r'.readLen = v.length := by
  obtain ⟨r', hx, hrem, hlen, _⟩ := skipBR_exact_stream (Rd.newDefault ⟨v ++ rest, script⟩) v rest t
    (newDefault_ok _ _ hsz) (live_newDefault _ _ hst) (newDefault_remaining _ _).1 h
  exact ⟨r', hx, hrem, by simpa [Rd.readLen, Rd.newDefault] using hlen⟩

/-- … and over C04's generalised live sources `Rd.Live2` (`Live`, or a chunked script — chunks of ANY
    size, an error only together with the last chunk — over a stream that fits the first buffer) -/
theorem skipBR_exact_stream_live2 (r : Rd) (v rest : Bytes) (t : UInt8) (hok : RdOK r) (hl : r.Live2)
    (hrem : r.remaining = v ++ rest) (h : refLen 64 t v = some v.length) :
    ∃ r', skipBR t r = .ok ((), r') ∧ r'.remaining = rest ∧ r'.readLen = r.readLen + v.length ∧
      RdOK r' ∧ r'.Live2 :=
  skipBR_exactL liveLike_live2 r v rest t hok hl hrem h

/-- fresh `NewDefaultReader(src)` over a `SteadyChunks` script (e.g. ⟨4,nil⟩,⟨5,io.EOF⟩ for 9 bytes) -/
theorem skipBR_exact_fresh_chunks (v rest : Bytes) (script : List Resp) (t : UInt8)
    (hst : SteadyChunks Facts.defaultBufSize script (v ++ rest).length = true)
    (h : refLen 64 t v = some v.length) :
    ∃ r', skipBR t (Rd.newDefault ⟨v ++ rest, script⟩) = .ok ((), r') ∧ r'.remaining = rest ∧
      r'.readLen = v.length := by
  have hsz : (v ++ rest).length ≤ sizeBound := by
    simp only [SteadyChunks, Bool.and_eq_true, decide_eq_true_eq] at hst
    have := hst.1.1
    have hB : Facts.defaultBufSize ≤ sizeBound := by decide
    omega
  obtain ⟨r', hx, hrem, hlen, _⟩ := skipBR_exact_stream_live2 (Rd.newDefault ⟨v ++ rest, script⟩) v rest t
    (newDefault_ok _ _ hsz) (live2_newDefault_chunks _ _ hst) (newDefault_remaining _ _).1 h
  exact ⟨r', hx, hrem, by simpa [Rd.readLen, Rd.newDefault] using hlen⟩

/-- SkipDecoder (over bufiox.Reader) on a bytes-backed reader: returns exactly the bytes of `v`, the
    reader then owes exactly `rest`, ReadLen = |v|.  No size hypothesis. -/
theorem bufioxDec_exact_bytes (v rest : Bytes) (t : UInt8) (cap : Nat) (hcap : (v ++ rest).length ≤ cap)
    (h : refLen 64 t v = some v.length) :
    ∃ r', bufioxDecNext (Rd.newBytes (v ++ rest) cap) t = .ok (v, r') ∧ r'.remaining = rest ∧
      r'.readLen = v.length := by
  have h1 := refLen_le_refTpl 64 t _ _ (refLen_append h rest)
  have h2 := bufioxDecNext_dry (Rd.newBytes (v ++ rest) cap) t (newBytes_dry _ _)
  obtain ⟨hr, hri⟩ := newBytes_remaining (v ++ rest) cap hcap
  rw [hr, defaultRecursionDepth_eq, h1] at h2
  obtain ⟨r', hx, hrem, hlen, _⟩ := h2
  exact ⟨r', by rw [hx, List.take_left], by rw [hrem, List.drop_left], by rw [hlen, Rd.readLen, hri, Nat.zero_add]⟩

/-- SkipDecoder (over bufiox.Reader) in any reachable reader state over any live source: returns
    exactly `v` (the Peek-accumulated window), consumes exactly `v`, ReadLen += |v| -/
theorem bufioxDec_exact_stream (r : Rd) (v rest : Bytes) (t : UInt8) (hok : RdOK r) (hl : r.Live)
    (hrem : r.remaining = v ++ rest) (h : refLen 64 t v = some v.length) :
    ∃ r', bufioxDecNext r t = .ok (v, r') ∧ r'.remaining = rest ∧
      r'.readLen = r.readLen + v.length ∧ RdOK r' ∧ r'.Live := by
  have h1 := refLen_le_refTpl 64 t _ _ (refLen_append h rest)
  have h2 := bufioxDecNext_exact r t hok hl
  rw [hrem, defaultRecursionDepth_eq, h1] at h2
  obtain ⟨r', hx, hrem', hlen, hok', hl'⟩ := h2
  exact ⟨r', by rw [hx, List.take_left], by rw [hrem', List.drop_left], hlen, hok', hl'⟩

theorem bufioxDec_exact_stream_live2 (r : Rd) (v rest : Bytes) (t : UInt8) (hok : RdOK r) (hl : r.Live2)
    (hrem : r.remaining = v ++ rest) (h : refLen 64 t v = some v.length) :
    ∃ r', bufioxDecNext r t = .ok (v, r') ∧ r'.remaining = rest ∧
      r'.readLen = r.readLen + v.length ∧ RdOK r' ∧ r'.Live2 := by
  have h1 := refLen_le_refTpl 64 t _ _ (refLen_append h rest)
  have h2 := bufioxDecNext_exact2 r t hok hl
  rw [hrem, defaultRecursionDepth_eq, h1] at h2
  obtain ⟨r', hx, hrem', hlen, hok', hl'⟩ := h2
  exact ⟨r', by rw [hx, List.take_left], by rw [hrem', List.drop_left], hlen, hok', hl'⟩

/-- ReaderSkipDecoder over a plain io.Reader: for EVERY script that delivers the stream (any
    fragmentation: 1-byte reads, short reads, zero-byte reads; the last byte of the stream may
    arrive together with io.EOF or any other error) the decoder returns exactly `v`, and the
    source has been read exactly `|v|` bytes: its unread stream is exactly `rest` — nothing beyond
    the value is consumed.  The source still delivers, so the statement applies again. -/
theorem readerDec_exact (src : Src) (v rest : Bytes) (t : UInt8)
    (hd : Delivers src.script src.stream.length = true) (hs : src.stream = v ++ rest)
    (h : refLen 64 t v = some v.length) :
    ∃ src', readerDecNext src t = .ok (v, src') ∧ src'.stream = rest ∧
      Delivers src'.script src'.stream.length = true := by
  have h1 := refLen_le_refTpl 64 t _ _ (refLen_append h rest)
  have h2 := readerDecNext_exact src t hd
  rw [hs, defaultRecursionDepth_eq, h1] at h2
  obtain ⟨src', hx, hrem, hd'⟩ := h2
  exact ⟨src', by rw [hx, List.take_left], by rw [hrem, List.drop_left], hd'⟩

/-- C04's `Steady` scripts deliver (so every fragmentation allowed for the buffered reader is
    allowed for the plain reader too) -/
theorem steady_delivers (script : List Resp) (slen z : Nat)
    (h : Steady Facts.maxConsecutiveEmptyReads script slen z = true) : Delivers script slen = true :=
  Verif.steady_delivers _ script slen z h

/-- TIE to the Tie-B verdict: the liveness predicate the skip driver uses to demand success on valid
    values (`benign`, lean/Drv/Skip.lean) implies the hypotheses of the theorems above — `Steady` for
    the buffered reader and `Delivers` for the plain reader.  So `bad:C02:rejected-valid` never
    demands more than is proved of the model. -/
theorem verdict_live_covered (s : Src) (h : benign s = true) :
    Steady Facts.maxConsecutiveEmptyReads s.script s.stream.length 0 = true ∧
    Delivers s.script s.stream.length = true :=
  ⟨benign_steady s h, benign_delivers s h⟩

/-- ReaderSkipDecoder, REQUEST-AWARE liveness (Spec/SkipDemand.lean): chunks of ANY size, and an error
    may accompany any read whose data completes the decoder's current request (the final chunk
    together with io.EOF in particular).  The decoder reads with exact room, so a scripted read
    hands over `min(entry, missing, left)` bytes; `readerLive t stream script` replays exactly
    that on lengths against the request sizes read off the grammar (`tplTrace`).  Then the decoder
    returns exactly `v` and the source has been read exactly `|v|` bytes. -/
theorem readerDec_exact_demand (src : Src) (v rest : Bytes) (t : UInt8) (hs : src.stream = v ++ rest)
    (h : refLen 64 t v = some v.length) (hl : readerLive t src.stream src.script = true) :
    ∃ src', readerDecNext src t = .ok (v, src') ∧ src'.stream = rest := by
  have h1 := refLen_le_refTpl 64 t _ _ (refLen_append h rest)
  rw [← hs] at h1
  obtain ⟨src', hx, hrem⟩ := readerDecNext_demand src t v.length
    (by rw [defaultRecursionDepth_eq]; exact h1) (by rw [defaultRecursionDepth_eq]; exact hl)
  rw [hs] at hx hrem
  exact ⟨src', by rw [hx, List.take_left], by rw [hrem, List.drop_left]⟩

/-- TIE to the Tie-B verdict, the whole flag: whenever the skip driver's `liveFor` (lean/Drv/Skip.lean:
    `benign`, or `readerLive` for ReaderSkipDecoder, or C04's `SteadyChunks` for the buffered reader)
    holds and the stream starts with a value of nesting ≤ 64, the facility succeeds with the grammar's
    extent — so `bad:C02:rejected-valid` never demands more than is proved of the model. -/
theorem verdict_must_succeed (impl : String) (t : UInt8) (b : Bytes) (s : List Resp) (n : Nat)
    (hsz : b.length ≤ sizeBound) (h : refLen 64 t b = some n) (hl : liveFor impl t b s = true) :
    (impl = "tplreader" → ∃ src', readerDecNext ⟨b, s⟩ t = .ok (b.take n, src') ∧ src'.stream = b.drop n) ∧
    (impl ≠ "tplreader" →
      (∃ r', skipBR t (Rd.newDefault ⟨b, s⟩) = .ok ((), r') ∧ r'.readLen = n) ∧
      (∃ r', bufioxDecNext (Rd.newDefault ⟨b, s⟩) t = .ok (b.take n, r') ∧ r'.readLen = n)) := by
  have hok := newDefault_ok b s hsz
  obtain ⟨hr, hri⟩ := newDefault_remaining b s
  simp only [liveFor, Bool.or_eq_true] at hl
  constructor
  · intro himpl
    rcases hl with hb | hl
    · have hd := benign_delivers ⟨b, s⟩ hb
      have h2 := readerDecNext_exact ⟨b, s⟩ t hd
      rw [defaultRecursionDepth_eq, refLen_le_refTpl 64 t b n h] at h2
      obtain ⟨src', hx, hrem, _⟩ := h2
      exact ⟨src', hx, hrem⟩
    · simp only [himpl, beq_self_eq_true, if_true] at hl
      exact readerDecNext_demand ⟨b, s⟩ t n
        (by rw [defaultRecursionDepth_eq]; exact refLen_le_refTpl 64 t b n h)
        (by rw [defaultRecursionDepth_eq]; exact hl)
  · intro himpl
    have hlive : (Rd.newDefault ⟨b, s⟩).Live2 := by
      rcases hl with hb | hl
      · exact Or.inl (live_newDefault b s (benign_steady ⟨b, s⟩ hb))
      · have : (impl == "tplreader") = false := by simpa using himpl
        simp only [this, Bool.false_eq_true, if_false] at hl
        exact live2_newDefault_chunks b s hl
    obtain ⟨r1, hx1, _, hl1, _⟩ := skipBR_completeL liveLike_live2 _ t n hok hlive (by rw [hr]; exact h)
    have h2 := bufioxDecNext_exact2 _ t hok hlive
    rw [hr, defaultRecursionDepth_eq, refLen_le_refTpl 64 t b n h] at h2
    obtain ⟨r2, hx2, _, hl2, _⟩ := h2
    exact ⟨⟨r1, hx1, by rw [hl1, Rd.readLen, hri, Nat.zero_add]⟩, ⟨r2, hx2, by rw [hl2, Rd.readLen, hri, Nat.zero_add]⟩⟩

/-- the io.EOF-with-final-data clause, spelled out: the value is the whole stream and its last byte
    arrives together with io.EOF — the decoder returns the value, not io.EOF (defect F9) -/
theorem readerDec_exact_data_with_eof (v : Bytes) (x : UInt8) (t : UInt8) (pre : List Resp)
    (hd : Delivers (pre ++ [⟨1, some .eof⟩]) (v ++ [x]).length = true)
    (h : refLen 64 t (v ++ [x]) = some (v ++ [x]).length) :
    ∃ src', readerDecNext ⟨v ++ [x], pre ++ [⟨1, some .eof⟩]⟩ t = .ok (v ++ [x], src') ∧ src'.stream = [] := by
  obtain ⟨src', hx, hrem, _⟩ := readerDec_exact ⟨v ++ [x], pre ++ [⟨1, some .eof⟩]⟩ (v ++ [x]) [] t hd
    (by simp) h
  exact ⟨src', hx, hrem⟩

/-! ### non-vacuity: map<i32,string>{7:"A"} followed by two bytes, delivered byte by byte with
    zero-byte reads in between and the last byte together with io.EOF -/

def exScript : List Resp :=
  [⟨1, none⟩, ⟨0, none⟩, ⟨1, none⟩, ⟨1, none⟩, ⟨1, none⟩, ⟨0, none⟩, ⟨0, none⟩, ⟨1, none⟩, ⟨1, none⟩,
   ⟨1, none⟩, ⟨1, none⟩, ⟨1, none⟩, ⟨1, none⟩, ⟨1, none⟩, ⟨1, none⟩, ⟨1, none⟩, ⟨1, none⟩, ⟨1, none⟩,
   ⟨1, none⟩, ⟨1, some .eof⟩]

theorem exScript_steady : Steady Facts.maxConsecutiveEmptyReads exScript 17 0 = true := by decide

example : Steady Facts.maxConsecutiveEmptyReads exScript 17 0 = true := exScript_steady
example : Delivers exScript 17 = true := by decide
example : benign ⟨[8, 11, 0,0,0,1, 0,0,0,7, 0,0,0,1, 65] ++ [1, 2], exScript⟩ = true := by decide

example : ∃ r', skipBR TT.MAP (Rd.newDefault ⟨[8, 11, 0,0,0,1, 0,0,0,7, 0,0,0,1, 65] ++ [1, 2], exScript⟩)
    = .ok ((), r') ∧ r'.remaining = [1, 2] ∧ r'.readLen = 15 :=
  skipBR_exact_fresh [8, 11, 0,0,0,1, 0,0,0,7, 0,0,0,1, 65] [1, 2] exScript TT.MAP (by decide) exScript_steady
    exMap_wf

example : ∃ r', skipBR TT.MAP (Rd.newBytes ([8, 11, 0,0,0,1, 0,0,0,7, 0,0,0,1, 65] ++ [1, 2]) 17)
    = .ok ((), r') ∧ r'.remaining = [1, 2] ∧ r'.readLen = 15 :=
  skipBR_exact_bytes _ _ _ _ (by decide) exMap_wf

example : ∃ r', bufioxDecNext (Rd.newBytes ([8, 11, 0,0,0,1, 0,0,0,7, 0,0,0,1, 65] ++ [1, 2]) 32) TT.MAP
    = .ok ([8, 11, 0,0,0,1, 0,0,0,7, 0,0,0,1, 65], r') ∧ r'.remaining = [1, 2] ∧ r'.readLen = 15 :=
  bufioxDec_exact_bytes _ _ _ _ (by decide) exMap_wf

example : ∃ src', readerDecNext ⟨[8, 11, 0,0,0,1, 0,0,0,7, 0,0,0,1, 65] ++ [1, 2], exScript⟩ TT.MAP
    = .ok ([8, 11, 0,0,0,1, 0,0,0,7, 0,0,0,1, 65], src') ∧ src'.stream = [1, 2] ∧
      Delivers src'.script src'.stream.length = true :=
  readerDec_exact ⟨_, exScript⟩ _ [1, 2] TT.MAP (C02.steady_delivers _ _ _ exScript_steady) rfl exMap_wf

/-- chunked scripts with the final chunk together with io.EOF: live for the plain reader when the
    chunks line up with the decoder's requests (4 + 5), not when they do not (2 + 7: the second read
    asks for 2 bytes, gets them with io.EOF, and the remaining 5 bytes never arrive) -/
example : readerLive TT.STRING [0,0,0,5, 1,2,3,4,5] [⟨4, none⟩, ⟨5, some .eof⟩] = true := by decide
example : readerLive TT.STRING [0,0,0,5, 1,2,3,4,5] [⟨2, none⟩, ⟨7, some .eof⟩] = false := by decide
example : readerDecNext ⟨[0,0,0,5, 1,2,3,4,5], [⟨2, none⟩, ⟨7, some .eof⟩]⟩ TT.STRING = .err (.raw .eof) := by
  decide
example : ∃ src', readerDecNext ⟨[0,0,0,5, 1,2,3,4,5] ++ [9], [⟨4, none⟩, ⟨5, some .eof⟩]⟩ TT.STRING
    = .ok ([0,0,0,5, 1,2,3,4,5], src') ∧ src'.stream = [9] :=
  readerDec_exact_demand ⟨_, _⟩ _ [9] TT.STRING rfl (by decide) (by decide)
example : ∃ r', skipBR TT.STRING (Rd.newDefault ⟨[0,0,0,5, 1,2,3,4,5] ++ [], [⟨4, none⟩, ⟨5, some .eof⟩]⟩)
    = .ok ((), r') ∧ r'.remaining = [] ∧ r'.readLen = 9 :=
  skipBR_exact_fresh_chunks _ [] _ TT.STRING (by decide) (by decide)

/-- the F9 witness evaluated on the model: STRING "A" whose last byte arrives with io.EOF -/
example : readerDecNext ⟨[0,0,0,1, 65], [⟨4, none⟩, ⟨1, some .eof⟩]⟩ TT.STRING
    = .ok ([0,0,0,1, 65], ⟨[], []⟩) := by decide

/-- BytesSkipDecoder.Next starts from a clean offset whatever an earlier call left behind (defect F16):
    a Next that failed part-way consumes nothing and leaks nothing into the next call -/
theorem bytesDec_offset_irrelevant (b : Bytes) (n : Nat) (t : UInt8) :
    bytesDecNext ⟨b, n⟩ t = bytesDecNext ⟨b, 0⟩ t := rfl

end Verif.C02
