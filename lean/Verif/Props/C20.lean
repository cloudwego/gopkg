/-
  Props/C20 — Zero-copy string/bytes conversions keep content, expose no spare capacity
  (property theorems only).  Thin by nature: the semantics of unsafe.String/Slice/SliceData/
  StringData and of `append` is TRUSTED (written down from the language specification in
  Model/Unsafex); what is proved is what the two one-line functions make of it, for every well-formed
  value incl. nil, empty, sub-slices with spare capacity and substrings, and for every value the
  specification leaves unspecified (`u`).
-/
import Verif.Lemmas.Unsafex
namespace Verif.C20
open Verif.Usx

/-- BinaryToString never panics on a Go slice value, keeps the length, and the result reads the same
    bytes as the argument — in the current heap (content preserved; `b.content h` exists) and in every
    later heap `h'` (no copy was made). Includes nil and empty slices. -/
theorem content_len_preserved_b2s (h : Heap) (b : Slice) (hw : b.WF h) (u : Ptr) :
    ∃ s, binaryToString b u = .ok s ∧ s.len = b.len ∧
      (∃ c, b.content h = some c ∧ s.content h = some c) ∧
      ∀ h' : Heap, s.content h' = b.content h' := by
  have hall : ∀ h' : Heap, (⟨sliceData b u, b.len⟩ : GoStr).content h' = b.content h' := fun h' =>
    read_ptr_congr h' (sliceData_of_ne u hw.1)
  obtain ⟨c, hc⟩ := Slice.content_isSome hw
  exact ⟨_, binaryToString_eq hw u, rfl, ⟨c, hc, (hall h).trans hc⟩, hall⟩

/-- StringToBinary likewise; the result is a well-formed slice. Includes the empty string. -/
theorem content_len_preserved_s2b (h : Heap) (s : GoStr) (hw : s.WF h) (u : Option Ptr) :
    ∃ b, stringToBinary s u = .ok b ∧ b.len = s.len ∧
      (∃ c, s.content h = some c ∧ b.content h = some c) ∧
      ∀ h' : Heap, b.content h' = s.content h' := by
  have hall : ∀ h' : Heap, (⟨stringData s u, s.len, s.len⟩ : Slice).content h' = s.content h' := fun h' =>
    read_ptr_congr h' (stringData_of_ne u)
  obtain ⟨c, hc⟩ := GoStr.content_isSome hw
  exact ⟨_, stringToBinary_eq hw u, rfl, ⟨c, hc, (hall h).trans hc⟩, hall⟩

/-- Both results share memory with their argument: for a non-empty value the data pointer is the
    argument's data pointer (an empty value has no memory to share). -/
theorem shares_memory (h : Heap) :
    (∀ (b : Slice) (u : Ptr) (s : GoStr), b.WF h → binaryToString b u = .ok s → b.len ≠ 0 → s.ptr = b.ptr) ∧
    (∀ (s : GoStr) (u : Option Ptr) (b : Slice), s.WF h → stringToBinary s u = .ok b → s.len ≠ 0 → b.ptr = s.ptr) := by
  constructor
  · intro b u s hw hs hn
    obtain rfl := Out.ok.inj (hs.symm.trans (binaryToString_eq hw u))
    exact sliceData_of_ne u hw.1 hn
  · intro s u b hw hb hn
    obtain rfl := Out.ok.inj (hb.symm.trans (stringToBinary_eq hw u))
    exact stringData_of_ne u hn

/-- The byte slice obtained from a string has capacity equal to its length. -/
theorem cap_eq_len (h : Heap) (s : GoStr) (hw : s.WF h) (u : Option Ptr) (b : Slice)
    (hb : stringToBinary s u = .ok b) : b.cap = b.len ∧ b.len = s.len := by
  obtain rfl := Out.ok.inj (hb.symm.trans (stringToBinary_eq hw u))
  exact ⟨rfl, rfl⟩

/-- Appending to the slice obtained from a string never writes into the string's memory: the append
    succeeds, every object that existed before is unchanged (so the string, and any larger string it
    is a substring of, still read the same), the result holds the string's bytes followed by the
    appended ones, and when at least one byte is appended the result lives in a fresh object. -/
theorem append_never_writes_string (h : Heap) (s : GoStr) (hw : s.WF h) (u : Option Ptr) (b : Slice)
    (hb : stringToBinary s u = .ok b) (xs : Bytes) (extra : Nat) :
    ∃ h' r, append h b xs extra = some (h', r) ∧
      (∀ i, i < h.length → h'[i]? = h[i]?) ∧
      s.content h' = s.content h ∧
      r.content h' = (s.content h).map (· ++ xs) ∧
      (xs ≠ [] → r.ptr = some ⟨h.length, 0⟩) := by
  have hbe := Out.ok.inj (hb.symm.trans (stringToBinary_eq hw u))
  have hl : b.len = s.len := by rw [hbe]
  have hc : b.cap = s.len := by rw [hbe]
  obtain ⟨c, hcs⟩ := GoStr.content_isSome hw
  have hcb : h.read b.ptr b.len = some c := by
    rw [hbe]; exact (read_ptr_congr h (stringData_of_ne u)).trans hcs
  by_cases hx : xs = []
  · subst hx
    refine ⟨h, b, append_nil h extra (by omega), fun _ _ => rfl, rfl, ?_, fun hne => absurd rfl hne⟩
    rw [hcs, Option.map_some, List.append_nil]
    exact hcb
  · have hk : 0 < xs.length := List.length_pos_iff.mpr hx
    have hclen : c.length = b.len := read_length hcb
    refine ⟨_, _, append_grow h (b := b) xs extra (by omega) hcb, fun i hi => List.getElem?_append_left hi, ?_, ?_,
      fun _ => rfl⟩
    · unfold GoStr.content
      by_cases h0 : s.len = 0
      · rw [h0, read_zero, read_zero]
      · obtain ⟨p, hpp, hlt⟩ := GoStr.obj_lt hw h0
        rw [hpp]
        exact read_congr _ (List.getElem?_append_left hlt)
    · rw [hcs, Option.map_some]
      refine (read_new_object h _ (n := b.len + xs.length) (by omega) (by simp only [List.length_append, hclen]; omega)).trans ?_
      rw [List.take_append_of_le_length (by simp only [List.length_append, hclen]; omega),
        List.take_of_length_le (by simp only [List.length_append, hclen]; omega)]

/-- The compiled-out `!go1.21` variant (header reinterpretation) computes the same values: identical
    for non-empty inputs; for empty inputs only the (unspecified) data pointer may differ. -/
theorem variants_agree (h : Heap) :
    (∀ (b : Slice) (u : Ptr) (s : GoStr), b.WF h → binaryToString b u = .ok s →
        s.len = (binaryToString100 b).len ∧ (b.len ≠ 0 → s = binaryToString100 b)) ∧
    (∀ (s : GoStr) (u : Option Ptr) (b : Slice), s.WF h → stringToBinary s u = .ok b →
        b.len = (stringToBinary100 s).len ∧ b.cap = (stringToBinary100 s).cap ∧
        (s.len ≠ 0 → b = stringToBinary100 s)) := by
  constructor
  · intro b u s hw hs
    obtain rfl := Out.ok.inj (hs.symm.trans (binaryToString_eq hw u))
    exact ⟨rfl, fun hn => by rw [sliceData_of_ne u hw.1 hn]; rfl⟩
  · intro s u b hw hb
    obtain rfl := Out.ok.inj (hb.symm.trans (stringToBinary_eq hw u))
    exact ⟨rfl, rfl, fun hn => by rw [stringData_of_ne u hn]; rfl⟩

/-! non-vacuity and contrast -/
example : Slice.WF [[0, 1, 2, 3, 4, 5]] ⟨some ⟨0, 1⟩, 2, 4⟩ := ⟨by decide, [0, 1, 2, 3, 4, 5], rfl, by decide⟩
example : GoStr.WF [[0, 1, 2, 3, 4, 5]] ⟨some ⟨0, 1⟩, 2⟩ := Or.inr ⟨⟨0, 1⟩, [0, 1, 2, 3, 4, 5], rfl, rfl, by decide⟩
example : Slice.WF [] ⟨none, 0, 0⟩ := ⟨by decide, rfl⟩
-- the model's `append` does write in place when there is spare capacity: with cap 4 the byte after
-- the sub-slice is overwritten — which is exactly what cap = len rules out for strings
example : append [[0, 1, 2, 3, 4, 5]] ⟨some ⟨0, 1⟩, 2, 4⟩ [9] 0 =
    some ([[0, 1, 2, 9, 4, 5]], ⟨some ⟨0, 1⟩, 3, 4⟩) := by decide +kernel
example : (stringToBinary ⟨some ⟨0, 1⟩, 2⟩ none) = .ok ⟨some ⟨0, 1⟩, 2, 2⟩ := by decide +kernel
example : append [[0, 1, 2, 3, 4, 5]] ⟨some ⟨0, 1⟩, 2, 2⟩ [9] 1 =
    some ([[0, 1, 2, 3, 4, 5], [1, 2, 9, 0]], ⟨some ⟨1, 0⟩, 3, 4⟩) := by decide +kernel

end Verif.C20
