/-
  Props/C03 — Decoders never panic or over-report on arbitrary bytes (property theorems only).
  This file: the size table and the skippers (Binary.Skip, BufferReader.Skip, the skip decoders).
  The other entry points are in Props/C03_<family>.lean.
-/
import Verif.Lemmas.SkipBinCor
import Verif.Lemmas.SkipBRInst
import Verif.Lemmas.SkipBRBytes
import Verif.Lemmas.SkipTplBufiox
import Verif.Lemmas.SkipTplReader
namespace Verif.C03

/-- The size table the skippers index (regenerated from the source on every run) has an entry for
    every byte, the index expression is unsigned, and each entry is the Thrift fixed size:
    indexing it can never panic, for every type byte including values ≥ 0x80. -/
theorem typeSize_total (t : UInt8) : typeSize t = .ok ((fixedSize t : Nat) : Int) := typeSize_eq t

/-- Binary.Skip on EVERY byte string and EVERY type byte returns a length or an error: it never
    panics and never performs an unsafe load outside the slice (the model makes every pointer
    dereference an explicit `load` that yields `oob` outside the slice, and every table index an
    explicit bounds-checked lookup). -/
theorem skipBin_safe (b : Bytes) (t : UInt8) :
    (∀ s, skipBin b t ≠ .panic s) ∧ skipBin b t ≠ .oob := by
  rcases skipBin_total b t with ⟨n, h⟩ | ⟨e, h⟩ <;> simp [h]

/-- whenever Binary.Skip reports success, the reported length is at most the length of the input -/
theorem skipBin_le (b : Bytes) (t : UInt8) (n : Nat) (h : skipBin b t = .ok n) : n ≤ b.length := by
  rw [skipBin_ok_iff] at h
  exact (refBin_good _ t b n h).2

/-- non-vacuity: the overshoot witness of defect F4 (truncated map<string,i64>) is rejected -/
example : ∃ e, skipBin [0x0b, 0x0a, 0,0,0,1, 0,0,0,0, 0x55] TT.MAP = .err e := by
  rcases skipBin_total [0x0b, 0x0a, 0,0,0,1, 0,0,0,0, 0x55] TT.MAP with ⟨n, h⟩ | h
  · have := skipBin_le _ _ _ h
    rw [skipBin_ok_iff, defaultRecursionDepth_eq] at h
    have h2 := refBin_le_refLen 64 _ _ _ h
    have : refLen 65 TT.MAP [0x0b, 0x0a, 0,0,0,1, 0,0,0,0, 0x55] = none := by decide
    rw [this] at h2; cases h2
  · exact h

/-! ## the stream skippers on bytes-backed readers

  In the models every slice index of the Go code is an explicit `idx`/`u32of` that yields
  `panic "index"` on a short (or nil) slice, the peeked window `buf[rn:]` yields `panic "slice"`,
  a reader that returns `(nil, nil)` hands the caller a nil slice, and a `for {}` loop that does not
  terminate within its fuel yields `panic "nofuel"`.  The theorems say none of these is reachable. -/

/-- BufferReader.Skip over `NewBytesReader(b)` — EVERY byte string, EVERY capacity, EVERY type byte
    (including values ≥ 0x80): a result or an error; never a panic. -/
theorem skipBR_bytes_safe (b : Bytes) (cap : Nat) (t : UInt8) :
    (∀ s, skipBR t (Rd.newBytes b cap) ≠ .panic s) ∧ skipBR t (Rd.newBytes b cap) ≠ .oob := by
  have h2 := skipBR_dry (Rd.newBytes b cap) t (newBytes_dry _ _)
  cases hb : refBR Facts.defaultRecursionDepth t (Rd.newBytes b cap).remaining with
  | none => rw [hb] at h2; obtain ⟨e, he⟩ := h2; simp [he]
  | some n => rw [hb] at h2; obtain ⟨r', hx, _⟩ := h2; simp [hx]

/-- … and whenever it reports success, the consumed length (ReadLen) is at most the input length -/
theorem skipBR_bytes_le (b : Bytes) (cap : Nat) (t : UInt8) (r' : Rd) (hcap : b.length ≤ cap)
    (hx : skipBR t (Rd.newBytes b cap) = .ok ((), r')) : r'.readLen ≤ b.length := by
  have h2 := skipBR_dry (Rd.newBytes b cap) t (newBytes_dry _ _)
  obtain ⟨hr, hri⟩ := newBytes_remaining b cap hcap
  rw [hr] at h2
  cases hb : refBR Facts.defaultRecursionDepth t b with
  | none => rw [hb] at h2; obtain ⟨e, he⟩ := h2; rw [he] at hx; cases hx
  | some n =>
    rw [hb] at h2
    obtain ⟨r1, hy, _, hlen, _⟩ := h2
    rw [hy] at hx
    have : r1 = r' := (Prod.mk.inj (Out.ok.inj hx)).2
    subst this
    have := (refBR_good _ t b n hb).2
    simp only [Rd.readLen, hri] at hlen
    simp only [Rd.readLen]; omega

/-- BufferReader.Skip over the buffered reader in any good state (`RdOK`: C04's invariant, sizes
    ≤ 2^40) over ANY source script — errors anywhere, empty reads, short reads: never a panic. -/
theorem skipBR_stream_safe (r : Rd) (t : UInt8) (hok : RdOK r) :
    (∀ s, skipBR t r ≠ .panic s) ∧ skipBR t r ≠ .oob := by
  rcases skipBR_total_any r t hok with ⟨r', hx⟩ | ⟨e, he⟩
  · simp [hx]
  · simp [he]

/-- SkipDecoder (over bufiox) over `NewBytesReader(b)` — every byte string, capacity, type byte:
    a value or an error; never a panic. -/
theorem bufioxDec_bytes_safe (b : Bytes) (cap : Nat) (t : UInt8) :
    (∀ s, bufioxDecNext (Rd.newBytes b cap) t ≠ .panic s) ∧ bufioxDecNext (Rd.newBytes b cap) t ≠ .oob := by
  have h2 := bufioxDecNext_dry (Rd.newBytes b cap) t (newBytes_dry _ _)
  cases hb : refTpl Facts.defaultRecursionDepth t (Rd.newBytes b cap).remaining with
  | none => rw [hb] at h2; obtain ⟨e, he⟩ := h2; simp [he]
  | some n => rw [hb] at h2; obtain ⟨r', hx, _⟩ := h2; simp [hx]

/-- … and the returned bytes are a prefix of the input (never more than was given) -/
theorem bufioxDec_bytes_le (b : Bytes) (cap : Nat) (t : UInt8) (out : Bytes) (r' : Rd) (hcap : b.length ≤ cap)
    (hx : bufioxDecNext (Rd.newBytes b cap) t = .ok (out, r')) :
    out.length ≤ b.length ∧ out = b.take out.length := by
  have h2 := bufioxDecNext_dry (Rd.newBytes b cap) t (newBytes_dry _ _)
  obtain ⟨hr, _⟩ := newBytes_remaining b cap hcap
  rw [hr] at h2
  cases hb : refTpl Facts.defaultRecursionDepth t b with
  | none => rw [hb] at h2; obtain ⟨e, he⟩ := h2; rw [he] at hx; cases hx
  | some n =>
    rw [hb] at h2
    obtain ⟨r1, hy, _⟩ := h2
    rw [hy] at hx
    have h1 : b.take n = out := (Prod.mk.inj (Out.ok.inj hx)).1
    have hn := (refTpl_good _ t b n hb).2
    have hl : out.length = n := by rw [← h1, List.length_take]; omega
    exact ⟨by omega, by rw [hl, h1]⟩

/-- SkipDecoder (over bufiox) over the buffered reader in any good state over ANY source script:
    never a panic. -/
theorem bufioxDec_stream_safe (r : Rd) (t : UInt8) (hok : RdOK r) :
    (∀ s, bufioxDecNext r t ≠ .panic s) ∧ bufioxDecNext r t ≠ .oob := by
  rcases bufioxDecNext_any r t hok with ⟨e, he⟩ | ⟨n, r1, _, hy, _⟩
  · simp [he]
  · simp [hy]

/-- ReaderSkipDecoder over a plain io.Reader — EVERY byte string, EVERY type byte, EVERY source
    behaviour (any script of short / empty reads and errors; a bytes.Reader in particular): a value
    or an error; never a panic; the read-full loop terminates. -/
theorem readerDec_safe (src : Src) (t : UInt8) :
    (∀ s, readerDecNext src t ≠ .panic s) ∧ readerDecNext src t ≠ .oob := by
  rcases readerDecNext_any src t with ⟨e, he⟩ | ⟨n, s1, _, hy, _⟩
  · simp [he]
  · simp [hy]

/-- … and whenever it reports success, the returned bytes are a prefix of the stream and the
    source has been read exactly that far -/
theorem readerDec_le (src src' : Src) (t : UInt8) (out : Bytes) (hx : readerDecNext src t = .ok (out, src')) :
    out.length ≤ src.stream.length ∧ out = src.stream.take out.length ∧
    src'.stream = src.stream.drop out.length := by
  rcases readerDecNext_any src t with ⟨e, he⟩ | ⟨n, s1, hb, hy, hrem⟩
  · rw [he] at hx; cases hx
  · rw [hy] at hx
    have hinj := Prod.mk.inj (Out.ok.inj hx)
    have hn := (refTpl_good _ t _ n hb).2
    have hl : out.length = n := by rw [← hinj.1, List.length_take]; omega
    rw [hl]
    exact ⟨hn, hinj.1.symm, by rw [← hinj.2]; exact hrem⟩

/-- non-vacuity: type byte 0xff, as the value's type and as a list's element type (defect F3), is an
    error on BufferReader.Skip -/
example : skipBR 0xff (Rd.newBytes [1, 2, 3] 3) = .err errUnknownType := by decide
example : ∃ e, skipBR TT.LIST (Rd.newBytes [0xff, 0, 0, 0, 1, 7] 6) = .err e := by
  have h := skipBR_bytes_safe [0xff, 0, 0, 0, 1, 7] 6 TT.LIST
  have h2 := skipBR_dry (Rd.newBytes [0xff, 0, 0, 0, 1, 7] 6) TT.LIST (newBytes_dry _ _)
  have hr : (Rd.newBytes [0xff, 0, 0, 0, 1, 7] 6).remaining = [0xff, 0, 0, 0, 1, 7] := by decide
  have : refBR Facts.defaultRecursionDepth TT.LIST [0xff, 0, 0, 0, 1, 7] = none := by decide
  rw [hr, this] at h2
  exact h2

/-- a source that errors in mid-value (and a truncated one): an error, no panic (model evaluated) -/
example : readerDecNext ⟨[0,0,0,2, 65, 66], [⟨3, none⟩, ⟨1, some (.src 1)⟩, ⟨1, some (.src 2)⟩]⟩ TT.STRING
    = .err (.raw (.src 2)) := by decide
example : readerDecNext ⟨[0,0,0,2, 65], [⟨3, none⟩, ⟨0, none⟩, ⟨5, none⟩]⟩ TT.STRING = .err (.raw .eof) := by
  decide

end Verif.C03
