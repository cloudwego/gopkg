/-
  Props/C04: the buffered reader (bufiox.DefaultReader / BytesReader, model in Model/Reader) delivers
  the source bytes exactly, in order.

  Spec: Spec/Cursor (`Cur.step`, `errAllowed`, `liveOk`, `Cur.judge` — the driver's verdict is
  `Cur.judge` on the implementation's report; the theorems here say the MODEL passes `Cur.judge`
  on every step of every history).

  Domain: allocation succeeds.  mcache.Malloc has 46 size classes: a capacity request above 2^45
  panics with index out of range (audit witness on the unchanged tree: `Next(1<<46)` → `PANIC index`,
  the model answers `err eof`), and `Next(1<<62+1)` never returns (`maxSize *= 2` wraps).  The model
  has neither branch, so the theorems below about an operation that may allocate carry
  `Rd.InDomain r n : n + ri ≤ 2^43` per request, or `|S| ≤ 2^42 ∧ n ≤ 2^42` per history (bytes reader:
  `cap ≤ 2^45`); `alloc_in_range` shows that inside this domain the model never computes a capacity
  above 2^45, i.e. the missing panic branch is unreachable there.  No size hypothesis at all:
  `never_nofuel`, `negative_count`, `err_sticky` (they hold for every request), and the theorems in
  which nothing is acquired: `inv_cap_zero`, `release_ok`, `readLen_eq`, and the facts about
  `Rd.canServe` and scripts (`steady_serves`, `plain_serves`, `plain_enough`, `chunks_serves`,
  `steady_chunks_live`, `live2_serves`).  (The lemma layer proves the same statements for the model up
  to 2^63 — `Rd.Small`, the range of the model's fuel-64 doubling loops; that wider range says nothing
  about the Go code.)
-/
import Verif.Lemmas.ReaderAll
import Verif.Lemmas.ReaderAlloc
namespace Verif.C04
open Verif

/-! ## whole histories -/

/-- REFINEMENT, io.Reader-backed reader.  For every stream `S`, every source script, every list of
    operations (sizes up to 2^42): every report of the model is accepted by the complete judgement —
    the cursor contract (`Cur.step`: exact bytes, exact advance, Peek does not move, failures carry
    a non-nil error and consume nothing, ReadBinary m ≤ n / m < n only with an error, ReadLen =
    consumed since Release; Release(e) for any e), error provenance (`errAllowed`), timeliness
    (`timely`: a failure only when the data has really run out — nothing already served is missing,
    and the source's own error only after every productive entry before it handed over ≥ 1 byte), and liveness (`liveOk`: the request is
    served in full) wherever the source's `Credit` demands it: always when the script is `Steady`,
    or `SteadyChunks` (arbitrary chunk sizes, final data together with the error, stream ≤ defaultBufSize);
    and for *plain* scripts (every entry error-free with k ≥ K ≥ 1, any chunk sizes) whenever the
    unread entries are still good for the request (`Credit.must`, `Credit.after`). -/
theorem refines_default (S : Bytes) (script : List Resp) (ops : List ROp)
    (hS : S.length ≤ 4398046511104) (hops : ∀ op ∈ ops, op.size ≤ 4398046511104) :
    ∃ p, (Cur.init S).judgeRun Facts.maxConsecutiveEmptyReads script
            (Credit.init (Steady Facts.maxConsecutiveEmptyReads script S.length 0 ||
                          SteadyChunks Facts.defaultBufSize script S.length) script)
            ((Rd.newDefault ⟨S, script⟩).trace ops).1 = .ok p := by
  have hS : _ ≤ 4611686018427387904 := Nat.le_trans hS (by decide)
  have hops : ∀ op ∈ ops, op.size ≤ 4611686018427387904 := fun op h => Nat.le_trans (hops op h) (by decide)
  have hsim : Sim script (Credit.init (Steady Facts.maxConsecutiveEmptyReads script S.length 0 ||
        SteadyChunks Facts.defaultBufSize script S.length) script)
      (Cur.init S) (Rd.newDefault ⟨S, script⟩) :=
    ⟨abs_init_default S script, prov_newDefault S script,
     creditInv_init_default S script _ (fun h => by
       rcases Bool.or_eq_true_iff.mp h with h | h
       · exact Or.inl (live_newDefault S script h)
       · exact live2_newDefault_chunks S script h),
     by simp [Credit.init, Cur.init, Rd.newDefault]; split <;> simp, tinv_newDefault S script⟩
  obtain ⟨c', cr', h, _⟩ := trace_judge script _ _ _ ops hsim hS hops
  exact ⟨(c', cr'), h⟩

/-- REFINEMENT, bytes-backed reader (`NewBytesReader(buf)`, `len(buf) = data.length`, `cap(buf) = cap`):
    the same, with the source's own error = io.EOF and liveness unconditionally. -/
theorem refines_bytes (data : Bytes) (cap : Nat) (ops : List ROp)
    (hcap : data.length ≤ cap) (hcap2 : cap ≤ 35184372088832)
    (hS : data.length ≤ 4398046511104) (hops : ∀ op ∈ ops, op.size ≤ 4398046511104) :
    ∃ p, (Cur.init data).judgeRun Facts.maxConsecutiveEmptyReads [] (Credit.init true [])
            ((Rd.newBytes data cap).trace ops).1 = .ok p := by
  have hS : _ ≤ 4611686018427387904 := Nat.le_trans hS (by decide)
  have hops : ∀ op ∈ ops, op.size ≤ 4611686018427387904 := fun op h => Nat.le_trans (hops op h) (by decide)
  have hcap2 : cap ≤ 18446744073709551616 := Nat.le_trans hcap2 (by decide)
  have hsim : Sim [] (Credit.init true []) (Cur.init data) (Rd.newBytes data cap) :=
    ⟨abs_init_bytes data cap hcap hcap2, prov_newBytes data cap, creditInv_init_bytes data cap,
     by
       have : (Rd.newBytes data cap).src.stream = [] := by unfold Rd.newBytes; split <;> rfl
       rw [this]; simp [Credit.init],
     tinv_newBytes data cap⟩
  obtain ⟨c', cr', h, _⟩ := trace_judge [] _ _ _ ops hsim hS hops
  exact ⟨(c', cr'), h⟩

/-- NO LOSS, NO DUPLICATION, NO REORDERING: after any history the contract's cursor `pos` (the
    number of bytes delivered: Next + Skip + ReadBinary) splits the source stream exactly into
    delivered ++ what the reader still owes (buffered-unread ++ unread source); `Inv` holds and
    ReadLen is the distance to the last Release. -/
theorem delivered_remaining (S : Bytes) (script : List Resp) (ops : List ROp)
    (hS : S.length ≤ 4398046511104) (hops : ∀ op ∈ ops, op.size ≤ 4398046511104) :
    ∃ c', (Cur.init S).run ((Rd.newDefault ⟨S, script⟩).trace ops).1 = .ok c' ∧
      S = S.take c'.pos ++ ((Rd.newDefault ⟨S, script⟩).trace ops).2.remaining ∧
      Inv ((Rd.newDefault ⟨S, script⟩).trace ops).2 ∧
      ((Rd.newDefault ⟨S, script⟩).trace ops).2.readLen = c'.pos - c'.mark := by
  have hS : _ ≤ 4611686018427387904 := Nat.le_trans hS (by decide)
  have hops : ∀ op ∈ ops, op.size ≤ 4611686018427387904 := fun op h => Nat.le_trans (hops op h) (by decide)
  exact trace_delivered (Cur.init S) _ ops (abs_init_default S script) hS hops

/-- the same for the bytes-backed reader -/
theorem delivered_remaining_bytes (data : Bytes) (cap : Nat) (ops : List ROp)
    (hcap : data.length ≤ cap) (hcap2 : cap ≤ 35184372088832)
    (hS : data.length ≤ 4398046511104) (hops : ∀ op ∈ ops, op.size ≤ 4398046511104) :
    ∃ c', (Cur.init data).run ((Rd.newBytes data cap).trace ops).1 = .ok c' ∧
      data = data.take c'.pos ++ ((Rd.newBytes data cap).trace ops).2.remaining ∧
      Inv ((Rd.newBytes data cap).trace ops).2 ∧
      ((Rd.newBytes data cap).trace ops).2.readLen = c'.pos - c'.mark := by
  have hS : _ ≤ 4611686018427387904 := Nat.le_trans hS (by decide)
  have hops : ∀ op ∈ ops, op.size ≤ 4611686018427387904 := fun op h => Nat.le_trans (hops op h) (by decide)
  have hcap2 : cap ≤ 18446744073709551616 := Nat.le_trans hcap2 (by decide)
  exact trace_delivered (Cur.init data) _ ops (abs_init_bytes data cap hcap hcap2) hS hops

/-- THE MODEL STAYS INSIDE THE ALLOCATOR'S RANGE: along any history in the domain (stream and requests
    ≤ 2^42; a bytes reader's caller buffer ≤ 2^45) every capacity the model computes — each one is an
    `mcache.Malloc` request in the Go code — is ≤ 2^45 = mcache's largest size class, so the
    index-out-of-range panic of `caches[i]`, which the model does not have, cannot be needed -/
theorem alloc_in_range (S : Bytes) (script : List Resp) (ops : List ROp)
    (hS : S.length ≤ 4398046511104) (hops : ∀ op ∈ ops, op.size ≤ 4398046511104) :
    AllocInv ((Rd.newDefault ⟨S, script⟩).trace ops).2 :=
  trace_alloc (Cur.init S) _ ops (abs_init_default S script) (alloc_newDefault _) hS hops

theorem alloc_in_range_bytes (data : Bytes) (cap : Nat) (ops : List ROp)
    (hcap : data.length ≤ cap) (hcap2 : cap ≤ 35184372088832)
    (hS : data.length ≤ 4398046511104) (hops : ∀ op ∈ ops, op.size ≤ 4398046511104) :
    AllocInv ((Rd.newBytes data cap).trace ops).2 :=
  trace_alloc (Cur.init data) _ ops (abs_init_bytes data cap hcap (Nat.le_trans hcap2 (by decide)))
    (alloc_newBytes data cap hcap2) hS hops

/-! ## one operation at a time, against `remaining` -/

/-- `Inv` (ri ≤ len ≤ cap ≤ 2^64; hence cap = 0 → ri = 0 ∧ buf = []) is preserved by every
    operation -/
theorem inv_preserved (r : Rd) (op : ROp) (h : Inv r) (hd : r.InDomain op.size) : Inv (r.step op).2 := by
  have hs := hd.small
  have habs : Abs ⟨r.buf ++ r.src.stream, r.ri, 0⟩ r :=
    ⟨h, ⟨[], by simp, rfl⟩, by simp⟩
  obtain ⟨_, _, h'⟩ := step_refines _ r op habs hs
  exact h'.inv

theorem inv_cap_zero (r : Rd) (h : Inv r) (hc : r.cap = 0) : r.ri = 0 ∧ r.buf = [] := h.cap_zero hc

/-- Next: success returns exactly the next `n` bytes of `remaining` and consumes exactly them -/
theorem next_ok (r : Rd) (n : Int) (b : Bytes) (r' : Rd) (h : Inv r) (hd : r.InDomain n.toNat)
    (hr : r.next n = (.ok b, r')) :
    0 ≤ n ∧ b.length = n.toNat ∧ r.remaining = b ++ r'.remaining ∧ r'.readLen = r.readLen + n.toNat ∧
    Inv r' := by
  obtain ⟨hpos, m, r1, ha, hk, he⟩ := nps_ok Rd.nextOk r n b r' h hd.small hr
  cases he
  refine ⟨hpos, take_length_of_le r1 _ hk, ?_, ?_, inv_advance r1 _ ha.inv hk⟩
  · rw [← ha.remaining h.ri_le]; exact remaining_split r1 _
  · simp [Rd.readLen, ha.ri]

/-- Peek: success returns exactly the next `n` bytes of `remaining` and consumes nothing -/
theorem peek_ok (r : Rd) (n : Int) (b : Bytes) (r' : Rd) (h : Inv r) (hd : r.InDomain n.toNat)
    (hr : r.peek n = (.ok b, r')) :
    0 ≤ n ∧ b.length = n.toNat ∧ b = r.remaining.take n.toNat ∧ r'.remaining = r.remaining ∧
    r'.readLen = r.readLen ∧ Inv r' := by
  obtain ⟨hpos, m, r1, ha, hk, he⟩ := nps_ok Rd.peekOk r n b r' h hd.small hr
  cases he
  refine ⟨hpos, take_length_of_le r' _ hk, ?_, ha.remaining h.ri_le, ?_, ha.inv⟩
  · rw [← ha.remaining h.ri_le]; exact take_eq_remaining_take r' _ hk
  · simp [Rd.readLen, ha.ri]

/-- Skip: success drops exactly `n` bytes, which were there -/
theorem skip_ok (r : Rd) (n : Int) (b : Bytes) (r' : Rd) (h : Inv r) (hd : r.InDomain n.toNat)
    (hr : r.skip n = (.ok b, r')) :
    0 ≤ n ∧ n.toNat ≤ r.remaining.length ∧ r'.remaining = r.remaining.drop n.toNat ∧
    r'.readLen = r.readLen + n.toNat ∧ Inv r' := by
  obtain ⟨hpos, m, r1, ha, hk, he⟩ := nps_ok Rd.skipOk r n b r' h hd.small hr
  cases he
  have hsplit := remaining_split r1 n.toNat
  have hlen := take_length_of_le r1 _ hk
  rw [ha.remaining h.ri_le] at hsplit
  refine ⟨hpos, ?_, ?_, ?_, inv_advance r1 _ ha.inv hk⟩
  · rw [hsplit, List.length_append, hlen]; omega
  · rw [hsplit, List.drop_append_of_le_length (by omega), List.drop_of_length_le (by omega)]
    simp
  · simp [Rd.readLen, ha.ri]

/-- FAILURES ARE ATOMIC AND NEVER NIL: a failing Next/Peek/Skip returns `.fail (some e)` — never
    the (nil, nil) of defect F2 — and leaves `remaining` and ReadLen unchanged -/
theorem fail_nonnil (r : Rd) (n : Int) (e : Option RErr) (r' : Rd) (h : Inv r) (hd : r.InDomain n.toNat)
    (hr : r.next n = (.fail e, r') ∨ r.peek n = (.fail e, r') ∨ r.skip n = (.fail e, r')) :
    e ≠ none ∧ r'.remaining = r.remaining ∧ r'.readLen = r.readLen ∧ Inv r' := by
  have hs := hd.small
  rcases hr with hr | hr | hr
  · exact nps_fail Rd.nextOk (fun _ _ _ _ => nofun) r n e r' h hs hr
  · exact nps_fail Rd.peekOk (fun _ _ _ _ => nofun) r n e r' h hs hr
  · exact nps_fail Rd.skipOk (fun _ _ _ _ => nofun) r n e r' h hs hr

/-- ReadBinary never reports more than requested (defect F1), copies exactly the next `m` bytes,
    consumes exactly `m`, and reports fewer than requested only with a non-nil error -/
theorem readBinary_ok (r : Rd) (k : Nat) (h : Inv r) (hd : r.InDomain k) :
    ∃ out m e, (r.readBinary k).1 = some (out, m, e) ∧
      m ≤ k ∧ out.length = m ∧ r.remaining = out ++ (r.readBinary k).2.remaining ∧
      (r.readBinary k).2.readLen = r.readLen + m ∧ (m < k → e ≠ none) ∧ Inv (r.readBinary k).2 := by
  have hs := hd.small
  obtain ⟨m, r1, _, ha, he⟩ := readBinary_cases r k h hs
  have hk : min m k ≤ r1.buf.length - r1.ri := by
    rcases ha.outcome with ⟨hm, hle, _⟩ | ⟨hm, _⟩ <;> omega
  refine ⟨_, min m k, _, by rw [he], by omega, take_length_of_le r1 _ hk, ?_, ?_, ?_, ?_⟩
  · rw [he, ← ha.remaining h.ri_le]; exact remaining_split r1 _
  · rw [he]; simp [Rd.readLen, ha.ri]
  · intro hlt
    have hgt : k > m := by omega
    rw [if_pos (by omega)]
    exact (ha.short hgt).1
  · rw [he]; exact inv_advance r1 _ ha.inv hk

/-- Release keeps what the reader owes and resets ReadLen -/
theorem release_ok (r : Rd) (h : Inv r) :
    r.release.remaining = r.remaining ∧ r.release.readLen = 0 ∧ Inv r.release :=
  ⟨release_remaining r h, release_readLen r, release_inv r h⟩

/-- ReadLen = bytes consumed since the last Release, in every reachable state: it is the distance
    between the contract's cursor and its mark -/
theorem readLen_eq (c : Cur) (r : Rd) (h : Abs c r) : r.readLen = c.pos - c.mark := by
  unfold Rd.readLen; rw [h.pos]; omega

/-- a negative count is refused with errNegativeCount and nothing changes -/
theorem negative_count (r : Rd) (n : Int) (h : n < 0) :
    r.next n = (.fail (some .negCount), r) ∧ r.peek n = (.fail (some .negCount), r) ∧
    r.skip n = (.fail (some .negCount), r) := by
  simp [Rd.next, Rd.peek, Rd.skip, h]

/-! ## termination of the read loop -/

/-- `nofuel` is unreachable: the fuel `acquireSlow` hands to the read loop always suffices (the Go
    loop terminates: every iteration delivers a byte into finite room, or counts an empty read) —
    for every state and every request, no hypothesis -/
theorem never_nofuel (r : Rd) (n : Int) (k : Nat) :
    (r.next n).1 ≠ .nofuel ∧ (r.peek n).1 ≠ .nofuel ∧ (r.skip n).1 ≠ .nofuel ∧
    (r.readBinary k).1 ≠ none := by
  refine ⟨nps_total Rd.nextOk (fun _ _ => nofun) r n, nps_total Rd.peekOk (fun _ _ => nofun) r n,
    nps_total Rd.skipOk (fun _ _ => nofun) r n, ?_⟩
  · have h2 := acquire_total r k
    unfold Rd.readBinary
    cases ha : r.acquire k with
    | none => rw [ha] at h2; cases h2
    | some p => nofun

/-! ## where errors come from -/

/-- ERROR PROVENANCE, one step: in a state reached over a source with script `s0` (`Prov`), any
    error an operation reports satisfies the spec's `errAllowed`: it is the source's own error
    (first scripted error, io.EOF at exhaustion), or io.ErrNoProgress and the script has
    `maxConsecutiveEmptyReads` consecutive error-free entries, or errNegativeCount for n < 0 -/
theorem err_provenance (s0 : List Resp) (r : Rd) (op : ROp) (h : Inv r) (hd : r.InDomain op.size)
    (hp : Prov s0 r) :
    Prov s0 (r.step op).2 ∧
    ∀ e, (r.step op).1.err = some e → errAllowed Facts.maxConsecutiveEmptyReads s0 op e = true :=
  step_prov s0 r op h hd.small hp

/-- io.ErrNoProgress is set only right after `maxConsecutiveEmptyReads` consecutive scripted reads
    that returned a nil error and (given the room offered and the stream left) no data — unless it
    is the source's own error -/
theorem noProgress_only_after_empty_reads (r : Rd) (n m : Nat) (r' : Rd) (h : Inv r) (hd : r.InDomain n)
    (hnone : r.err = none) (ha : r.acquire n = some (m, r')) (he : r'.err = some .noProgress) :
    firstErr r.src.script = .noProgress ∨
    ∃ pre zs, r.src.script = pre ++ zs ++ r'.src.script ∧
      zs.length = Facts.maxConsecutiveEmptyReads ∧
      ∀ z ∈ zs, z.err = none ∧ min (min z.k (r'.cap - r'.buf.length)) r'.src.stream.length = 0 :=
  acquire_noProgress r n m r' h hd.small hnone ha he

/-- the error is sticky: once set, no operation reads the source again -/
theorem err_sticky (r : Rd) (n m : Nat) (r' : Rd) (he : r.err ≠ none)
    (h : r.acquire n = some (m, r')) : r' = r := acquire_sticky r n m r' he h

/-! ## liveness -/

/-- LIVENESS, exact: Next/Peek/Skip(n ≥ 0) succeed — and ReadBinary fills all of `bs` — if AND ONLY
    IF the bytes are buffered, or no error is pending and the script delivers the missing ones
    before its first error (data arriving together with the error counts) and before
    `maxConsecutiveEmptyReads` consecutive empty reads (`Rd.canServe`, `Enough`) -/
theorem liveness (r : Rd) (n : Int) (h : Inv r) (hd : r.InDomain n.toNat) (hn : 0 ≤ n) :
    ((∃ b, (r.next n).1 = .ok b) ↔ r.canServe n.toNat = true) ∧
    ((∃ b, (r.peek n).1 = .ok b) ↔ r.canServe n.toNat = true) ∧
    ((∃ b, (r.skip n).1 = .ok b) ↔ r.canServe n.toNat = true) ∧
    ((∃ b e, (r.readBinary n.toNat).1 = some (b, n.toNat, e)) ↔ r.canServe n.toNat = true) :=
  ⟨next_live r n h hd.small hn, peek_live r n h hd.small hn, skip_live r n h hd.small hn, readBinary_live r _ h hd.small⟩

/-- LIVENESS, steady sources: a `Steady` script (error-free until the last byte is out, zero-byte
    entries in runs shorter than the limit, every other entry ≥ 1 byte) serves every request that
    fits into what is left, in any reachable state -/
theorem steady_serves (r : Rd) (n : Nat) (hl : r.Live) (hn : n ≤ r.remaining.length) :
    r.canServe n = true := live_canServe r n hl hn

/-- LIVENESS, plain sources (bytes.Reader-like, chunked transports): when every unread script
    entry is error-free with `k ≥ K ≥ 1` — any chunk sizes — a request that fits into what is left and
    into `(unread entries) * K` can be served, in every reachable state; and serving it uses up fewer
    than `n + K` of that credit (`acquire_credit`, inside `refines_default`).  A zero-length read
    happens only when a reader offers zero room, which the model never does while it needs bytes. -/
theorem plain_serves (K credit : Nat) (r : Rd) (n : Nat) (h : PlainD K credit r)
    (hn : n ≤ r.remaining.length) (hc : n ≤ credit) : r.canServe n = true :=
  plainD_canServe K credit r n h hn hc

/-- the underlying fact about scripts: plain entries deliver any need the stream and their number cover -/
theorem plain_enough (K : Nat) (s : List Resp) (need slen : Nat) (hp : PlainK K s) (hK : 1 ≤ K)
    (h0 : 0 < need) (hle : need ≤ slen) (hc : need ≤ s.length * K) :
    Enough Facts.maxConsecutiveEmptyReads s need 0 slen = true :=
  Verif.plain_enough _ K s need 0 slen hp hK h0 hle hc maxEmpty_pos

/-- LIVENESS, chunked sources, per request: every unread entry has `k ≥ 1` (any sizes),
    an error sits only on the last entry (final data together with io.EOF / an error — its data
    counts), no error is pending, and the chunks cover the missing bytes ⇒ the request is served.
    (`⟨4,none⟩,⟨5,eof⟩` over 9 bytes serves Next(9).) -/
theorem chunks_serves (r : Rd) (n : Nat) (he : r.err = none) (hc : chunksOk r.src.script = true)
    (hn : n ≤ r.remaining.length) (hsum : n - (r.buf.length - r.ri) ≤ sumK r.src.script) :
    r.canServe n = true := by
  rw [remaining_length r] at hn
  unfold Rd.canServe
  simp only [Bool.or_eq_true, decide_eq_true_eq, Bool.and_eq_true]
  by_cases hfast : n ≤ r.buf.length - r.ri
  · exact Or.inl hfast
  · exact Or.inr ⟨by rw [he]; rfl,
      chunks_enough _ _ _ _ _ hc (by omega) (by omega) hsum maxEmpty_pos⟩

/-- LIVENESS, chunked sources, along histories (`Rd.Live2 = Rd.Live ∨ Rd.LiveChunks`): for a stream
    that fits the first buffer (`|S| ≤ defaultBufSize`) a `SteadyChunks` script makes the fresh reader
    live; `Live2` is kept by every operation (`acquire_keeps_live2`, `live2_release`,
    `Rd.Live2.advance`, `step_live2`) and serves every request that fits.  Exact limit: for longer
    streams the room offered when the LAST (error-carrying) entry is read may be smaller than what is
    left, the source's error then precedes the remaining bytes and they are lost — in the real code too. -/
theorem steady_chunks_live (S : Bytes) (script : List Resp)
    (h : SteadyChunks Facts.defaultBufSize script S.length = true) :
    (Rd.newDefault ⟨S, script⟩).Live2 := live2_newDefault_chunks S script h

theorem live2_serves (r : Rd) (n : Nat) (hl : r.Live2) (hn : n ≤ r.remaining.length) :
    r.canServe n = true := live2_canServe r n hl hn

/-! ## non-vacuity -/

/-- final data together with io.EOF in a chunk bigger than one byte: not `Steady`, but `SteadyChunks` -/
example : Steady Facts.maxConsecutiveEmptyReads [⟨4, none⟩, ⟨5, some .eof⟩] 9 0 = false := by decide
example : SteadyChunks Facts.defaultBufSize [⟨4, none⟩, ⟨5, some .eof⟩] 9 = true := by decide
example : SteadyChunks Facts.defaultBufSize [⟨4096, none⟩] 9 = true := by decide
example : ((Rd.newDefault ⟨[1,2,3,4,5,6,7,8,9], [⟨4, none⟩, ⟨5, some .eof⟩]⟩).trace
    [.next 2, .peek 6, .release (some .eof), .next 7, .next 1]).1 =
    [(.next 2, .bytes [1,2]), (.peek 6, .bytes [3,4,5,6,7,8]), (.release (some .eof), .done),
     (.next 7, .bytes [3,4,5,6,7,8,9]), (.next 1, .fail (some .eof))] := by decide

/-- a plain script that is not `Steady` (4 entries for 12000 bytes) still carries credit -/
example : Credit.init false [⟨4096, none⟩, ⟨1048576, none⟩, ⟨7, none⟩, ⟨4096, none⟩] = ⟨7, 28, false, 0⟩ := by
  decide
example : Steady Facts.maxConsecutiveEmptyReads (List.replicate 4 ⟨1048576, none⟩) 12000 0 = false := by
  decide
/-- over a bytes.Reader-like source (not `Steady`) the judge demands service: the credit 4·2^20 covers
    a request that fits; and the model serves it (a small instance of Next(a), Next(b) without Release) -/
example : (Credit.init false (List.replicate 4 ⟨1048576, none⟩)).must
    ⟨List.replicate 40 0, 10, 0⟩ (.next 20) = true := by decide
example : ((Rd.newDefault ⟨[1,2,3,4,5,6,7,8], List.replicate 2 ⟨1048576, none⟩⟩).trace
    [.next 3, .next 4, .next 2]).1 =
    [(.next 3, .bytes [1,2,3]), (.next 4, .bytes [4,5,6,7]), (.next 2, .fail (some .eof))] := by decide

/-- hypotheses of the refinement theorems are satisfiable; a steady script with zero-byte reads
    and the last byte arriving together with io.EOF -/
example : Steady Facts.maxConsecutiveEmptyReads [⟨1, none⟩, ⟨0, none⟩, ⟨0, none⟩, ⟨5, some .eof⟩] 2 0 = true := by
  decide

/-- `Enough`: 4 bytes needed, delivered as 1 + (empty) + 3-with-EOF -/
example : Enough Facts.maxConsecutiveEmptyReads [⟨1, none⟩, ⟨0, none⟩, ⟨9, some .eof⟩] 4 0 10 = true := by
  decide
example : Enough Facts.maxConsecutiveEmptyReads [⟨1, none⟩, ⟨2, some .eof⟩, ⟨9, none⟩] 4 0 10 = false := by
  decide

example : Inv (Rd.newDefault ⟨[1, 2, 3], [⟨2, none⟩]⟩) ∧ (Rd.newDefault ⟨[1, 2, 3], [⟨2, none⟩]⟩).InDomain 5 :=
  ⟨inv_newDefault _, by unfold Rd.InDomain; decide⟩
example : Inv (Rd.newBytes [1, 2, 3] 8) := inv_newBytes _ _ (by decide) (by decide)

/-- the witness of defect F1 on the model: the source returns (10 bytes, io.EOF) on its first
    Read; ReadBinary(4) is (4, nil) and consumes 4, Next(6) gets the rest, then io.EOF surfaces -/
example : ((Rd.newDefault ⟨[48,49,50,51,52,53,54,55,56,57], [⟨10, some .eof⟩]⟩).trace
    [.readBinary 4, .readLen, .next 6, .next 1]).1 =
    [(.readBinary 4, .rb [48,49,50,51] 4 none), (.readLen, .len 4),
     (.next 6, .bytes [52,53,54,55,56,57]), (.next 1, .fail (some .eof))] := by decide

/-- the witness of defect F2 on the model: a source that returns (0, nil) forever makes every
    operation fail with io.ErrNoProgress — never with a nil error; 99 empty reads are tolerated -/
example : Facts.maxConsecutiveEmptyReads > 200 ∨ ((Rd.newDefault ⟨[7], List.replicate 250 ⟨0, none⟩⟩).trace
    [.next 1, .peek 1, .skip 1, .readBinary 1]).1 =
    [(.next 1, .fail (some .noProgress)), (.peek 1, .fail (some .noProgress)),
     (.skip 1, .fail (some .noProgress)), (.readBinary 1, .rb [] 0 (some .noProgress))] := by decide
example : Facts.maxConsecutiveEmptyReads ≠ 100 ∨ ((Rd.newDefault ⟨[7, 8], List.replicate 99 ⟨0, none⟩ ++ [⟨2, none⟩]⟩).trace
    [.next 2]).1 = [(.next 2, .bytes [7, 8])] := by decide

/-- bytes reader: an over-ask fails with io.EOF and consumes nothing; Release keeps the tail -/
example : ((Rd.newBytes [1,2,3,4,5] 5).trace
    [.next 2, .peek 4, .release (some .eof), .readLen, .next 3, .next 1]).1 =
    [(.next 2, .bytes [1,2]), (.peek 4, .fail (some .eof)), (.release (some .eof), .done), (.readLen, .len 0),
     (.next 3, .bytes [3,4,5]), (.next 1, .fail (some .eof))] := by decide

end Verif.C04
