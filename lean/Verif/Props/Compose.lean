/-
  Props/Compose — end-to-end compositions of the layered proofs (IronFleet style: codecs are proved
  against ABSTRACT reader/writer contracts, DefaultReader/DefaultWriter are proved to refine them; here
  the two layers are put together).  Property theorems and non-vacuity examples only; lemmas in
  Lemmas/Compose*.lean.

  §1  C06/C10 × C04   ttheader.Decode over the buffered reader model `Rd` (every source script)
  §2  C11 × C12       UnmarshalFastMsg ∘ MarshalFastMsg for the shipped Base / BaseResp FastCodecs
  §3  C01 × C05       BufferWriter.Write* over the DefaultWriter / BytesWriter model, then Flush
  §4  C06 × C05       ttheader.EncodeToBytes over the BytesWriter model (and back through §1)
  §5  C01/C12 × C04   BufferReader.Read* / ReadMessageBegin over sources that are live in C04's sense
-/
import Verif.Lemmas.ComposeTth
import Verif.Lemmas.ComposeMsg
import Verif.Lemmas.ComposeWire
import Verif.Lemmas.ComposeTthEnc
import Verif.Props.C01
import Verif.Props.C06
import Verif.Props.C10
import Verif.Props.C12
namespace Verif.Compose
open Verif Verif.TTH Verif.Frame

/-! ## §1 ttheader.Decode over the real reader

  `decodeRd r` = `ttheader.Decode(ctx, r)` for a `*bufiox.DefaultReader` / BytesReader in state `r`
  (Model/TTHeader over Model/Reader); `r.remaining` = unread buffered bytes ++ what the source still has
  (C04's abstraction function); `RdOK r` = C04's invariant `Inv r` and sizes below 2^40 (C04's domain).
  `decodeBytes b cap` = Decode over `bufiox.NewBytesReader(b)` (C10's subject). -/

/-- **soundness over ANY source** (any fragmentation, empty reads, errors at any point, any buffer state):
    Decode returns a result or an error — no panic, the loops terminate —, never consumes more than
    14 + declared size bytes nor more than there are; an error is the reader's own (non-nil) error or
    exactly the error Decode gives on the remaining stream as one slice; and a SUCCESSFUL stream decode
    consumed exactly 14 + declared size bytes of the stream — which were there —, its result equals the
    bytes-backed Decode of exactly those bytes (and of the whole remaining stream), HeaderLen is that
    count, exactly those bytes are gone from what the reader owes, and the frame is valid. -/
theorem tth_decode_stream_sound (r : Rd) (h : RdOK r) :
    (decodeRd r).1.Safe ∧ (decodeRd r).1 ≠ .err .nofuel ∧
    (decodeRd r).2.readLen ≤ r.readLen + r.remaining.length ∧
    (decodeRd r).2.readLen ≤ r.readLen + (14 + declared r.remaining) ∧
    (∀ e, (decodeRd r).1 = .err e → (∃ re, e = .rd re) ∨ (decodeBytes r.remaining r.remaining.length).1 = .err e) ∧
    (∀ d, (decodeRd r).1 = .ok d →
      14 + declared r.remaining ≤ r.remaining.length ∧
      (decodeRd r).2.readLen = r.readLen + (14 + declared r.remaining) ∧
      (decodeRd r).2.remaining = r.remaining.drop (14 + declared r.remaining) ∧
      (∀ cap, 14 + declared r.remaining ≤ cap →
        decodeBytes (r.remaining.take (14 + declared r.remaining)) cap = (.ok d, 14 + declared r.remaining)) ∧
      (∀ cap, r.remaining.length ≤ cap → decodeBytes r.remaining cap = (.ok d, 14 + declared r.remaining)) ∧
      d.headerLen = ((14 + declared r.remaining : Nat) : Int) ∧
      (∃ secs, Valid r.remaining secs ∧ C10.agrees d (meaning r.remaining secs)) ∧
      RdOK (decodeRd r).2) := by
  have hcur := C10.decode_safe r.remaining r.remaining.length (Nat.le_refl _)
  rw [decodeBytes_eq_cur _ _ (Nat.le_refl _)] at hcur ⊢
  obtain ⟨hsafe, hnf, hl1, hl2⟩ := hcur
  unfold decodeRd
  rcases cmp_decodeG Rd.next Rd.remaining Rd.readLen RdOK _ bigReq cmp_rd_any (by decide) r h with
    ⟨e1, e2, e3, e4⟩ | ⟨e, e1, e2, _⟩
  · refine ⟨by rw [e1]; exact hsafe, by rw [e1]; exact hnf, by omega, by omega, ?_, ?_⟩
    · intro e he; right; rw [← e1]; exact he
    · intro d hd
      rw [e1] at hd
      obtain ⟨c1, c2, c3⟩ := cmp_decodeCur_ok _ d hd
      rw [c1] at e2 e3
      refine ⟨c2, e2, e3, ?_, ?_, c3, ?_, e4⟩
      · intro cap hcap
        rw [decodeBytes_eq_cur _ _ (by rw [List.length_take]; omega), cmp_decodeCur_prefix _ c2]
        exact Prod.ext hd c1
      · intro cap hcap
        rw [decodeBytes_eq_cur _ _ hcap]
        exact Prod.ext hd c1
      · have hp' : (decodeBytes r.remaining r.remaining.length).1 = .ok d := by
          rw [decodeBytes_eq_cur _ _ (Nat.le_refl _)]; exact hd
        obtain ⟨secs, hv⟩ := (C10.decode_ok_iff r.remaining _ (Nat.le_refl _)).mp ⟨d, hp'⟩
        exact ⟨secs, hv, (C10.decode_ok_values r.remaining _ (Nat.le_refl _) d secs hp' hv).1⟩
  · refine ⟨by rw [e1]; exact ⟨fun s => by simp, by simp⟩, by rw [e1]; simp, by omega, by omega, ?_, ?_⟩
    · intro e' he; left; rw [e1] at he; exact ⟨e, (Out.err.inj he).symm⟩
    · intro d hd; rw [e1] at hd; cases hd

/-- **exactness over a live source** (C01's operational liveness: however the next 14 + declared-size
    bytes are asked for, they are served; `cmp_steady_wire_live`: implied by C04's `Rd.Live`): the
    stream Decode is the bytes-backed Decode of the remaining stream — same result (success with the same
    parameters, or the same error), same number of bytes consumed, exactly those bytes gone. -/
theorem tth_decode_stream_live (r : Rd) (h : RdOK r) (hl : Wire.Live r (14 + declared r.remaining))
    (cap : Nat) (hcap : r.remaining.length ≤ cap) :
    (decodeRd r).1 = (decodeBytes r.remaining cap).1 ∧
    (decodeRd r).2.readLen = r.readLen + (decodeBytes r.remaining cap).2 ∧
    (decodeRd r).2.remaining = r.remaining.drop (decodeBytes r.remaining cap).2 ∧ RdOK (decodeRd r).2 := by
  rw [decodeBytes_eq_cur _ _ hcap]
  unfold decodeRd
  rcases cmp_decodeG Rd.next Rd.remaining Rd.readLen RdOK _ bigReq cmp_rd_live (by decide) r h with
    hleft | ⟨_, _, _, hnl⟩
  · exact hleft
  · exact absurd hl hnl

/-- the same from C04's own liveness notion: source exhausted into the buffer, or no error seen yet and
    a `Steady` rest of the script; the declared frame must be there -/
theorem tth_decode_stream_steady (r : Rd) (h : RdOK r) (hl : r.Live)
    (hfit : 14 + declared r.remaining ≤ r.remaining.length) (cap : Nat) (hcap : r.remaining.length ≤ cap) :
    (decodeRd r).1 = (decodeBytes r.remaining cap).1 ∧
    (decodeRd r).2.readLen = r.readLen + (decodeBytes r.remaining cap).2 ∧
    (decodeRd r).2.remaining = r.remaining.drop (decodeBytes r.remaining cap).2 ∧
    RdOK (decodeRd r).2 ∧ (decodeRd r).2.Live := by
  rw [decodeBytes_eq_cur _ _ hcap]
  unfold decodeRd
  rcases cmp_decodeG Rd.next Rd.remaining Rd.readLen _ _ bigReq cmp_rd_steady (by decide) r ⟨h, hl⟩ with
    ⟨a, b, c, d, e⟩ | ⟨_, _, _, hnl⟩
  · exact ⟨a, b, c, d, e⟩
  · exact absurd hfit hnl

/-- For EVERY reader state satisfying C04's invariant (any buffer content,
    capacity, cursor, statistics; any source script) whose remaining stream starts with an encoded frame
    (`layout lf (fp p)`: what `C06.encode_layout` says Encode writes, `lf` = the caller's length field)
    followed by any payload, and which is live for 14 + size bytes: the stream Decode succeeds with the
    very parameters the bytes-backed Decode returns for frame ++ payload, consumes exactly HeaderLen =
    frame length bytes (ReadLen), leaves exactly the payload (and whatever follows) to be read, and the
    parameters are the encoded ones. -/
theorem tth_decode_stream_real (r : Rd) (p : EncParam) (lf payload : Bytes) (hlf : lf.length = 4)
    (hd : (fp p).Dom) (hsup : p.proto ∈ supported) (hs : infoSize (fp p) ≤ 65536) (h : RdOK r)
    (hrem : r.remaining = Frame.layout lf (fp p) ++ payload)
    (hl : Wire.Live r (14 + infoSize (fp p))) :
    ∃ d, (decodeRd r).1 = .ok d ∧
      (∀ cap, (Frame.layout lf (fp p) ++ payload).length ≤ cap →
        decodeBytes (Frame.layout lf (fp p) ++ payload) cap = (.ok d, (Frame.layout lf (fp p)).length)) ∧
      (decodeRd r).2.readLen = r.readLen + (Frame.layout lf (fp p)).length ∧
      d.headerLen = ((Frame.layout lf (fp p)).length : Int) ∧
      (decodeRd r).2.remaining = payload ∧ RdOK (decodeRd r).2 ∧
      d.flags = p.flags ∧ d.seq = p.seq ∧ d.proto = p.proto ∧
      (∀ k, (mk d.intKV).lookup k = p.intKV.lookup k) ∧ (∀ k, (mk d.strKV).lookup k = p.strKV.lookup k) ∧
      d.payloadLen = (rd32 lf : Int) + 4 - ((Frame.layout lf (fp p)).length : Int) := by
  obtain ⟨d, hdec, f1, f2, f3, f4, f5, f6, f7⟩ :=
    decode_layout p lf payload (Frame.layout lf (fp p) ++ payload).length hlf hd hsup hs (Nat.le_refl _)
  have hfl := layout_length lf (fp p) hlf
  -- the declared size of the frame is its info size
  have hcur : decodeCur (Frame.layout lf (fp p) ++ payload) = (.ok d, (Frame.layout lf (fp p)).length) := by
    rw [← decodeBytes_eq_cur _ _ (Nat.le_refl _)]; exact hdec
  have hdecl : declared (Frame.layout lf (fp p) ++ payload) = infoSize (fp p) := by
    have := (cmp_decodeCur_ok _ d (by rw [hcur])).1
    rw [hcur] at this
    simp only at this
    omega
  obtain ⟨a, b, c, e⟩ := tth_decode_stream_live r h (by rw [hrem, hdecl]; exact hl)
    (Frame.layout lf (fp p) ++ payload).length (by rw [hrem]; exact Nat.le_refl _)
  rw [hrem, hdec] at a b c
  simp only at a b c
  refine ⟨d, a, ?_, b, f6, ?_, e, f1, f2, f3, f4, f5, f7⟩
  · intro cap hcap
    rw [decodeBytes_eq_cur _ _ hcap]; exact hcur
  · rw [c, List.drop_left' rfl]

/-- fresh DefaultReader over ANY stream S that starts with an encoded frame, delivered by ANY `Steady`
    script (fragmented arbitrarily, with empty reads, the last byte possibly together with io.EOF):
    Decode returns the encoded parameters and has consumed exactly the frame -/
theorem tth_decode_stream_fresh (p : EncParam) (lf payload : Bytes) (script : List Resp) (hlf : lf.length = 4)
    (hd : (fp p).Dom) (hsup : p.proto ∈ supported) (hs : infoSize (fp p) ≤ 65536)
    (hS : (Frame.layout lf (fp p) ++ payload).length ≤ sizeBound)
    (hst : Steady Facts.maxConsecutiveEmptyReads script (Frame.layout lf (fp p) ++ payload).length 0 = true) :
    let r := Rd.newDefault ⟨Frame.layout lf (fp p) ++ payload, script⟩
    ∃ d, (decodeRd r).1 = .ok d ∧ (decodeRd r).2.readLen = (Frame.layout lf (fp p)).length ∧
      (decodeRd r).2.remaining = payload ∧ d.flags = p.flags ∧ d.seq = p.seq ∧ d.proto = p.proto ∧
      (∀ k, (mk d.intKV).lookup k = p.intKV.lookup k) ∧ (∀ k, (mk d.strKV).lookup k = p.strKV.lookup k) ∧
      d.headerLen = ((Frame.layout lf (fp p)).length : Int) := by
  intro r
  have hok : RdOK r := newDefault_ok _ script hS
  obtain ⟨hrem, hri⟩ := newDefault_remaining (Frame.layout lf (fp p) ++ payload) script
  have hfl := layout_length lf (fp p) hlf
  have hlive : Wire.Live r (14 + infoSize (fp p)) :=
    cmp_steady_wire_live _ r hok (live_newDefault _ script hst) (by
      show 14 + infoSize (fp p) ≤ (Rd.newDefault ⟨Frame.layout lf (fp p) ++ payload, script⟩).remaining.length
      rw [hrem, List.length_append, hfl]; omega)
  obtain ⟨d, a, _, b, c, e, _, f1, f2, f3, f4, f5, _⟩ :=
    tth_decode_stream_real r p lf payload hlf hd hsup hs hok hrem hlive
  refine ⟨d, a, ?_, e, f1, f2, f3, f4, f5, c⟩
  rw [b]
  show (Rd.newDefault ⟨Frame.layout lf (fp p) ++ payload, script⟩).ri + _ = _
  rw [hri]; omega

/-! ### non-vacuity for §1 -/

/-- C04's liveness gives C01's: hypotheses of `tth_decode_stream_live` from those of `.._steady` -/
example (r : Rd) (h : RdOK r) (hl : r.Live) (n : Nat) (hn : n ≤ r.remaining.length) : Wire.Live r n :=
  cmp_steady_wire_live n r h hl hn

/-- the smallest valid frame (18 bytes) + 2 payload bytes, delivered byte by byte with an empty read in
    between and the last byte together with io.EOF: a `Steady` script; the model decodes it -/
def cmpFrame18 : Bytes := [0, 0, 0, 0x0e, 0x10, 0, 0, 5, 0, 0, 0, 1, 0, 1, 0, 0, 0, 0]
def cmpScript : List Resp := (List.replicate 10 ⟨1, none⟩) ++ [⟨0, none⟩] ++ List.replicate 9 ⟨1, none⟩ ++ [⟨7, some .eof⟩]

example : Steady Facts.maxConsecutiveEmptyReads cmpScript (cmpFrame18 ++ [0xAA, 0xBB]).length 0 = true := by
  decide +kernel
example : RdOK (Rd.newDefault ⟨cmpFrame18 ++ [0xAA, 0xBB], cmpScript⟩) := newDefault_ok _ _ (by decide)
example : (Rd.newDefault ⟨cmpFrame18 ++ [0xAA, 0xBB], cmpScript⟩).Live := live_newDefault _ _ (by decide)
example : 14 + declared (cmpFrame18 ++ [0xAA, 0xBB]) = 18 := by decide +kernel
set_option maxRecDepth 20000 in
example : (decodeRd (Rd.newDefault ⟨cmpFrame18 ++ [0xAA, 0xBB], cmpScript⟩)).1 =
      .ok { flags := 5, seq := 1, proto := 0, intKV := none, strKV := none, headerLen := 18, payloadLen := 0 } ∧
    (decodeRd (Rd.newDefault ⟨cmpFrame18 ++ [0xAA, 0xBB], cmpScript⟩)).2.readLen = 18 ∧
    (decodeRd (Rd.newDefault ⟨cmpFrame18 ++ [0xAA, 0xBB], cmpScript⟩)).2.remaining = [0xAA, 0xBB] := by
  decide +kernel

/-- `cmpFrame18` is an encoded frame: `layout` of the empty parameter set with protocol 0 -/
example : cmpFrame18 = Frame.layout [0, 0, 0, 0x0e] (fp { flags := 5, seq := 1, proto := 0, intKV := [], strKV := [] }) := by
  decide +kernel

-- a source that fails in the middle of the frame: the reader's own error comes back (soundness case)
set_option maxRecDepth 20000 in
example : (decodeRd (Rd.newDefault ⟨cmpFrame18, [⟨14, none⟩, ⟨2, some (.src 3)⟩]⟩)).1 = .err (.rd (.src 3)) := by
  decide +kernel

/-! ## §2 UnmarshalFastMsg ∘ MarshalFastMsg for the shipped structs

  `cmpBaseCodec thr it1 it2` = (*Base) as the FastCodec argument of MarshalFastMsg / UnmarshalFastMsg:
  BLength walks the map in order `it1`, FastWriteNocopy(buf, nil) in order `it2`, FastRead is the
  generated reader (Model/FastCodec; Lemmas/ComposeMsg).  C12's `marshal_unmarshal` is stated for an
  abstract `CodecOK`; the theorems here rest on C11's theorems about the real structs instead. -/

open Verif.Wire in
/-- For every non-empty method name, every non-EXCEPTION message type, every
    seq, every `Base` the wire format can carry, EVERY pair of iteration orders of its map (one for the
    BLength pass, one for the writer) and any content of the fresh buffer: MarshalFastMsg produces
    header ++ struct encoding, and UnmarshalFastMsg of those bytes into any receiver without a map
    returns the same method and seq, a nil error and the same struct — the map as the sequence the
    writer iterated, which is the same map (`Base.Eqv`: a permutation). -/
theorem marshal_unmarshal_base (thr : Nat) (dirt : Nat → UInt8) (method : Bytes) (typ seq : Int)
    (p target : Base) (it1 it2 : SMap)
    (hm : method ≠ []) (hn : method.length < 2^31) (ht : inI32 typ) (hs : inI32 seq)
    (hne : msgType16 typ ≠ 3) (hp : BaseOK p) (h1 : IterOf p.extra it1) (h2 : IterOf p.extra it2)
    (h0 : target.extra = none) :
    ∃ b p', marshalFastMsg (cmpBaseCodec thr it1 it2) dirt method typ seq p = .ok b ∧
      b = enc (.messageBegin method typ seq) ++ encBase (some p) it2 ∧
      unmarshalFastMsg (cmpBaseCodec thr it1 it2) b target = .ok ⟨method, seq, none, p'⟩ ∧
      p' = { p with extra := p.extra.map (fun _ => it2) } ∧ Base.Eqv p' p := by
  have hn' : method.length < 2147483648 := by simpa using hn
  have he := enc_eq_encM (.messageBegin method typ seq) (show (Val.messageBegin method typ seq).args from ⟨ht, hs⟩)
  have hexc : Facts.mEXCEPTION = 3 := by decide +kernel
  refine ⟨_, _, cmp_marshal_base thr dirt method typ seq p it1 it2 hm h1 h2, by rw [he],
    cmp_unmarshal_base thr method typ seq p target it1 it2 hn' hs (by rw [hexc]; exact hne) hp h2 h0, rfl,
    (C11.read_write_base target p it2 [] h0 hp h2).2⟩

open Verif.Wire in
/-- the same for `BaseResp` -/
theorem marshal_unmarshal_baseresp (thr : Nat) (dirt : Nat → UInt8) (method : Bytes) (typ seq : Int)
    (p target : BaseResp) (it1 it2 : SMap)
    (hm : method ≠ []) (hn : method.length < 2^31) (ht : inI32 typ) (hs : inI32 seq)
    (hne : msgType16 typ ≠ 3) (hp : BaseRespOK p) (h1 : IterOf p.extra it1) (h2 : IterOf p.extra it2)
    (h0 : target.extra = none) :
    ∃ b p', marshalFastMsg (cmpBaseRespCodec thr it1 it2) dirt method typ seq p = .ok b ∧
      b = enc (.messageBegin method typ seq) ++ encBaseResp (some p) it2 ∧
      unmarshalFastMsg (cmpBaseRespCodec thr it1 it2) b target = .ok ⟨method, seq, none, p'⟩ ∧
      p' = { p with extra := p.extra.map (fun _ => it2) } ∧ BaseResp.Eqv p' p := by
  have hn' : method.length < 2147483648 := by simpa using hn
  have he := enc_eq_encM (.messageBegin method typ seq) (show (Val.messageBegin method typ seq).args from ⟨ht, hs⟩)
  have hexc : Facts.mEXCEPTION = 3 := by decide +kernel
  refine ⟨_, _, cmp_marshal_baseresp thr dirt method typ seq p it1 it2 hm h1 h2, by rw [he],
    cmp_unmarshal_baseresp thr method typ seq p target it1 it2 hn' hs (by rw [hexc]; exact hne) hp h2 h0, rfl,
    (C11.read_write_baseresp target p it2 [] h0 hp h2).2⟩

/-! ## §3 the stream writers end to end

  C01 proves `BufferWriter.Write*` against an abstract writer log (`Wire.WLog`: a Malloc'ed region is a
  value that is filled and committed); C05 proves that DefaultWriter / BytesWriter (`Wr`: object-level
  model, delayed copy, growth without copying, pool memory with arbitrary content) refine an append-only
  log.  The two logs are connected through CHUNKS (Lemmas/ComposeWriter, ComposeWire): `valChunks v` is the
  sequence Malloc(n) / stores / WriteBinary that Write<v> performs; `cmp_bwWrite_chunks` shows that C01's
  model IS the execution of these chunks on its abstract log; `cmpWriteOps vs` issues the same chunks to
  C05's model (each store names the region id its Malloc returned). -/

open Verif.Wire Verif.C05 in
/-- For EVERY list of values (Go argument ranges), every sound allocator (any
    capacity policy ≥ requested, any content of fresh memory — so any number of growths) and every sink
    script: running `BufferWriter.Write*` for each value over the DefaultWriter model —
    (1) is what C01's abstract model runs (the tie, for every abstract writer state and memory content);
    (2) every call behaves: each Malloc returns the expected region, each WriteBinary takes everything,
        no error, no panic;
    (3) and then Flush makes the sink receive exactly `vs.flatMap enc` in ONE Write call (the sink's
        first); Flush returns that call's answer; nothing is written when there is nothing to write. -/
theorem stream_write_flush_real (a : WAlloc) (ha : a.Sound) (fail : Nat → Option RErr) (vs : List Val)
    (hargs : ∀ v ∈ vs, v.args) :
    (∀ (w : Wire.WLog) (d : Nat → UInt8), bwWriteAll w d vs = runChunksWL w d (vs.flatMap valChunks)) ∧
    ((Start.default fail).model.run a (cmpWriteOps vs)).1 = cmpWriteObs vs ∧
    (after a (.default fail) (cmpWriteOps vs)).err = none ∧
    (vs.flatMap enc = [] → (after a (.default fail) (cmpWriteOps vs)).flush.2.sink.calls = [] ∧
       (after a (.default fail) (cmpWriteOps vs)).flush.1 = .ok ()) ∧
    (vs.flatMap enc ≠ [] →
       (after a (.default fail) (cmpWriteOps vs)).flush.2.sink.calls = [(vs.flatMap enc, fail 1)] ∧
       (fail 1 = none → (after a (.default fail) (cmpWriteOps vs)).flush.1 = .ok () ∧
          (after a (.default fail) (cmpWriteOps vs)).flush.2.sunk = vs.flatMap enc) ∧
       (∀ e, fail 1 = some e → (after a (.default fail) (cmpWriteOps vs)).flush.1 = .err e)) := by
  have h := cmp_real_default a ha fail (vs.flatMap valChunks) (valsChunks_full vs)
  rw [valsChunks_bytes vs hargs] at h
  exact ⟨fun w d => cmp_bwWriteAll_chunks d vs w, h⟩

open Verif.Wire Verif.C05 in
/-- The same over a BytesWriter on ANY initial slice (nil, empty with or
    without capacity, partly filled, full — so the caller's own array may be the first buffer that gets
    parked): every call behaves, Flush succeeds, and the target slice is
    `initial contents ++ vs.flatMap enc`. -/
theorem stream_write_flush_bytes (a : WAlloc) (ha : a.Sound) (s : Start) (hs : ∀ f, s ≠ .default f)
    (vs : List Val) (hargs : ∀ v ∈ vs, v.args) :
    (s.model.run a (cmpWriteOps vs)).1 = cmpWriteObs vs ∧
    (after a s (cmpWriteOps vs)).err = none ∧
    (after a s (cmpWriteOps vs)).flush.1 = .ok () ∧
    (after a s (cmpWriteOps vs)).flush.2.targetBytes = s.init ++ vs.flatMap enc := by
  have h := cmp_real_bytes a ha s hs (vs.flatMap valChunks) (valsChunks_full vs)
  rw [valsChunks_bytes vs hargs] at h
  exact h

open Verif.Wire in
/-- the tie for one value: C01's `bwWrite` is the execution of `valChunks v` on its abstract log, in
    every writer state, for every content of fresh memory; every region is stored completely and the
    chunks' bytes are `enc v` -/
theorem stream_write_chunks (v : Val) :
    (∀ (w : Wire.WLog) (d : Nat → UInt8), bwWrite w d v = runChunksWL w d (valChunks v)) ∧
    (∀ c ∈ valChunks v, c.Full) ∧ (v.args → chunksBytes (valChunks v) = enc v) :=
  ⟨fun w d => cmp_bwWrite_chunks w d v, valChunks_full v, valChunks_bytes v⟩

/-! ### non-vacuity for §3 -/

section
open Verif.Wire Verif.C05

/-- a field header, an i32, a string, a field stop -/
def cmpVals : List Val := [.fieldBegin 11 1, .str [0x68, 0x69], .fieldBegin 8 2, .i32 (-2), .fieldStop]

example : ∀ v ∈ cmpVals, v.args := by decide +kernel
example : cmpVals.flatMap enc = [11, 0, 1, 0, 0, 0, 2, 0x68, 0x69, 8, 0, 2, 0xff, 0xff, 0xff, 0xfe, 0] := by decide +kernel

/-- the history BufferWriter issues: Malloc(3) + three stores, Malloc(4) + store, WriteBinary, … -/
example : cmpWriteOps [.fieldBegin 11 1, .str [0x68, 0x69]] =
    [.malloc 3, .fill 0 0 [11], .fill 0 1 [0], .fill 0 2 [1], .malloc 4, .fill 1 0 [0, 0, 0, 2], .wb [0x68, 0x69]] := by
  decide +kernel

-- the model run itself (DefaultWriter, exact-capacity allocator with 0xEE garbage): one sink call
set_option maxRecDepth 100000 in
example : (after exA (.default (fun _ => none)) (cmpWriteOps cmpVals)).flush.2.sink.calls =
    [([11, 0, 1, 0, 0, 0, 2, 0x68, 0x69, 8, 0, 2, 0xff, 0xff, 0xff, 0xfe, 0], none)] := by decide +kernel

-- BytesWriter over a full 1-byte slice: four growths (the caller's array is parked first), regions are filled after the growths; target = initial ++ encodings
set_option maxRecDepth 100000 in
example : (after exB (.bytes [9] []) (cmpWriteOps cmpVals)).flush.2.targetBytes =
    [9, 11, 0, 1, 0, 0, 0, 2, 0x68, 0x69, 8, 0, 2, 0xff, 0xff, 0xff, 0xfe, 0] := by decide +kernel
set_option maxRecDepth 100000 in
example : (after exB (.bytes [9] []) (cmpWriteOps cmpVals)).pending = [(0, 1), (1, 4), (2, 8), (3, 13)] := by decide +kernel

end

/-! ## §4 ttheader.EncodeToBytes over the real writer

  `cmpEncodeToBytes a s p` = `EncodeToBytes(ctx, p)` with `out := bufiox.NewBytesWriter(&buf)` in start
  state `s` over C05's writer model (Lemmas/ComposeTthEnc): Encode issues Malloc(14), the stores of
  magic+flags and seq, the chunks of the info section, the size check and the store of size/4; then
  Flush.  `cmp_encode_eq` (the tie): C06's `encode p w` is exactly this sequence on its abstract writer. -/

open Verif.C05 in
/-- For every parameter set in the domain (every iteration order of its maps), every
    sound allocator (any garbage in fresh memory, any capacity policy) and every bytes-backed writer:
    EncodeToBytes fails with the size error iff the header info exceeds MaxHeaderSize, and otherwise
    returns `initial contents ++ Frame.layout lf (fp p)` — exactly the documented frame — where `lf` are the
    4 bytes of the total-length field, which Encode never writes (they hold whatever the fresh buffer
    held; the caller must set them: doc comment of Encode).  Also: C06's model of Encode is the same
    call sequence on its abstract writer. -/
theorem encodeToBytes_real (a : WAlloc) (ha : a.Sound) (s : Start) (hs : ∀ f, s ≠ .default f) (p : EncParam)
    (hd : (fp p).Dom) (h64 : infoSize (fp p) < 2 ^ 64) :
    (∀ w : W, encode p w = cmpEncodeW p w) ∧
    (infoSize (fp p) > 65536 → cmpEncodeToBytes a s p = .err .size) ∧
    (infoSize (fp p) ≤ 65536 → ∃ lf : Bytes, lf.length = 4 ∧
      cmpEncodeToBytes a s p = .ok (s.init ++ Frame.layout lf (fp p))) := by
  obtain ⟨hpre, _, hok, lf, hlf, htgt⟩ := cmp_real_encode a ha s hs p
  obtain ⟨hsz, hbytes⟩ := cmp_encode_bytes p hd h64
  have hgood : ((s.model.run a (encPre 0 p)).1).any obsBad = false := by
    rw [hpre, List.any_append, chunksObs_good]; rfl
  have hafter : ((s.model.run a (encPre 0 p)).2.run a (encPost 0 p)).2 = after a s (encPre 0 p ++ encPost 0 p) := by
    unfold after; rw [cmp_run_append]
  refine ⟨cmp_encode_eq p, fun hbig => ?_, fun hsmall => ⟨lf, hlf, ?_⟩⟩
  · unfold cmpEncodeToBytes
    rw [hgood, if_neg (by simp), if_pos (hsz.mpr hbig)]
  · unfold cmpEncodeToBytes
    rw [hgood, if_neg (by simp), if_neg (fun hc => by have := hsz.mp hc; omega), hafter, hok]
    simp only
    rw [htgt, hbytes hsmall lf]

open Verif.C05 in
/-- Writer and reader composed: what EncodeToBytes (over the BytesWriter
    model, empty target) returns, followed by any payload, delivered to a fresh DefaultReader by ANY
    `Steady` source script, is decoded by the stream Decode to the encoded parameters, consuming
    exactly the frame. -/
theorem tth_encode_decode_real (a : WAlloc) (ha : a.Sound) (s : Start) (hs : ∀ f, s ≠ .default f)
    (hinit : s.init = []) (p : EncParam) (hd : (fp p).Dom) (hsup : p.proto ∈ supported)
    (hsz : infoSize (fp p) ≤ 65536) (payload : Bytes) (script : List Resp) (hpl : payload.length ≤ 1000000000)
    (hst : Steady Facts.maxConsecutiveEmptyReads script (14 + infoSize (fp p) + payload.length) 0 = true) :
    ∃ frame d, cmpEncodeToBytes a s p = .ok frame ∧ frame.length = 14 + infoSize (fp p) ∧
      (decodeRd (Rd.newDefault ⟨frame ++ payload, script⟩)).1 = .ok d ∧
      (decodeRd (Rd.newDefault ⟨frame ++ payload, script⟩)).2.readLen = frame.length ∧
      (decodeRd (Rd.newDefault ⟨frame ++ payload, script⟩)).2.remaining = payload ∧
      d.flags = p.flags ∧ d.seq = p.seq ∧ d.proto = p.proto ∧
      (∀ k, (mk d.intKV).lookup k = p.intKV.lookup k) ∧ (∀ k, (mk d.strKV).lookup k = p.strKV.lookup k) ∧
      d.headerLen = (frame.length : Int) := by
  obtain ⟨_, _, hsmall⟩ := encodeToBytes_real a ha s hs p hd (by omega)
  obtain ⟨lf, hlf, henc⟩ := hsmall hsz
  rw [hinit, List.nil_append] at henc
  have hfl := layout_length lf (fp p) hlf
  have hlen : (Frame.layout lf (fp p) ++ payload).length = 14 + infoSize (fp p) + payload.length := by
    rw [List.length_append, hfl]
  obtain ⟨d, h1, h2, h3, h4, h5, h6, h7, h8, h9⟩ := tth_decode_stream_fresh p lf payload script hlf hd hsup hsz
    (by rw [hlen]; unfold sizeBound; omega) (by rw [hlen]; exact hst)
  exact ⟨_, d, henc, hfl, h1, h2, h3, h4, h5, h6, h7, h8, h9⟩

/-! ### non-vacuity for §4 -/

section
open Verif.C05

-- C06's sample parameter set through the BytesWriter model (nil target, 0xEE garbage): the first 4
-- bytes are garbage (the caller's length field), the rest is the frame of C06's example
set_option maxRecDepth 200000 in
example : cmpEncodeToBytes exA .bytesNil C06.sample =
    .ok [0xEE, 0xEE, 0xEE, 0xEE, 0x10, 0x00, 0x80, 0x02, 0xFF, 0xFF, 0xFF, 0xFE, 0x00, 0x07,
         4, 0, 0x11, 0, 1, 116, 0x01, 0, 1, 0, 1, 107, 0, 2, 118, 119,
         0x10, 0, 2, 0, 1, 0, 1, 97, 0xFF, 0xFF, 0, 0] := by
  decide +kernel

example : infoSize (fp C06.sample) ≤ 65536 := by decide +kernel

/-- the history Encode issues for the empty parameter set: meta region, two stores, protocol id,
    transform count, two bytes of padding, size field -/
example : encPre 0 { flags := 5, seq := 1, proto := 0, intKV := [], strKV := [] } ++
          encPost 0 { flags := 5, seq := 1, proto := 0, intKV := [], strKV := [] } =
    [.malloc 14, .fill 0 4 [0x10, 0, 0, 5], .fill 0 8 [0, 0, 0, 1], .malloc 1, .fill 1 0 [0], .malloc 1, .fill 2 0 [0],
     .malloc 2, .fill 3 0 [0, 0], .fill 0 12 [0, 1]] := by
  decide +kernel

end

/-! ## §5 the stream readers of C01 / C12 over C04's liveness

  C01's `stream_read_enc_live` and C12's `msgbegin_stream_live` are already stated on the reader model `Rd`
  for every state and source script, with the operational hypothesis `Wire.Live r n`.  C04 proves when
  a source IS live (`Rd.Live`: everything handed over, or no error seen and a `Steady` rest of the
  script); `cmp_steady_wire_live` connects the two, so the hypothesis becomes a decidable property of
  the script. -/

open Verif.Wire in
/-- every BufferReader.Read<kind> over a reader in C04's domain whose source is live in C04's sense:
    the value is returned, exactly its encoding is consumed, and the reader stays good and live -/
theorem stream_read_enc_steady (v : Val) (hv : v.wf) (r : Rd) (rest : Bytes) (h : RdOK r) (hl : r.Live)
    (hrem : r.remaining = enc v ++ rest) :
    ∃ r', brRead v.kind r = .ok (v, r') ∧ r'.remaining = rest ∧ r'.readLen = r.readLen + (enc v).length :=
  C01.stream_read_enc_live v hv r rest ⟨h.1.ri_le, fun hc => (h.1.cap_zero hc).2⟩ hrem
    (cmp_steady_wire_live _ r h hl (by rw [hrem, List.length_append]; omega))

open Verif.Wire in
/-- fresh DefaultReader, any `Steady` script (any fragmentation, empty reads, last byte with io.EOF) -/
theorem stream_read_enc_fresh (v : Val) (hv : v.wf) (rest : Bytes) (script : List Resp)
    (hS : (enc v ++ rest).length ≤ sizeBound)
    (hst : Steady Facts.maxConsecutiveEmptyReads script (enc v ++ rest).length 0 = true) :
    ∃ r', brRead v.kind (Rd.newDefault ⟨enc v ++ rest, script⟩) = .ok (v, r') ∧ r'.remaining = rest ∧
      r'.readLen = (enc v).length := by
  obtain ⟨r', a, b, c⟩ := stream_read_enc_steady v hv (Rd.newDefault ⟨enc v ++ rest, script⟩) rest
    (newDefault_ok _ script hS) (live_newDefault _ script hst) (newDefault_remaining _ script).1
  refine ⟨r', a, b, ?_⟩
  rw [c]
  show (Rd.newDefault ⟨enc v ++ rest, script⟩).ri + _ = _
  rw [(newDefault_remaining _ script).2]; omega

open Verif.Wire in
/-- C12's stream ReadMessageBegin over a source live in C04's sense -/
theorem msgbegin_stream_steady (name : Bytes) (typ seq : Int) (hn : name.length < 2^31)
    (ht : inI32 typ) (hs : inI32 seq) (r : Rd) (rest : Bytes) (h : RdOK r) (hl : r.Live)
    (hrem : r.remaining = enc (.messageBegin name typ seq) ++ rest) :
    ∃ r', brReadMessageBegin r = .ok ((name, (msgType16 typ : Int), seq), r') ∧ r'.remaining = rest ∧
          r'.readLen = r.readLen + lenMessageBegin name :=
  C12.msgbegin_stream_live name typ seq hn ht hs r rest ⟨h.1.ri_le, fun hc => (h.1.cap_zero hc).2⟩ hrem
    (cmp_steady_wire_live _ r h hl (by rw [hrem, List.length_append]; omega))

end Verif.Compose
