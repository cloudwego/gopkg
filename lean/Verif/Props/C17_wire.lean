/-
  Props/C17_wire — C17 (decode failures carry the Thrift exception type for their cause), the part
  about the scalar/header readers and ReadMessageBegin. Property theorems only.
  `cause` (Spec/Wire.lean) classifies a failed read independently of the code:
  truncated → INVALID_DATA (1), negative string size → NEGATIVE_SIZE (2), bad version → BAD_VERSION (4).
-/
import Verif.Lemmas.WireS
import Verif.Lemmas.WireSrc
namespace Verif.C17
open Verif.Wire

/-- every failure of `Binary.Read<kind>` / `Binary.ReadMessageBegin`, on every byte
    string, is a protocol exception (without wrapped error) whose type id is the one Thrift defines
    for the cause -/
theorem read_err_typeId (k : Kind) (b : Bytes) (e : TErr) (l : Nat) (h : binRead k b = .err (e, l)) :
    e = .pe (cause k b).typeId := binRead_err_cause k b e l h

/-- the model's exception values carry the regenerated type ids of the source: INVALID_DATA = 1,
    NEGATIVE_SIZE = 2, BAD_VERSION = 4 (checked against Facts on every run) -/
theorem typeIds : errShort = .pe 1 ∧ errNeg = .pe 2 ∧ errBadVersion = .pe 4 :=
  ⟨errShort_id, errNeg_id, errBadVersion_id⟩

/-- every failure of a `BufferReader.Read<kind>`, on every reader state and source
    script, is either the reader's own error wrapped by NewProtocolExceptionWithErr (`.wrap e`, which
    `errors.Is` matches against `e`), or — only for strings/binaries and message headers — a
    NEGATIVE_SIZE exception, or — only for message headers — BAD_VERSION; never a bare error, never
    another type id -/
theorem stream_err_wraps (k : Kind) (r : Rd) (e : TErr) (h : brRead k r = .err e) :
    (∃ se, e = .wrap se) ∨ (e = .pe 2 ∧ (k = .binary ∨ k = .str ∨ k = .msg)) ∨ (e = .pe 4 ∧ k = .msg) := by
  have := brRead_errIn k r e h
  unfold StreamErr isWrap at this
  rwa [errNeg_id, errBadVersion_id] at this

/-- the wrapped error is the one the bufiox reader returned: a failing `Next` of the reader model
    surfaces as exactly `.wrap` of its error -/
theorem next_err_wrapped (n : Int) (r r' : Rd) (se : RErr) (h : r.next n = (.fail (some se), r')) :
    brNext n r = .err (.wrap se) := by
  simp [brNext, h]

/-- stream_err_source (provenance): over C04's buffered reader on a source with script `s0`
    (`SrcInv s0 r`: C04's invariant with sizes in range and C04's provenance of the reader's error
    field — true of `Rd.newDefault ⟨S, s0⟩` and of a bytes reader with `s0 = []`, preserved by every
    non-failing call), the error wrapped by a failing `BufferReader.Read<kind>` is the SOURCE's own:
    the first error of its script (io.EOF once the script is exhausted), or io.ErrNoProgress when the
    script has `maxConsecutiveEmptyReads` error-free empty reads in a row — so `errors.Is(err, srcErr)` holds.
    Composes the call structure of the readers with C04's `step_prov`. -/
theorem stream_err_source (s0 : List Resp) (k : Kind) (r : Rd) (h : SrcInv s0 r) (e : TErr)
    (hx : brRead k r = .err e) :
    (∃ se, e = .wrap se ∧ SrcErrOf s0 se) ∨ e = .pe 2 ∨ e = .pe 4 := by
  have := brRead_err_source s0 k r h e hx
  rwa [errNeg_id, errBadVersion_id] at this

/-! non-vacuity -/
example : SrcInv [⟨3, some (.src 7)⟩] (Rd.newDefault ⟨[1, 2, 3], [⟨3, some (.src 7)⟩]⟩) :=
  srcInv_newDefault _ _ (by decide)
example : binRead .str [0x80, 0, 0, 0] = .err (.pe 2, 0) ∧ cause .str [0x80, 0, 0, 0] = .negativeSize := by decide
example : brRead .i32 (Rd.newDefault ⟨[1, 2, 3], [⟨3, some (.src 7)⟩]⟩) = .err (.wrap (.src 7)) := by decide

end Verif.C17
