/-
  Props/C08 — Skippers reject malformed input and agree with the grammar; recursion is bounded.
  Binary.Skip, BytesSkipDecoder, BufferReader.Skip, SkipDecoder over bufiox.Reader, ReaderSkipDecoder,
  their agreement, and the named rejections for each.

  Reference: `refLen d t b = some n` — the first n bytes of b are exactly one well-formed value of
  type t with nesting (leaves included) ≤ d (Spec/Grammar.lean).  "Nesting up to 63 container levels"
  is d = 64; "rejection from 65 container levels" is: not well-formed within d = 65.
-/
import Verif.Lemmas.SkipBinCor
import Verif.Lemmas.SkipTplBytes
import Verif.Lemmas.SkipBRInst
import Verif.Lemmas.SkipBRBytes
import Verif.Lemmas.SkipTplBufiox
import Verif.Lemmas.SkipTplReader
namespace Verif.C08

/-- Binary.Skip never accepts anything that is not a well-formed value within the recursion limit
    (+1 for the boundary zone), and never with a shorter or longer extent. -/
theorem skipBin_sound (b : Bytes) (t : UInt8) (n : Nat) (h : skipBin b t = .ok n) :
    n ≤ b.length ∧ refLen 65 t b = some n := by
  rw [skipBin_ok_iff, defaultRecursionDepth_eq] at h
  have h65 := refBin_le_refLen 64 t b n h
  exact ⟨refLen_le h65, h65⟩

/-- Binary.Skip accepts every well-formed value with nesting ≤ 64 (63 container levels around a
    leaf), with exactly the grammar's extent. -/
theorem skipBin_complete (b : Bytes) (t : UInt8) (n : Nat) (h : refLen 64 t b = some n) :
    skipBin b t = .ok n := by
  rw [skipBin_ok_iff, defaultRecursionDepth_eq]
  exact refLen_le_refBin 64 t b n h

/-- On every input Binary.Skip returns a length or an error — no third outcome. -/
theorem skipBin_total (b : Bytes) (t : UInt8) :
    (∃ n, skipBin b t = .ok n) ∨ (∃ e, skipBin b t = .err e) := Verif.skipBin_total b t

/-- exact extent: if b starts with a well-formed value v (nesting ≤ 64), no other length is reported -/
theorem skipBin_exact_extent (v rest : Bytes) (t : UInt8) (h : refLen 64 t v = some v.length) (n : Nat) :
    skipBin (v ++ rest) t = .ok n ↔ n = v.length := by
  have hc := skipBin_complete (v ++ rest) t v.length (refLen_append h rest)
  constructor
  · intro hn; rw [hc] at hn; exact (Out.ok.inj hn).symm
  · intro hn; rw [hn]; exact hc

/-- nesting beyond the recursion limit (not well-formed within 65 levels) is always rejected -/
theorem skipBin_rejects_deep (b : Bytes) (t : UInt8) (h : refLen 65 t b = none) :
    ∃ e, skipBin b t = .err e := by
  rcases skipBin_total b t with ⟨k, hk⟩ | he
  · have := (skipBin_sound _ _ k hk).2; rw [h] at this; cases this
  · exact he

/-- every strict prefix of a valid encoding is rejected with an error -/
theorem skipBin_rejects_strict_prefix (b : Bytes) (t : UInt8) (d n m : Nat) (h : refLen d t b = some n)
    (hm : m < n) : ∃ e, skipBin (b.take m) t = .err e :=
  skipBin_rejects_deep _ t (refLen_strict_prefix h m hm 65)

/-- a negative declared size at the top of a string, list, set or map is rejected with an error -/
theorem skipBin_rejects_negative_size_string (b : Bytes) (h : ¬ rd32 b < 2147483648) :
    ∃ e, skipBin b TT.STRING = .err e := skipBin_rejects_deep _ _ (refLen_neg_string 65 b h)

theorem skipBin_rejects_negative_size_list (t et : UInt8) (rest : Bytes) (ht : t = TT.LIST ∨ t = TT.SET)
    (h : ¬ rd32 rest < 2147483648) : ∃ e, skipBin (et :: rest) t = .err e :=
  skipBin_rejects_deep _ _ (refLen_neg_list 65 t et rest ht h)

theorem skipBin_rejects_negative_size_map (kt vt : UInt8) (rest : Bytes) (h : ¬ rd32 rest < 2147483648) :
    ∃ e, skipBin (kt :: vt :: rest) TT.MAP = .err e :=
  skipBin_rejects_deep _ _ (refLen_neg_map 65 kt vt rest h)

/-- an unknown type tag that has to be parsed is rejected with an error (at the top; nested tags
    are covered by `skipBin_sound`: a value containing one is not well-formed) -/
theorem skipBin_rejects_unknown_tag (b : Bytes) (t : UInt8)
    (ht : fixedSize t = 0 ∧ t ≠ TT.STRING ∧ t ≠ TT.STRUCT ∧ t ≠ TT.MAP ∧ t ≠ TT.SET ∧ t ≠ TT.LIST) :
    ∃ e, skipBin b t = .err e := skipBin_rejects_deep _ _ (refLen_unknown_type 65 t b ht)

/-- non-vacuity: a list<string> with two elements followed by garbage -/
example : refLen 64 TT.LIST [11, 0,0,0,2, 0,0,0,1, 65, 0,0,0,0, 0xEE] = some 14 := by decide
example : skipBin [11, 0,0,0,2, 0,0,0,1, 65, 0,0,0,0, 0xEE] TT.LIST = .ok 14 :=
  skipBin_complete _ _ _ (by decide)

/-! ### SkipDecoderTpl over a byte slice (BytesSkipDecoder) -/

/-- BytesSkipDecoder.Next never accepts anything that is not a well-formed value within 65 levels,
    and returns exactly its bytes -/
theorem bytesDec_sound (b : Bytes) (t : UInt8) (out : Bytes) (s' : BytesDec)
    (h : bytesDecNext ⟨b, 0⟩ t = .ok (out, s')) :
    ∃ n, refLen 65 t b = some n ∧ n ≤ b.length ∧ out = b.take n ∧ s' = ⟨b.drop n, 0⟩ := by
  have h2 := bytesDecNext_exact b t
  rw [defaultRecursionDepth_eq] at h2
  cases hr : refTpl 64 t b with
  | none => rw [hr] at h2; obtain ⟨e, he⟩ := h2; rw [he] at h; cases h
  | some k =>
    rw [hr] at h2; rw [h2] at h
    cases h
    have h65 := refTpl_le_refLen 64 t b k hr
    exact ⟨k, h65, refLen_le h65, rfl, rfl⟩

/-- … and accepts every well-formed value with nesting ≤ 64 -/
theorem bytesDec_complete (b : Bytes) (t : UInt8) (n : Nat) (h : refLen 64 t b = some n) :
    bytesDecNext ⟨b, 0⟩ t = .ok (b.take n, ⟨b.drop n, 0⟩) := by
  have h2 := bytesDecNext_exact b t
  rw [defaultRecursionDepth_eq, refLen_le_refTpl 64 t b n h] at h2
  exact h2

/-- on every input: a value or an error, no third outcome (no panic) -/
theorem bytesDec_total (b : Bytes) (t : UInt8) :
    (∃ r, bytesDecNext ⟨b, 0⟩ t = .ok r) ∨ (∃ e, bytesDecNext ⟨b, 0⟩ t = .err e) := by
  have h2 := bytesDecNext_exact b t
  cases hr : refTpl Facts.defaultRecursionDepth t b with
  | none => rw [hr] at h2; exact Or.inr h2
  | some k => rw [hr] at h2; exact Or.inl ⟨_, h2⟩

theorem bytesDec_rejects_malformed (b : Bytes) (t : UInt8) (h : refLen 65 t b = none) :
    ∃ e, bytesDecNext ⟨b, 0⟩ t = .err e := by
  rcases bytesDec_total b t with ⟨x, hx⟩ | he
  · obtain ⟨n, h1, _⟩ := bytesDec_sound b t x.1 x.2 hx; rw [h] at h1; cases h1
  · exact he

/-- the two in-memory skippers agree on every well-formed value with nesting ≤ 64 -/
theorem bin_bytesDec_agree (b : Bytes) (t : UInt8) (n : Nat) (h : refLen 64 t b = some n) :
    skipBin b t = .ok n ∧ bytesDecNext ⟨b, 0⟩ t = .ok (b.take n, ⟨b.drop n, 0⟩) :=
  ⟨skipBin_complete b t n h, bytesDec_complete b t n h⟩

/-! ## BufferReader.Skip (stream reader)

  `RdOK r` = C04's reader invariant ∧ sizes ≤ 2^40; `r.Live` = C04's live-source predicate (stream
  exhausted, or no error seen and the remaining script `Steady`); `remaining r` = what the reader
  still owes (buffered-unread ++ unread source).  See Props/C02.lean for the wording. -/

/-- SOUNDNESS over ANY source — any fragmentation, any error at any position, spurious failures,
    empty reads: if BufferReader.Skip reports success, what the reader owed starts with a well-formed
    value within the recursion limit (+1 for the boundary zone), exactly that value has been
    consumed and ReadLen has grown by exactly its length. -/
theorem skipBR_sound (r r' : Rd) (t : UInt8) (hok : RdOK r) (hx : skipBR t r = .ok ((), r')) :
    ∃ n, refLen 65 t r.remaining = some n ∧ n ≤ r.remaining.length ∧
      r'.remaining = r.remaining.drop n ∧ r'.readLen = r.readLen + n := by
  obtain ⟨n, h1, h2, h3, _⟩ := skipBR_sound_any r r' t hok hx
  rw [defaultRecursionDepth_eq] at h1
  have h65 := refBR_le_refLen 64 t _ n h1
  exact ⟨n, h65, refLen_le h65, h2, h3⟩

/-- COMPLETENESS over live sources: every well-formed value with nesting ≤ 64 in front of the reader
    is skipped, with exactly the grammar's extent -/
theorem skipBR_complete (r : Rd) (t : UInt8) (n : Nat) (hok : RdOK r) (hl : r.Live)
    (h : refLen 64 t r.remaining = some n) :
    ∃ r', skipBR t r = .ok ((), r') ∧ r'.remaining = r.remaining.drop n ∧ r'.readLen = r.readLen + n ∧
      RdOK r' ∧ r'.Live :=
  skipBR_completeL liveLike_live r t n hok hl h

/-- … and over C04's generalised live sources `Rd.Live2` (`Live`, or a chunked script — chunks of any
    size, an error only together with the last chunk — over a stream that fits the first buffer) -/
theorem skipBR_complete_live2 (r : Rd) (t : UInt8) (n : Nat) (hok : RdOK r) (hl : r.Live2)
    (h : refLen 64 t r.remaining = some n) :
    ∃ r', skipBR t r = .ok ((), r') ∧ r'.remaining = r.remaining.drop n ∧ r'.readLen = r.readLen + n ∧
      RdOK r' ∧ r'.Live2 :=
  skipBR_completeL liveLike_live2 r t n hok hl h

/-- TOTALITY over ANY source: a result or an error — never a panic (no index out of range on a
    short or nil slice, no (nil, nil) from the reader), and the `for {}` loops terminate -/
theorem skipBR_total (r : Rd) (t : UInt8) (hok : RdOK r) :
    (∃ r', skipBR t r = .ok ((), r')) ∨ (∃ e, skipBR t r = .err e) := skipBR_total_any r t hok

/-- over ANY source: whatever is not a well-formed value within 65 levels is rejected with an error.
    Instances of the hypothesis: every strict prefix of a valid encoding when the stream ends there
    (`refLen_strict_prefix`), a negative declared size (`refLen_neg_string/_list/_map`), an unknown
    type tag (`refLen_unknown_type`), nesting beyond the limit. -/
theorem skipBR_rejects_malformed (r : Rd) (t : UInt8) (hok : RdOK r) (h : refLen 65 t r.remaining = none) :
    ∃ e, skipBR t r = .err e := by
  rcases skipBR_total r t hok with ⟨r', hx⟩ | he
  · obtain ⟨n, h1, _⟩ := skipBR_sound r r' t hok hx
    rw [h] at h1; cases h1
  · exact he

/-- over ANY source: never a shorter or longer extent — if the reader owes `v ++ rest` with `v`
    well-formed (nesting ≤ 64) and Skip succeeds, it has consumed exactly `v` -/
theorem skipBR_exact_extent (r r' : Rd) (v rest : Bytes) (t : UInt8) (hok : RdOK r)
    (hrem : r.remaining = v ++ rest) (h : refLen 64 t v = some v.length)
    (hx : skipBR t r = .ok ((), r')) : r'.remaining = rest ∧ r'.readLen = r.readLen + v.length := by
  obtain ⟨n, h1, _, h2, h3⟩ := skipBR_sound r r' t hok hx
  rw [hrem] at h1 h2
  have hn : n = v.length := refLen_unique h1 (refLen_append h rest)
  subst hn
  exact ⟨by rw [h2, List.drop_left], h3⟩

/-- the stream ends inside a value: rejected with an error, over ANY source -/
theorem skipBR_rejects_strict_prefix (r : Rd) (b : Bytes) (t : UInt8) (d n m : Nat) (hok : RdOK r)
    (h : refLen d t b = some n) (hm : m < n) (hrem : r.remaining = b.take m) :
    ∃ e, skipBR t r = .err e :=
  skipBR_rejects_malformed r t hok (by rw [hrem]; exact refLen_strict_prefix h m hm 65)

/-- bytes-backed reader (`NewBytesReader(b)`, any capacity ≥ len), EVERY byte string, EVERY type
    byte, no size hypothesis: sound, complete, total -/
theorem skipBR_bytes_sound (b : Bytes) (cap : Nat) (t : UInt8) (r' : Rd) (hcap : b.length ≤ cap)
    (hx : skipBR t (Rd.newBytes b cap) = .ok ((), r')) :
    ∃ n, refLen 65 t b = some n ∧ n ≤ b.length ∧ r'.remaining = b.drop n ∧ r'.readLen = n := by
  have h2 := skipBR_newBytes b cap t hcap
  cases hb : refBR 64 t b with
  | none => rw [hb] at h2; obtain ⟨e, he⟩ := h2; rw [he] at hx; cases hx
  | some n =>
    rw [hb] at h2
    obtain ⟨r1, hy, hrem, hlen⟩ := h2
    rw [hy] at hx; cases hx
    have h65 := refBR_le_refLen 64 t b n hb
    exact ⟨n, h65, refLen_le h65, hrem, hlen⟩

theorem skipBR_bytes_complete (b : Bytes) (cap : Nat) (t : UInt8) (n : Nat) (hcap : b.length ≤ cap)
    (h : refLen 64 t b = some n) :
    ∃ r', skipBR t (Rd.newBytes b cap) = .ok ((), r') ∧ r'.remaining = b.drop n ∧ r'.readLen = n := by
  have h2 := skipBR_newBytes b cap t hcap
  rw [refLen_le_refBR 64 t b n h] at h2
  exact h2

theorem skipBR_bytes_total (b : Bytes) (cap : Nat) (t : UInt8) :
    (∃ r', skipBR t (Rd.newBytes b cap) = .ok ((), r')) ∨ (∃ e, skipBR t (Rd.newBytes b cap) = .err e) := by
  have h2 := skipBR_dry (Rd.newBytes b cap) t (newBytes_dry _ _)
  cases hb : refBR Facts.defaultRecursionDepth t (Rd.newBytes b cap).remaining with
  | none => rw [hb] at h2; exact Or.inr h2
  | some n => rw [hb] at h2; obtain ⟨r', hx, _⟩ := h2; exact Or.inl ⟨r', hx⟩

/-! ## SkipDecoder over bufiox.Reader -/

/-- SOUND over ANY source (any fragmentation, errors anywhere, spurious failures): success ⇒ what the
    reader owed starts with a well-formed value within 65 levels; exactly it is returned, exactly it
    is consumed, ReadLen += its length -/
theorem bufioxDec_sound (r r' : Rd) (t : UInt8) (out : Bytes) (hok : RdOK r)
    (hx : bufioxDecNext r t = .ok (out, r')) :
    ∃ n, refLen 65 t r.remaining = some n ∧ n ≤ r.remaining.length ∧ out = r.remaining.take n ∧
      r'.remaining = r.remaining.drop n ∧ r'.readLen = r.readLen + n := by
  rcases bufioxDecNext_any r t hok with ⟨e, he⟩ | ⟨n, r1, hb, hy, hrem, hlen, _⟩
  · rw [he] at hx; cases hx
  · rw [hy] at hx
    cases hx
    rw [defaultRecursionDepth_eq] at hb
    have h65 := refTpl_le_refLen 64 t _ n hb
    exact ⟨n, h65, refLen_le h65, rfl, hrem, hlen⟩

/-- complete (live source): every well-formed value with nesting ≤ 64 is returned exactly -/
theorem bufioxDec_complete (r : Rd) (t : UInt8) (n : Nat) (hok : RdOK r) (hl : r.Live)
    (h : refLen 64 t r.remaining = some n) :
    ∃ r', bufioxDecNext r t = .ok (r.remaining.take n, r') ∧ r'.remaining = r.remaining.drop n ∧
      r'.readLen = r.readLen + n ∧ RdOK r' ∧ r'.Live := by
  have h2 := bufioxDecNext_exact r t hok hl
  rw [defaultRecursionDepth_eq, refLen_le_refTpl 64 t _ n h] at h2
  exact h2

theorem bufioxDec_complete_live2 (r : Rd) (t : UInt8) (n : Nat) (hok : RdOK r) (hl : r.Live2)
    (h : refLen 64 t r.remaining = some n) :
    ∃ r', bufioxDecNext r t = .ok (r.remaining.take n, r') ∧ r'.remaining = r.remaining.drop n ∧
      r'.readLen = r.readLen + n ∧ RdOK r' ∧ r'.Live2 := by
  have h2 := bufioxDecNext_exact2 r t hok hl
  rw [defaultRecursionDepth_eq, refLen_le_refTpl 64 t _ n h] at h2
  exact h2

/-- TOTAL over ANY source: a value or an error — no panic (no slice out of range on the peeked
    window, no nil window), loops terminate -/
theorem bufioxDec_total (r : Rd) (t : UInt8) (hok : RdOK r) :
    (∃ x, bufioxDecNext r t = .ok x) ∨ (∃ e, bufioxDecNext r t = .err e) := by
  rcases bufioxDecNext_any r t hok with he | ⟨n, r1, _, hy, _⟩
  · exact Or.inr he
  · exact Or.inl ⟨_, hy⟩

/-- over ANY source: whatever is not a well-formed value within 65 levels is rejected with an error -/
theorem bufioxDec_rejects_malformed (r : Rd) (t : UInt8) (hok : RdOK r) (h : refLen 65 t r.remaining = none) :
    ∃ e, bufioxDecNext r t = .err e := by
  rcases bufioxDec_total r t hok with ⟨x, hx⟩ | he
  · obtain ⟨n, h1, _⟩ := bufioxDec_sound r x.2 t x.1 hok hx
    rw [h] at h1; cases h1
  · exact he

/-- bytes-backed reader, every byte string, every capacity, every type byte: total -/
theorem bufioxDec_bytes_total (b : Bytes) (cap : Nat) (t : UInt8) :
    (∃ x, bufioxDecNext (Rd.newBytes b cap) t = .ok x) ∨ (∃ e, bufioxDecNext (Rd.newBytes b cap) t = .err e) := by
  have h2 := bufioxDecNext_dry (Rd.newBytes b cap) t (newBytes_dry _ _)
  cases hb : refTpl Facts.defaultRecursionDepth t (Rd.newBytes b cap).remaining with
  | none => rw [hb] at h2; exact Or.inr h2
  | some n => rw [hb] at h2; obtain ⟨r', hx, _⟩ := h2; exact Or.inl ⟨_, hx⟩

/-- bytes-backed reader: sound and complete, no size hypothesis -/
theorem bufioxDec_bytes_sound (b : Bytes) (cap : Nat) (t : UInt8) (out : Bytes) (r' : Rd)
    (hcap : b.length ≤ cap) (hx : bufioxDecNext (Rd.newBytes b cap) t = .ok (out, r')) :
    ∃ n, refLen 65 t b = some n ∧ n ≤ b.length ∧ out = b.take n ∧ r'.remaining = b.drop n ∧
      r'.readLen = n := by
  have h2 := bufioxDecNext_dry (Rd.newBytes b cap) t (newBytes_dry _ _)
  obtain ⟨hr, hri⟩ := newBytes_remaining b cap hcap
  rw [hr, defaultRecursionDepth_eq] at h2
  cases hb : refTpl 64 t b with
  | none => rw [hb] at h2; obtain ⟨e, he⟩ := h2; rw [he] at hx; cases hx
  | some n =>
    rw [hb] at h2
    obtain ⟨r1, hy, hrem, hlen, _⟩ := h2
    rw [hy] at hx
    cases hx
    have h65 := refTpl_le_refLen 64 t b n hb
    exact ⟨n, h65, refLen_le h65, rfl, hrem, by rw [hlen, Rd.readLen, hri, Nat.zero_add]⟩

theorem bufioxDec_bytes_complete (b : Bytes) (cap : Nat) (t : UInt8) (n : Nat) (hcap : b.length ≤ cap)
    (h : refLen 64 t b = some n) :
    ∃ r', bufioxDecNext (Rd.newBytes b cap) t = .ok (b.take n, r') ∧ r'.remaining = b.drop n ∧
      r'.readLen = n := by
  have h2 := bufioxDecNext_dry (Rd.newBytes b cap) t (newBytes_dry _ _)
  obtain ⟨hr, hri⟩ := newBytes_remaining b cap hcap
  rw [hr, defaultRecursionDepth_eq, refLen_le_refTpl 64 t b n h] at h2
  obtain ⟨r', hx, hrem, hlen, _⟩ := h2
  exact ⟨r', hx, hrem, by rw [hlen, Rd.readLen, hri, Nat.zero_add]⟩

/-! ## ReaderSkipDecoder over a plain io.Reader (`Delivers`: Lemmas/SkipTplReader.lean) -/

/-- SOUND over EVERY source script — no hypothesis at all: success ⇒ the unread stream starts with a
    well-formed value within 65 levels, exactly it is returned, and the source has been read exactly
    that far (nothing beyond the value is consumed) -/
theorem readerDec_sound (src src' : Src) (t : UInt8) (out : Bytes)
    (hx : readerDecNext src t = .ok (out, src')) :
    ∃ n, refLen 65 t src.stream = some n ∧ n ≤ src.stream.length ∧ out = src.stream.take n ∧
      src'.stream = src.stream.drop n := by
  rcases readerDecNext_any src t with ⟨e, he⟩ | ⟨n, s1, hb, hy, hrem⟩
  · rw [he] at hx; cases hx
  · rw [hy] at hx
    cases hx
    rw [defaultRecursionDepth_eq] at hb
    have h65 := refTpl_le_refLen 64 t _ n hb
    exact ⟨n, h65, refLen_le h65, rfl, hrem⟩

theorem readerDec_complete (src : Src) (t : UInt8) (n : Nat)
    (hd : Delivers src.script src.stream.length = true) (h : refLen 64 t src.stream = some n) :
    ∃ src', readerDecNext src t = .ok (src.stream.take n, src') ∧ src'.stream = src.stream.drop n ∧
      Delivers src'.script src'.stream.length = true := by
  have h2 := readerDecNext_exact src t hd
  rw [defaultRecursionDepth_eq, refLen_le_refTpl 64 t _ n h] at h2
  exact h2

/-- TOTAL over EVERY source script: a value or an error — no panic -/
theorem readerDec_total (src : Src) (t : UInt8) :
    (∃ x, readerDecNext src t = .ok x) ∨ (∃ e, readerDecNext src t = .err e) := by
  rcases readerDecNext_any src t with he | ⟨n, s1, _, hy, _⟩
  · exact Or.inr he
  · exact Or.inl ⟨_, hy⟩

/-- over EVERY source script: whatever is not a well-formed value within 65 levels is rejected -/
theorem readerDec_rejects_malformed (src : Src) (t : UInt8) (h : refLen 65 t src.stream = none) :
    ∃ e, readerDecNext src t = .err e := by
  rcases readerDec_total src t with ⟨x, hx⟩ | he
  · obtain ⟨n, h1, _⟩ := readerDec_sound src x.2 t x.1 hx
    rw [h] at h1; cases h1
  · exact he

/-! ## agreement of all five facilities -/

/-- On every well-formed value with nesting ≤ 64 (63 container levels around a leaf) followed by
    anything, all five skipping facilities — Binary.Skip, BytesSkipDecoder, BufferReader.Skip (bytes-
    backed and io.Reader-backed), SkipDecoder over bufiox (both), ReaderSkipDecoder — report the same
    extent `n` (= the grammar's), return the same bytes, and leave the same rest. -/
theorem three_agree (b : Bytes) (t : UInt8) (n cap : Nat) (script : List Resp)
    (hcap : b.length ≤ cap) (hsz : b.length ≤ sizeBound)
    (hst : Steady Facts.maxConsecutiveEmptyReads script b.length 0 = true)
    (h : refLen 64 t b = some n) :
    skipBin b t = .ok n ∧
    bytesDecNext ⟨b, 0⟩ t = .ok (b.take n, ⟨b.drop n, 0⟩) ∧
    (∃ r', skipBR t (Rd.newBytes b cap) = .ok ((), r') ∧ r'.remaining = b.drop n ∧ r'.readLen = n) ∧
    (∃ r', skipBR t (Rd.newDefault ⟨b, script⟩) = .ok ((), r') ∧ r'.remaining = b.drop n ∧ r'.readLen = n) ∧
    (∃ r', bufioxDecNext (Rd.newBytes b cap) t = .ok (b.take n, r') ∧ r'.remaining = b.drop n ∧ r'.readLen = n) ∧
    (∃ r', bufioxDecNext (Rd.newDefault ⟨b, script⟩) t = .ok (b.take n, r') ∧ r'.remaining = b.drop n ∧
      r'.readLen = n) ∧
    (∃ src', readerDecNext ⟨b, script⟩ t = .ok (b.take n, src') ∧ src'.stream = b.drop n) := by
  have hok := newDefault_ok b script hsz
  have hl := live_newDefault b script hst
  obtain ⟨hr, hri⟩ := newDefault_remaining b script
  refine ⟨skipBin_complete b t n h, bytesDec_complete b t n h, skipBR_bytes_complete b cap t n hcap h, ?_,
    bufioxDec_bytes_complete b cap t n hcap h, ?_, ?_⟩
  · obtain ⟨r', hx, hrem, hlen, _⟩ := skipBR_complete _ t n hok hl (by rw [hr]; exact h)
    exact ⟨r', hx, by rw [hrem, hr], by rw [hlen, Rd.readLen, hri, Nat.zero_add]⟩
  · obtain ⟨r', hx, hrem, hlen, _⟩ := bufioxDec_complete _ t n hok hl (by rw [hr]; exact h)
    exact ⟨r', by rw [hr] at hx; exact hx, by rw [hrem, hr], by rw [hlen, Rd.readLen, hri, Nat.zero_add]⟩
  · obtain ⟨s', hx, hrem, _⟩ := readerDec_complete ⟨b, script⟩ t n
      (Verif.steady_delivers _ script b.length 0 hst) h
    exact ⟨s', hx, hrem⟩

/-- … and whatever is not a well-formed value within 65 levels (container nesting ≥ 65 in particular)
    is rejected by all of them with an error — the stream facilities over EVERY source script -/
theorem all_reject_beyond_65 (b : Bytes) (t : UInt8) (cap : Nat) (script : List Resp)
    (hcap : b.length ≤ cap) (hsz : b.length ≤ sizeBound) (h : refLen 65 t b = none) :
    (∃ e, skipBin b t = .err e) ∧ (∃ e, bytesDecNext ⟨b, 0⟩ t = .err e) ∧
    (∃ e, skipBR t (Rd.newBytes b cap) = .err e) ∧ (∃ e, skipBR t (Rd.newDefault ⟨b, script⟩) = .err e) ∧
    (∃ e, bufioxDecNext (Rd.newBytes b cap) t = .err e) ∧
    (∃ e, bufioxDecNext (Rd.newDefault ⟨b, script⟩) t = .err e) ∧
    (∃ e, readerDecNext ⟨b, script⟩ t = .err e) := by
  have hok := newDefault_ok b script hsz
  obtain ⟨hr, _⟩ := newDefault_remaining b script
  refine ⟨skipBin_rejects_deep b t h, ?_, ?_, ?_, ?_, ?_, ?_⟩
  · exact bytesDec_rejects_malformed b t h
  · rcases skipBR_bytes_total b cap t with ⟨r', hx⟩ | he
    · obtain ⟨n, h1, _⟩ := skipBR_bytes_sound b cap t r' hcap hx; rw [h] at h1; cases h1
    · exact he
  · exact skipBR_rejects_malformed _ t hok (by rw [hr]; exact h)
  · rcases bufioxDec_bytes_total b cap t with ⟨x, hx⟩ | he
    · obtain ⟨n, h1, _⟩ := bufioxDec_bytes_sound b cap t x.1 x.2 hcap hx; rw [h] at h1; cases h1
    · exact he
  · exact bufioxDec_rejects_malformed _ t hok (by rw [hr]; exact h)
  · exact readerDec_rejects_malformed ⟨b, script⟩ t h

/-- non-vacuity: list<string>["A", ""] followed by garbage, bytes-backed and through a script that
    delivers one byte per read with the last byte together with io.EOF -/
example : ∃ r', skipBR TT.LIST (Rd.newBytes [11, 0,0,0,2, 0,0,0,1, 65, 0,0,0,0, 0xEE] 15) = .ok ((), r') ∧
    r'.remaining = [0xEE] ∧ r'.readLen = 14 :=
  skipBR_bytes_complete _ 15 TT.LIST 14 (by decide) (by decide)

example : Steady Facts.maxConsecutiveEmptyReads
    (List.replicate 14 ⟨1, none⟩ ++ [⟨1, some .eof⟩]) 15 0 = true := by decide

example : (skipBin [11, 0,0,0,2, 0,0,0,1, 65, 0,0,0,0, 0xEE] TT.LIST = .ok 14) ∧
    (∃ src', readerDecNext ⟨[11, 0,0,0,2, 0,0,0,1, 65, 0,0,0,0, 0xEE],
        List.replicate 14 ⟨1, none⟩ ++ [⟨1, some .eof⟩]⟩ TT.LIST
      = .ok ([11, 0,0,0,2, 0,0,0,1, 65, 0,0,0,0], src') ∧ src'.stream = [0xEE]) := by
  have h := three_agree [11, 0,0,0,2, 0,0,0,1, 65, 0,0,0,0, 0xEE] TT.LIST 14 15
    (List.replicate 14 ⟨1, none⟩ ++ [⟨1, some .eof⟩]) (by decide) (by decide) (by decide) (by decide)
  exact ⟨h.1, h.2.2.2.2.2.2⟩

/-- a truncated stream (the source ends inside the value) is rejected by the stream skipper -/
example : ∃ e, skipBR TT.LIST (Rd.newBytes [11, 0,0,0,2, 0,0,0,1, 65, 0,0] 12) = .err e := by
  rcases skipBR_bytes_total [11, 0,0,0,2, 0,0,0,1, 65, 0,0] 12 TT.LIST with ⟨r', hx⟩ | he
  · obtain ⟨n, h1, _⟩ := skipBR_bytes_sound _ 12 TT.LIST r' (by decide) hx
    have : refLen 65 TT.LIST [11, 0,0,0,2, 0,0,0,1, 65, 0,0] = none := by decide
    rw [this] at h1; cases h1
  · exact he

/-! ## named rejections, for every facility (compositions of `_sound`/`_total` with the grammar facts
    `refLen_strict_prefix`, `refLen_neg_*`, `refLen_unknown_type`)

  BytesSkipDecoder on a slice `b`; BufferReader.Skip and SkipDecoder-over-bufiox on a reader in any
  good state over ANY source, in terms of what it still owes (`remaining`); ReaderSkipDecoder over EVERY
  source script, in terms of the unread stream. -/

theorem bytesDec_rejects_strict_prefix (b : Bytes) (t : UInt8) (d n m : Nat) (h : refLen d t b = some n)
    (hm : m < n) : ∃ e, bytesDecNext ⟨b.take m, 0⟩ t = .err e :=
  bytesDec_rejects_malformed _ t (refLen_strict_prefix h m hm 65)
theorem bytesDec_rejects_negative_size_string (b : Bytes) (h : ¬ rd32 b < 2147483648) :
    ∃ e, bytesDecNext ⟨b, 0⟩ TT.STRING = .err e := bytesDec_rejects_malformed _ _ (refLen_neg_string 65 b h)
theorem bytesDec_rejects_negative_size_list (t et : UInt8) (rest : Bytes) (ht : t = TT.LIST ∨ t = TT.SET)
    (h : ¬ rd32 rest < 2147483648) : ∃ e, bytesDecNext ⟨et :: rest, 0⟩ t = .err e :=
  bytesDec_rejects_malformed _ _ (refLen_neg_list 65 t et rest ht h)
theorem bytesDec_rejects_negative_size_map (kt vt : UInt8) (rest : Bytes) (h : ¬ rd32 rest < 2147483648) :
    ∃ e, bytesDecNext ⟨kt :: vt :: rest, 0⟩ TT.MAP = .err e :=
  bytesDec_rejects_malformed _ _ (refLen_neg_map 65 kt vt rest h)
theorem bytesDec_rejects_unknown_tag (b : Bytes) (t : UInt8)
    (ht : fixedSize t = 0 ∧ t ≠ TT.STRING ∧ t ≠ TT.STRUCT ∧ t ≠ TT.MAP ∧ t ≠ TT.SET ∧ t ≠ TT.LIST) :
    ∃ e, bytesDecNext ⟨b, 0⟩ t = .err e := bytesDec_rejects_malformed _ _ (refLen_unknown_type 65 t b ht)
theorem bytesDec_rejects_deep (b : Bytes) (t : UInt8) (h : refLen 65 t b = none) :
    ∃ e, bytesDecNext ⟨b, 0⟩ t = .err e := bytesDec_rejects_malformed b t h

theorem skipBR_rejects_negative_size_string (r : Rd) (hok : RdOK r) (h : ¬ rd32 r.remaining < 2147483648) :
    ∃ e, skipBR TT.STRING r = .err e := skipBR_rejects_malformed r _ hok (refLen_neg_string 65 _ h)
theorem skipBR_rejects_negative_size_list (r : Rd) (t et : UInt8) (rest : Bytes) (hok : RdOK r)
    (hrem : r.remaining = et :: rest) (ht : t = TT.LIST ∨ t = TT.SET) (h : ¬ rd32 rest < 2147483648) :
    ∃ e, skipBR t r = .err e :=
  skipBR_rejects_malformed r t hok (by rw [hrem]; exact refLen_neg_list 65 t et rest ht h)
theorem skipBR_rejects_negative_size_map (r : Rd) (kt vt : UInt8) (rest : Bytes) (hok : RdOK r)
    (hrem : r.remaining = kt :: vt :: rest) (h : ¬ rd32 rest < 2147483648) :
    ∃ e, skipBR TT.MAP r = .err e :=
  skipBR_rejects_malformed r _ hok (by rw [hrem]; exact refLen_neg_map 65 kt vt rest h)
theorem skipBR_rejects_unknown_tag (r : Rd) (t : UInt8) (hok : RdOK r)
    (ht : fixedSize t = 0 ∧ t ≠ TT.STRING ∧ t ≠ TT.STRUCT ∧ t ≠ TT.MAP ∧ t ≠ TT.SET ∧ t ≠ TT.LIST) :
    ∃ e, skipBR t r = .err e := skipBR_rejects_malformed r t hok (refLen_unknown_type 65 t _ ht)
theorem skipBR_rejects_deep (r : Rd) (t : UInt8) (hok : RdOK r) (h : refLen 65 t r.remaining = none) :
    ∃ e, skipBR t r = .err e := skipBR_rejects_malformed r t hok h

theorem bufioxDec_rejects_strict_prefix (r : Rd) (b : Bytes) (t : UInt8) (d n m : Nat) (hok : RdOK r)
    (h : refLen d t b = some n) (hm : m < n) (hrem : r.remaining = b.take m) :
    ∃ e, bufioxDecNext r t = .err e :=
  bufioxDec_rejects_malformed r t hok (by rw [hrem]; exact refLen_strict_prefix h m hm 65)
theorem bufioxDec_rejects_negative_size_string (r : Rd) (hok : RdOK r) (h : ¬ rd32 r.remaining < 2147483648) :
    ∃ e, bufioxDecNext r TT.STRING = .err e := bufioxDec_rejects_malformed r _ hok (refLen_neg_string 65 _ h)
theorem bufioxDec_rejects_negative_size_list (r : Rd) (t et : UInt8) (rest : Bytes) (hok : RdOK r)
    (hrem : r.remaining = et :: rest) (ht : t = TT.LIST ∨ t = TT.SET) (h : ¬ rd32 rest < 2147483648) :
    ∃ e, bufioxDecNext r t = .err e :=
  bufioxDec_rejects_malformed r t hok (by rw [hrem]; exact refLen_neg_list 65 t et rest ht h)
theorem bufioxDec_rejects_negative_size_map (r : Rd) (kt vt : UInt8) (rest : Bytes) (hok : RdOK r)
    (hrem : r.remaining = kt :: vt :: rest) (h : ¬ rd32 rest < 2147483648) :
    ∃ e, bufioxDecNext r TT.MAP = .err e :=
  bufioxDec_rejects_malformed r _ hok (by rw [hrem]; exact refLen_neg_map 65 kt vt rest h)
theorem bufioxDec_rejects_unknown_tag (r : Rd) (t : UInt8) (hok : RdOK r)
    (ht : fixedSize t = 0 ∧ t ≠ TT.STRING ∧ t ≠ TT.STRUCT ∧ t ≠ TT.MAP ∧ t ≠ TT.SET ∧ t ≠ TT.LIST) :
    ∃ e, bufioxDecNext r t = .err e := bufioxDec_rejects_malformed r t hok (refLen_unknown_type 65 t _ ht)
theorem bufioxDec_rejects_deep (r : Rd) (t : UInt8) (hok : RdOK r) (h : refLen 65 t r.remaining = none) :
    ∃ e, bufioxDecNext r t = .err e := bufioxDec_rejects_malformed r t hok h

theorem readerDec_rejects_strict_prefix (b : Bytes) (script : List Resp) (t : UInt8) (d n m : Nat)
    (h : refLen d t b = some n) (hm : m < n) : ∃ e, readerDecNext ⟨b.take m, script⟩ t = .err e :=
  readerDec_rejects_malformed _ t (refLen_strict_prefix h m hm 65)
theorem readerDec_rejects_negative_size_string (src : Src) (h : ¬ rd32 src.stream < 2147483648) :
    ∃ e, readerDecNext src TT.STRING = .err e := readerDec_rejects_malformed src _ (refLen_neg_string 65 _ h)
theorem readerDec_rejects_negative_size_list (t et : UInt8) (rest : Bytes) (script : List Resp)
    (ht : t = TT.LIST ∨ t = TT.SET) (h : ¬ rd32 rest < 2147483648) :
    ∃ e, readerDecNext ⟨et :: rest, script⟩ t = .err e :=
  readerDec_rejects_malformed _ t (refLen_neg_list 65 t et rest ht h)
theorem readerDec_rejects_negative_size_map (kt vt : UInt8) (rest : Bytes) (script : List Resp)
    (h : ¬ rd32 rest < 2147483648) : ∃ e, readerDecNext ⟨kt :: vt :: rest, script⟩ TT.MAP = .err e :=
  readerDec_rejects_malformed _ _ (refLen_neg_map 65 kt vt rest h)
theorem readerDec_rejects_unknown_tag (src : Src) (t : UInt8)
    (ht : fixedSize t = 0 ∧ t ≠ TT.STRING ∧ t ≠ TT.STRUCT ∧ t ≠ TT.MAP ∧ t ≠ TT.SET ∧ t ≠ TT.LIST) :
    ∃ e, readerDecNext src t = .err e := readerDec_rejects_malformed src t (refLen_unknown_type 65 t _ ht)
theorem readerDec_rejects_deep (src : Src) (t : UInt8) (h : refLen 65 t src.stream = none) :
    ∃ e, readerDecNext src t = .err e := readerDec_rejects_malformed src t h

/-! ### non-vacuity at the recursion limit: `k` nested one-element lists around a list<byte>[7] -/

/-- the body of a LIST value of nesting `k + 2` (k+1 containers around a leaf) -/
def deepList : Nat → Bytes
  | 0 => [3, 0,0,0,1, 7]
  | k+1 => [15, 0,0,0,1] ++ deepList k

theorem deepList_length : ∀ k, (deepList k).length = 5 * k + 6
  | 0 => rfl
  | k+1 => by
    simp only [deepList, List.length_append, List.length_cons, List.length_nil, deepList_length k]
    omega

/-- nesting 64 (63 containers around the leaf) -/
theorem deepList_62_wf : refLen 64 TT.LIST (deepList 62) = some 316 := by decide +kernel

/-- nesting 66 -/
theorem deepList_64_deep : refLen 65 TT.LIST (deepList 64) = none := by decide +kernel

/-- nesting 64 (63 containers around the leaf): within the claimed range … -/
example : refLen 64 TT.LIST (deepList 62) = some 316 := deepList_62_wf
/-- … nesting 66: not a value within 65 levels -/
example : refLen 65 TT.LIST (deepList 64) = none := deepList_64_deep

/-- nesting 64 is accepted by all facilities with the same extent (one-byte reads, last byte with io.EOF) -/
example :
    skipBin (deepList 62) TT.LIST = .ok 316 ∧
    (∃ r', skipBR TT.LIST (Rd.newDefault ⟨deepList 62, List.replicate 315 ⟨1, none⟩ ++ [⟨1, some .eof⟩]⟩)
      = .ok ((), r') ∧ r'.readLen = 316) ∧
    (∃ r', bufioxDecNext (Rd.newBytes (deepList 62) 316) TT.LIST = .ok (deepList 62, r')) ∧
    (∃ s', readerDecNext ⟨deepList 62, List.replicate 315 ⟨1, none⟩ ++ [⟨1, some .eof⟩]⟩ TT.LIST
      = .ok (deepList 62, s')) := by
  have hlen : (deepList 62).length = 316 := deepList_length 62
  have h := three_agree (deepList 62) TT.LIST 316 316 (List.replicate 315 ⟨1, none⟩ ++ [⟨1, some .eof⟩])
    (Nat.le_of_eq hlen) (by rw [hlen]; decide) (by rw [hlen]; decide +kernel) deepList_62_wf
  obtain ⟨h1, _, _, ⟨r2, h2, _, h2'⟩, ⟨r3, h3, _⟩, _, ⟨s4, h4, _⟩⟩ := h
  have ht : List.take 316 (deepList 62) = deepList 62 := List.take_of_length_le (Nat.le_of_eq hlen)
  rw [ht] at h3 h4
  exact ⟨h1, ⟨r2, h2, h2'⟩, ⟨r3, h3⟩, ⟨s4, h4⟩⟩

/-- nesting 66 is rejected by all facilities — the stream ones over every script -/
example (script : List Resp) :
    (∃ e, skipBin (deepList 64) TT.LIST = .err e) ∧ (∃ e, bytesDecNext ⟨deepList 64, 0⟩ TT.LIST = .err e) ∧
    (∃ e, skipBR TT.LIST (Rd.newBytes (deepList 64) 400) = .err e) ∧
    (∃ e, skipBR TT.LIST (Rd.newDefault ⟨deepList 64, script⟩) = .err e) ∧
    (∃ e, bufioxDecNext (Rd.newBytes (deepList 64) 400) TT.LIST = .err e) ∧
    (∃ e, bufioxDecNext (Rd.newDefault ⟨deepList 64, script⟩) TT.LIST = .err e) ∧
    (∃ e, readerDecNext ⟨deepList 64, script⟩ TT.LIST = .err e) :=
  all_reject_beyond_65 (deepList 64) TT.LIST 400 script (by rw [deepList_length]; decide)
    (by rw [deepList_length]; decide) deepList_64_deep

end Verif.C08
