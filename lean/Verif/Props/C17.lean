/-
  Props/C17 — Decode failures carry the Thrift exception type for their cause: the SKIP functions.
  (The scalar readers and ReadMessageBegin are in Props/C17_wire.lean.)  Property theorems only.

  `causeBin` (Spec/Cause.lean) classifies, independently of the code, the first failure met when a
  byte string is read as one value of type t: truncated | unknownType | negativeSize | depth; it
  accepts exactly what the grammar accepts (`cause_consistent`).  `typeIdOf` maps a cause to Thrift's
  TProtocolException number: INVALID_DATA 1 (truncation, unknown type), NEGATIVE_SIZE 2, DEPTH_LIMIT 6.
-/
import Verif.Lemmas.SkipBinCause
import Verif.Lemmas.SkipBRWrap
import Verif.Lemmas.SkipBRSource
import Verif.Lemmas.SkipBRCauseRef
import Verif.Lemmas.SkipBRCauseInst
namespace Verif.C17

/-- the classifier and the grammar agree on what is a value, and on its extent -/
theorem cause_consistent (d : Nat) (t : UInt8) (b : Bytes) (n : Nat) :
    causeBin d t b = .ok n ↔ refBin d t b = some n := causeBin_ok_iff d t b n

/-- error-exact refinement — Binary.Skip on EVERY byte string and EVERY type byte returns the extent
    when the classifier accepts, and otherwise the protocol exception (no wrapped error) whose type
    id is the one Thrift defines for the classified cause. Nothing else: no panic, no other id. -/
theorem skipBin_exact (b : Bytes) (t : UInt8) :
    skipBin b t = match causeBin 64 t b with
                  | .ok n => .ok n
                  | .error c => .err (.pe (typeIdOf c)) := by
  rw [skipBin_cause]; cases causeBin 64 t b <;> rfl

/-- every failure of Binary.Skip is a protocol exception whose type id is the one
    Thrift defines for the cause, as classified by the independent reference -/
theorem skipBin_err_typeId (b : Bytes) (t : UInt8) (e : TErr) (h : skipBin b t = .err e) :
    ∃ c, causeBin 64 t b = .error c ∧ e = .pe (typeIdOf c) := by
  rw [skipBin_exact] at h
  cases hc : causeBin 64 t b with
  | ok n => rw [hc] at h; cases h
  | error c => rw [hc] at h; cases h; exact ⟨c, rfl, rfl⟩

/-- … and conversely every classified cause surfaces as that exception -/
theorem skipBin_cause_err (b : Bytes) (t : UInt8) (c : Cause) (h : causeBin 64 t b = .error c) :
    skipBin b t = .err (.pe (typeIdOf c)) := by
  rw [skipBin_exact, h]

/-- truncation (anything cut short, at any nesting level) → INVALID_DATA -/
theorem skipBin_truncated_invalid_data (b : Bytes) (t : UInt8) (h : causeBin 64 t b = .error .truncated) :
    skipBin b t = .err (.pe 1) := skipBin_cause_err b t _ h

/-- a type code that is none of the 11 Thrift types and has to be parsed → INVALID_DATA -/
theorem skipBin_unknown_type_invalid_data (b : Bytes) (t : UInt8)
    (h : causeBin 64 t b = .error .unknownType) : skipBin b t = .err (.pe 1) := skipBin_cause_err b t _ h

/-- a string / container size with the sign bit set → NEGATIVE_SIZE -/
theorem skipBin_negative_size (b : Bytes) (t : UInt8) (h : causeBin 64 t b = .error .negativeSize) :
    skipBin b t = .err (.pe 2) := skipBin_cause_err b t _ h

/-- nesting beyond 64 levels → DEPTH_LIMIT -/
theorem skipBin_depth_limit (b : Bytes) (t : UInt8) (h : causeBin 64 t b = .error .depth) :
    skipBin b t = .err (.pe 6) := skipBin_cause_err b t _ h

/-- the numbers of the spec are the numbers of the source (regenerated on every run), and the
    model's predeclared exception values carry them -/
theorem skip_typeIds :
    typeIdOf .truncated = Facts.peINVALID_DATA ∧ typeIdOf .unknownType = Facts.peINVALID_DATA ∧
    typeIdOf .negativeSize = Facts.peNEGATIVE_SIZE ∧ typeIdOf .depth = Facts.peDEPTH_LIMIT ∧
    errShort = .pe 1 ∧ errUnknownType = .pe 1 ∧ errNeg = .pe 2 ∧ errDepth = .pe 6 := by decide +kernel

/-! ### non-vacuity: each cause occurs, at the top level and nested, incl. the overshoot shapes -/

-- list<i32> of 2 with one element; a struct cut inside a field id; a map<string,i64> whose last
-- value is cut (the overshoot of F4): all truncated
example : causeBin 64 TT.LIST [8, 0,0,0,2, 0,0,0,1] = .error .truncated := by decide +kernel
example : causeBin 64 TT.STRUCT [8, 0] = .error .truncated := by decide +kernel
example : causeBin 64 TT.MAP [0x0b, 0x0a, 0,0,0,1, 0,0,0,0, 0x55] = .error .truncated := by decide +kernel
example : skipBin [0x0b, 0x0a, 0,0,0,1, 0,0,0,0, 0x55] TT.MAP = .err (.pe 1) :=
  skipBin_truncated_invalid_data _ _ (by decide)
-- type 0x10 requested; type 5 as a list element; type 0xff as a struct field
example : causeBin 64 0x10 [1, 2, 3] = .error .unknownType := by decide +kernel
example : causeBin 64 TT.LIST [5, 0,0,0,1, 7] = .error .unknownType := by decide +kernel
example : skipBin [0xff, 0, 1, 7] TT.STRUCT = .err (.pe 1) :=
  skipBin_unknown_type_invalid_data _ _ (by decide)
-- string, list and map sizes 0x80000000 / 0xffffffff, top level and inside a struct field
example : causeBin 64 TT.STRING [0x80, 0, 0, 0] = .error .negativeSize := by decide +kernel
example : causeBin 64 TT.STRUCT [0x0f, 0, 1, 3, 0xff, 0xff, 0xff, 0xff] = .error .negativeSize := by decide +kernel
example : skipBin [3, 3, 0x80, 0, 0, 0, 1, 1] TT.MAP = .err (.pe 2) :=
  skipBin_negative_size _ _ (by decide)
-- the depth rule on a small budget: 2 levels allowed, 3 lists around an empty list
example : causeBin 2 TT.LIST [0x0f, 0,0,0,1, 0x0f, 0,0,0,1, 0x0f, 0,0,0,0] = .error .depth := by decide +kernel
-- a size is read before the elements: negative size inside wins over a later truncation, depth is
-- checked before the nested header is looked at
example : causeBin 1 TT.LIST [0x0f, 0,0,0,1, 0x0f, 0x80] = .error .depth := by decide +kernel
-- accepted values are reported with their extent
example : causeBin 64 TT.MAP [0x0b, 0x0a, 0,0,0,1, 0,0,0,0, 1,2,3,4,5,6,7,8, 0xee] = .ok 18 := by decide +kernel

/-! ## BufferReader.Skip: failures caused by the underlying reader wrap that reader's error -/

/-- a failing `Next` / `Skip` of the underlying reader surfaces as exactly
    NewProtocolExceptionWithErr(e) — `.wrap e`, which `errors.Is` matches against `e` -/
theorem brNext_err_wrapped (n : Int) (r r' : Rd) (se : RErr) (h : r.next n = (.fail (some se), r')) :
    brNext n r = .err (.wrap se) := by
  simp [brNext, h]

theorem brSkipn_err_wrapped (n : Int) (r r' : Rd) (se : RErr) (hn : 0 ≤ n)
    (h : r.skip n = (.fail (some se), r')) : brSkipn n r = .err (.wrap se) := by
  have : ¬ n < 0 := by omega
  simp [brSkipn, h, this]

/-- the counterpart of `stream_err_wraps` for Skip — for EVERY reader state (any buffer contents, any
    source script, any sticky error), type byte and nesting: every error BufferReader.Skip returns is
      * `.wrap se` where `se` is exactly the error a `Next(n)`/`Skip(n)` call (0 ≤ n ≤ 2^35) of the
        underlying reader returned, in a state reached from the initial one through reader calls
        that did not fail (so it is the FIRST failing reader call), or
      * one of NEGATIVE_SIZE / DEPTH_LIMIT / INVALID_DATA("unknown data type").
    Never a bare reader error (`.raw`), never a wrapped error the reader did not return, never
    another type id.  (`BRErr`, `RdReach`, `RdFails`: Lemmas/SkipBRWrap.lean.)
    That `se` is the *source's* own error / io.EOF / io.ErrNoProgress is `skipBR_err_source` below. -/
theorem skipBR_err_wraps (t : UInt8) (r : Rd) (e : TErr) (h : skipBR t r = .err e) : BRErr r e :=
  (skipBR_prov t r).2 e h

/-- the stream-flavoured classifier the Tie B verdict uses for BufferReader.Skip (`causeStream`:
    depth and type code are judged before any byte of a nested value is requested; a non-fixed struct
    field is a nested value) accepts exactly what BufferReader.Skip's acceptance discipline `refBR`
    (C02/C08) accepts, with the same extent -/
theorem causeStream_consistent (d : Nat) (t : UInt8) (b : Bytes) (n : Nat) :
    causeStream d t b = .ok n ↔ refBR d t b = some n := causeStream_ok_iff d t b n

/-- the same, read off as type ids: a wrapped reader error, or id 2 / 6 / 1 without cause -/
theorem skipBR_err_kinds (t : UInt8) (r : Rd) (e : TErr) (h : skipBR t r = .err e) :
    (∃ r1 se, RdReach r r1 ∧ RdFails r1 se ∧ e = .wrap se) ∨ e = .pe 2 ∨ e = .pe 6 ∨ e = .pe 1 := by
  cases skipBR_err_wraps t r e h with
  | wrap hr hf => exact .inl ⟨_, _, hr, hf, rfl⟩
  | neg => exact .inr (.inl (by decide))
  | depth => exact .inr (.inr (.inl (by decide)))
  | unknownType => exact .inr (.inr (.inr (by decide)))

/-- END TO END over the buffered reader of C04 on a scripted source — EVERY stream of at most
    `sizeBound` = 2^40 bytes (the range of `RdOK`, inside C04's request domain),
    EVERY script (any chunking, empty reads, any injected error value at any position), every type
    byte: a failure of BufferReader.Skip is
      * the source's own error — the first error of its script, io.EOF once the script is exhausted —
        or io.ErrNoProgress (only when the script has `maxConsecutiveEmptyReads` quiet entries in a
        row), wrapped by NewProtocolExceptionWithErr so that `errors.Is` still matches it, or
      * NEGATIVE_SIZE / DEPTH_LIMIT / INVALID_DATA(unknown type) without cause.
    (composition of `skipBR_err_wraps` with C04's provenance theorem `step_prov`) -/
theorem skipBR_err_source (S : Bytes) (script : List Resp) (hS : S.length ≤ sizeBound) (t : UInt8) (e : TErr)
    (h : skipBR t (Rd.newDefault ⟨S, script⟩) = .err e) :
    (∃ se, e = .wrap se ∧ (se = firstErr script ∨
        (se = .noProgress ∧ quietRun Facts.maxConsecutiveEmptyReads script 0 = true)))
    ∨ e = .pe 2 ∨ e = .pe 6 ∨ e = .pe 1 := by
  rcases skipBR_err_source_any script _ (srcInv_newDefault S script hS) t e h with ⟨se, he, hs⟩ | h | h | h
  · exact .inl ⟨se, he, hs⟩
  · exact .inr (.inl (by rw [h]; decide))
  · exact .inr (.inr (.inl (by rw [h]; decide)))
  · exact .inr (.inr (.inr (by rw [h]; decide)))

/-- … and over a bytes reader (NewBytesReader; at most `sizeBound` bytes, capacity ≤ 2^64) the only
    reader-caused failure is io.EOF -/
theorem skipBR_bytes_err (b : Bytes) (cap : Nat) (hcap : b.length ≤ cap) (hcap2 : cap ≤ 18446744073709551616)
    (hb : b.length ≤ sizeBound) (t : UInt8) (e : TErr) (h : skipBR t (Rd.newBytes b cap) = .err e) :
    e = .wrap .eof ∨ e = .pe 2 ∨ e = .pe 6 ∨ e = .pe 1 := by
  rcases skipBR_err_source_any [] _ (srcInv_newBytes b cap hcap hcap2 hb) t e h with ⟨se, he, hs⟩ | h | h | h
  · left
    rcases hs with hs | ⟨_, hq⟩
    · rw [he, hs]; rfl
    · exact absurd hq (by decide)
  · exact .inr (.inl (by rw [h]; decide))
  · exact .inr (.inr (.inl (by rw [h]; decide)))
  · exact .inr (.inr (.inr (by rw [h]; decide)))

/-- ERROR-EXACT on bytes-backed readers — EVERY byte string, EVERY capacity ≥ its length, EVERY type
    byte: BufferReader.Skip over NewBytesReader(b) consumes exactly the extent when the stream
    classifier accepts; fails with the reader's error WRAPPED when the cause is truncation (the bytes
    end before the value does); and otherwise fails with the protocol exception, without cause,
    whose type id is Thrift's for the cause (NEGATIVE_SIZE 2, DEPTH_LIMIT 6, INVALID_DATA 1 for an
    unknown type). -/
theorem skipBR_bytes_exact (b : Bytes) (cap : Nat) (hcap : b.length ≤ cap) (t : UInt8) :
    match causeStream 64 t b with
    | .ok n => ∃ r', skipBR t (Rd.newBytes b cap) = .ok ((), r') ∧ r'.readLen = n
    | .error c => ∃ e, skipBR t (Rd.newBytes b cap) = .err e ∧
        (if c = .truncated then ∃ se, e = .wrap se else e = .pe (typeIdOf c)) := by
  have h := skipBR_dry_cause (Rd.newBytes b cap) t (newBytes_dry b cap)
  obtain ⟨hrem, hri⟩ := newBytes_remaining b cap hcap
  rw [hrem] at h
  cases hc : causeStream 64 t b with
  | ok n =>
    rw [hc] at h
    obtain ⟨r', hx, _, hl⟩ := h
    exact ⟨r', hx, by simp only [Rd.readLen] at hl ⊢; omega⟩
  | error c => rw [hc] at h; exact h

/-- ERROR-EXACT over C04's buffered reader on a LIVE scripted source (`Steady`: every byte of the
    stream is deliverable before any error, whatever room the reader offers) — every stream of at most
    `sizeBound` = 2^40 bytes (`RdOK`), every such script (any chunking, empty reads short of the no-progress limit): the same
    three-way agreement with the stream classifier. -/
theorem skipBR_live_exact (S : Bytes) (script : List Resp) (hS : S.length ≤ sizeBound)
    (hst : Steady Facts.maxConsecutiveEmptyReads script S.length 0 = true) (t : UInt8) :
    match causeStream 64 t S with
    | .ok n => ∃ r', skipBR t (Rd.newDefault ⟨S, script⟩) = .ok ((), r') ∧ r'.readLen = n
    | .error c => ∃ e, skipBR t (Rd.newDefault ⟨S, script⟩) = .err e ∧
        (if c = .truncated then ∃ se, e = .wrap se else e = .pe (typeIdOf c)) := by
  have h := skipBR_live_cause (Rd.newDefault ⟨S, script⟩) t (newDefault_ok S script hS)
    (live_newDefault S script hst)
  obtain ⟨hrem, hri⟩ := newDefault_remaining S script
  rw [hrem] at h
  cases hc : causeStream 64 t S with
  | ok n =>
    rw [hc] at h
    obtain ⟨r', hx, _, hl⟩ := h
    exact ⟨r', hx, by simp only [Rd.readLen] at hl ⊢; omega⟩
  | error c => rw [hc] at h; exact h

/-! non-vacuity: an injected source error in the middle of a list, io.EOF on a short stream -/
example : skipBR TT.LIST (Rd.newDefault ⟨[3, 0,0,0,4, 1,2], [⟨7, some (.src 2)⟩]⟩) = .err (.wrap (.src 2)) := by
  decide +kernel
example : skipBR TT.STRING (Rd.newDefault ⟨[0,0,0,9, 1], [⟨5, none⟩]⟩) = .err (.wrap .eof) := by decide +kernel
example : skipBR TT.STRING (Rd.newBytes [0xff, 0, 0, 0] 4) = .err (.pe 2) := by decide +kernel
example : Steady Facts.maxConsecutiveEmptyReads [⟨1, none⟩, ⟨0, none⟩, ⟨1, none⟩, ⟨1, some .eof⟩] 3 0 = true := by
  decide +kernel
-- where the stream differs from Binary.Skip: a nested list at level 3 of 2 with nothing left
example : causeBin 2 TT.LIST [0x0f, 0,0,0,1, 0x0f, 0,0,0,1] = .error .truncated ∧
    causeStream 2 TT.LIST [0x0f, 0,0,0,1, 0x0f, 0,0,0,1] = .error .depth := by decide +kernel
-- an unknown type requested on an empty input: Binary.Skip says "buffer too short" (truncated), the
-- stream skipper says "unknown data type" without asking the reader — both INVALID_DATA
example : causeBin 64 0x10 [] = .error .truncated ∧ causeStream 64 0x10 [] = .error .unknownType := by decide +kernel
example : skipBin [] 0x10 = .err (.pe 1) ∧ skipBR 0x10 (Rd.newBytes [] 0) = .err (.pe 1) := by decide +kernel

end Verif.C17
