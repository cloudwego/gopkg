/-
  Props/C07 — Read-only string maps answer exactly like a Go map.

  Model: `Verif/Model/StrMap.lean` (mirrors container/strmap and internal/strstore).
  Spec:  `Verif/Spec/MapSpec.lean` (association list, `List.lookup`).
  Every theorem below is for EVERY hash function `h : Bytes → Nat` (hence every collision-chain
  shape), EVERY sorter that returns a slot-sorted permutation (sort.Sort is not stable), EVERY
  previous state `st` of the instance (reload to larger or smaller content, stale table cells in the
  spare capacity), every key content (empty key, prefixes, binary) and every value type `V`.
  Helper lemmas: `Verif/Lemmas/StrMap{Slots,Get,Load,Items,Store}.lean`; `Verif/Lemmas/StrMapPreFix.lean`
  (built on these, not imported here) holds the version of `LoadFromSlice` with defect F13.
-/
import Verif.Lemmas.StrMapItems
import Verif.Lemmas.StrMapStore
import Verif.Spec.MapSpec
namespace Verif.C07
open Verif Verif.SMap

variable {V : Type}

/-- `LoadFromSlice` called with the two slices of the pairs `kvs` (what `LoadFromMap` does with the
    pairs in range order, and what `LoadFromSlice(kk, vv)` is for `kvs = kk.zip vv`) -/
def load (h : Bytes → Nat) (sorter : List (Item V) → List (Item V)) (st : StrMap V)
    (kvs : List (Bytes × V)) : Out LErr Unit × StrMap V :=
  loadFromSlice h sorter st (kvs.map (·.1)) (kvs.map (·.2))

/-- the size limits inside which the code accepts a load at all: a key longer than 4 GiB − 1 is
    answered with the error "key too large", ≥ 3·2^29 pairs with the panic "too many items" -/
structure Fits (kvs : List (Bytes × V)) : Prop where
  keys32 : ∀ kv ∈ kvs, kv.1.length ≤ maxU32
  count : CountOk kvs.length

/-! ## the sorter hypothesis is satisfiable (non-vacuity of every theorem below) -/

theorem msort_isSlotSort : IsSlotSort (msort (V := V)) := SMap.msort_isSlotSort

/-! ## calcHashtableSlots -/

/-- the slot count is never 0 (so `% slots` in makeHashtable and Get never divides by zero) and fits
    the int32 it is returned in -/
theorem slots_pos {n s : Nat} (hs : calcSlots n = .ok s) : 0 < s ∧ s < 2147483648 :=
  calcSlots_range hs

/-- no "too many items" panic (and no index panic in the prime table) exactly when
    ⌊n / loadfactor⌋ < 2^31 (`CountOk`), for whatever value the load factor has — only
    `0 < loadfactor ≤ 1` (`lf_pos`, `lf_le`) is used anywhere in the C07 proofs -/
theorem slots_no_panic_iff (n : Nat) : (∃ s, calcSlots n = .ok s) ↔ CountOk n := calcSlots_ok_iff n

theorem slots_panic_iff (n : Nat) : calcSlots n = .panic "too many items" ↔ ¬ CountOk n :=
  calcSlots_panic_iff n

/-- below 2^30 items there is no panic, for every load factor ≥ 1/2 -/
theorem slots_no_panic (hhalf : Facts.loadfactorDen ≤ 2 * Facts.loadfactorNum) {n : Nat}
    (hn : n < 1073741824) : ∃ s, calcSlots n = .ok s :=
  (calcSlots_ok_iff n).mpr (countOk_of_lt_2pow30 hhalf hn)

/-- for the load factor 3/4 of the source the panic threshold is exactly 3·2^29 items -/
theorem slots_panic_iff_current (h3 : Facts.loadfactorNum = 3) (h4 : Facts.loadfactorDen = 4) (n : Nat) :
    calcSlots n = .panic "too many items" ↔ 1610612736 ≤ n := by
  rw [calcSlots_panic_iff, countOk_iff_current h3 h4]; omega

/-- "a prime bigger than n" — the table always has more slots than items — whenever every table
    entry b is at least loadfactor·2^b; `slots_gt_current`: that is so for the 3/4 and the table of the source -/
theorem slots_gt
    (htab : ∀ b, b < Facts.bits2primes.length →
      Facts.loadfactorNum * 2 ^ b ≤ Facts.loadfactorDen * (Facts.bits2primes[b]?.getD 0).toNat)
    {n s : Nat} (hs : calcSlots n = .ok s) : n < s := calcSlots_gt_of_table htab hs

theorem slots_gt_current (h3 : Facts.loadfactorNum = 3) (h4 : Facts.loadfactorDen = 4)
    {n s : Nat} (hs : calcSlots n = .ok s) : n < s := calcSlots_gt_current h3 h4 hs

/-! ## Get = lookup -/

/-- a load of pairs within the size limits succeeds (keys need not even be distinct) -/
theorem load_ok (h : Bytes → Nat) (sorter : List (Item V) → List (Item V)) (hs : IsSlotSort sorter)
    (st : StrMap V) (kvs : List (Bytes × V)) (hf : Fits kvs) :
    (load h sorter st kvs).1 = .ok () := by
  obtain ⟨m', hm, _⟩ := loadFromSlice_pairs h sorter hs st kvs hf.count hf.keys32
  unfold load; rw [hm]

/-- after loading pairs with pairwise distinct keys, `Get(s)` returns exactly what
    the Go map returns — the value of `s` if it is a loaded key, absent otherwise; no panic. -/
theorem get_eq_lookup (h : Bytes → Nat) (sorter : List (Item V) → List (Item V))
    (hs : IsSlotSort sorter) (st : StrMap V) (kvs : List (Bytes × V)) (s : Bytes)
    (hd : MapSpec.DistinctKeys kvs) (hf : Fits kvs) :
    get h (load h sorter st kvs).2 s = .ok (MapSpec.get kvs s) := by
  obtain ⟨m', hm, hL⟩ := loadFromSlice_pairs h sorter hs st kvs hf.count hf.keys32
  unfold load; rw [hm]
  exact hL.get_eq hd s

/-- the same through the two-slice API `LoadFromSlice(kk, vv)` -/
theorem get_eq_lookup_slices (h : Bytes → Nat) (sorter : List (Item V) → List (Item V))
    (hs : IsSlotSort sorter) (st : StrMap V) (kk : List Bytes) (vv : List V) (s : Bytes)
    (hlen : kk.length = vv.length) (hd : kk.Nodup) (hk : ∀ k ∈ kk, k.length ≤ maxU32)
    (hn : CountOk kk.length) :
    (loadFromSlice h sorter st kk vv).1 = .ok () ∧
    get h (loadFromSlice h sorter st kk vv).2 s = .ok (List.lookup s (kk.zip vv)) := by
  obtain ⟨m', hm, hL⟩ := loadFromSlice_spec h sorter hs st kk vv hlen hn hk
  rw [hm]
  exact ⟨rfl, hL.get_eq (by rw [List.map_fst_zip (by omega)]; exact hd) s⟩

/-- `LoadFromMap`: whatever order the Go map is ranged over, the answers are those of the map -/
theorem get_eq_lookup_fromMap (h : Bytes → Nat) (sorter : List (Item V) → List (Item V))
    (hs : IsSlotSort sorter) (st : StrMap V) (kvs order : List (Bytes × V)) (s : Bytes)
    (hperm : order.Perm kvs) (hd : MapSpec.DistinctKeys kvs) (hf : Fits kvs) :
    get h (loadFromMap h sorter st order).2 s = .ok (MapSpec.get kvs s) := by
  have hd' : MapSpec.DistinctKeys order := by
    unfold MapSpec.DistinctKeys at hd ⊢
    exact ((hperm.map _).nodup_iff).mpr hd
  have hf' : Fits order := ⟨fun kv hkv => hf.keys32 kv (hperm.mem_iff.mp hkv), by
    rw [hperm.length_eq]; exact hf.count⟩
  have := get_eq_lookup h sorter hs st order s hd' hf'
  unfold load at this
  unfold loadFromMap
  rw [this]
  exact congrArg Out.ok (lookup_perm hperm hd s)

/-- `Len()` is the number of loaded pairs, every `Item(i)` for `0 ≤ i < Len()` succeeds
    and the enumeration `Item(0), …, Item(Len()-1)` is a permutation of the loaded pairs (a possible
    `range` order of the Go map); outside that range `Item` panics as documented. -/
theorem len_items (h : Bytes → Nat) (sorter : List (Item V) → List (Item V))
    (hs : IsSlotSort sorter) (st : StrMap V) (kvs : List (Bytes × V)) (hf : Fits kvs) :
    len (load h sorter st kvs).2 = MapSpec.len kvs ∧
    (∃ l, MapSpec.IsEnum kvs l ∧ enumItems (load h sorter st kvs).2 = l.map .ok) ∧
    (∀ i : Int, i < 0 ∨ i ≥ kvs.length → item (load h sorter st kvs).2 i = .panic "index") := by
  obtain ⟨m', hm, hL⟩ := loadFromSlice_pairs h sorter hs st kvs hf.count hf.keys32
  unfold load; rw [hm]
  refine ⟨hL.len, hL.enum, ?_⟩
  intro i hi
  apply item_out_of_range
  unfold len; rw [hL.len]; exact hi

/-- the driver's one-pass enumeration is the enumeration by `Item(i)` -/
theorem itemsAll_is_enum (m : StrMap V) : itemsAll m = enumItems m := itemsAll_eq m

/-! ## failed loads, empty and never-loaded maps -/

/-- BOTH error returns of `LoadFromSlice` leave the instance exactly as it was — mismatched slice
    lengths ("kv len not match") and a key of more than 2^32−1 bytes ("key too large", checked before
    anything is reset; the code before commit 3480123, defect F13, checks inside the append loop and
    violates this: `SMap.PreFix.key_too_large_changed` in Lemmas/StrMapPreFix). -/
theorem failed_load_unchanged (h : Bytes → Nat) (sorter : List (Item V) → List (Item V))
    (st : StrMap V) (kk : List Bytes) (vv : List V) :
    (kk.length ≠ vv.length → loadFromSlice h sorter st kk vv = (.err .kvLen, st)) ∧
    (kk.length = vv.length → (∃ k ∈ kk, k.length > maxU32) →
      loadFromSlice h sorter st kk vv = (.err .keyTooLarge, st)) := by
  exact ⟨loadFromSlice_kvLen h sorter st, fun heq ⟨_, hk, hbig⟩ =>
    loadFromSlice_keyTooLarge h sorter st heq (anyKeyTooLarge_true hk hbig)⟩

/-- … and these are the only ways a load can fail below the item-count limit (`CountOk`, which rules
    out the "too many items" panic): `LoadFromSlice` succeeds or returns one of the two errors with an
    unchanged instance -/
theorem load_outcomes (h : Bytes → Nat) (sorter : List (Item V) → List (Item V))
    (hs : IsSlotSort sorter) (st : StrMap V) (kk : List Bytes) (vv : List V)
    (hn : CountOk kk.length) :
    loadFromSlice h sorter st kk vv = (.err .kvLen, st) ∨
    loadFromSlice h sorter st kk vv = (.err .keyTooLarge, st) ∨
    (loadFromSlice h sorter st kk vv).1 = .ok () := by
  by_cases hlen : kk.length = vv.length
  · by_cases hbig : ∃ k ∈ kk, k.length > maxU32
    · right; left
      exact (failed_load_unchanged h sorter st kk vv).2 hlen hbig
    · right; right
      have hk : ∀ k ∈ kk, k.length ≤ maxU32 := by
        intro k hk; apply Nat.le_of_not_lt; intro hlt; exact hbig ⟨k, hk, hlt⟩
      obtain ⟨m', hm, _⟩ := loadFromSlice_spec h sorter hs st kk vv hlen hn hk
      rw [hm]
  · left
    exact (failed_load_unchanged h sorter st kk vv).1 hlen

/-- loading zero pairs gives a 1-slot table and every key is absent -/
theorem empty_loaded (h : Bytes → Nat) (sorter : List (Item V) → List (Item V))
    (hs : IsSlotSort sorter) (st : StrMap V) (s : Bytes) :
    (load h sorter st []).1 = .ok () ∧ (load h sorter st []).2.ht.size = 1 ∧
    len (load h sorter st []).2 = 0 ∧ get h (load h sorter st []).2 s = .ok none := by
  have hf : Fits ([] : List (Bytes × V)) := ⟨(by intro kv hkv; cases hkv), (show CountOk 0 by decide)⟩
  refine ⟨load_ok h sorter hs st [] hf, ?_, (len_items h sorter hs st [] hf).1, ?_⟩
  · obtain ⟨m', hm, hL⟩ := loadFromSlice_pairs h sorter hs st [] hf.count hf.keys32
    unfold load; rw [hm]
    have h1 := hL.slots_ok
    have h2 : calcSlots 0 = .ok 1 := by decide
    rw [show ([] : List (Bytes × V)).length = 0 from rfl, h2] at h1; injection h1 with h1; exact h1.symm
  · exact get_eq_lookup h sorter hs st [] s (by unfold MapSpec.DistinctKeys; exact List.nodup_nil) hf

/-- a map that was never loaded (`New()`) reports every key absent — no panic —
    for every hash function -/
theorem never_loaded (h : Bytes → Nat) (s : Bytes) :
    get h (StrMap.init : StrMap V) s = .ok none ∧ len (StrMap.init : StrMap V) = 0 := by
  simp [SMap.get, StrMap.init, len]

/-- … and that is due to the `len(hashtable) == 0` guard: the method without it (the code before
    commit 46c6b2e) divides by zero on the same input (F8) -/
theorem never_loaded_needs_guard (h : Bytes → Nat) (s : Bytes) :
    getNoGuard h (StrMap.init : StrMap V) s = .panic "divzero" := by
  simp [getNoGuard, StrMap.init]

/-! ## histories on one instance -/

/-- the instance after a history of `LoadFromSlice` calls -/
def runHist (h : Bytes → Nat) (sorter : List (Item V) → List (Item V)) (st : StrMap V)
    (hist : List (MapSpec.Load V)) : StrMap V :=
  hist.foldl (fun m ld => (loadFromSlice h sorter m ld.kk ld.vv).2) st

/-- a request is admissible when, if its slices have equal length, the keys are distinct and within
    the size limits (a request with unequal lengths is always admissible: it must fail) -/
def Admissible (ld : MapSpec.Load V) : Prop :=
  ld.kk.length = ld.vv.length → ld.kk.Nodup ∧ (∀ k ∈ ld.kk, k.length ≤ maxU32) ∧ CountOk ld.kk.length

/-- the representation invariant tying an instance to the Go map `g` it stands for -/
def Rep (h : Bytes → Nat) (m : StrMap V) (g : MapSpec.GoMap V) : Prop :=
  (g = [] ∧ m.ht.size = 0 ∧ m.items = []) ∨ (MapSpec.DistinctKeys g ∧ Loaded h g m)

theorem Rep.get {h : Bytes → Nat} {m : StrMap V} {g : MapSpec.GoMap V} (hr : Rep h m g) (s : Bytes) :
    get h m s = .ok (MapSpec.get g s) ∧ len m = MapSpec.len g := by
  rcases hr with ⟨rfl, h0, hi⟩ | ⟨hd, hL⟩
  · simp [SMap.get, h0, MapSpec.get, len, hi, MapSpec.len]
  · exact ⟨hL.get_eq hd s, hL.len⟩

/-- after ANY sequence of loads on one instance (growing, shrinking, failing in
    between), starting from a never-loaded map, `Get` and `Len` answer like the Go map that the same
    sequence of assignments produces: each successful load replaces the contents, each failed load
    leaves them unchanged. -/
theorem history_get_len (h : Bytes → Nat) (sorter : List (Item V) → List (Item V))
    (hs : IsSlotSort sorter) (hist : List (MapSpec.Load V)) (hadm : ∀ ld ∈ hist, Admissible ld)
    (s : Bytes) :
    get h (runHist h sorter StrMap.init hist) s = .ok (MapSpec.get (MapSpec.after [] hist) s) ∧
    len (runHist h sorter StrMap.init hist) = MapSpec.len (MapSpec.after [] hist) := by
  suffices hrep : ∀ (hist : List (MapSpec.Load V)) (m : StrMap V) (g : MapSpec.GoMap V),
      (∀ ld ∈ hist, Admissible ld) → Rep h m g →
      Rep h (runHist h sorter m hist) (MapSpec.after g hist) by
    exact (hrep hist StrMap.init [] hadm (Or.inl ⟨rfl, rfl, rfl⟩)).get s
  intro hist
  induction hist with
  | nil => intro m g _ hr; exact hr
  | cons ld rest ih =>
    intro m g hadm hr
    have hrest : ∀ x ∈ rest, Admissible x := fun x hx => hadm x (List.mem_cons_of_mem _ hx)
    unfold runHist MapSpec.after
    simp only [List.foldl_cons]
    by_cases hlen : ld.kk.length = ld.vv.length
    · simp only [hlen, if_true]
      obtain ⟨hd, hk, hn⟩ := hadm ld List.mem_cons_self hlen
      obtain ⟨m', hm, hL⟩ := loadFromSlice_spec h sorter hs m ld.kk ld.vv hlen hn hk
      rw [hm]
      apply ih m' _ hrest
      right
      exact ⟨by unfold MapSpec.DistinctKeys; rw [List.map_fst_zip (by omega)]; exact hd, hL⟩
    · simp only [hlen, if_false]
      rw [(failed_load_unchanged h sorter m ld.kk ld.vv).1 hlen]
      exact ih m g hrest hr

/-! ## Str2Str -/

/-- after `Str2Str.LoadFromSlice(kk, vv)` with distinct keys, `Get(k)` returns exactly
    the value string loaded for `k` (read back through the StrStore offset and length prefix, with no
    out-of-bounds load and no slice panic), absent for every other string; `Len` is the number of
    pairs. For every previous state of the instance, including the zero value. -/
theorem str2str_get (h : Bytes → Nat) (sorter : List (Item Int) → List (Item Int))
    (hs : IsSlotSort sorter) (sm : Str2Str) (kk vv : List Bytes) (s : Bytes)
    (hlen : kk.length = vv.length) (hd : kk.Nodup)
    (hk : ∀ k ∈ kk, k.length ≤ maxU32) (hv : ∀ v ∈ vv, v.length ≤ maxU32)
    (hn : CountOk kk.length) :
    (s2sLoad h sorter sm kk vv).1 = .ok () ∧
    s2sGet h (s2sLoad h sorter sm kk vv).2 s = .ok (List.lookup s (kk.zip vv)) ∧
    s2sLen (s2sLoad h sorter sm kk vv).2 = .ok kk.length := by
  have hany : (vv.any (fun s => decide (s.length > maxU32))) = false := by
    rw [List.any_eq_false]
    intro v hvm; have := hv v hvm; simp; omega
  have hidlen : kk.length = (packLoop vv 0).2.length := by rw [packLoop_length]; exact hlen
  obtain ⟨m', hm, hL⟩ := loadFromSlice_spec h sorter hs (mapOrNew sm.strMap) kk (packLoop vv 0).2 hidlen hn hk
  have hget := hL.get_eq (by rw [List.map_fst_zip (by omega)]; exact hd) s
  have hpack := lookup_pack s kk vv 0 [] [] hlen hv rfl
  simp only [List.nil_append, List.append_nil] at hpack
  have hl : ¬ (kk.length ≠ vv.length) := by omega
  unfold s2sLoad storeLoad
  simp only [hl, if_false, hany, anyKeyTooLarge_false hk, Bool.false_eq_true, hm]
  refine ⟨trivial, ?_, ?_⟩
  · simp only [s2sGet, hget]
    cases hlk : List.lookup s (kk.zip (packLoop vv 0).2) with
    | none => rw [hlk] at hpack; rw [Option.map_eq_none_iff.mp hpack.symm]
    | some id =>
      rw [hlk] at hpack
      obtain ⟨v, hv1, hv2⟩ := Option.map_eq_some_iff.mp hpack.symm
      simp only [hv1, ← hv2]
  · simp only [s2sLen, len, hL.len, List.length_zip, ← hidlen, Nat.min_self]

/-- failed Str2Str load (mismatched lengths, or a key too large): nothing changed — neither the key
    map nor the value store -/
theorem str2str_failed_load_unchanged (h : Bytes → Nat) (sorter : List (Item Int) → List (Item Int))
    (sm : Str2Str) (kk vv : List Bytes) :
    (kk.length ≠ vv.length → s2sLoad h sorter sm kk vv = (.err .kvLen, sm)) ∧
    (kk.length = vv.length → (∃ k ∈ kk, k.length > maxU32) →
      s2sLoad h sorter sm kk vv = (.err .keyTooLarge, sm)) := by
  constructor
  · intro hne; unfold s2sLoad; simp [hne]
  · rintro heq ⟨k, hk, hbig⟩
    unfold s2sLoad
    simp [heq, anyKeyTooLarge_true hk hbig]

/-- never-loaded `NewStr2Str()`: every key absent, Len 0, no panic -/
theorem str2str_never_loaded (h : Bytes → Nat) (s : Bytes) :
    s2sGet h Str2Str.init s = .ok none ∧ s2sLen Str2Str.init = .ok 0 := by
  simp [s2sGet, s2sLen, Str2Str.init, SMap.get, StrMap.init, len]

/-! ## constructors (`NewFromSlice`, `NewFromMap`, `NewStr2StrFromSlice/Map`) and `String()` -/

/-- a constructor is a load on a fresh `New()` object: it returns the object exactly when that load
    succeeds, and the object is the loaded one -/
theorem newFromSlice_eq_load (h : Bytes → Nat) (sorter : List (Item V) → List (Item V))
    (kk : List Bytes) (vv : List V) (m : StrMap V) :
    newFromSlice h sorter kk vv = .ok m ↔ loadFromSlice h sorter StrMap.init kk vv = (.ok (), m) := by
  unfold newFromSlice
  generalize loadFromSlice h sorter StrMap.init kk vv = r
  obtain ⟨o, m'⟩ := r
  cases o <;> simp

theorem newFromMap_eq_load (h : Bytes → Nat) (sorter : List (Item V) → List (Item V))
    (order : List (Bytes × V)) (m : StrMap V) :
    newFromMap h sorter order = .ok m ↔ loadFromMap h sorter StrMap.init order = (.ok (), m) :=
  newFromSlice_eq_load h sorter _ _ m

/-- where the constructors differ from the loaders: an error return becomes a panic carrying the
    error (mismatched lengths: "kv len not match"), and there is no object -/
theorem newFromSlice_mismatch_panics (h : Bytes → Nat) (sorter : List (Item V) → List (Item V))
    (kk : List Bytes) (vv : List V) (hne : kk.length ≠ vv.length) :
    newFromSlice h sorter kk vv = .panic "kv len not match" := by
  unfold newFromSlice
  rw [(failed_load_unchanged h sorter StrMap.init kk vv).1 hne]; rfl

/-- `NewFromMap` of a Go map with contents `kvs` (any range order): an object that answers like it -/
theorem newFromMap_get (h : Bytes → Nat) (sorter : List (Item V) → List (Item V))
    (hs : IsSlotSort sorter) (kvs order : List (Bytes × V)) (s : Bytes)
    (hperm : order.Perm kvs) (hd : MapSpec.DistinctKeys kvs) (hf : Fits kvs) :
    ∃ m, newFromMap h sorter order = .ok m ∧ get h m s = .ok (MapSpec.get kvs s) ∧
      len m = MapSpec.len kvs := by
  have hf' : Fits order := ⟨fun kv hkv => hf.keys32 kv (hperm.mem_iff.mp hkv), by
    rw [hperm.length_eq]; exact hf.count⟩
  have e : load h sorter StrMap.init order = loadFromMap h sorter StrMap.init order := rfl
  have hok := load_ok h sorter hs StrMap.init order hf'
  have hlen := (len_items h sorter hs StrMap.init order hf').1
  rw [e] at hok hlen
  refine ⟨(loadFromMap h sorter StrMap.init order).2, ?_,
    get_eq_lookup_fromMap h sorter hs StrMap.init kvs order s hperm hd hf, ?_⟩
  · exact (newFromMap_eq_load h sorter order _).mpr (Prod.ext hok rfl)
  · rw [hlen]; exact hperm.length_eq

/-- `NewFromSlice(kk, vv)` with distinct keys: an object that answers like the Go map -/
theorem newFromSlice_get (h : Bytes → Nat) (sorter : List (Item V) → List (Item V))
    (hs : IsSlotSort sorter) (kk : List Bytes) (vv : List V) (s : Bytes)
    (hlen : kk.length = vv.length) (hd : kk.Nodup) (hk : ∀ k ∈ kk, k.length ≤ maxU32)
    (hn : CountOk kk.length) :
    ∃ m, newFromSlice h sorter kk vv = .ok m ∧ get h m s = .ok (List.lookup s (kk.zip vv)) := by
  obtain ⟨hok, hget⟩ := get_eq_lookup_slices h sorter hs StrMap.init kk vv s hlen hd hk hn
  exact ⟨_, (newFromSlice_eq_load h sorter kk vv _).mpr (Prod.ext hok rfl), hget⟩

/-- `NewStr2StrFromSlice` / `NewStr2StrFromMap`: the same for Str2Str -/
theorem newStr2StrFromSlice_get (h : Bytes → Nat) (sorter : List (Item Int) → List (Item Int))
    (hs : IsSlotSort sorter) (kk vv : List Bytes) (s : Bytes)
    (hlen : kk.length = vv.length) (hd : kk.Nodup)
    (hk : ∀ k ∈ kk, k.length ≤ maxU32) (hv : ∀ v ∈ vv, v.length ≤ maxU32) (hn : CountOk kk.length) :
    ∃ sm, newStr2StrFromSlice h sorter kk vv = .ok sm ∧
      s2sGet h sm s = .ok (List.lookup s (kk.zip vv)) ∧ s2sLen sm = .ok kk.length := by
  obtain ⟨hok, hget, hl⟩ := str2str_get h sorter hs Str2Str.init kk vv s hlen hd hk hv hn
  refine ⟨(s2sLoad h sorter Str2Str.init kk vv).2, ?_, hget, hl⟩
  unfold newStr2StrFromSlice
  generalize s2sLoad h sorter Str2Str.init kk vv = r at hok
  obtain ⟨o, m'⟩ := r
  simp only at hok; subst hok; rfl

/-- `String()` does not panic on a never-loaded, an empty or any loaded map -/
theorem string_no_panic (h : Bytes → Nat) (sorter : List (Item V) → List (Item V))
    (hs : IsSlotSort sorter) (st : StrMap V) (kvs : List (Bytes × V)) (hf : Fits kvs) :
    stringCall (StrMap.init : StrMap V) = .ok () ∧ stringCall (load h sorter st kvs).2 = .ok () := by
  constructor
  · simp [stringCall, StrMap.init]
  · obtain ⟨m', hm, hL⟩ := loadFromSlice_pairs h sorter hs st kvs hf.count hf.keys32
    unfold load; rw [hm]
    unfold stringCall
    have : m'.items.all (fun e => (keyAt m'.data e).isSome) = true := by
      rw [List.all_eq_true]
      intro e he
      obtain ⟨kv, _, h1, _⟩ := hL.item_mem he
      rw [h1]; rfl
    simp [this]

/-! ## non-vacuity: concrete instances inside the hypotheses, with colliding hashes -/

/-- all keys collide (constant hash), keys are prefixes of one another and include the empty key;
    the previous state is a loaded map of a different size -/
example :
    let h : Bytes → Nat := fun _ => 12345678901
    let kvs : List (Bytes × Nat) := [([97], 1), ([], 2), ([97, 98], 3), ([97, 0], 4), ([0], 5)]
    let st := (load h msort StrMap.init [([120], 9), ([121], 8)]).2
    get h (load h msort st kvs).2 [97, 98] = .ok (some 3) ∧
    get h (load h msort st kvs).2 [] = .ok (some 2) ∧
    get h (load h msort st kvs).2 [120] = .ok none ∧
    get h (load h msort st kvs).2 [97, 98, 0] = .ok none := by
  intro h kvs st
  have hd : MapSpec.DistinctKeys kvs := by unfold MapSpec.DistinctKeys; decide
  have hf : Fits kvs := ⟨by decide, by decide⟩
  simp only [get_eq_lookup h msort msort_isSlotSort st kvs _ hd hf]
  decide

/-- two chains: hash = first byte mod 2 -/
example :
    let h : Bytes → Nat := fun b => (b.headD 0).toNat % 2
    let kvs : List (Bytes × Nat) := [([2], 1), ([4, 1], 2), ([3], 3), ([6], 4)]
    get h (load h msort StrMap.init kvs).2 [6] = .ok (some 4) ∧
    get h (load h msort StrMap.init kvs).2 [5] = .ok none := by
  intro h kvs
  have hd : MapSpec.DistinctKeys kvs := by unfold MapSpec.DistinctKeys; decide
  have hf : Fits kvs := ⟨by decide, by decide⟩
  simp only [get_eq_lookup h msort msort_isSlotSort StrMap.init kvs _ hd hf]
  decide

/-- Str2Str with colliding keys and repeated / empty values -/
example :
    let h : Bytes → Nat := fun _ => 0
    s2sGet h (s2sLoad h msort Str2Str.zero [[1], [], [1, 2]] [[7, 7], [], [7, 7]]).2 [1, 2] = .ok (some [7, 7]) ∧
    s2sGet h (s2sLoad h msort Str2Str.zero [[1], [], [1, 2]] [[7, 7], [], [7, 7]]).2 [] = .ok (some []) ∧
    s2sGet h (s2sLoad h msort Str2Str.zero [[1], [], [1, 2]] [[7, 7], [], [7, 7]]).2 [2] = .ok none := by
  intro h
  have := fun s => (str2str_get h msort msort_isSlotSort Str2Str.zero [[1], [], [1, 2]] [[7, 7], [], [7, 7]] s
    rfl (by decide) (by decide) (by decide) (by decide)).2.1
  simp only [this]
  decide

/-- a history: load 3, fail, shrink to 1, grow to 2 -/
example :
    let h : Bytes → Nat := fun _ => 5
    let hist : List (MapSpec.Load Nat) :=
      [⟨[[1], [2], [3]], [10, 20, 30]⟩, ⟨[[9]], []⟩, ⟨[[2]], [21]⟩, ⟨[[4], [1]], [40, 11]⟩]
    get h (runHist h msort StrMap.init hist) [1] = .ok (some 11) ∧
    get h (runHist h msort StrMap.init hist) [2] = .ok none := by
  intro h hist
  have hadm : ∀ ld ∈ hist, Admissible ld := by
    intro ld hld
    simp only [hist, List.mem_cons, List.not_mem_nil, or_false] at hld
    rcases hld with rfl | rfl | rfl | rfl <;> (intro _; refine ⟨by decide, by decide, by decide⟩)
  simp only [(history_get_len h msort msort_isSlotSort hist hadm _).1]
  decide

end Verif.C07
