/-
  Props/C03_uf — the unknown-field part of C03: ConvertUnknownFields on EVERY byte string terminates with a
  result or an error, never panics (no `buf[k:]` out of range, no failed type assertion, no index), never
  reads outside its slice, and its recursion never nests more than maxRecursionDepth + 1 frames (property
  theorems only).
  Model: Model/Unknown, Model/UnknownDepth (the same functions instrumented with the depth reached).
  ConvertUnknownFields returns no consumed length; the "never over-reports" part of C03 is stated for
  readUnknownField (`uf_read_within`), whose length every caller uses to slice.
-/
import Verif.Lemmas.UnknownSafe
import Verif.Lemmas.UnknownDepth
namespace Verif.C03

/-- For every byte string: ConvertUnknownFields returns fields or an error — no Go panic, no unsafe load,
    and neither `for {}` loop runs out of fuel (`panic "nofuel"` is a panic outcome of the model), i.e. the
    real loops terminate. -/
theorem uf_convert_safe (b : Bytes) : (convertUF b).Safe := (convertM_noPanic _ b).safe

theorem uf_convert_total (b : Bytes) : (∃ fs, convertUF b = .ok fs) ∨ (∃ e, convertUF b = .err e) :=
  (convertM_noPanic Facts.ufMaxRecursionDepth b).ok_or_err.imp (fun ⟨fs, h, _⟩ => ⟨fs, h⟩) id

/-- readUnknownField, for every slice, type byte (including ≥ 0x80), id and depth limit: an error, or a
    success whose reported length is at most the length of the slice (so the caller's `buf[length:]` is in
    range); never a panic. -/
theorem uf_read_within (m : Nat) (b : Bytes) (t : UInt8) (id : UInt16) :
    (∃ e, readUF m b t id = .err e) ∨ (∃ f n, readUF m b t id = .ok (f, n) ∧ n ≤ b.length) :=
  (readUF_inB m b t id).ok_or_err.symm.imp (fun h => h) fun ⟨p, h, hp⟩ => ⟨p.1, p.2, h, hp⟩

/-- The instrumented converter is the converter (erasing the depth), and on every byte string the
    nesting of readUnknownField frames never exceeds maxRecursionDepth + 1 = 66: 65 frames that work and
    one that only returns DEPTH_LIMIT. -/
theorem uf_recDepth_le (b : Bytes) :
    (convertUFD b).2 = convertUF b ∧ (convertUFD b).1 ≤ Facts.ufMaxRecursionDepth + 1 :=
  convertMD_rel _ b

/-! ## non-vacuity -/

/-- nested struct {1: map<i32,i64>{}, 2: i32 7}: two nested frames (the field, its children) -/
example : (convertUFD [0x0c, 0, 1, 0x0d, 0, 1, 0x08, 0x0a, 0, 0, 0, 0, 0x08, 0, 2, 0, 0, 0, 7, 0]).1 = 2 := by decide

/-- k nested structs (each the only field of its parent), cut after the innermost field header -/
def deepStructs : Nat → Bytes
  | 0 => []
  | k+1 => [0x0c, 0, 1] ++ deepStructs k

-- the bound is reached: maxRecursionDepth + 5 nested struct headers drive the recursion to exactly
-- maxRecursionDepth + 1 frames and DEPTH_LIMIT (generic in the constant)
set_option maxRecDepth 16000 in
example : convertUFD (deepStructs (Facts.ufMaxRecursionDepth + 5)) = (Facts.ufMaxRecursionDepth + 1, .err .depth) := by
  decide

/-- a hostile type byte ≥ 0x80 and a truncated input are plain errors -/
example : convertUF [0x80, 0, 1, 0] = .err .unktype := by decide
example : convertUF [0x0b, 0, 1, 0, 0] = .err .short := by decide
example : convertUF [0x0b, 0, 1, 0xff, 0xff, 0xff, 0xff] = .err .negsize := by decide

end Verif.C03
