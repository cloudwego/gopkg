/-
  Props/C19 — Apache bridge: buffer transport is the buffer; callbacks pass through
  (property theorems only).  Thin by nature: that the transport handle and the buffer handle are one
  state is the modelling ASSUMPTION for the `unsafe.Pointer` cast (checked by Tie B, family `apx`);
  what is proved is that on that state every history behaves as one FIFO queue.
-/
import Verif.Lemmas.Apache
namespace Verif.C19
open Verif.Apx

/-- After every sequence of Write/Read/Reset/Close/no-op operations through either handle, starting
    from `bytes.NewBuffer(init)`: the transport's RemainingBytes equals the buffer's Len, and both equal
    the number of unread bytes of the FIFO queue. -/
theorem remaining_eq_len (init : Bytes) (ops : List Op) :
    remainingBytes (run (Buf.new init) ops).1 = (run (Buf.new init) ops).1.len ∧
    (run (Buf.new init) ops).1.len = (specRun init ops).1.length := by
  refine ⟨rfl, ?_⟩
  have h := (run_refines ops (Buf.new init) (Buf.new_wf init)).2.1
  rw [Buf.len_eq, h]
  rfl

/-- Every read, write and reset through either handle is visible through the other: all results and
    the unread contents are those of the one FIFO queue … -/
theorem history_is_queue (init : Bytes) (ops : List Op) :
    (run (Buf.new init) ops).2 = (specRun init ops).2 ∧
    (run (Buf.new init) ops).1.bytes = (specRun init ops).1 := by
  have h := run_refines ops (Buf.new init) (Buf.new_wf init)
  exact ⟨h.2.2, h.2.1⟩

/-- … and which handle performs an operation makes no difference. -/
theorem handle_irrelevant (s : Buf) (ops : List Op) : run s (ops.map swapHandle) = run s ops := by
  induction ops generalizing s with
  | nil => rfl
  | cons op ops ih => simp only [List.map_cons, run, step_swap, ih]

/-- the `len(b.buf) - b.off` of `Len()` never underflows on a reachable state -/
theorem reachable_wf (init : Bytes) (ops : List Op) : (run (Buf.new init) ops).1.WF :=
  (run_refines ops (Buf.new init) (Buf.new_wf init)).1

/-- Close (through the transport) empties the buffer, whatever it held. -/
theorem close_empties (s : Buf) :
    (step s .close).1.len = 0 ∧ (step s .close).1.bytes = [] ∧ remainingBytes (step s .close).1 = 0 := by
  simp [step, Buf.reset, Buf.len, Buf.bytes, remainingBytes]

/-- Generic transport: the wrapped object's readable length when it exposes a positive one,
    otherwise "unknown" = 2⁶⁴ − 1. -/
theorem remaining_default (rl : Option Int) :
    remainingDefault rl =
      match rl with
      | some n => if 0 < n then n.toNat else 18446744073709551615
      | none => 18446744073709551615 := by
  cases rl <;> simp [remainingDefault]

theorem remaining_default_pos (n : Int) (h : 0 < n) : (remainingDefault (some n) : Int) = n := by
  simp [remainingDefault, h]; omega

/-- The generic transport reports the wrapped object's readable length (when positive, else
    "unknown") regardless of any other method the object has — in particular regardless of a
    `RemainingBytes` of its own; a `*bufferTransport` handed back in is wrapped like anything else and,
    having no `ReadableLen`, reports "unknown"; only a `*bytes.Buffer` becomes a buffer transport. -/
theorem remaining_default_ignores_own (rl : Option Int) (own : Option Nat) (s : Buf) :
    newDefaultRemaining (.other rl own) = remainingDefault rl ∧
    newDefaultRemaining (.bufferTransport s) = 18446744073709551615 ∧
    newDefaultRemaining (.bytesBuffer s) = s.len := ⟨rfl, rfl, rfl⟩

/-- Close of the generic transport returns (nil) without touching the wrapped object: state, unread
    bytes and the remaining-bytes figure are unchanged — unlike the buffer transport (`close_empties`). -/
theorem close_noop (d : DT) :
    dtStep d .close = (d, .done) ∧ dtRemaining (dtStep d .close).1 = dtRemaining d ∧
    (dtStep d .close).1.s.bytes = d.s.bytes := ⟨rfl, rfl, rfl⟩

/-- Hence a history on a generic transport is the history of the wrapped object with every Close
    erased: later reads and writes still see exactly what was written before the Close. -/
theorem default_history_passthrough (d : DT) (ops : List Op) :
    (dtRun d ops).1.s = (run d.s (ops.map closeToNoop)).1 ∧
    (dtRun d ops).2 = (run d.s (ops.map closeToNoop)).2 ∧
    (dtRun d ops).1.hasRL = d.hasRL := by
  have hstep : ∀ (d : DT) (op : Op), (dtStep d op).1.s = (step d.s (closeToNoop op)).1 ∧
      (dtStep d op).2 = (step d.s (closeToNoop op)).2 ∧ (dtStep d op).1.hasRL = d.hasRL := by
    intro d op; cases op <;> exact ⟨rfl, rfl, rfl⟩
  induction ops generalizing d with
  | nil => exact ⟨rfl, rfl, rfl⟩
  | cons op ops ih =>
    obtain ⟨h1, h2, h3⟩ := ih (dtStep d op).1
    obtain ⟨s1, s2, s3⟩ := hstep d op
    simp only [dtRun, run, List.map_cons]
    rw [h1, h2, h3, s1, s2, s3]
    exact ⟨rfl, rfl, rfl⟩

/-- A registered callback receives exactly the arguments given and its result is returned. -/
theorem callback_passthrough {α β ρ : Type} (r : Registry α β ρ)
    (fc : α → ρ) (fr fw : β → α → ρ) (x : β) (v : α) :
    checkTStruct (r.regCheck (some fc)) v = .ok (fc v) ∧
    thriftRead (r.regRead (some fr)) x v = .ok (fr x v) ∧
    thriftWrite (r.regWrite (some fw)) x v = .ok (fw x v) := ⟨rfl, rfl, rfl⟩

/-- An unregistered callback (never registered, or registered as nil) yields its specific error. -/
theorem callback_unregistered {α β ρ : Type} (r : Registry α β ρ) (x : β) (v : α) :
    checkTStruct (Registry.empty : Registry α β ρ) v = .error .checkNotRegistered ∧
    thriftRead (Registry.empty : Registry α β ρ) x v = .error .readNotRegistered ∧
    thriftWrite (Registry.empty : Registry α β ρ) x v = .error .writeNotRegistered ∧
    checkTStruct (r.regCheck none) v = .error .checkNotRegistered ∧
    thriftRead (r.regRead none) x v = .error .readNotRegistered ∧
    thriftWrite (r.regWrite none) x v = .error .writeNotRegistered := ⟨rfl, rfl, rfl, rfl, rfl, rfl⟩

/-- registering one callback does not disturb the other two -/
theorem callback_independent {α β ρ : Type} (r : Registry α β ρ) (f : Option (α → ρ)) (x : β) (v : α) :
    thriftRead (r.regCheck f) x v = thriftRead r x v ∧ thriftWrite (r.regCheck f) x v = thriftWrite r x v :=
  ⟨rfl, rfl⟩

/-! non-vacuity -/
example : (run (Buf.new [1, 2, 3]) [.read .T 2, .write .B [9], .read .B 5, .read .T 1]).2 =
    [.got [1, 2] false, .wrote 1, .got [3, 9] false, .got [] true] := by decide +kernel
example : remainingDefault (some 5) = 5 ∧ remainingDefault (some 0) = 2 ^ 64 - 1 ∧
    remainingDefault (some (-3)) = 2 ^ 64 - 1 := by decide +kernel
example : newDefaultRemaining (.other (some 7) (some 3)) = 7 ∧ newDefaultRemaining (.other (some 0) (some 3)) = 2 ^ 64 - 1 := by decide +kernel
example : (dtRun ⟨Buf.new [1, 2], true⟩ [.close, .read .T 1, .close, .write .B [9], .read .T 5]).2 =
    [.done, .got [1] false, .done, .wrote 1, .got [2, 9] false] := by decide +kernel
example : checkTStruct ((Registry.empty : Registry Nat Nat Nat).regCheck (some (· + 1))) 4 = .ok 5 := rfl

end Verif.C19
