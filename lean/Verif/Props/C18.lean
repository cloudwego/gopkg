/-
  Props/C18 — Exception helpers preserve kind, type id and cause (property theorems only).
  For all type ids (every `Int`, hence every int32), all byte strings incl. empty, all kinds, all
  chains (`wrapped`/`protocolW` nest arbitrarily), all object identities.
-/
import Verif.Lemmas.Except
namespace Verif.C18

/-- Prepending keeps the kind: transport, protocol, application stay; a foreign exception (anything
    exposing a type id) becomes an application exception; plain errors (with or without `Unwrap`)
    stay plain. -/
theorem prepend_kind (fresh : Nat) (p : Bytes) (e : Err) :
    (prependError fresh p e).kind = specPrependKind e.kind := by
  rw [prependError_eq]   -- the case table under the regenerated order of type tests (Facts.prependErrorOrder)
  cases e <;> rfl

/-- Prepending keeps the type id (and plain errors still have none). -/
theorem prepend_typeId (fresh : Nat) (p : Bytes) (e : Err) :
    (prependError fresh p e).typeId = e.typeId := by
  rw [prependError_eq]
  cases e <;> rfl

/-- The new text is prefix ++ original text — except at the one point the proof forces out:
    a foreign exception whose `Error()` is "" prepended with "" (finding F12). -/
theorem prepend_text (fresh : Nat) (p : Bytes) (e : Err)
    (h : ¬ (e.kind = .foreign ∧ e.text = [] ∧ p = [])) :
    (prependError fresh p e).text = p ++ e.text := by
  rw [prependError_eq]
  cases e with
  | plain id msg => rfl
  | wrapped id msg inner => rfl
  | transport id t m => exact appText_append t p (appText_ne_nil t m)
  | application id t m => exact appText_append t p (appText_ne_nil t m)
  | protocol id t m => exact appText_append t p (appText_ne_nil t m)
  | protocolW id t m c => exact appText_append t p (appText_ne_nil t m)
  | foreign id t tx =>
    refine appText_of_ne_nil t fun h0 => h ⟨rfl, ?_⟩
    rw [List.append_eq_nil_iff] at h0
    exact ⟨h0.2, h0.1⟩

/-- The excluded point fails for every type id and every identity: the result's text is the default
    message (never empty), not "" ++ "" = "". -/
theorem prepend_text_foreign_empty_fails_all (fresh id : Nat) (t : Int) :
    (prependError fresh [] (.foreign id t [])).text ≠ [] ++ (Err.foreign id t []).text := by
  rw [prependError_eq]
  exact appText_ne_nil t _

/-- the guard of `prepend_text` is exact -/
theorem prepend_text_iff (fresh : Nat) (p : Bytes) (e : Err) :
    (prependError fresh p e).text = p ++ e.text ↔ ¬ (e.kind = .foreign ∧ e.text = [] ∧ p = []) := by
  constructor
  · rintro h ⟨hk, ht, hp⟩
    cases e <;> simp [Err.kind] at hk
    rename_i id t tx
    simp only [Err.text] at ht
    subst ht; subst hp
    exact prepend_text_foreign_empty_fails_all fresh id t h
  · exact prepend_text fresh p e

/-- F12 witness, evaluated: `PrependError("", foreign{TypeId: 1, Error(): ""})` has the text
    "unknown method" where prefix ++ original text is "". -/
theorem prepend_text_foreign_empty_fails :
    (prependError 1 [] (.foreign 0 1 [])).text = bytesOf "unknown method" ∧
    (prependError 1 [] (.foreign 0 1 [])).text ≠ [] ++ (Err.foreign 0 1 []).text := by
  refine ⟨?_, prepend_text_foreign_empty_fails_all 1 0 1⟩
  rw [prependError_eq]
  decide

/-- Wrapping an error that is not a protocol exception: `Unwrap` returns the very cause, `errors.Is`
    finds the cause, and everything the cause matches is still matched through the wrapper. -/
theorem wrap_reaches_cause (fresh : Nat) (e : Err) (h : e.isProtocol = false) :
    (wrapErr fresh e).unwrap = some e ∧
    errorsIs (wrapErr fresh e) e = true ∧
    ∀ tg, errorsIs e tg = true → errorsIs (wrapErr fresh e) tg = true := by
  exact ⟨wrapErr_unwrap fresh e h, wrapErr_is_cause fresh e, fun tg => wrapErr_is_trans fresh e tg⟩

/-- for every error (protocol exception or not) the wrapped result matches the argument -/
theorem wrap_is_cause (fresh : Nat) (e : Err) : errorsIs (wrapErr fresh e) e = true :=
  wrapErr_is_cause fresh e

/-- Wrapping is the identity (same object) on protocol exceptions … -/
theorem wrap_protocol_id (fresh : Nat) (e : Err) (h : e.isProtocol = true) : wrapErr fresh e = e :=
  wrapErr_protocol fresh e h

/-- … the result always is a protocol exception, hence wrapping twice is wrapping once. -/
theorem wrap_isProtocol (fresh : Nat) (e : Err) : (wrapErr fresh e).isProtocol = true := by
  cases e <;> rfl

theorem wrap_idempotent (f1 f2 : Nat) (e : Err) : wrapErr f2 (wrapErr f1 e) = wrapErr f1 e :=
  wrap_protocol_id f2 _ (wrap_isProtocol f1 e)

/-- `errors.Is` on a protocol exception with a cause: the same object, or an exception whose type id
    and error text equal its own type id and message, otherwise exactly when the cause matches. -/
theorem is_iff (id : Nat) (t : Int) (m : Bytes) (c tg : Err) :
    errorsIs (.protocolW id t m c) tg = true ↔
      Err.protocolW id t m c = tg ∨ (tg.typeId = some t ∧ tg.text = m) ∨ errorsIs c tg = true := by
  rw [errorsIs, Bool.or_assoc, Bool.or_assoc, Bool.or_self, Bool.or_eq_true, Bool.or_eq_true, beq_iff_eq,
    excMatch_iff]

/-- … and without a cause: the same object or the (type id, text) = (type id, message) match. -/
theorem is_iff_nocause (id : Nat) (t : Int) (m : Bytes) (tg : Err) :
    errorsIs (.protocol id t m) tg = true ↔
      Err.protocol id t m = tg ∨ (tg.typeId = some t ∧ tg.text = m) := by
  rw [errorsIs, Bool.or_false, Bool.or_eq_true, beq_iff_eq, excMatch_iff]

/-- the `Is` method itself -/
theorem peIs_iff (t : Int) (m : Bytes) (cause : Option Err) (tg : Err) :
    peIs t m cause tg = true ↔
      (tg.typeId = some t ∧ tg.text = m) ∨ (∃ c, cause = some c ∧ errorsIs c tg = true) := by
  cases cause <;> simp [peIs, excMatch_iff]

/-- `errors.Is` over arbitrary chains is the search along the `Unwrap` chain for a matching node -/
theorem errorsIs_chain (e tg : Err) : errorsIs e tg = isSpec e tg := errorsIs_eq_isSpec e tg

/-- `errors.As` finds the cause through the wrapper: for a cause that is not a protocol exception,
    asking for the cause's own type (or for "anything exposing a type id", when the cause is a foreign,
    transport or application exception… but then the wrapper itself answers first) returns the cause,
    one `Unwrap` step down. -/
theorem as_wrap_reaches_cause (fresh : Nat) (e : Err) (h : e.isProtocol = false) :
    errorsAs (.ty e.dyn) (wrapErr fresh e) 0 = some (e, 1) := by
  cases e <;> simp [Err.isProtocol] at h <;> simp [wrapErr, errorsAs, assignable, Err.dyn]

/-- The wrapper's text is the cause's text — unless that is empty (an exception of this package
    cannot carry an empty text; same root as F12, but nothing the statement claims). -/
theorem wrap_text (fresh : Nat) (e : Err) (h : e.isProtocol = false) (hne : e.text ≠ []) :
    (wrapErr fresh e).text = e.text := by
  cases e <;> simp [Err.isProtocol] at h <;> exact appText_of_ne_nil Facts.peUNKNOWN hne

/-- Prepending twice is prepending the concatenated prefix (under the guard of the first step). -/
theorem prepend_compose (f1 f2 : Nat) (p1 p2 : Bytes) (e : Err)
    (h : ¬ (e.kind = .foreign ∧ e.text = [] ∧ p1 = [])) :
    (prependError f2 p2 (prependError f1 p1 e)).text = (p2 ++ p1) ++ e.text ∧
    (prependError f2 p2 (prependError f1 p1 e)).kind = specPrependKind e.kind ∧
    (prependError f2 p2 (prependError f1 p1 e)).typeId = e.typeId := by
  refine ⟨?_, ?_, ?_⟩
  · rw [prepend_text f2 p2 _ ?_, prepend_text f1 p1 e h, List.append_assoc]
    exact fun hk => specPrependKind_ne_foreign e.kind (prepend_kind f1 p1 e ▸ hk.1)
  · rw [prepend_kind, prepend_kind, specPrependKind_idem]
  · rw [prepend_typeId, prepend_typeId]

/-- Observation (not claimed by the statement either way): PrependError never carries a cause over. -/
theorem prepend_drops_cause (fresh : Nat) (p : Bytes) (e : Err) : (prependError fresh p e).unwrap = none := by
  rw [prependError_eq]
  cases e <;> rfl

/-- `String()` shows the message faithfully: every ASCII byte's escape sequence decodes back to that
    byte (so different messages print differently), checked over all 128 bytes. -/
theorem string_quote_bytewise :
    (List.range 128).all (fun n => unquoteByte (quoteByte (UInt8.ofNat n)) == some (UInt8.ofNat n)) = true := by
  decide +kernel

/-- `String()` is the fixed name, the type id in decimal and the quoted message, in that order. -/
theorem string_shape (t : Int) (m : Bytes) (pre mid : List Char)
    (h : fmtTokens Facts.appExcStringFormat.toList [] = [.lit pre, .d, .lit mid, .q]) :
    appString t m = bytesOf (String.ofList pre) ++ bytesOf (toString t) ++ bytesOf (String.ofList mid) ++
      ([34] ++ m.flatMap quoteByte ++ [34]) := by
  simp only [appString, h, renderFmt, quoteAscii, List.append_nil, List.append_assoc]

/-- the format literal of the source has exactly that shape (guarded so that a reworded literal does not break the build:
    `String()` is not part of the property statement, the correspondence check still compares the text) -/
example : Facts.appExcStringFormat ≠ "ApplicationException(%d): %q" ∨
    fmtTokens Facts.appExcStringFormat.toList [] =
      [.lit "ApplicationException(".toList, .d, .lit "): ".toList, .q] := by
  by_cases h : Facts.appExcStringFormat = "ApplicationException(%d): %q"
  · rw [h]
    -- the characters first: `fmtTokens` on an unevaluated `toList` decodes the literal again at every step
    simp only [String.reduceToList]
    exact .inr (by decide)
  · exact .inl h

/-! non-vacuity -/
example : ¬ ((Err.foreign 0 1 []).kind = .foreign ∧ (Err.foreign 0 1 []).text = [] ∧ bytesOf "x: " = []) := by decide
example : (prependError 9 (bytesOf "x: ") (.application 0 1 [])).text = bytesOf "x: unknown method" := by decide +kernel
example : (prependError 9 [] (.application 0 77 [])).text = bytesOf "unknown exception type [77]" := by decide +kernel
example : (Err.plain 3 [1]).isProtocol = false := rfl
example : errorsIs (wrapErr 7 (.wrapped 1 [2] (.plain 3 [1]))) (.plain 3 [1]) = true := by decide
example : errorsIs (.protocolW 0 5 [1] (.plain 3 [1])) (.foreign 9 5 [1]) = true := by decide
example : errorsIs (.protocolW 0 5 [] (.plain 3 [1])) (.protocolW 0 5 [] (.plain 3 [2])) = false := by decide

example : errorsAs (.ty .fe) (wrapErr 7 (.foreign 1 5 [])) 0 = some (.foreign 1 5 [], 1) := by decide
example : errorsAs .texc (.wrapped 1 [] (.wrapped 2 [] (.transport 3 5 [1]))) 0 = some (.transport 3 5 [1], 2) := by decide

example : appString 6 (bytesOf "a\"b\n") = bytesOf "ApplicationException(6): \"a\\\"b\\n\"" := by decide +kernel

end Verif.C18
