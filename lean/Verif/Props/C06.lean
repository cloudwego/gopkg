/-
  Props/C06 — TTHeader encode/decode round-trips and conforms to the frame layout.
  (property theorems and non-vacuity examples, with the parameter sets `sample` and `big` the examples
  use; lemmas in Lemmas/Tth{Enc,Rt,Ref,Dec,Decode,Stream,Util}.lean)

  `encode p w`          = ttheader.Encode(ctx, param, out) over the abstract writer log `w`; the lists in
                          `p` are Go's map iteration ORDER, so "for every p" is "for every order".
  `fp p`                = the same parameter set as the spec sees it; `(fp p).Dom`: values of the Go types,
                          duplicate-free keys (they are maps).
  `Frame.layout lf q`   = the documented frame for parameter set q with length field `lf` (Spec/Frame.lean).
  `Frame.infoSize q`    = the header size that layout declares (info bytes padded to a multiple of 4).
  `decodeBytes b cap`   = ttheader.Decode over bufiox.NewBytesReader: (result, bytes consumed).

  F14: a size check `uint32(headerInfoSize) > MaxHeaderSize` wraps with ≥ 4 GiB of header strings and
  returns a corrupt frame without error; under it `encode_layout` needs `infoSize < 2^32`. The model
  compares modulo `2^Facts.ttEncodeSizeCheckBits` (the static width Tie A reads off the source: 64), so
  the only hypothesis is the 64-bit-int assumption `infoSize < 2^64`; `rejects_4GiB` is the parameter
  set a 32-bit check lets through.
-/
import Verif.Lemmas.TthRt
import Verif.Lemmas.TthStream
import Verif.Lemmas.TthUtil
namespace Verif.C06
open Verif.TTH Verif.Frame

/-- **encode_layout.** For every parameter set, in every iteration order, on every healthy writer with
    whatever it already holds and whatever fresh memory contains: Encode fails with the size error iff
    the header info exceeds MaxHeaderSize; otherwise the bytes it appended are exactly the documented
    layout (length field = the 4 untouched bytes of fresh memory, to be set by the caller), the declared
    size is a multiple of 4, and every length and count in the frame fits its 16-bit field — so the
    `uint16(len)` truncations in WriteString2BLen and in the entry counts are never observable. -/
theorem encode_layout (p : EncParam) (w : W) (hb : w.broken = false) (hd : (fp p).Dom)
    (h64 : infoSize (fp p) < 2 ^ 64) :
    (encode p w = .err .size ↔ infoSize (fp p) > 65536) ∧
    (infoSize (fp p) ≤ 65536 → ∃ w', encode p w = .ok (w.n, w') ∧
        w'.bytes = w.bytes ++ layout (lenField w) (fp p) ∧
        (layout (lenField w) (fp p)).length = 14 + infoSize (fp p) ∧ infoSize (fp p) % 4 = 0 ∧
        ∀ s ∈ secsOf (fp p), wfSec s) := by
  obtain ⟨h1, h2⟩ := encode_layout_lemma p w hb hd h64
  refine ⟨⟨fun he => ?_, h1⟩, fun hs => ?_⟩
  · by_cases hbig : infoSize (fp p) > 65536
    · exact hbig
    · rw [(h2 (Nat.le_of_not_lt hbig)).1] at he; cases he
  · obtain ⟨e, hbytes⟩ := h2 hs
    exact ⟨_, e, hbytes, layout_length _ _ (lenField_length w), infoSize_mod4 _, secsOf_wf p hd hs⟩

/-- a writer that already failed makes Encode fail with the writer's error (on a healthy writer the only
    error is the size error: `encode_layout`) -/
theorem encode_broken (p : EncParam) (w : W) (hb : w.broken = true) : encode p w = .err .writer := by
  simp [encode, W.malloc, hb]

/-- Encode never panics, whatever the parameters (duplicate keys, out-of-range values included): every
    `PutUint16/PutUint32/buf[i] =` of the model stays inside the region it was given -/
theorem encode_safe (p : EncParam) (w : W) : (encode p w).Safe := by
  cases hb : w.broken with
  | true => rw [encode_broken p w hb]; exact ⟨nofun, nofun⟩
  | false =>
    rw [encode_items p w hb]
    split <;> exact ⟨nofun, nofun⟩

/-- **the 16-bit truncations are unreachable**: a key or value longer than 65535 bytes, more than 65535
    integer entries, or more than 65536 string entries (one of them may be the ACL token, which is not
    counted) always puts the info size over the limit (so Encode ends in the size error) -/
theorem oversize_always_rejected (p : EncParam) (hd : (fp p).Dom)
    (h : (∃ kv ∈ p.strKV, kv.1.length > 65535 ∨ kv.2.length > 65535) ∨ (∃ kv ∈ p.intKV, kv.2.length > 65535) ∨
         p.strKV.length > 65536 ∨ p.intKV.length > 65535) :
    infoSize (fp p) > 65536 := by
  apply Classical.byContradiction
  intro hn
  have hnd : (p.strKV.map (·.1)).Nodup := hd.strNodup
  obtain ⟨b1, ⟨b2, b3⟩, ⟨b4, b5⟩⟩ := bounds p hnd (rawInfo_le p hnd (Nat.le_of_not_lt hn))
  rcases h with ⟨kv, hkv, hl⟩ | ⟨kv, hkv, hl⟩ | hl | hl
  · by_cases hk : kv.1 = aclKey
    · have hlk : p.strKV.lookup aclKey = some kv.2 := by
        rw [← hk]; exact lookup_of_mem p.strKV kv.1 kv.2 hnd hkv
      have := b1 _ hlk
      have hk22 : kv.1.length = 22 := by rw [hk]; rfl
      omega
    · have hm : kv ∈ plainStr p.strKV := by
        unfold plainStr
        exact List.mem_filter.mpr ⟨hkv, bne_iff_ne.mpr hk⟩
      have := b3 kv hm
      omega
  · have := b5 kv hkv; omega
  · have := plain_length p.strKV hnd
    have := aclEntry_length_le p.strKV
    omega
  · omega

/-- **decode_encode (any total).** If Encode succeeds (supported protocol id), then after the caller's
    `PutUint32(totalLenField, uint32(header + payload − 4))`, for every payload: Decode of frame ++ payload
    succeeds with exactly the same flags, sequence id and protocol id, maps that answer every lookup like the
    parameter's maps (nil ≃ empty), HeaderLen = number of bytes Encode wrote = number of bytes Decode consumed,
    and PayloadLen = (total-length field) + 4 − HeaderLen, where the field holds the total modulo 2^32
    (the field is a uint32; the caller truncates). -/
theorem decode_encode_anytotal (p : EncParam) (w : W) (hb : w.broken = false) (hd : (fp p).Dom)
    (hsup : p.proto ∈ supported) (hs : infoSize (fp p) ≤ 65536) (payload : Bytes) (cap : Nat)
    (hcap : 14 + infoSize (fp p) + payload.length ≤ cap) :
    ∃ w' w'' frame d, encode p w = .ok (w.n, w') ∧
      setTotalLen w' w.n (14 + infoSize (fp p) + payload.length - 4) = .ok w'' ∧
      w''.bytes = w.bytes ++ frame ∧ frame.length = 14 + infoSize (fp p) ∧
      decodeBytes (frame ++ payload) cap = (.ok d, frame.length) ∧
      d.flags = p.flags ∧ d.seq = p.seq ∧ d.proto = p.proto ∧
      (∀ k, (mk d.intKV).lookup k = p.intKV.lookup k) ∧ (∀ k, (mk d.strKV).lookup k = p.strKV.lookup k) ∧
      d.headerLen = (frame.length : Int) ∧
      d.payloadLen = (((14 + infoSize (fp p) + payload.length - 4) % 4294967296 : Nat) : Int) + 4
                       - (frame.length : Int) := by
  generalize 14 + infoSize (fp p) + payload.length - 4 = total
  obtain ⟨w', w'', e, e2, hb2⟩ := encode_frame p w hb hd hs total
  have h := decode_layout p (be32 (total % 4294967296)) payload cap rfl hd hsup hs
    (by rw [frame_length _ _ _ rfl]; exact hcap)
  rw [rd32_be32_mod] at h
  obtain ⟨d, hdec, f⟩ := h
  exact ⟨w', w'', _, d, e, e2, hb2, layout_length _ _ rfl, hdec, f⟩

/-- **decode_encode.** … and when header + payload − 4 fits the uint32 field: PayloadLen = the payload's
    length, so the payload is delimited exactly. -/
theorem decode_encode (p : EncParam) (w : W) (hb : w.broken = false) (hd : (fp p).Dom)
    (hsup : p.proto ∈ supported) (hs : infoSize (fp p) ≤ 65536) (payload : Bytes)
    (htot : 14 + infoSize (fp p) + payload.length - 4 < 4294967296) (cap : Nat)
    (hcap : 14 + infoSize (fp p) + payload.length ≤ cap) :
    ∃ w' w'' frame d, encode p w = .ok (w.n, w') ∧
      setTotalLen w' w.n (14 + infoSize (fp p) + payload.length - 4) = .ok w'' ∧
      w''.bytes = w.bytes ++ frame ∧ frame.length = 14 + infoSize (fp p) ∧
      decodeBytes (frame ++ payload) cap = (.ok d, frame.length) ∧
      d.flags = p.flags ∧ d.seq = p.seq ∧ d.proto = p.proto ∧
      (∀ k, (mk d.intKV).lookup k = p.intKV.lookup k) ∧ (∀ k, (mk d.strKV).lookup k = p.strKV.lookup k) ∧
      d.headerLen = (frame.length : Int) ∧ d.payloadLen = (payload.length : Int) := by
  obtain ⟨w', w'', frame, d, h1, h2, h3, h4, h5, f1, f2, f3, f4, f5, f6, f7⟩ :=
    decode_encode_anytotal p w hb hd hsup hs payload cap hcap
  refine ⟨w', w'', frame, d, h1, h2, h3, h4, h5, f1, f2, f3, f4, f5, f6, ?_⟩
  rw [f7, h4, Nat.mod_eq_of_lt htot]
  have := infoSize_ge (fp p)
  omega

/-- **Encode does not check the protocol id; Decode does.** For a protocol id outside the allow-list Encode
    succeeds with the documented layout like for any other id, and Decode of that frame returns the
    "unsupported ProtocolID" error after consuming the header. (C06 quantifies over *supported* protocol
    ids; this is the behaviour of the code on the others.) -/
theorem encode_ok_decode_rejects_proto (p : EncParam) (w : W) (hb : w.broken = false) (hd : (fp p).Dom)
    (hsup : p.proto ∉ supported) (hs : infoSize (fp p) ≤ 65536) (payload : Bytes) (cap : Nat)
    (hcap : 14 + infoSize (fp p) + payload.length ≤ cap) :
    ∃ w' w'' frame, encode p w = .ok (w.n, w') ∧
      setTotalLen w' w.n (14 + infoSize (fp p) + payload.length - 4) = .ok w'' ∧
      w''.bytes = w.bytes ++ frame ∧ frame.length = 14 + infoSize (fp p) ∧
      decodeBytes (frame ++ payload) cap = (.err .protocol, frame.length) := by
  generalize 14 + infoSize (fp p) + payload.length - 4 = total
  obtain ⟨w', w'', e, e2, hb2⟩ := encode_frame p w hb hd hs total
  exact ⟨w', w'', _, e, e2, hb2, layout_length _ _ rfl,
    decode_layout_unsupported p _ payload cap rfl hd hsup hs (by rw [frame_length _ _ _ rfl]; exact hcap)⟩

/-- **encode_rejects_iff.** Encode returns an error exactly when the writer already failed or the header
    info exceeds MaxHeaderSize — and then it is that error. Nothing else makes it fail: not the protocol id
    (unchecked), not the payload or total length (the caller's business, after Encode). -/
theorem encode_rejects_iff (p : EncParam) (w : W) (hd : (fp p).Dom) (h64 : infoSize (fp p) < 2 ^ 64) :
    ((∃ e, encode p w = .err e) ↔ (w.broken = true ∨ infoSize (fp p) > 65536)) ∧
    (w.broken = true → encode p w = .err .writer) ∧
    (w.broken = false → infoSize (fp p) > 65536 → encode p w = .err .size) := by
  refine ⟨⟨?_, ?_⟩, encode_broken p w, fun hb hbig => (encode_layout p w hb hd h64).1.mpr hbig⟩
  · rintro ⟨e, he⟩
    cases hb : w.broken with
    | true => exact Or.inl rfl
    | false =>
      right
      apply Classical.byContradiction
      intro hn
      obtain ⟨w', e', _⟩ := (encode_layout p w hb hd h64).2 (Nat.le_of_not_lt hn)
      rw [e'] at he; cases he
  · rintro (hb | hbig)
    · exact ⟨_, encode_broken p w hb⟩
    · cases hb : w.broken with
      | true => exact ⟨_, encode_broken p w hb⟩
      | false => exact ⟨_, (encode_layout p w hb hd h64).1.mpr hbig⟩

/-- **The statement, total.** For EVERY parameter set in the Go value ranges and every writer: Encode fails
    with the writer's error, or fails with the size error (info > 64 KiB), or produces the layout and then —
    supported protocol id: Decode gives the parameters back with exact framing; unsupported protocol id:
    Decode refuses the frame. -/
theorem encode_decode_total (p : EncParam) (w : W) (hd : (fp p).Dom) (h64 : infoSize (fp p) < 2 ^ 64)
    (payload : Bytes) (cap : Nat) (hcap : 14 + infoSize (fp p) + payload.length ≤ cap) :
    (w.broken = true ∧ encode p w = .err .writer) ∨
    (w.broken = false ∧ infoSize (fp p) > 65536 ∧ encode p w = .err .size) ∨
    (w.broken = false ∧ infoSize (fp p) ≤ 65536 ∧
      ∃ w' w'' frame, encode p w = .ok (w.n, w') ∧
        setTotalLen w' w.n (14 + infoSize (fp p) + payload.length - 4) = .ok w'' ∧
        w''.bytes = w.bytes ++ frame ∧ frame = layout (be32 ((14 + infoSize (fp p) + payload.length - 4) % 4294967296)) (fp p) ∧
        ((p.proto ∈ supported ∧ ∃ d, decodeBytes (frame ++ payload) cap = (.ok d, frame.length) ∧
            d.flags = p.flags ∧ d.seq = p.seq ∧ d.proto = p.proto ∧
            (∀ k, (mk d.intKV).lookup k = p.intKV.lookup k) ∧ (∀ k, (mk d.strKV).lookup k = p.strKV.lookup k) ∧
            d.headerLen = (frame.length : Int) ∧
            d.payloadLen = (((14 + infoSize (fp p) + payload.length - 4) % 4294967296 : Nat) : Int) + 4
                             - (frame.length : Int)) ∨
         (p.proto ∉ supported ∧ decodeBytes (frame ++ payload) cap = (.err .protocol, frame.length)))) := by
  cases hb : w.broken with
  | true => exact Or.inl ⟨rfl, encode_broken p w hb⟩
  | false =>
    right
    by_cases hbig : infoSize (fp p) > 65536
    · exact Or.inl ⟨rfl, hbig, (encode_layout p w hb hd h64).1.mpr hbig⟩
    · right
      have hs : infoSize (fp p) ≤ 65536 := Nat.le_of_not_lt hbig
      refine ⟨rfl, hs, ?_⟩
      generalize 14 + infoSize (fp p) + payload.length - 4 = total
      obtain ⟨w', w'', e, e2, hb2⟩ := encode_frame p w hb hd hs total
      refine ⟨w', w'', _, e, e2, hb2, rfl, ?_⟩
      by_cases hsup : p.proto ∈ supported
      · have h := decode_layout p (be32 (total % 4294967296)) payload cap rfl hd hsup hs
          (by rw [frame_length _ _ _ rfl]; exact hcap)
        rw [rd32_be32_mod] at h
        exact Or.inl ⟨hsup, h⟩
      · exact Or.inr ⟨hsup, decode_layout_unsupported p _ payload cap rfl hd hsup hs
          (by rw [frame_length _ _ _ rfl]; exact hcap)⟩

/-- **count_fits_uint16_of_size_ok.** The entry counts are written as `uint16(len)`: whenever the size check
    passes, the number of string entries (token excluded) and of integer entries is below 65536 — each
    entry takes at least 4 bytes, so 65536 entries (count field wrapping to 0) already need 262144 > 65536
    bytes and Encode has ended in the size error. The wrap is excluded by the limit, not by hypothesis. -/
theorem count_fits_uint16_of_size_ok (p : EncParam) (hd : (fp p).Dom) (hs : infoSize (fp p) ≤ 65536) :
    (plainStr p.strKV).length < 65536 ∧ p.intKV.length < 65536 ∧ p.strKV.length ≤ 65536 ∧
    4 * (plainStr p.strKV).length + 4 * p.intKV.length ≤ 65536 := by
  have hnd : (p.strKV.map (·.1)).Nodup := hd.strNodup
  obtain ⟨_, ⟨b2, _⟩, ⟨b4, _⟩⟩ := bounds p hnd (rawInfo_le p hnd hs)
  have h3 := plain_length p.strKV hnd
  have h3' := aclEntry_length_le p.strKV
  refine ⟨b2, b4, by omega, ?_⟩
  -- each entry occupies at least 4 bytes of the info area
  have hinfo : (info (fp p)).length ≤ 65536 := Nat.le_trans (Nat.le_add_right _ _) hs
  rw [info_parts] at hinfo
  simp only [List.length_append, fp] at hinfo
  have c1 := (counted_le 0x01 (plainStr p.strKV).length encStrKV 4 (by intro x; simp [encStrKV]; omega)
    (plainStr p.strKV)).1
  have c2 := (counted_le 0x10 p.intKV.length encIntKV 4 (by intro x; simp [encIntKV]; omega) p.intKV).1
  omega

/-- **decode_encode over a stream.** For every reader that keeps the bufiox.Reader contract (any
    fragmentation of the source) positioned at a laid-out frame followed by a payload: Decode returns
    the reader's own error, or the same parameters with HeaderLen = bytes consumed = frame length and
    PayloadLen = total-length field + 4 − HeaderLen. -/
theorem decode_encode_stream {σ : Type} (next : σ → Int → RdRes × σ) (rem : σ → Bytes) (pos : σ → Nat)
    (hc : ReaderOK next rem pos) (s : σ) (p : EncParam) (lf payload : Bytes) (hlf : lf.length = 4)
    (hd : (fp p).Dom) (hsup : p.proto ∈ supported) (hs : infoSize (fp p) ≤ 65536)
    (hrem : rem s = layout lf (fp p) ++ payload) :
    (∃ e, (decodeG next s).1 = .err (.rd e)) ∨
    (∃ d, (decodeG next s).1 = .ok d ∧ pos (decodeG next s).2 = pos s + (layout lf (fp p)).length ∧
      d.flags = p.flags ∧ d.seq = p.seq ∧ d.proto = p.proto ∧
      (∀ k, (mk d.intKV).lookup k = p.intKV.lookup k) ∧ (∀ k, (mk d.strKV).lookup k = p.strKV.lookup k) ∧
      d.headerLen = ((layout lf (fp p)).length : Int) ∧
      d.payloadLen = (rd32 lf : Int) + 4 - ((layout lf (fp p)).length : Int)) := by
  rcases decodeG_contract next rem pos hc s with ⟨e1, e2⟩ | ⟨e, e1, _⟩
  · right
    obtain ⟨d, hdec, f⟩ := decode_layout p lf payload (layout lf (fp p) ++ payload).length hlf hd hsup hs
      (Nat.le_refl _)
    rw [decodeBytes_eq_cur _ _ (Nat.le_refl _), ← hrem] at hdec
    rw [hdec] at e1 e2
    exact ⟨d, e1, e2, f⟩
  · exact Or.inl ⟨e, e1⟩

/-- helper: two iteration orders of the same maps have the same domain facts, the same info size and the
    same lookups -/
theorem order_irrelevant_params (p q : EncParam) (hf : p.flags = q.flags ∧ p.seq = q.seq ∧ p.proto = q.proto)
    (hi : p.intKV.Perm q.intKV) (hsm : p.strKV.Perm q.strKV) (hd : (fp p).Dom) :
    (fp q).Dom ∧ infoSize (fp p) = infoSize (fp q) ∧
    (∀ k, p.intKV.lookup k = q.intKV.lookup k) ∧ (∀ k, p.strKV.lookup k = q.strKV.lookup k) := by
  have hqd : (fp q).Dom :=
    { flags := by show q.flags < 65536; rw [← hf.1]; exact hd.flags
      seq := by show _ ≤ q.seq ∧ q.seq < _; rw [← hf.2.1]; exact hd.seq
      proto := by show q.proto < 256; rw [← hf.2.2]; exact hd.proto
      intKeys := fun kv hkv => hd.intKeys kv (hi.mem_iff.mpr hkv)
      intNodup := ((hi.map _).nodup_iff).mp hd.intNodup
      strNodup := ((hsm.map _).nodup_iff).mp hd.strNodup }
  refine ⟨hqd, ?_, fun k => lookup_perm _ _ hi hd.intNodup k, fun k => lookup_perm _ _ hsm hd.strNodup k⟩
  -- the size is a sum over the entries, hence order-independent
  have hlk : p.strKV.lookup aclKey = q.strKV.lookup aclKey := lookup_perm _ _ hsm hd.strNodup _
  have hlen : (info (fp p)).length = (info (fp q)).length := by
    rw [info_parts, info_parts]
    simp only [List.length_append, fp, aclPart, hlk]
    have hpl : (plainStr p.strKV).Perm (plainStr q.strKV) := hsm.filter _
    rw [counted_length_perm 0x01 _ (plainStr q.strKV).length encStrKV hpl,
      counted_length_perm 0x10 _ q.intKV.length encIntKV hi]
    rfl
  unfold infoSize
  rw [hlen]

/-- **order_irrelevant.** End to end: for any two iteration orders (permutations) of the same integer and
    string maps, on any two healthy writers (whatever they hold, whatever fresh memory contains):
    Encode fails for both (size error) or succeeds for both; in the latter case the two frames have the same
    length, both decode, and the two decoded parameter sets agree: same flags / sequence id / protocol id,
    maps with the same answer for every key, same HeaderLen and same PayloadLen. -/
theorem order_irrelevant (p q : EncParam) (hf : p.flags = q.flags ∧ p.seq = q.seq ∧ p.proto = q.proto)
    (hi : p.intKV.Perm q.intKV) (hsm : p.strKV.Perm q.strKV) (hd : (fp p).Dom) (hsup : p.proto ∈ supported)
    (h64 : infoSize (fp p) < 2 ^ 64)
    (w1 w2 : W) (hb1 : w1.broken = false) (hb2 : w2.broken = false) (payload : Bytes) (cap : Nat)
    (hcap : 14 + infoSize (fp p) + payload.length ≤ cap) :
    (encode p w1 = .err .size ∧ encode q w2 = .err .size) ∨
    (∃ w1' w1'' f1 d1 w2' w2'' f2 d2,
      encode p w1 = .ok (w1.n, w1') ∧ encode q w2 = .ok (w2.n, w2') ∧
      setTotalLen w1' w1.n (f1.length + payload.length - 4) = .ok w1'' ∧ w1''.bytes = w1.bytes ++ f1 ∧
      setTotalLen w2' w2.n (f2.length + payload.length - 4) = .ok w2'' ∧ w2''.bytes = w2.bytes ++ f2 ∧
      f1.length = f2.length ∧
      decodeBytes (f1 ++ payload) cap = (.ok d1, f1.length) ∧ decodeBytes (f2 ++ payload) cap = (.ok d2, f2.length) ∧
      d1.flags = d2.flags ∧ d1.seq = d2.seq ∧ d1.proto = d2.proto ∧
      (∀ k, (mk d1.intKV).lookup k = (mk d2.intKV).lookup k) ∧
      (∀ k, (mk d1.strKV).lookup k = (mk d2.strKV).lookup k) ∧
      d1.headerLen = d2.headerLen ∧ d1.payloadLen = d2.payloadLen) := by
  obtain ⟨hqd, hsz, hli, hls⟩ := order_irrelevant_params p q hf hi hsm hd
  by_cases hbig : infoSize (fp p) > 65536
  · left
    exact ⟨(encode_layout p w1 hb1 hd h64).1.mpr hbig,
      (encode_layout q w2 hb2 hqd (hsz ▸ h64)).1.mpr (hsz ▸ hbig)⟩
  · right
    have hs : infoSize (fp p) ≤ 65536 := Nat.le_of_not_lt hbig
    obtain ⟨w1', w1'', f1, d1, a1, a2, a3, a4, a5, a6, a7, a8, a9, a10, a11, a12⟩ :=
      decode_encode_anytotal p w1 hb1 hd hsup hs payload cap hcap
    obtain ⟨w2', w2'', f2, d2, b1, b2, b3, b4, b5, b6, b7, b8, b9, b10, b11, b12⟩ :=
      decode_encode_anytotal q w2 hb2 hqd (hf.2.2 ▸ hsup) (hsz ▸ hs) payload cap (hsz ▸ hcap)
    refine ⟨w1', w1'', f1, d1, w2', w2'', f2, d2, a1, b1, by rw [a4]; exact a2, a3, by rw [b4]; exact b2, b3,
      by rw [a4, b4, hsz], a5, b5, ?_, ?_, ?_, ?_, ?_, ?_, ?_⟩
    · rw [a6, b6, hf.1]
    · rw [a7, b7, hf.2.1]
    · rw [a8, b8, hf.2.2]
    · intro k; rw [a9, b9, hli]
    · intro k; rw [a10, b10, hls]
    · rw [a11, b11, a4, b4, hsz]
    · rw [a12, b12, a4, b4, hsz]

/-! ### the exported helpers of utils.go: IsStreaming, WriteUint32, WriteString -/

/-- **isStreaming_iff.** For every byte string IsStreaming returns (it indexes only after its length
    check: no panic), and it answers true exactly for buffers of at least 8 bytes whose magic is 0x1000
    and whose streaming flag bit (0x0002) is set. -/
theorem isStreaming_iff (b : Bytes) :
    (isStreaming b).Safe ∧
    (isStreaming b = .ok true ↔ 8 ≤ b.length ∧ rd16 (b.drop 4) = 0x1000 ∧ rd16 (b.drop 6) / 2 % 2 = 1) ∧
    (isStreaming b = .ok true ∨ isStreaming b = .ok false) := by
  rw [isStreaming_eq]
  refine ⟨⟨fun s => by simp, by simp⟩, ?_, ?_⟩
  · unfold Frame.streaming
    constructor
    · intro h; have := Out.ok.inj h; simpa using this
    · intro h; simp [h]
  · cases Frame.streaming b <;> simp

/-- **isStreaming_of_encode.** Whatever Encode produced (any healthy writer without prior content, any
    order, any fresh-memory content in the length field), followed by any payload: IsStreaming answers
    the streaming bit of `Flags`. -/
theorem isStreaming_of_encode (p : EncParam) (w : W) (hb : w.broken = false) (hw : w.items = [])
    (hd : (fp p).Dom) (hs : infoSize (fp p) ≤ 65536) (payload : Bytes) :
    ∃ w', encode p w = .ok (w.n, w') ∧
      isStreaming (w'.bytes ++ payload) = .ok (decide (p.flags / 2 % 2 = 1)) := by
  obtain ⟨_, h2⟩ := encode_layout p w hb hd (Nat.lt_of_le_of_lt hs (by decide))
  obtain ⟨w', e, hbytes, _⟩ := h2 hs
  refine ⟨w', e, ?_⟩
  have : w.bytes = [] := by simp [W.bytes, hw]
  rw [hbytes, this, List.nil_append, isStreaming_eq,
    isStreaming_layout p (lenField w) payload (lenField_length w) hd.flags]

/-- the same on the layout itself, with any length field (so also after the caller has set it) -/
theorem isStreaming_of_layout (p : EncParam) (lf rest : Bytes) (hlf : lf.length = 4) (hf : p.flags < 65536) :
    isStreaming (layout lf (fp p) ++ rest) = .ok (decide (p.flags / 2 % 2 = 1)) := by
  rw [isStreaming_eq, isStreaming_layout p lf rest hlf hf]

/-- **writeString_layout.** WriteString on a healthy writer appends the 4-byte big-endian length and the
    bytes, and returns len + 4; WriteUint32 appends the 4 bytes. (`uint32(len)` cannot truncate below 4 GiB.) -/
theorem writeString_layout (w : W) (hb : w.broken = false) (s : Bytes) (hs : s.length < 4294967296) :
    ∃ w', writeStr4 w s = .ok (s.length + 4, w') ∧ w'.bytes = w.bytes ++ str4 s := by
  refine ⟨_, writeStr4_ok w hb s, ?_⟩
  rw [W.bytes_app, Nat.mod_eq_of_lt hs]
  simp [str4]

theorem writeUint32_layout (w : W) (hb : w.broken = false) (v : Nat) :
    ∃ w', writeU32 w v = .ok w' ∧ w'.bytes = w.bytes ++ be32 v := by
  refine ⟨_, writeU32_ok w hb v, ?_⟩
  rw [W.bytes_app]; simp

/-! ### non-vacuity -/

/-- a parameter set with both maps, the ACL token, every field non-trivial -/
def sample : EncParam :=
  { flags := 0x8002, seq := -2, proto := 4, intKV := [(1, [97]), (65535, [])],
    strKV := [([107], [118, 119]), (gdprKey, [116])] }

example : (fp sample).Dom :=
  { flags := by decide, seq := by decide, proto := by decide, intKeys := by decide,
    intNodup := by decide, strNodup := by decide }

example : infoSize (fp sample) = 28 := by decide +kernel

/-- the model's Encode of `sample` on a fresh writer whose memory holds 0xAA -/
example : (match encode sample ⟨[], 0, false, fun _ _ => 0xAA⟩ with
           | .ok r => some r.2.bytes
           | _ => none) =
    some [0xAA, 0xAA, 0xAA, 0xAA, 0x10, 0x00, 0x80, 0x02, 0xFF, 0xFF, 0xFF, 0xFE, 0x00, 0x07,
          4, 0, 0x11, 0, 1, 116, 0x01, 0, 1, 0, 1, 107, 0, 2, 118, 119,
          0x10, 0, 2, 0, 1, 0, 1, 97, 0xFF, 0xFF, 0, 0] := by
  decide +kernel

/-- the info size of a parameter set with a single string entry (not the token key) -/
theorem one_str_size (k v : Bytes) (hk : (k != aclKey) = true) (hk' : (aclKey == k) = false) :
    (info (fp { flags := 0, seq := 0, proto := 0, intKV := [], strKV := [(k, v)] })).length
      = 9 + k.length + v.length := by
  have h1 : List.lookup aclKey [(k, v)] = none := by rw [List.lookup_cons, hk']; rfl
  have h2 : plainStr [(k, v)] = [(k, v)] := by
    unfold plainStr; rw [List.filter_cons]; simp only [hk, if_true, List.filter_nil]
  rw [info_parts]
  simp only [fp, aclPart, h1, h2, counted, List.isEmpty_cons, List.isEmpty_nil, Bool.false_eq_true,
    if_false, if_true, List.length_append, List.length_cons, List.length_nil, be16_length, List.flatMap_cons,
    List.flatMap_nil, encStrKV, str2]
  omega

/-- info size EXACTLY 65536 — one string entry "k" ↦ any 65526 bytes: inside the hypotheses of
    `encode_layout` (no error) and of `decode_encode` (it decodes back): the F7 boundary -/
def big (v : Bytes) : EncParam := { flags := 0, seq := 0, proto := 0, intKV := [], strKV := [([107], v)] }

theorem big_size (v : Bytes) (hv : v.length = 65526) : infoSize (fp (big v)) = 65536 := by
  have h3 : (info (fp (big v))).length = 65536 := by
    have h : (info (fp (big v))).length = 9 + ([107] : Bytes).length + v.length :=
      one_str_size [107] v (by decide) (by decide)
    rw [hv] at h
    exact h
  unfold infoSize padLen
  rw [h3]

theorem big_dom (v : Bytes) : (fp (big v)).Dom :=
  { flags := by simp [fp, big], seq := by simp [fp, big], proto := by simp [fp, big], intKeys := (fun kv h => by cases h),
    intNodup := List.nodup_nil, strNodup := List.nodup_cons.mpr ⟨by simp, List.nodup_nil⟩ }

/-- so it encodes without error and decodes back, with a 5-byte payload delimited exactly -/
theorem exact_limit_roundtrip (v : Bytes) (hv : v.length = 65526) :
    ∃ w' w'' frame d, encode (big v) ⟨[], 0, false, fun _ _ => 0⟩ = .ok (0, w') ∧
      setTotalLen w' 0 (14 + 65536 + 5 - 4) = .ok w'' ∧ w''.bytes = frame ∧ frame.length = 65550 ∧
      decodeBytes (frame ++ [1, 2, 3, 4, 5]) 65555 = (.ok d, 65550) ∧ d.payloadLen = 5 := by
  have hsz := big_size v hv
  obtain ⟨w', w'', frame, d, h1, h2, h3, h4, h5, _, _, _, _, _, _, h6⟩ :=
    decode_encode (big v) ⟨[], 0, false, fun _ _ => 0⟩ rfl (big_dom v) (by simp [big, supported]) (by rw [hsz]; omega)
      [1, 2, 3, 4, 5] (by rw [hsz]; decide) 65555 (by rw [hsz]; decide)
  rw [hsz] at h2 h4
  refine ⟨w', w'', frame, d, h1, h2, by simpa [W.bytes] using h3, h4, ?_, h6⟩
  rw [h5, h4]

example : ∃ v : Bytes, v.length = 65526 := ⟨List.replicate 65526 0, List.length_replicate⟩

/-- F14: one value of 2^32 − 6 bytes makes the info size 4 GiB + 4 (a multiple of 4 whose low 32 bits
    are 4): Encode ends in the size error (a 32-bit check reports success with size field 1). Replayed
    on the real code by `tth encsz 4294967290`. -/
theorem rejects_4GiB (v : Bytes) (hv : v.length = 4294967290) (w : W) (hb : w.broken = false) :
    infoSize (fp (big v)) = 4294967300 ∧ encode (big v) w = .err .size := by
  have hlen : (info (fp (big v))).length = 4294967300 := by
    have h : (info (fp (big v))).length = 9 + ([107] : Bytes).length + v.length :=
      one_str_size [107] v (by decide) (by decide)
    rw [hv] at h; exact h
  have hsz : infoSize (fp (big v)) = 4294967300 := by unfold infoSize padLen; rw [hlen]
  exact ⟨hsz, (encode_layout (big v) w hb (big_dom v) (by rw [hsz]; decide)).1.mpr (by rw [hsz]; decide)⟩

example : ∃ v : Bytes, v.length = 4294967290 := ⟨List.replicate 4294967290 0, List.length_replicate⟩

/-- IsStreaming on `sample` (flags 0x8002: streaming bit set) and on a 7-byte prefix (too short) -/
example : isStreaming [0, 0, 0, 0, 0x10, 0x00, 0x80, 0x02] = .ok true := by decide +kernel
example : isStreaming [0, 0, 0, 0, 0x10, 0x00, 0x80] = .ok false := by decide +kernel
example : isStreaming [0, 0, 0, 0, 0x10, 0x00, 0x80, 0x01, 9] = .ok false := by decide +kernel

end Verif.C06
