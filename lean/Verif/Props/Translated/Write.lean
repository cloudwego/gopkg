/-
  Props/Translated/Write: property theorems restated about the functions TRANSLATED from the Go source on every run
  (`Verif.Funcs.*`, `Gen/Funcs.lean`), i.e. about what the source says now. Each theorem is a corollary: rewrite with the
  equivalence theorem `Verif.FuncsEq.<F>_eq` (the translated function, through an explicit result lift, IS the model function),
  then apply the property theorem about the model. Hypotheses: those of the property theorem plus the size domain of the `_eq`
  theorem (buffers shorter than 2^62 / 2^63 bytes, enough loop fuel). See Props/Translated.lean for the overview.
-/
import Verif.Lemmas.Funcs.Write
import Verif.Lemmas.Funcs.Append
import Verif.Props.C01
import Verif.Props.C12
import Verif.Props.C15
namespace Verif.Translated
open Verif Verif.GoSem Verif.FuncsEq

/-! ## the writers `Binary.Write*`, `Binary.Append*`, `Binary.*Length` (C01, C12, C15) -/

/-- `Binary.Write<v>(buf[off:], …)` as translated: the view `(buf, off)`, the new contents of `buf` and the returned
    length.  A type byte `t` is passed as the Go `TType` (int8) `toI8 t.toNat`, a container size and a double's bit
    pattern as the `Int` of the same value -/
def tWrite (buf : Bytes) (off : Nat) : Wire.Val → TOut (Bytes × Nat)
  | .bool v => liftW (Funcs.Binary_WriteBool buf (off : Int) v)
  | .i8 v => liftW (Funcs.Binary_WriteByte buf (off : Int) v)
  | .i16 v => liftW (Funcs.Binary_WriteI16 buf (off : Int) v)
  | .i32 v => liftW (Funcs.Binary_WriteI32 buf (off : Int) v)
  | .i64 v => liftW (Funcs.Binary_WriteI64 buf (off : Int) v)
  | .double bits => liftW (Funcs.Binary_WriteDouble buf (off : Int) (bits : Int))
  | .binary s => liftW (Funcs.Binary_WriteBinary buf (off : Int) s)
  | .str s => liftW (Funcs.Binary_WriteString buf (off : Int) s)
  | .fieldBegin t id => liftW (Funcs.Binary_WriteFieldBegin buf (off : Int) (toI8 t.toNat) id)
  | .fieldStop => liftW (Funcs.Binary_WriteFieldStop buf (off : Int))
  | .mapBegin kt vt n => liftW (Funcs.Binary_WriteMapBegin buf (off : Int) (toI8 kt.toNat) (toI8 vt.toNat) (n : Int))
  | .listBegin et n => liftW (Funcs.Binary_WriteListBegin buf (off : Int) (toI8 et.toNat) (n : Int))
  | .setBegin et n => liftW (Funcs.Binary_WriteSetBegin buf (off : Int) (toI8 et.toNat) (n : Int))
  | .messageBegin name typ seq => liftW (Funcs.Binary_WriteMessageBegin buf (off : Int) name typ seq)

/-- `Binary.Append<v>(buf, …)` as translated -/
def tAppend (buf : Bytes) : Wire.Val → GM Bytes
  | .bool v => Funcs.Binary_AppendBool buf v
  | .i8 v => Funcs.Binary_AppendByte buf v
  | .i16 v => Funcs.Binary_AppendI16 buf v
  | .i32 v => Funcs.Binary_AppendI32 buf v
  | .i64 v => Funcs.Binary_AppendI64 buf v
  | .double bits => Funcs.Binary_AppendDouble buf (bits : Int)
  | .binary s => Funcs.Binary_AppendBinary buf s
  | .str s => Funcs.Binary_AppendString buf s
  | .fieldBegin t id => Funcs.Binary_AppendFieldBegin buf (toI8 t.toNat) id
  | .fieldStop => Funcs.Binary_AppendFieldStop buf
  | .mapBegin kt vt n => Funcs.Binary_AppendMapBegin buf (toI8 kt.toNat) (toI8 vt.toNat) (n : Int)
  | .listBegin et n => Funcs.Binary_AppendListBegin buf (toI8 et.toNat) (n : Int)
  | .setBegin et n => Funcs.Binary_AppendSetBegin buf (toI8 et.toNat) (n : Int)
  | .messageBegin name typ seq => Funcs.Binary_AppendMessageBegin buf name typ seq

/-- `Binary.<v>Length(…)` as translated (Go `int`) -/
def tLength : Wire.Val → GM Int
  | .bool _ => Funcs.Binary_BoolLength
  | .i8 _ => Funcs.Binary_ByteLength
  | .i16 _ => Funcs.Binary_I16Length
  | .i32 _ => Funcs.Binary_I32Length
  | .i64 _ => Funcs.Binary_I64Length
  | .double _ => Funcs.Binary_DoubleLength
  | .binary s => Funcs.Binary_BinaryLength s
  | .str s => Funcs.Binary_StringLength s
  | .fieldBegin _ _ => Funcs.Binary_FieldBeginLength
  | .fieldStop => Funcs.Binary_FieldStopLength
  | .mapBegin _ _ _ => Funcs.Binary_MapBeginLength
  | .listBegin _ _ => Funcs.Binary_ListBeginLength
  | .setBegin _ _ => Funcs.Binary_SetBeginLength
  | .messageBegin name _ _ => Funcs.Binary_MessageBeginLength name

/-- the translated in-place writers are the model writers (panic kinds included) wherever the view exists -/
theorem tWrite_eq (buf : Bytes) (off : Nat) (v : Wire.Val) (h : off ≤ buf.length) (hlen : buf.length < 2 ^ 63) :
    tWrite buf off v = Wire.write buf off v := by
  cases v with
  | bool x => exact Binary_WriteBool_eq buf off x h
  | i8 x => exact Binary_WriteByte_eq buf off x h
  | i16 x => exact Binary_WriteI16_eq buf off x h
  | i32 x => exact Binary_WriteI32_eq buf off x h
  | i64 x => exact Binary_WriteI64_eq buf off x h
  | double bits => exact Binary_WriteDouble_eq buf off bits h
  | binary s => exact Binary_WriteBinary_eq buf off s h hlen
  | str s => exact Binary_WriteString_eq buf off s h hlen
  | fieldBegin t id => exact Binary_WriteFieldBegin_eq buf off t id h
  | fieldStop => exact Binary_WriteFieldStop_eq buf off h
  | mapBegin kt vt n => exact Binary_WriteMapBegin_eq buf off kt vt n h
  | listBegin et n => exact Binary_WriteListBegin_eq buf off et n h
  | setBegin et n => exact Binary_WriteSetBegin_eq buf off et n h
  | messageBegin name typ seq => exact Binary_WriteMessageBegin_eq buf off name typ seq h hlen

theorem tAppend_eq (buf : Bytes) (v : Wire.Val) : tAppend buf v = .ok (Wire.append buf v) := by
  cases v with
  | bool x => exact Binary_AppendBool_eq buf x
  | i8 x => exact Binary_AppendByte_eq buf x
  | i16 x => exact Binary_AppendI16_eq buf x
  | i32 x => exact Binary_AppendI32_eq buf x
  | i64 x => exact Binary_AppendI64_eq buf x
  | double bits => exact Binary_AppendDouble_eq buf bits
  | binary s => exact Binary_AppendBinary_eq buf s
  | str s => exact Binary_AppendString_eq buf s
  | fieldBegin t id => exact Binary_AppendFieldBegin_eq buf t id
  | fieldStop => exact Binary_AppendFieldStop_eq buf
  | mapBegin kt vt n => exact Binary_AppendMapBegin_eq buf kt vt n
  | listBegin et n => exact Binary_AppendListBegin_eq buf et n
  | setBegin et n => exact Binary_AppendSetBegin_eq buf et n
  | messageBegin name typ seq => exact Binary_AppendMessageBegin_eq buf name typ seq

theorem tLength_eq (v : Wire.Val) (h : Wire.length v < 2 ^ 62) : tLength v = .ok ((Wire.length v : Nat) : Int) := by
  cases v with
  | bool x => exact Binary_BoolLength_eq x
  | i8 x => exact Binary_ByteLength_eq x
  | i16 x => exact Binary_I16Length_eq x
  | i32 x => exact Binary_I32Length_eq x
  | i64 x => exact Binary_I64Length_eq x
  | double bits => exact Binary_DoubleLength_eq bits
  | binary s => exact Binary_BinaryLength_eq s (by have : 4 + s.length < 2 ^ 62 := h; omega)
  | str s => exact Binary_StringLength_eq s (by have : 4 + s.length < 2 ^ 62 := h; omega)
  | fieldBegin t id => exact Binary_FieldBeginLength_eq t id
  | fieldStop => exact Binary_FieldStopLength_eq
  | mapBegin kt vt n => exact Binary_MapBeginLength_eq kt vt n
  | listBegin et n => exact Binary_ListBeginLength_eq et n
  | setBegin et n => exact Binary_SetBeginLength_eq et n
  | messageBegin name typ seq =>
    exact Binary_MessageBeginLength_eq name (by have : 4 + (4 + name.length) + 4 < 2 ^ 62 := h; omega)

/-- C01 inplace_at: a translated in-place writer given room for the encoding at offset `off` stores exactly `enc v`
    there, changes nothing outside `[off, off + len)`, and returns the encoding's length -/
theorem write_inplace_at (v : Wire.Val) (ha : v.args) (buf : Bytes) (off : Nat)
    (h : off + (Wire.enc v).length ≤ buf.length) (hlen : buf.length < 2 ^ 63) :
    tWrite buf off v =
      .ok (buf.take off ++ Wire.enc v ++ buf.drop (off + (Wire.enc v).length), (Wire.enc v).length) := by
  rw [tWrite_eq buf off v (by omega) hlen]; exact C01.inplace_at v ha buf off h

/-- C01 inplace_eq: the same at offset 0 -/
theorem write_inplace_eq (v : Wire.Val) (ha : v.args) (buf : Bytes) (h : (Wire.enc v).length ≤ buf.length)
    (hlen : buf.length < 2 ^ 63) :
    tWrite buf 0 v = .ok (Wire.enc v ++ buf.drop (Wire.enc v).length, (Wire.enc v).length) := by
  rw [tWrite_eq buf 0 v (by omega) hlen]; exact C01.inplace_eq v ha buf h

/-- C01 append_eq: a translated appending writer returns `buf ++ enc v` (and cannot panic) -/
theorem append_enc (v : Wire.Val) (ha : v.args) (buf : Bytes) : tAppend buf v = .ok (buf ++ Wire.enc v) := by
  rw [tAppend_eq, C01.append_eq v ha buf]

/-- C01 length_eq (C12 msgbegin_length for `.messageBegin`): a translated length function returns the length of the
    encoding -/
theorem length_enc (v : Wire.Val) (h : (Wire.enc v).length < 2 ^ 62) :
    tLength v = .ok (((Wire.enc v).length : Nat) : Int) := by
  rw [← C01.length_eq v] at h ⊢; exact tLength_eq v h

/-- the three writer families and the length functions agree: what `Append` returns is what `Write` stores, and both
    have the advertised length -/
theorem write_append_length (v : Wire.Val) (ha : v.args) (buf : Bytes) (off : Nat)
    (h : off + (Wire.enc v).length ≤ buf.length) (hlen : buf.length < 2 ^ 62) :
    ∃ out : Bytes, tAppend (buf.take off) v = .ok out ∧ tLength v = .ok ((Wire.enc v).length : Int) ∧
      tWrite buf off v = .ok (out ++ buf.drop (off + (Wire.enc v).length), (Wire.enc v).length) := by
  refine ⟨_, append_enc v ha _, length_enc v (by omega), ?_⟩
  exact write_inplace_at v ha buf off h (by omega)

/-- C15 length_nocopy_eq: the advertised no-copy lengths equal the copying lengths, which are the encoding's length -/
theorem length_nocopy_eq (s : Bytes) (h : s.length < 2 ^ 62) :
    Funcs.Binary_StringLengthNocopy s = Funcs.Binary_StringLength s ∧
    Funcs.Binary_BinaryLengthNocopy s = Funcs.Binary_BinaryLength s ∧
    Funcs.Binary_StringLength s = .ok (((encStr s).length : Nat) : Int) ∧
    Funcs.Binary_BinaryLength s = .ok (((encStr s).length : Nat) : Int) := by
  have e1 : Funcs.Binary_StringLengthNocopy s = .ok ((stringLengthNocopy s : Nat) : Int) :=
    Binary_StringLengthNocopy_eq s h
  have e2 : Funcs.Binary_BinaryLengthNocopy s = .ok ((stringLengthNocopy s : Nat) : Int) :=
    Binary_BinaryLengthNocopy_eq s h
  have e3 : Funcs.Binary_StringLength s = .ok ((stringLength s : Nat) : Int) := Binary_StringLength_eq s h
  have e4 : Funcs.Binary_BinaryLength s = .ok ((stringLength s : Nat) : Int) := Binary_BinaryLength_eq s h
  obtain ⟨c1, c2⟩ := C15.length_nocopy_eq s
  rw [e1, e2, e3, e4, c1, c2]
  exact ⟨rfl, rfl, rfl, rfl⟩

/-! non-vacuity: arguments in the ranges of the Go signatures, a buffer with room at offset 2; evaluation -/
example : (Wire.Val.i32 (-2)).args ∧ (Wire.Val.messageBegin [0x66] 65537 (-1)).args ∧
    2 + (Wire.enc (.i32 (-2))).length ≤ (List.replicate 8 (0xA5 : UInt8)).length ∧
    (List.replicate 8 (0xA5 : UInt8)).length < 2 ^ 63 := by decide
example : tWrite (List.replicate 8 0xA5) 2 (.i32 (-2)) = .ok ([0xA5, 0xA5, 0xff, 0xff, 0xff, 0xfe, 0xA5, 0xA5], 4) :=
  write_inplace_at (.i32 (-2)) (by decide) _ 2 (by decide) (by decide)
example : tAppend [7] (.str [0x68, 0x69]) = .ok [7, 0, 0, 0, 2, 0x68, 0x69] := append_enc _ (by decide) _
example : tLength (.messageBegin [0x66] 1 7) = .ok 13 := length_enc _ (by decide)
example : ([0x68, 0x69] : Bytes).length < 2 ^ 62 := by decide


end Verif.Translated
