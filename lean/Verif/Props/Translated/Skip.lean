/-
  Props/Translated/Skip: property theorems restated about the functions TRANSLATED from the Go source on every run
  (`Verif.Funcs.*`, `Gen/Funcs.lean`), i.e. about what the source says now. Each theorem is a corollary: rewrite with the
  equivalence theorem `Verif.FuncsEq.<F>_eq` (the translated function, through an explicit result lift, IS the model function),
  then apply the property theorem about the model. Hypotheses: those of the property theorem plus the size domain of the `_eq`
  theorem (buffers shorter than 2^62 / 2^63 bytes, enough loop fuel). See Props/Translated.lean for the overview.
-/
import Verif.Lemmas.Funcs.TransferSkip
import Verif.Props.C02
import Verif.Props.C03
import Verif.Props.C08
import Verif.Props.C17
namespace Verif.Translated
open Verif Verif.GoSem Verif.FuncsEq

/-! ## `BinaryProtocol.Skip(b, t)` (C08, C02, C03, C17)

  `fuel` is the translation's loop/recursion budget; `b.length + 70 ≤ fuel` always suffices. -/

/-- C08 soundness: the translated skipper never accepts anything that is not a well-formed value within the recursion
    limit (+1 for the boundary zone), and never with a shorter or longer extent -/
theorem skip_sound (b : Bytes) (t : UInt8) (fuel : Nat) (hb : b.length < 2 ^ 62) (hf : b.length + 70 ≤ fuel) (n : Nat)
    (h : liftSkip (Funcs.Binary_Skip fuel b (toI8 t.toNat)) = .ok n) :
    n ≤ b.length ∧ refLen 65 t b = some n := by
  rw [Binary_Skip_eq b t fuel hb hf] at h
  exact C08.skipBin_sound b t n h

/-- C08 completeness: every well-formed value with nesting ≤ 64 is accepted with exactly the grammar's extent -/
theorem skip_complete (b : Bytes) (t : UInt8) (fuel : Nat) (hb : b.length < 2 ^ 62) (hf : b.length + 70 ≤ fuel) (n : Nat)
    (h : refLen 64 t b = some n) :
    liftSkip (Funcs.Binary_Skip fuel b (toI8 t.toNat)) = .ok n := by
  rw [Binary_Skip_eq b t fuel hb hf]
  exact C08.skipBin_complete b t n h

/-- C08 totality: a length or an error — no third outcome -/
theorem skip_total (b : Bytes) (t : UInt8) (fuel : Nat) (hb : b.length < 2 ^ 62) (hf : b.length + 70 ≤ fuel) :
    (∃ n, liftSkip (Funcs.Binary_Skip fuel b (toI8 t.toNat)) = .ok n) ∨
    (∃ e, liftSkip (Funcs.Binary_Skip fuel b (toI8 t.toNat)) = .err e) := by
  rw [Binary_Skip_eq b t fuel hb hf]
  exact C08.skipBin_total b t

/-- C02 exactness: on a well-formed value (nesting ≤ 64) followed by anything, exactly the value's length -/
theorem skip_exact (v rest : Bytes) (t : UInt8) (fuel : Nat) (hb : (v ++ rest).length < 2 ^ 62)
    (hf : (v ++ rest).length + 70 ≤ fuel) (h : refLen 64 t v = some v.length) :
    liftSkip (Funcs.Binary_Skip fuel (v ++ rest) (toI8 t.toNat)) = .ok v.length := by
  rw [Binary_Skip_eq (v ++ rest) t fuel hb hf]
  exact C02.skipBin_exact v rest t h

/-- C08 exact extent: … and no other length is ever reported -/
theorem skip_exact_extent (v rest : Bytes) (t : UInt8) (fuel : Nat) (hb : (v ++ rest).length < 2 ^ 62)
    (hf : (v ++ rest).length + 70 ≤ fuel) (h : refLen 64 t v = some v.length) (n : Nat) :
    liftSkip (Funcs.Binary_Skip fuel (v ++ rest) (toI8 t.toNat)) = .ok n ↔ n = v.length := by
  rw [Binary_Skip_eq (v ++ rest) t fuel hb hf]
  exact C08.skipBin_exact_extent v rest t h n

/-- C03 safety: never a Go panic (index, slice, table index, exhausted fuel), never an out-of-bounds pointer load -/
theorem skip_safe (b : Bytes) (t : UInt8) (fuel : Nat) (hb : b.length < 2 ^ 62) (hf : b.length + 70 ≤ fuel) :
    (∀ s, liftSkip (Funcs.Binary_Skip fuel b (toI8 t.toNat)) ≠ .panic s) ∧
    liftSkip (Funcs.Binary_Skip fuel b (toI8 t.toNat)) ≠ .oob := by
  rw [Binary_Skip_eq b t fuel hb hf]
  exact C03.skipBin_safe b t

/-- C03 safety, without the lift: the translated function itself returns its Go result `(n, err)` -/
theorem skip_returns (b : Bytes) (t : UInt8) (fuel : Nat) (hb : b.length < 2 ^ 62) (hf : b.length + 70 ≤ fuel) :
    ∃ r, Funcs.Binary_Skip fuel b (toI8 t.toNat) = .ok r :=
  liftSkip_returns (skip_safe b t fuel hb hf)

/-- C03: a reported length never exceeds the input -/
theorem skip_le (b : Bytes) (t : UInt8) (fuel : Nat) (hb : b.length < 2 ^ 62) (hf : b.length + 70 ≤ fuel) (n : Nat)
    (h : liftSkip (Funcs.Binary_Skip fuel b (toI8 t.toNat)) = .ok n) : n ≤ b.length := by
  rw [Binary_Skip_eq b t fuel hb hf] at h
  exact C03.skipBin_le b t n h

/-- C08: nesting beyond the recursion limit (not well-formed within 65 levels), like anything else that is not a value
    within 65 levels, is rejected with an error -/
theorem skip_rejects_deep (b : Bytes) (t : UInt8) (fuel : Nat) (hb : b.length < 2 ^ 62) (hf : b.length + 70 ≤ fuel)
    (h : refLen 65 t b = none) : ∃ e, liftSkip (Funcs.Binary_Skip fuel b (toI8 t.toNat)) = .err e := by
  rw [Binary_Skip_eq b t fuel hb hf]
  exact C08.skipBin_rejects_deep b t h

/-- C08: every strict prefix of a valid encoding is rejected -/
theorem skip_rejects_strict_prefix (b : Bytes) (t : UInt8) (fuel d n m : Nat) (hb : b.length < 2 ^ 62)
    (hf : b.length + 70 ≤ fuel) (h : refLen d t b = some n) (hm : m < n) :
    ∃ e, liftSkip (Funcs.Binary_Skip fuel (b.take m) (toI8 t.toNat)) = .err e := by
  have hl : (b.take m).length ≤ b.length := by rw [List.length_take]; exact Nat.min_le_right _ _
  rw [Binary_Skip_eq (b.take m) t fuel (by omega) (by omega)]
  exact C08.skipBin_rejects_strict_prefix b t d n m h hm

/-- C08: a negative declared size at the top of a string / list / set / map is rejected -/
theorem skip_rejects_negative_size_string (b : Bytes) (fuel : Nat) (hb : b.length < 2 ^ 62) (hf : b.length + 70 ≤ fuel)
    (h : ¬ rd32 b < 2147483648) : ∃ e, liftSkip (Funcs.Binary_Skip fuel b (toI8 TT.STRING.toNat)) = .err e := by
  rw [Binary_Skip_eq b TT.STRING fuel hb hf]
  exact C08.skipBin_rejects_negative_size_string b h

theorem skip_rejects_negative_size_list (t et : UInt8) (rest : Bytes) (fuel : Nat) (hb : (et :: rest).length < 2 ^ 62)
    (hf : (et :: rest).length + 70 ≤ fuel) (ht : t = TT.LIST ∨ t = TT.SET) (h : ¬ rd32 rest < 2147483648) :
    ∃ e, liftSkip (Funcs.Binary_Skip fuel (et :: rest) (toI8 t.toNat)) = .err e := by
  rw [Binary_Skip_eq (et :: rest) t fuel hb hf]
  exact C08.skipBin_rejects_negative_size_list t et rest ht h

theorem skip_rejects_negative_size_map (kt vt : UInt8) (rest : Bytes) (fuel : Nat)
    (hb : (kt :: vt :: rest).length < 2 ^ 62) (hf : (kt :: vt :: rest).length + 70 ≤ fuel)
    (h : ¬ rd32 rest < 2147483648) :
    ∃ e, liftSkip (Funcs.Binary_Skip fuel (kt :: vt :: rest) (toI8 TT.MAP.toNat)) = .err e := by
  rw [Binary_Skip_eq (kt :: vt :: rest) TT.MAP fuel hb hf]
  exact C08.skipBin_rejects_negative_size_map kt vt rest h

/-- C08: an unknown type tag that has to be parsed is rejected -/
theorem skip_rejects_unknown_tag (b : Bytes) (t : UInt8) (fuel : Nat) (hb : b.length < 2 ^ 62) (hf : b.length + 70 ≤ fuel)
    (ht : fixedSize t = 0 ∧ t ≠ TT.STRING ∧ t ≠ TT.STRUCT ∧ t ≠ TT.MAP ∧ t ≠ TT.SET ∧ t ≠ TT.LIST) :
    ∃ e, liftSkip (Funcs.Binary_Skip fuel b (toI8 t.toNat)) = .err e := by
  rw [Binary_Skip_eq b t fuel hb hf]
  exact C08.skipBin_rejects_unknown_tag b t ht

/-- C17 error-exact refinement: the extent when the independent classifier accepts, otherwise the protocol exception
    whose type id is the one Thrift defines for the classified cause; nothing else -/
theorem skip_cause_exact (b : Bytes) (t : UInt8) (fuel : Nat) (hb : b.length < 2 ^ 62) (hf : b.length + 70 ≤ fuel) :
    liftSkip (Funcs.Binary_Skip fuel b (toI8 t.toNat)) =
      match causeBin 64 t b with
      | .ok n => .ok n
      | .error c => .err (.pe (typeIdOf c)) := by
  rw [Binary_Skip_eq b t fuel hb hf]
  exact C17.skipBin_exact b t

/-- C17: every failure is a protocol exception whose type id is the one Thrift defines for the cause -/
theorem skip_err_typeId (b : Bytes) (t : UInt8) (fuel : Nat) (hb : b.length < 2 ^ 62) (hf : b.length + 70 ≤ fuel)
    (e : TErr) (h : liftSkip (Funcs.Binary_Skip fuel b (toI8 t.toNat)) = .err e) :
    ∃ c, causeBin 64 t b = .error c ∧ e = .pe (typeIdOf c) := by
  rw [Binary_Skip_eq b t fuel hb hf] at h
  exact C17.skipBin_err_typeId b t e h

/-- C17: … and conversely every classified cause surfaces as that exception -/
theorem skip_cause_err (b : Bytes) (t : UInt8) (fuel : Nat) (hb : b.length < 2 ^ 62) (hf : b.length + 70 ≤ fuel)
    (c : Cause) (h : causeBin 64 t b = .error c) :
    liftSkip (Funcs.Binary_Skip fuel b (toI8 t.toNat)) = .err (.pe (typeIdOf c)) := by
  rw [Binary_Skip_eq b t fuel hb hf]
  exact C17.skipBin_cause_err b t c h

/-- C17: truncation and unknown type → INVALID_DATA (1), negative size → NEGATIVE_SIZE (2), depth → DEPTH_LIMIT (6) -/
theorem skip_truncated_invalid_data (b : Bytes) (t : UInt8) (fuel : Nat) (hb : b.length < 2 ^ 62)
    (hf : b.length + 70 ≤ fuel) (h : causeBin 64 t b = .error .truncated) :
    liftSkip (Funcs.Binary_Skip fuel b (toI8 t.toNat)) = .err (.pe 1) := by
  rw [Binary_Skip_eq b t fuel hb hf]; exact C17.skipBin_truncated_invalid_data b t h

theorem skip_unknown_type_invalid_data (b : Bytes) (t : UInt8) (fuel : Nat) (hb : b.length < 2 ^ 62)
    (hf : b.length + 70 ≤ fuel) (h : causeBin 64 t b = .error .unknownType) :
    liftSkip (Funcs.Binary_Skip fuel b (toI8 t.toNat)) = .err (.pe 1) := by
  rw [Binary_Skip_eq b t fuel hb hf]; exact C17.skipBin_unknown_type_invalid_data b t h

theorem skip_negative_size (b : Bytes) (t : UInt8) (fuel : Nat) (hb : b.length < 2 ^ 62)
    (hf : b.length + 70 ≤ fuel) (h : causeBin 64 t b = .error .negativeSize) :
    liftSkip (Funcs.Binary_Skip fuel b (toI8 t.toNat)) = .err (.pe 2) := by
  rw [Binary_Skip_eq b t fuel hb hf]; exact C17.skipBin_negative_size b t h

theorem skip_depth_limit (b : Bytes) (t : UInt8) (fuel : Nat) (hb : b.length < 2 ^ 62)
    (hf : b.length + 70 ≤ fuel) (h : causeBin 64 t b = .error .depth) :
    liftSkip (Funcs.Binary_Skip fuel b (toI8 t.toNat)) = .err (.pe 6) := by
  rw [Binary_Skip_eq b t fuel hb hf]; exact C17.skipBin_depth_limit b t h

/-- C17, without the lift: whenever the translated function returns a non-nil Go error, that error is one of the
    package's protocol-exception VALUES with type id INVALID_DATA, NEGATIVE_SIZE or DEPTH_LIMIT — never `io.EOF`, a
    `fmt.Errorf` value or another id -/
theorem skip_err_protocol_exception (b : Bytes) (t : UInt8) (fuel : Nat) (hb : b.length < 2 ^ 62)
    (hf : b.length + 70 ≤ fuel) (m : Int) (g : GoErr)
    (h : Funcs.Binary_Skip fuel b (toI8 t.toNat) = .ok (m, g)) (hg : g ≠ GoErr.nil) :
    ∃ msg, g = .pe 1 msg ∨ g = .pe 2 msg ∨ g = .pe 6 msg := by
  have hl : liftSkip (Funcs.Binary_Skip fuel b (toI8 t.toNat)) = .err (absErr g) := by
    rw [h]; simp [liftSkip, hg]
  obtain ⟨c, _, hc⟩ := skip_err_typeId b t fuel hb hf _ hl
  obtain ⟨msg, rfl⟩ := absErr_pe_inv hc (by cases c <;> decide)
  refine ⟨msg, ?_⟩
  cases c
  · exact Or.inl rfl
  · exact Or.inl rfl
  · exact Or.inr (Or.inl rfl)
  · exact Or.inr (Or.inr rfl)

/-! non-vacuity: list<string>["A", ""] followed by garbage meets the hypotheses of `skip_complete` / `skip_exact`;
    a map<string,i64> whose last value is cut short those of `skip_truncated_invalid_data`; 66 nested lists those of
    `skip_rejects_deep` -/
example : ([11, 0,0,0,2, 0,0,0,1, 65, 0,0,0,0, 0xEE] : Bytes).length < 2 ^ 62 ∧
    ([11, 0,0,0,2, 0,0,0,1, 65, 0,0,0,0, 0xEE] : Bytes).length + 70 ≤ 85 ∧
    refLen 64 TT.LIST [11, 0,0,0,2, 0,0,0,1, 65, 0,0,0,0, 0xEE] = some 14 := by decide
example : liftSkip (Funcs.Binary_Skip 85 [11, 0,0,0,2, 0,0,0,1, 65, 0,0,0,0, 0xEE] (toI8 TT.LIST.toNat)) = .ok 14 :=
  skip_complete _ TT.LIST 85 (by decide) (by decide) 14 (by decide)
example : liftSkip (Funcs.Binary_Skip 85 [0x0b, 0x0a, 0,0,0,1, 0,0,0,0, 0x55] (toI8 TT.MAP.toNat)) = .err (.pe 1) :=
  skip_truncated_invalid_data _ TT.MAP 85 (by decide) (by decide) (by decide)
example : (C08.deepList 64).length < 2 ^ 62 ∧ (C08.deepList 64).length + 70 ≤ 400 ∧
    refLen 65 TT.LIST (C08.deepList 64) = none := by decide +kernel

end Verif.Translated
