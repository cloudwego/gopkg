/-
  Props/Translated/Read: property theorems restated about the functions TRANSLATED from the Go source on every run
  (`Verif.Funcs.*`, `Gen/Funcs.lean`), i.e. about what the source says now. Each theorem is a corollary: rewrite with the
  equivalence theorem `Verif.FuncsEq.<F>_eq` (the translated function, through an explicit result lift, IS the model function),
  then apply the property theorem about the model. Hypotheses: those of the property theorem plus the size domain of the `_eq`
  theorem (buffers shorter than 2^62 / 2^63 bytes, enough loop fuel). See Props/Translated.lean for the overview.
-/
import Verif.Lemmas.Funcs.TransferRead
import Verif.Props.C01
import Verif.Props.C03_wire
import Verif.Props.C12
import Verif.Props.C17_wire
namespace Verif.Translated
open Verif Verif.GoSem Verif.FuncsEq

/-! ## the buffer readers `Binary.Read*` (C01, C03, C12, C17) -/

/-- `Binary.Read<kind>(b)` as translated (both values of the package variable `spanCacheEnable`), result in the models'
    vocabulary: the `Val` read and the consumed length -/
def tRead (g : Bool) : Wire.Kind → Bytes → Wire.BOut (Wire.Val × Nat)
  | .bool, b => Wire.mapOk (fun r => (.bool r.1, r.2)) (liftRd (Funcs.Binary_ReadBool b))
  | .i8, b => Wire.mapOk (fun r => (.i8 r.1, r.2)) (liftRd (Funcs.Binary_ReadByte b))
  | .i16, b => Wire.mapOk (fun r => (.i16 r.1, r.2)) (liftRd (Funcs.Binary_ReadI16 b))
  | .i32, b => Wire.mapOk (fun r => (.i32 r.1, r.2)) (liftRd (Funcs.Binary_ReadI32 b))
  | .i64, b => Wire.mapOk (fun r => (.i64 r.1, r.2)) (liftRd (Funcs.Binary_ReadI64 b))
  | .double, b => Wire.mapOk (fun r => (.double r.1, r.2)) (liftRdDouble (Funcs.Binary_ReadDouble b))
  | .binary, b => Wire.mapOk (fun r => (.binary r.1, r.2)) (liftRd (Funcs.Binary_ReadBinary g b))
  | .str, b => Wire.mapOk (fun r => (.str r.1, r.2)) (liftRd (Funcs.Binary_ReadString g b))
  | .field, b => Wire.mapOk (fun r => (Wire.fieldVal r.1 r.2.1, r.2.2)) (liftRdField (Funcs.Binary_ReadFieldBegin b))
  | .map, b => Wire.mapOk (fun r => (.mapBegin r.1 r.2.1 r.2.2.1, r.2.2.2)) (liftRdMap (Funcs.Binary_ReadMapBegin b))
  | .list, b => Wire.mapOk (fun r => (.listBegin r.1 r.2.1, r.2.2)) (liftRdList (Funcs.Binary_ReadListBegin b))
  | .set, b => Wire.mapOk (fun r => (.setBegin r.1 r.2.1, r.2.2)) (liftRdList (Funcs.Binary_ReadSetBegin b))
  | .msg, b => Wire.mapOk (fun r => (.messageBegin r.1 r.2.1 r.2.2.1, r.2.2.2))
      (liftRdMsg (Funcs.Binary_ReadMessageBegin g b))

/-- the translated readers are the model readers, for every byte string and both values of `spanCacheEnable` -/
theorem tRead_eq (g : Bool) (k : Wire.Kind) (b : Bytes) : tRead g k b = Wire.binRead k b := by
  cases k <;>
    simp only [tRead, Wire.binRead, Binary_ReadBool_eq, Binary_ReadByte_eq, Binary_ReadI16_eq, Binary_ReadI32_eq,
      Binary_ReadI64_eq, Binary_ReadDouble_eq, Binary_ReadBinary_eq, Binary_ReadString_eq, Binary_ReadFieldBegin_eq,
      Binary_ReadMapBegin_eq, Binary_ReadListBegin_eq, Binary_ReadSetBegin_eq, Binary_ReadMessageBegin_eq]

/-- C01 read_enc: every translated reader, given the encoding of a value of the domain followed by anything, returns
    that value and exactly the encoding's length -/
theorem read_enc (g : Bool) (v : Wire.Val) (hv : v.wf) (rest : Bytes) :
    tRead g v.kind (Wire.enc v ++ rest) = .ok (v, (Wire.enc v).length) := by
  rw [tRead_eq]; exact C01.read_enc v hv rest

/-- C03: for every reader and EVERY byte string: no panic, no out-of-bounds load, and a reported length is at most
    `len(b)` -/
theorem read_safe (g : Bool) (k : Wire.Kind) (b : Bytes) :
    (∀ s, tRead g k b ≠ .panic s) ∧ tRead g k b ≠ .oob ∧ (∀ v n, tRead g k b = .ok (v, n) → n ≤ b.length) := by
  rw [tRead_eq]; exact C03.wire_read_safe k b

/-- C03: also the length returned beside an error never exceeds `len(b)` -/
theorem read_err_len (g : Bool) (k : Wire.Kind) (b : Bytes) (e : TErr) (l : Nat) (h : tRead g k b = .err (e, l)) :
    l ≤ b.length := by
  rw [tRead_eq] at h; exact C03.wire_read_err_len k b e l h

/-- C03, without the lifts: each of the 13 translated readers returns its Go result tuple on every byte string -/
theorem readers_return (g : Bool) (b : Bytes) :
    (∃ r, Funcs.Binary_ReadBool b = .ok r) ∧ (∃ r, Funcs.Binary_ReadByte b = .ok r) ∧
    (∃ r, Funcs.Binary_ReadI16 b = .ok r) ∧ (∃ r, Funcs.Binary_ReadI32 b = .ok r) ∧
    (∃ r, Funcs.Binary_ReadI64 b = .ok r) ∧ (∃ r, Funcs.Binary_ReadDouble b = .ok r) ∧
    (∃ r, Funcs.Binary_ReadBinary g b = .ok r) ∧ (∃ r, Funcs.Binary_ReadString g b = .ok r) ∧
    (∃ r, Funcs.Binary_ReadFieldBegin b = .ok r) ∧ (∃ r, Funcs.Binary_ReadMapBegin b = .ok r) ∧
    (∃ r, Funcs.Binary_ReadListBegin b = .ok r) ∧ (∃ r, Funcs.Binary_ReadSetBegin b = .ok r) ∧
    (∃ r, Funcs.Binary_ReadMessageBegin g b = .ok r) := by
  have H : ∀ k, (tRead g k b).Safe := fun k => ⟨(read_safe g k b).1, (read_safe g k b).2.1⟩
  exact ⟨liftRd_returns (mapOk_safe (H .bool)), liftRd_returns (mapOk_safe (H .i8)),
    liftRd_returns (mapOk_safe (H .i16)), liftRd_returns (mapOk_safe (H .i32)),
    liftRd_returns (mapOk_safe (H .i64)), liftRdG_returns (mapOk_safe (H .double)),
    liftRd_returns (mapOk_safe (H .binary)), liftRd_returns (mapOk_safe (H .str)),
    liftRdG_returns (mapOk_safe (H .field)), liftRdG_returns (mapOk_safe (H .map)),
    liftRdG_returns (mapOk_safe (H .list)), liftRdG_returns (mapOk_safe (H .set)),
    liftRdG_returns (mapOk_safe (H .msg))⟩

/-- C17 read_err_typeId: every failure of a translated reader, on every byte string, is a protocol exception whose type
    id is the one Thrift defines for the independently classified cause (truncated 1, negative size 2, bad version 4) -/
theorem read_err_typeId (g : Bool) (k : Wire.Kind) (b : Bytes) (e : TErr) (l : Nat) (h : tRead g k b = .err (e, l)) :
    e = .pe (Wire.cause k b).typeId := by
  rw [tRead_eq] at h; exact C17.read_err_typeId k b e l h

/-- C03: ReadMessageBegin's own entry of the statement -/
theorem msgbegin_safe (g : Bool) (b : Bytes) :
    (∀ s, liftRdMsg (Funcs.Binary_ReadMessageBegin g b) ≠ .panic s) ∧
    liftRdMsg (Funcs.Binary_ReadMessageBegin g b) ≠ .oob ∧
    (∀ r, liftRdMsg (Funcs.Binary_ReadMessageBegin g b) = .ok r → r.2.2.2 ≤ b.length) := by
  rw [Binary_ReadMessageBegin_eq]; exact C03.wire_msgbegin_safe b

/-- C12 round trip, reader part: the encoded header followed by anything reads back as the same name, `typ mod 2^16`,
    the same seq, consuming exactly MessageBeginLength(name) bytes -/
theorem msgbegin_read_enc (g : Bool) (name : Bytes) (typ seq : Int) (hn : name.length < 2 ^ 31)
    (ht : Wire.inI32 typ) (hs : Wire.inI32 seq) (rest : Bytes) :
    liftRdMsg (Funcs.Binary_ReadMessageBegin g (Wire.enc (.messageBegin name typ seq) ++ rest)) =
      .ok (name, (Wire.msgType16 typ : Int), seq, Wire.lenMessageBegin name) := by
  rw [Binary_ReadMessageBegin_eq]; exact (C12.msgbegin_roundtrip name typ seq hn ht hs).2.2.2.1 rest

/-- C12 bad_version_iff: given at least 4 bytes, BAD_VERSION (4) exactly when the upper half of the first word is not
    the strict-version marker 0x8001 -/
theorem msgbegin_bad_version_iff (g : Bool) (b : Bytes) (h : 4 ≤ b.length) :
    (∃ l, liftRdMsg (Funcs.Binary_ReadMessageBegin g b) = .err (.pe 4, l)) ↔ rd32 b / 65536 ≠ 0x8001 := by
  rw [Binary_ReadMessageBegin_eq]; exact C12.bad_version_iff b h

/-- C12 truncated_err: every strict prefix of an encoded header is rejected with INVALID_DATA and length 0 -/
theorem msgbegin_truncated_err (g : Bool) (name : Bytes) (typ seq : Int) (hn : name.length < 2 ^ 31)
    (ht : Wire.inI32 typ) (hs : Wire.inI32 seq) (p : Bytes) (hp : p <+: Wire.enc (.messageBegin name typ seq))
    (hne : p ≠ Wire.enc (.messageBegin name typ seq)) :
    liftRdMsg (Funcs.Binary_ReadMessageBegin g p) = .err (.pe 1, 0) := by
  rw [Binary_ReadMessageBegin_eq]; exact C12.truncated_err name typ seq hn ht hs p hp hne

/-- C12 accepted_exact: whatever is accepted is exactly an encoded header of the domain -/
theorem msgbegin_accepted_exact (g : Bool) (b name : Bytes) (typ seq : Int) (l : Nat)
    (h : liftRdMsg (Funcs.Binary_ReadMessageBegin g b) = .ok (name, typ, seq, l)) :
    b.take l = Wire.enc (.messageBegin name typ seq) ∧ (Wire.Val.messageBegin name typ seq).wf := by
  rw [Binary_ReadMessageBegin_eq] at h; exact C12.accepted_exact b name typ seq l h

/-- C12: a name of 2^31 … 2^32-1 bytes is rejected with INVALID_DATA, never read back as a different header -/
theorem msgbegin_rejects_long_name (g : Bool) (name rest : Bytes) (typ seq : Int) (ht : Wire.inI32 typ)
    (hs : Wire.inI32 seq) (h1 : 2 ^ 31 ≤ name.length) (h2 : name.length < 2 ^ 32) :
    liftRdMsg (Funcs.Binary_ReadMessageBegin g (Wire.enc (.messageBegin name typ seq) ++ rest)) = .err (.pe 1, 0) := by
  rw [Binary_ReadMessageBegin_eq]; exact C12.msgbegin_rejects_long_name name rest typ seq ht hs h1 h2

/-- C12: the returned type is the low 16 bits of the first word -/
theorem msgbegin_type_low16 (g : Bool) (b method : Bytes) (typ seq : Int) (i : Nat)
    (h : liftRdMsg (Funcs.Binary_ReadMessageBegin g b) = .ok (method, typ, seq, i)) :
    typ = ((rd32 b % 65536 : Nat) : Int) ∧
    (rd32 b % 65536 = 1 ∨ rd32 b % 65536 = 2 ∨ rd32 b % 65536 = 4 → typ ≠ 3) := by
  rw [Binary_ReadMessageBegin_eq] at h; exact C12.call_reply_oneway_not_exception b method typ seq i h

/-! non-vacuity: values of the domain for `read_enc`; a bad-version and a truncated header; evaluation -/
example : (Wire.Val.str [0x68, 0xff]).wf ∧ (Wire.Val.messageBegin [0x66] 1 (-7)).wf ∧ (Wire.Val.fieldBegin 11 (-1)).wf ∧
    (Wire.Val.mapBegin 0xff 0x80 2147483647).wf ∧ (Wire.Val.double 0x7ff8000000000001).wf := by decide +kernel
example : tRead true .str (Wire.enc (.str [0x68, 0xff]) ++ [1, 2]) = .ok (.str [0x68, 0xff], 6) :=
  read_enc true (.str [0x68, 0xff]) (by decide) [1, 2]
example : tRead false .map [11, 8, 0xff, 0xff, 0xff, 0xff] = .ok (.mapBegin 11 8 4294967295, 6) := by decide +kernel
example : tRead true .str [0x80, 0, 0, 0] = .err (.pe 2, 0) ∧ Wire.cause .str [0x80, 0, 0, 0] = .negativeSize := by decide +kernel
example : 4 ≤ ([0x80, 0x02, 0, 1, 0, 0, 0, 0, 0, 0, 0, 0] : Bytes).length ∧
    rd32 [0x80, 0x02, 0, 1, 0, 0, 0, 0, 0, 0, 0, 0] / 65536 ≠ 0x8001 := by decide +kernel
example : ([0x66] : Bytes).length < 2 ^ 31 ∧ Wire.inI32 65537 ∧ Wire.inI32 (-1) ∧
    [0x80, 0x01, 0, 1, 0] <+: Wire.enc (.messageBegin [0x66] 1 7) ∧
    ([0x80, 0x01, 0, 1, 0] : Bytes) ≠ Wire.enc (.messageBegin [0x66] 1 7) := by decide +kernel


end Verif.Translated
