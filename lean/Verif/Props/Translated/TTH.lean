/-
  Props/Translated/TTH: property theorems restated about the functions TRANSLATED from the Go source on every run
  (`Verif.Funcs.*`, `Gen/Funcs.lean`), i.e. about what the source says now. Each theorem is a corollary: rewrite with the
  equivalence theorem `Verif.FuncsEq.<F>_eq` (the translated function, through an explicit result lift, IS the model function),
  then apply the property theorem about the model. Hypotheses: those of the property theorem plus the size domain of the `_eq`
  theorem (buffers shorter than 2^62 / 2^63 bytes, enough loop fuel). See Props/Translated.lean for the overview.
-/
import Verif.Lemmas.Funcs.TransferTTH
import Verif.Lemmas.TthDec
import Verif.Lemmas.TthDecode
import Verif.Props.C06
import Verif.Props.C10
namespace Verif.Translated
open Verif Verif.GoSem Verif.FuncsEq

private theorem safe_ok {ε α : Type} (a : α) : (Out.ok a : Out ε α).Safe := ⟨fun _ => nofun, nofun⟩
private theorem safe_err {ε α : Type} (e : ε) : (Out.err e : Out ε α).Safe := ⟨fun _ => nofun, nofun⟩

/-! ## the TTHeader section readers and utils (C10, C06, C03)

  `idx`/`off` is the Go `int` index into the info slice; `b.length < 2^62`, `idx < 2^62` keep the index arithmetic
  inside int64; `b.length - idx < fuel` is the loop budget (`info.length + 1` in `decodeInfo`'s own call).
  Map arguments are non-nil (`some m`), as at the call sites in `readKVInfo`. -/

/-- C10 (`readKVInfo_ref`): the translated section loop agrees with the reference section parser of Spec/Frame: it
    succeeds exactly on a sequence of complete sections with known ids, with the maps the sections denote (later
    entries win, the ACL token under GDPRToken); otherwise an error, which is never the fuel running out -/
theorem tth_readKVInfo_ref (b : Bytes) (fuel idx : Nat) (hb : b.length < 2 ^ 62) (hi : idx < 2 ^ 62)
    (hf : b.length - idx < fuel) :
    match Frame.refSecs fuel (b.drop idx) with
    | some secs => liftMaps (Funcs.tth_readKVInfo fuel (idx : Int) b) = .ok (TTH.applyMs ⟨none, none⟩ secs)
    | none => ∃ e, liftMaps (Funcs.tth_readKVInfo fuel (idx : Int) b) = .err e ∧ e ≠ .nofuel := by
  rw [tth_readKVInfo_eq b fuel idx (by omega) (by omega) hf]
  have h := TTH.readKVInfo_ref b fuel idx ⟨none, none⟩
  split
  · rename_i secs hs; rw [hs] at h; exact h
  · rename_i hs; rw [hs] at h
    obtain ⟨e, he, hn⟩ := h
    exact ⟨e, he, hn (by rw [List.length_drop]; exact hf)⟩

/-- C03: on every byte string the translated section loop returns normally — no index/slice panic, no store into a nil
    map, the `for {}` terminates within the fuel — and its outcome is a result or one of the two documented errors -/
theorem tth_readKVInfo_safe (b : Bytes) (fuel idx : Nat) (hb : b.length < 2 ^ 62) (hi : idx < 2 ^ 62)
    (hf : b.length - idx < fuel) :
    (∃ r, Funcs.tth_readKVInfo fuel (idx : Int) b = .ok r) ∧
    (liftMaps (Funcs.tth_readKVInfo fuel (idx : Int) b)).Safe ∧
    liftMaps (Funcs.tth_readKVInfo fuel (idx : Int) b) ≠ .err .nofuel := by
  have h := tth_readKVInfo_ref b fuel idx hb hi hf
  have hs : (liftMaps (Funcs.tth_readKVInfo fuel (idx : Int) b)).Safe ∧
      liftMaps (Funcs.tth_readKVInfo fuel (idx : Int) b) ≠ .err .nofuel := by
    split at h
    · rw [h]; exact ⟨safe_ok _, nofun⟩
    · obtain ⟨e, he, hn⟩ := h
      rw [he]; exact ⟨safe_err _, fun hc => hn (Out.err.inj hc)⟩
  exact ⟨liftMaps_returns hs.1, hs⟩

/-- the call `decodeInfo` makes: the whole info slice from the end of the transform ids, fuel `len + 1` -/
theorem tth_readKVInfo_ref_decode (info : Bytes) (hdIdx : Nat) (hb : info.length < 2 ^ 62) (hi : hdIdx ≤ info.length) :
    match Frame.refSecs (info.length + 1) (info.drop hdIdx) with
    | some secs =>
      liftMaps (Funcs.tth_readKVInfo (info.length + 1) (hdIdx : Int) info) = .ok (TTH.applyMs ⟨none, none⟩ secs)
    | none => ∃ e, liftMaps (Funcs.tth_readKVInfo (info.length + 1) (hdIdx : Int) info) = .err e ∧ e ≠ .nofuel :=
  tth_readKVInfo_ref info (info.length + 1) hdIdx hb (by omega) (by omega)

/-- C10 (`readStrKVInfo_ref`): a string section is read exactly when the reference parser reads its count and entries;
    the entries are stored left to right and the new index points at the rest -/
theorem tth_readStrKVInfo_ref (b : Bytes) (fuel idx : Nat) (m : TTH.StrMap) (hb : b.length < 2 ^ 62)
    (hi : idx < 2 ^ 62) (hf : b.length - idx < fuel) :
    match (if (b.drop idx).length < 2 then none
           else Frame.refStrKVs (rd16 (b.drop idx)) ((b.drop idx).drop 2)) with
    | none => liftSecH id (Funcs.tth_readStrKVInfo fuel (idx : Int) b (some m)) = .err .section
    | some x => ∃ idx', liftSecH id (Funcs.tth_readStrKVInfo fuel (idx : Int) b (some m)) = .ok (idx', x.1.reverse ++ m) ∧
        x.2 = b.drop idx' := by
  rw [tth_readStrKVInfo_eq b fuel idx m (by omega) (by omega) hf]
  exact TTH.readStrKVInfo_ref b idx m _ rfl

/-- C10 (`readIntKVInfo_ref`): the same for an integer-keyed section -/
theorem tth_readIntKVInfo_ref (b : Bytes) (fuel idx : Nat) (m : TTH.IntMap) (hb : b.length < 2 ^ 62)
    (hi : idx < 2 ^ 62) (hf : b.length - idx < fuel) :
    match (if (b.drop idx).length < 2 then none
           else Frame.refIntKVs (rd16 (b.drop idx)) ((b.drop idx).drop 2)) with
    | none => liftSecH imapM (Funcs.tth_readIntKVInfo fuel (idx : Int) b (some (imapG m))) = .err .section
    | some x => ∃ idx', liftSecH imapM (Funcs.tth_readIntKVInfo fuel (idx : Int) b (some (imapG m)))
          = .ok (idx', x.1.reverse ++ m) ∧ x.2 = b.drop idx' := by
  rw [tth_readIntKVInfo_eq b fuel idx m (by omega) (by omega) hf]
  exact TTH.readIntKVInfo_ref b idx m _ rfl

/-- C10 (`readACLToken_ref`): the ACL token section is one 2-byte-length string, stored under GDPRToken -/
theorem tth_readACLToken_ref (b : Bytes) (idx : Nat) (m : TTH.StrMap) (hb : b.length < 2 ^ 62) (hi : idx < 2 ^ 62) :
    match Frame.takeStr2 (b.drop idx) with
    | none => liftSec id (Funcs.tth_readACLToken (idx : Int) b (some m)) = .err .section
    | some x => liftSec id (Funcs.tth_readACLToken (idx : Int) b (some m))
          = .ok (idx + (x.1.length + 2), (TTH.gdprKey, x.1) :: m) ∧ x.2 = b.drop (idx + (x.1.length + 2)) := by
  rw [tth_readACLToken_eq b idx m (by omega) (by omega)]
  exact TTH.readACLToken_ref b idx m

/-- C03: the three section readers return normally on every byte string (with a non-nil map) -/
theorem tth_section_readers_return (b : Bytes) (fuel idx : Nat) (ms : TTH.StrMap) (mi : TTH.IntMap)
    (hb : b.length < 2 ^ 62) (hi : idx < 2 ^ 62) (hf : b.length - idx < fuel) :
    (∃ r, Funcs.tth_readStrKVInfo fuel (idx : Int) b (some ms) = .ok r) ∧
    (∃ r, Funcs.tth_readIntKVInfo fuel (idx : Int) b (some (imapG mi)) = .ok r) ∧
    (∃ r, Funcs.tth_readACLToken (idx : Int) b (some ms) = .ok r) := by
  refine ⟨liftSecH_returns (abs := id) ?_, liftSecH_returns (abs := imapM) ?_, liftSec_returns (abs := id) ?_⟩
  · have h := tth_readStrKVInfo_ref b fuel idx ms hb hi hf
    split at h
    · rw [h]; exact safe_err _
    · obtain ⟨i, he, _⟩ := h; rw [he]; exact safe_ok _
  · have h := tth_readIntKVInfo_ref b fuel idx mi hb hi hf
    split at h
    · rw [h]; exact safe_err _
    · obtain ⟨i, he, _⟩ := h; rw [he]; exact safe_ok _
  · have h := tth_readACLToken_ref b idx ms hb hi
    split at h
    · rw [h]; exact safe_err _
    · rw [h.1]; exact safe_ok _

/-- C03/C10 (`readString2BLen_drop`): ReadString2BLen never panics and reads exactly the reference's 2-byte-length
    string at `off` (`none` = io.EOF), reporting its length + 2 -/
theorem tth_ReadString2BLen_ref (b : Bytes) (off : Nat) (hb : b.length < 2 ^ 63) (ho : off < 2 ^ 63) :
    liftEofS (Funcs.tth_ReadString2BLen b (off : Int)) =
      .ok ((Frame.takeStr2 (b.drop off)).map fun x => (x.1, x.1.length + 2)) := by
  rw [tth_ReadString2BLen_eq b off (by omega) (by omega)]
  exact TTH.readString2BLen_drop b off

/-- C03/C10 (`bytes2Uint8_drop`, `bytes2Uint16_drop`): the checked integer readers never panic; `none` = io.EOF
    exactly when the bytes are not there -/
theorem tth_Bytes2Uint8_ref (b : Bytes) (off : Nat) (hb : b.length < 2 ^ 63) (ho : off < 2 ^ 63) :
    liftEof (Funcs.tth_Bytes2Uint8 b (off : Int)) = .ok ((b.drop off).head?.map UInt8.toNat) := by
  rw [tth_Bytes2Uint8_eq b off (by omega) (by omega)]
  exact TTH.bytes2Uint8_drop b off

theorem tth_Bytes2Uint16_ref (b : Bytes) (off : Nat) (hb : b.length < 2 ^ 63) (ho : off < 2 ^ 63) :
    liftEof (Funcs.tth_Bytes2Uint16 b (off : Int)) =
      .ok (if (b.drop off).length < 2 then none else some (rd16 (b.drop off))) := by
  rw [tth_Bytes2Uint16_eq b off (by omega) (by omega)]
  exact TTH.bytes2Uint16_drop b off

/-- C10: checkProtocolID (argument a Go `uint8`) returns a nil error exactly for the ids of the documented allow-list
    `Frame.supported` = {0x00, 0x03, 0x04, 0x10, 0x11} -/
theorem tth_checkProtocolID_supported (p : Nat) (hp : p < 256) :
    liftChk (Funcs.tth_checkProtocolID (p : Int)) = .ok (Frame.supported.contains p) := by
  rw [tth_checkProtocolID_eq, TTH.checkProtocolID_eq p hp]

theorem tth_checkProtocolID_iff (p : Nat) (hp : p < 256) :
    liftChk (Funcs.tth_checkProtocolID (p : Int)) = .ok true ↔ p = 0 ∨ p = 3 ∨ p = 4 ∨ p = 0x10 ∨ p = 0x11 := by
  rw [tth_checkProtocolID_supported p hp]
  simp [Frame.supported]

/-- C06 isStreaming_iff: IsStreaming never panics and answers true exactly for buffers of at least 8 bytes whose magic
    is 0x1000 and whose streaming flag bit (0x0002) is set -/
theorem tth_IsStreaming_iff (b : Bytes) :
    (liftB (Funcs.tth_IsStreaming b)).Safe ∧
    (liftB (Funcs.tth_IsStreaming b) = .ok true ↔
      8 ≤ b.length ∧ rd16 (b.drop 4) = 0x1000 ∧ rd16 (b.drop 6) / 2 % 2 = 1) ∧
    (liftB (Funcs.tth_IsStreaming b) = .ok true ∨ liftB (Funcs.tth_IsStreaming b) = .ok false) := by
  rw [tth_IsStreaming_eq]; exact C06.isStreaming_iff b

/-! non-vacuity: padding, an int section {7: "x"}, an ACL token "t", padding — the hypotheses of `tth_readKVInfo_ref`
    and the reference parser's reading; a protocol id inside and one outside the allow-list -/
example : ([0, 16, 0, 1, 0, 7, 0, 1, 120, 17, 0, 1, 116, 0] : Bytes).length < 2 ^ 62 ∧ (0 : Nat) < 2 ^ 62 ∧
    ([0, 16, 0, 1, 0, 7, 0, 1, 120, 17, 0, 1, 116, 0] : Bytes).length - 0 < 16 ∧
    Frame.refSecs 16 (([0, 16, 0, 1, 0, 7, 0, 1, 120, 17, 0, 1, 116, 0] : Bytes).drop 0) =
      some [.pad, .int [(7, [120])], .acl [116], .pad] := by decide +kernel
example : liftMaps (Funcs.tth_readKVInfo 16 ((0 : Nat) : Int) [0, 16, 0, 1, 0, 7, 0, 1, 120, 17, 0, 1, 116, 0]) =
    .ok ⟨some [(7, [120])], some [(TTH.gdprKey, [116])]⟩ := by
  have h := tth_readKVInfo_ref [0, 16, 0, 1, 0, 7, 0, 1, 120, 17, 0, 1, 116, 0] 16 0 (by decide) (by decide) (by decide)
  rw [show Frame.refSecs 16 (([0, 16, 0, 1, 0, 7, 0, 1, 120, 17, 0, 1, 116, 0] : Bytes).drop 0) =
    some [.pad, .int [(7, [120])], .acl [116], .pad] by decide +kernel] at h
  exact h
example : liftMaps (Funcs.tth_readKVInfo 10 0 [1, 0, 1, 0, 1, 97, 0, 5, 98]) = .err .section := by decide +kernel
example : liftChk (Funcs.tth_checkProtocolID 17) = .ok true ∧ liftChk (Funcs.tth_checkProtocolID 5) = .ok false := by
  decide +kernel

end Verif.Translated
