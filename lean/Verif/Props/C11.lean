/-
  Props/C11 — Shipped FastCodec structs: exact length, round trip, unknown fields skipped.
  (property theorems only; models in Model/FastCodec.lean, spec in Spec/FastCodec.lean)

  Reading of the statement (notes/C11.md): a Go map is an association list with distinct keys, two such
  lists are the same map iff they are permutations (`SMap.Eqv`); the iteration orders of BLength and of
  the writer are arbitrary and independent (`IterOf`); "differently-typed field" = a field whose
  (id, type) pair is not one of the IDL's, carrying a well-formed value of its declared type.
-/
import Verif.Lemmas.FcNocopy
import Verif.Lemmas.FcReadStructs
namespace Verif.C11

/-! ## exact length: BLength = bytes written, for every value, nil receiver, every pair of orders -/

/-- (*Base): BLength equals the length of the encoding, and FastWrite into any buffer of at least
    BLength bytes returns BLength and stores exactly the encoding (iteration order `it2`), leaving the
    rest of the buffer untouched. The map may be iterated differently by the two passes. -/
theorem blength_eq_write_base (thr : Nat) (p : Option Base) (it1 it2 : SMap) (b : Bytes)
    (h1 : ∀ q, p = some q → IterOf q.extra it1) (h2 : ∀ q, p = some q → IterOf q.extra it2)
    (hb : bLengthBase p it1 ≤ b.length) :
    bLengthBase p it1 = (encBase p it2).length ∧
    fastWriteNocopyBase thr false p it2 b
      = .ok (⟨encBase p it2 ++ b.drop (bLengthBase p it1), []⟩, bLengthBase p it1) := by
  have hl := bLengthBase_eq p it1 it2 h1 h2
  rw [hl] at hb ⊢
  exact ⟨rfl, (writeBase_run thr p it2 b hb).2⟩

theorem blength_eq_write_baseresp (thr : Nat) (p : Option BaseResp) (it1 it2 : SMap) (b : Bytes)
    (h1 : ∀ q, p = some q → IterOf q.extra it1) (h2 : ∀ q, p = some q → IterOf q.extra it2)
    (hb : bLengthBaseResp p it1 ≤ b.length) :
    bLengthBaseResp p it1 = (encBaseResp p it2).length ∧
    fastWriteNocopyBaseResp thr false p it2 b
      = .ok (⟨encBaseResp p it2 ++ b.drop (bLengthBaseResp p it1), []⟩, bLengthBaseResp p it1) := by
  have hl := bLengthBaseResp_eq p it1 it2 h1 h2
  rw [hl] at hb ⊢
  exact ⟨rfl, (writeResp_run thr p it2 b hb).2⟩

theorem blength_eq_write_appex (e : AppEx) (b : Bytes) (hb : bLengthAppEx e ≤ b.length) :
    bLengthAppEx e = (encAppEx e).length ∧
    fastWriteAppEx e b = .ok (⟨encAppEx e ++ b.drop (bLengthAppEx e), []⟩, bLengthAppEx e) := by
  have hl := bLengthAppEx_eq e
  rw [hl, ← encSegs_ex] at hb ⊢
  exact ⟨rfl, write_copy 0 _ _ (ex_realises e) b hb⟩

/-- `FastWrite(b)` is `FastWriteNocopy(b, nil)` (one-line wrappers in k-base.go): same bytes, same length,
    on every buffer -/
theorem fastWrite_eq_nocopy_nil (thr : Nat) (p : Option Base) (q : Option BaseResp) (it : SMap) (b : Bytes) :
    fastWriteBase thr p it b = fastWriteNocopyBase thr false p it b ∧
    fastWriteBaseResp thr q it b = fastWriteNocopyBaseResp thr false q it b := ⟨rfl, rfl⟩

/-- a value built with NewBase()/NewBaseResp() and the setters reads back through the getters as itself
    (GetExtra returns the nil default exactly when the map is unset; IsSetExtra = (Extra != nil)) -/
theorem accessors_roundtrip (p : Base) (q : BaseResp) :
    viaAccessorsBase p = p ∧ viaAccessorsBaseResp q = q ∧
    (∀ e, isSetExtra e = true ↔ e ≠ none) ∧ (∀ e, getExtra e = e) := by
  refine ⟨?_, ?_, ?_, ?_⟩
  · cases p with | mk l c a e => cases e <;> rfl
  · cases q with | mk m c e => cases e <;> rfl
  · intro e; cases e <;> simp [isSetExtra]
  · intro e; cases e <;> rfl

/-- InitDefault resets exactly the defaulted (non-optional) fields and leaves the optional map alone -/
theorem initDefault_eq (p : Base) (q : BaseResp) :
    initDefaultBase p = p.withDefaults ∧ initDefaultBaseResp q = q.withDefaults := ⟨rfl, rfl⟩

/-- FastMarshal returns exactly the encoding, whatever the fresh buffer contained -/
theorem fastMarshal_base (dirt : Nat → UInt8) (p : Option Base) (it1 it2 : SMap)
    (h1 : ∀ q, p = some q → IterOf q.extra it1) (h2 : ∀ q, p = some q → IterOf q.extra it2) :
    fastMarshalBase dirt p it1 it2 = .ok (encBase p it2) :=
  marshal_dirt dirt _ _ _ fun b hb => (blength_eq_write_base _ p it1 it2 b h1 h2 hb).2

theorem fastMarshal_baseresp (dirt : Nat → UInt8) (p : Option BaseResp) (it1 it2 : SMap)
    (h1 : ∀ q, p = some q → IterOf q.extra it1) (h2 : ∀ q, p = some q → IterOf q.extra it2) :
    fastMarshalBaseResp dirt p it1 it2 = .ok (encBaseResp p it2) :=
  marshal_dirt dirt _ _ _ fun b hb => (blength_eq_write_baseresp _ p it1 it2 b h1 h2 hb).2

theorem fastMarshal_appex (dirt : Nat → UInt8) (e : AppEx) : fastMarshalAppEx dirt e = .ok (encAppEx e) :=
  marshal_dirt dirt _ _ _ fun b hb => (blength_eq_write_appex e b hb).2

/-! ## any field order, repeated fields, unknown and differently-typed fields -/

/-- (*Base).FastRead on EVERY field list: known fields in any order and multiplicity, any number of
    unknown fields anywhere — any id (also ids of the IDL under another type), any type, any
    well-formed value with nesting ≤ 64 — followed by STOP and arbitrary further bytes: success, the
    struct is the receiver's previous content updated by the known fields from left to right (the last
    occurrence wins; unknown fields change nothing), and exactly the field list + STOP is consumed. -/
theorem read_any_order_unknown_base (p0 : Base) (fs : List BaseFld) (rest : Bytes) (hv : ∀ f ∈ fs, f.Valid) :
    fastReadBase p0 (encFields (fs.map BaseFld.toFld) ++ 0 :: rest)
      = .ok ⟨p0.assemble fs, (encFields (fs.map BaseFld.toFld)).length + 1, none⟩ :=
  genLoop_fields_run baseBody BaseFld.apply BaseFld.toFld BaseFld.Valid baseBody_field baseFld_hdr p0 fs rest hv

theorem read_any_order_unknown_baseresp (p0 : BaseResp) (fs : List RespFld) (rest : Bytes)
    (hv : ∀ f ∈ fs, f.Valid) :
    fastReadBaseResp p0 (encFields (fs.map RespFld.toFld) ++ 0 :: rest)
      = .ok ⟨p0.assemble fs, (encFields (fs.map RespFld.toFld)).length + 1, none⟩ :=
  genLoop_fields_run respBody RespFld.apply RespFld.toFld RespFld.Valid respBody_field respFld_hdr p0 fs rest hv

/-- ApplicationException.FastRead (the F5 witness — an unknown string field before fields 1 and 2 —
    is an instance, see the example below) -/
theorem read_any_order_unknown_appex (e0 : AppEx) (fs : List ExFld) (rest : Bytes) (hv : ∀ f ∈ fs, f.Valid) :
    fastReadAppEx e0 (encFields (fs.map ExFld.toFld) ++ 0 :: rest)
      = .ok ⟨e0.assemble fs, (encFields (fs.map ExFld.toFld)).length + 1, none⟩ := by
  obtain ⟨off, h, hoff⟩ := exLoop_of_genLoop _ _ _ _ _
    (genLoop_fields_run exBody ExFld.apply ExFld.toFld ExFld.Valid exBody_field exFld_hdr e0 fs rest hv)
  rw [fastReadAppEx, h, hoff rfl]
  rfl

/-- Reading does not depend on the field order: two field lists that are permutations of each other
    (no known field given twice with different values; unknown fields anywhere) read as the same struct,
    and each consumes exactly its own length. -/
theorem read_order_independent_base (p0 : Base) (fs fs' : List BaseFld) (rest rest' : Bytes)
    (hperm : fs.Perm fs') (hv : ∀ f ∈ fs, f.Valid)
    (hdup : ∀ x ∈ fs, ∀ y ∈ fs, x.kind = y.kind → x.kind ≠ 0 → x = y) :
    ∃ p, fastReadBase p0 (encFields (fs.map BaseFld.toFld) ++ 0 :: rest)
           = .ok ⟨p, (encFields (fs.map BaseFld.toFld)).length + 1, none⟩ ∧
         fastReadBase p0 (encFields (fs'.map BaseFld.toFld) ++ 0 :: rest')
           = .ok ⟨p, (encFields (fs'.map BaseFld.toFld)).length + 1, none⟩ :=
  read_order_independent fastReadBase BaseFld.toFld BaseFld.apply BaseFld.Valid BaseFld.kind
    read_any_order_unknown_base baseFld_apply_comm p0 fs fs' rest rest' hperm hv hdup

theorem read_order_independent_baseresp (p0 : BaseResp) (fs fs' : List RespFld) (rest rest' : Bytes)
    (hperm : fs.Perm fs') (hv : ∀ f ∈ fs, f.Valid)
    (hdup : ∀ x ∈ fs, ∀ y ∈ fs, x.kind = y.kind → x.kind ≠ 0 → x = y) :
    ∃ p, fastReadBaseResp p0 (encFields (fs.map RespFld.toFld) ++ 0 :: rest)
           = .ok ⟨p, (encFields (fs.map RespFld.toFld)).length + 1, none⟩ ∧
         fastReadBaseResp p0 (encFields (fs'.map RespFld.toFld) ++ 0 :: rest')
           = .ok ⟨p, (encFields (fs'.map RespFld.toFld)).length + 1, none⟩ :=
  read_order_independent fastReadBaseResp RespFld.toFld RespFld.apply RespFld.Valid RespFld.kind
    read_any_order_unknown_baseresp respFld_apply_comm p0 fs fs' rest rest' hperm hv hdup

theorem read_order_independent_appex (e0 : AppEx) (fs fs' : List ExFld) (rest rest' : Bytes)
    (hperm : fs.Perm fs') (hv : ∀ f ∈ fs, f.Valid)
    (hdup : ∀ x ∈ fs, ∀ y ∈ fs, x.kind = y.kind → x.kind ≠ 0 → x = y) :
    ∃ e, fastReadAppEx e0 (encFields (fs.map ExFld.toFld) ++ 0 :: rest)
           = .ok ⟨e, (encFields (fs.map ExFld.toFld)).length + 1, none⟩ ∧
         fastReadAppEx e0 (encFields (fs'.map ExFld.toFld) ++ 0 :: rest')
           = .ok ⟨e, (encFields (fs'.map ExFld.toFld)).length + 1, none⟩ :=
  read_order_independent fastReadAppEx ExFld.toFld ExFld.apply ExFld.Valid ExFld.kind
    read_any_order_unknown_appex exFld_apply_comm e0 fs fs' rest rest' hperm hv hdup

/-! ## round trip: reading what was written reproduces the value -/

/-! `BaseOK`, `BaseRespOK`, `AppExOK` (Spec/FastCodec.lean): the values the wire format can carry — strings
    shorter than 2^31, int32 codes, maps with distinct keys and fewer than 2^32 entries. -/

/-- (*Base): for every value, every iteration order of the writer and whatever follows in the buffer,
    FastRead into a struct without map consumes exactly the written bytes and yields the value; the map
    comes back as the very sequence the writer iterated, i.e. the same map: absent stays absent
    (`none`), empty stays empty (`some []`). -/
theorem read_write_base (p0 p : Base) (it : SMap) (rest : Bytes) (h0 : p0.extra = none) (hp : BaseOK p)
    (hit : IterOf p.extra it) :
    fastReadBase p0 (encBase (some p) it ++ rest)
      = .ok ⟨{ p with extra := p.extra.map (fun _ => it) }, (encBase (some p) it).length, none⟩ ∧
    Base.Eqv { p with extra := p.extra.map (fun _ => it) } p := by
  obtain ⟨hl, hc, ha, hm⟩ := hp
  cases he : p.extra with
  | none =>
    have h := read_any_order_unknown_base p0 [.logID p.logID, .caller p.caller, .addr p.addr] rest (by
      intro f hf; simp at hf; rcases hf with rfl | rfl | rfl <;> assumption)
    have henc : encBase (some p) it ++ rest
        = encFields ([BaseFld.logID p.logID, .caller p.caller, .addr p.addr].map BaseFld.toFld) ++ 0 :: rest := by
      simp [encBase, Base.fields, he, BaseFld.toFld]
    refine ⟨?_, ?_⟩
    · rw [henc, h]
      simp [Base.assemble, BaseFld.apply, encBase, Base.fields, he, BaseFld.toFld, h0]
    · simp [Base.Eqv, he, SMap.OptEqv]
  | some m =>
    have hperm := hit m he
    obtain ⟨hwf, hkv⟩ := hm m he
    have h := read_any_order_unknown_base p0 [.logID p.logID, .caller p.caller, .addr p.addr, .extra it] rest (by
      intro f hf; simp at hf
      rcases hf with rfl | rfl | rfl | rfl
      · exact hl
      · exact hc
      · exact ha
      · exact kvsOK_perm hperm hkv)
    have henc : encBase (some p) it ++ rest
        = encFields ([BaseFld.logID p.logID, .caller p.caller, .addr p.addr, .extra it].map BaseFld.toFld)
            ++ 0 :: rest := by
      simp [encBase, Base.fields, he, BaseFld.toFld, hperm.length_eq]
    refine ⟨?_, ?_⟩
    · rw [henc, h]
      simp [Base.assemble, BaseFld.apply, encBase, Base.fields, he, BaseFld.toFld, hperm.length_eq,
        SMap.ofList_nodup it (SMap.perm_wf hperm hwf)]
    · simp only [Base.Eqv, he, Option.map_some, SMap.OptEqv, SMap.Eqv, true_and]
      exact hperm

theorem read_write_baseresp (p0 p : BaseResp) (it : SMap) (rest : Bytes) (h0 : p0.extra = none)
    (hp : BaseRespOK p) (hit : IterOf p.extra it) :
    fastReadBaseResp p0 (encBaseResp (some p) it ++ rest)
      = .ok ⟨{ p with extra := p.extra.map (fun _ => it) }, (encBaseResp (some p) it).length, none⟩ ∧
    BaseResp.Eqv { p with extra := p.extra.map (fun _ => it) } p := by
  obtain ⟨hs, hc, hm⟩ := hp
  cases he : p.extra with
  | none =>
    have h := read_any_order_unknown_baseresp p0 [.msg p.statusMessage, .code p.statusCode] rest (by
      intro f hf; simp at hf; rcases hf with rfl | rfl <;> assumption)
    have henc : encBaseResp (some p) it ++ rest
        = encFields ([RespFld.msg p.statusMessage, .code p.statusCode].map RespFld.toFld) ++ 0 :: rest := by
      simp [encBaseResp, BaseResp.fields, he, RespFld.toFld]
    refine ⟨?_, ?_⟩
    · rw [henc, h]
      simp [BaseResp.assemble, RespFld.apply, encBaseResp, BaseResp.fields, he, RespFld.toFld, h0]
    · simp [BaseResp.Eqv, he, SMap.OptEqv]
  | some m =>
    have hperm := hit m he
    obtain ⟨hwf, hkv⟩ := hm m he
    have h := read_any_order_unknown_baseresp p0 [.msg p.statusMessage, .code p.statusCode, .extra it] rest (by
      intro f hf; simp at hf
      rcases hf with rfl | rfl | rfl
      · exact hs
      · exact hc
      · exact kvsOK_perm hperm hkv)
    have henc : encBaseResp (some p) it ++ rest
        = encFields ([RespFld.msg p.statusMessage, .code p.statusCode, .extra it].map RespFld.toFld)
            ++ 0 :: rest := by
      simp [encBaseResp, BaseResp.fields, he, RespFld.toFld, hperm.length_eq]
    refine ⟨?_, ?_⟩
    · rw [henc, h]
      simp [BaseResp.assemble, RespFld.apply, encBaseResp, BaseResp.fields, he, RespFld.toFld, hperm.length_eq,
        SMap.ofList_nodup it (SMap.perm_wf hperm hwf)]
    · simp only [BaseResp.Eqv, he, Option.map_some, SMap.OptEqv, SMap.Eqv, true_and]
      exact hperm

theorem read_write_appex (e0 e : AppEx) (rest : Bytes) (he : AppExOK e) :
    fastReadAppEx e0 (encAppEx e ++ rest) = .ok ⟨e, (encAppEx e).length, none⟩ := by
  have h := read_any_order_unknown_appex e0 [.msg e.msg, .typ e.typ] rest (by
    intro f hf; simp at hf; rcases hf with rfl | rfl
    · exact he.1
    · exact he.2)
  have henc : encAppEx e ++ rest = encFields ([ExFld.msg e.msg, .typ e.typ].map ExFld.toFld) ++ 0 :: rest := by
    simp [encAppEx, AppEx.fields, ExFld.toFld]
  rw [henc, h]
  simp [AppEx.assemble, ExFld.apply, encAppEx, AppEx.fields, ExFld.toFld]

/-- a nil *Base / *BaseResp is written as the empty struct; reading it leaves the receiver as it was -/
theorem read_write_nil_base (p0 : Base) (it : SMap) (rest : Bytes) :
    fastReadBase p0 (encBase none it ++ rest) = .ok ⟨p0, 1, none⟩ := by
  simpa [Base.assemble, encFields, encBase] using read_any_order_unknown_base p0 [] rest (by simp)
theorem read_write_nil_baseresp (p0 : BaseResp) (it : SMap) (rest : Bytes) :
    fastReadBaseResp p0 (encBaseResp none it ++ rest) = .ok ⟨p0, 1, none⟩ := by
  simpa [BaseResp.assemble, encFields, encBaseResp] using read_any_order_unknown_baseresp p0 [] rest (by simp)

/-- FastMarshal then FastUnmarshal into a zero value -/
theorem marshal_unmarshal_base (dirt : Nat → UInt8) (p : Base) (it1 it2 : SMap) (hp : BaseOK p)
    (h1 : IterOf p.extra it1) (h2 : IterOf p.extra it2) :
    ∃ bytes p', fastMarshalBase dirt (some p) it1 it2 = .ok bytes ∧
      fastUnmarshalBase {} bytes = .ok (p', none) ∧ Base.Eqv p' p := by
  refine ⟨_, _, fastMarshal_base dirt (some p) it1 it2 (by intro q hq; cases hq; exact h1)
    (by intro q hq; cases hq; exact h2), ?_, (read_write_base {} p it2 [] rfl hp h2).2⟩
  have := (read_write_base {} p it2 [] rfl hp h2).1
  simp only [List.append_nil] at this
  simp [fastUnmarshalBase, this]

/-! ## the dispatch key: sign-extended ids and type bytes never alias a known field -/

/-- `uint32(fid)<<8 | uint32(ftyp)` (fid int16, ftyp int8, both sign-extended) selects `case` i of
    (*Base).FastRead iff (fid, ftyp) is exactly field i of the IDL — for all 65536 × 256 pairs -/
theorem key_inj_base (fid : Nat) (t : UInt8) (hf : fid < 65536) :
    caseIdx Facts.fastReadKeysBase (fieldKey fid t) 0 =
      if fid = 1 ∧ t = 11 then some 0
      else if fid = 2 ∧ t = 11 then some 1
      else if fid = 3 ∧ t = 11 then some 2
      else if fid = 6 ∧ t = 13 then some 3
      else none := caseIdx_base fid t hf

theorem key_inj_baseresp (fid : Nat) (t : UInt8) (hf : fid < 65536) :
    caseIdx Facts.fastReadKeysBaseResp (fieldKey fid t) 0 =
      if fid = 1 ∧ t = 11 then some 0
      else if fid = 2 ∧ t = 8 then some 1
      else if fid = 3 ∧ t = 13 then some 2
      else none := caseIdx_resp fid t hf

/-! ## non-vacuity -/

/-- the F5 witness: an unknown string field (id 7) before fields 1 and 2 of an ApplicationException -/
example : fastReadAppEx {} ([0x0b,0,7, 0,0,0,3, 0x78,0x79,0x7a, 0x0b,0,1, 0,0,0,2, 0x68,0x69, 8,0,2, 0,0,0,6, 0, 0x99])
    = .ok ⟨⟨6, [0x68, 0x69]⟩, 27, none⟩ := by
  have h := read_any_order_unknown_appex {} [.unknown 7 11 [0,0,0,3,0x78,0x79,0x7a], .msg [0x68,0x69], .typ 6] [0x99]
    (by
      intro f hf; simp at hf
      rcases hf with rfl | rfl | rfl
      · exact ⟨⟨by decide, by decide, by decide⟩, by unfold ExFld.isKnown; decide⟩
      · show strOK _; unfold strOK; decide
      · show isI32 _; unfold isI32; decide)
  exact h

/-- id 1 under type I32 (an id of the IDL under another type) is a valid unknown field of Base -/
example : BaseFld.Valid (.unknown 1 8 [0, 0, 0, 7]) :=
  ⟨⟨by decide, by decide, by decide⟩, by unfold BaseFld.isKnown; decide⟩

/-- a sign-extended id (0xff01 = -255) and a sign-extended type byte (0x8b) next to LogID's key 0x10b -/
example : caseIdx Facts.fastReadKeysBase (fieldKey 0xff01 11) 0 = none ∧
    caseIdx Facts.fastReadKeysBase (fieldKey 1 0x8b) 0 = none ∧
    caseIdx Facts.fastReadKeysBase (fieldKey 1 11) 0 = some 0 := by
  rw [key_inj_base _ _ (by omega), key_inj_base _ _ (by omega), key_inj_base _ _ (by omega)]
  decide

/-- a Base with a two-entry map satisfies the round-trip hypotheses, for either iteration order -/
example : BaseOK ⟨[1], [], [2, 3], some [([1], [2]), ([], [3])]⟩ ∧
    IterOf (some [([1], [2]), ([], [3])]) [([], [3]), ([1], [2])] := by
  refine ⟨⟨by unfold strOK; decide, by unfold strOK; decide, by unfold strOK; decide, ?_⟩, ?_⟩
  · intro m hm; cases hm
    refine ⟨by unfold SMap.WF; decide, by decide, ?_⟩
    intro kv hkv; simp at hkv
    rcases hkv with rfl | rfl <;> (unfold strOK; decide)
  · intro m hm; cases hm
    exact List.Perm.swap _ _ _

end Verif.C11
