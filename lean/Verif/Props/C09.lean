/-
  Props/C09 — zero-copy slices stay valid until Release/Flush; caller memory is never touched.
  (property theorems + non-vacuity examples only; lemmas in Lemmas/Mem*.lean)

  Setting (Base/Mem.lean): a heap of objects with owner states caller / live / freed / gc.  Every access
  the library makes is checked; a violation is LOGGED as a fault (useAfterFree, writeToCaller, freeCaller,
  doubleFree, freeForeign, freeInterior, bounds).  "faults = []" along every history therefore IS
  no_use_after_free + free_once + free_only_own + "never writes caller memory below its write limit" +
  "no slice panic"; `free_needs_live` spells out why for `Free`.
  Histories are arbitrary sequences of operations interleaved with arbitrary environment steps `Env`
  (the co-tenant overwrites every freed object, allocates, changes what dirty memory contains) and user
  allocations.  A co-tenant racing INSIDE one operation is runtime behaviour and not covered (partial,
  DESIGN §7): the `schedules` quantifier is "arbitrary environment steps between operations".
  Sizes: writer steps carry `n + len < 2^64` (Go `int` does not overflow); the pool is assumed to serve
  requests up to 2^45 bytes (`Heap.mcap`).
-/
import Verif.Lemmas.MemReaderRun
import Verif.Lemmas.MemWriterRun
import Verif.Lemmas.MemSkip
namespace Verif.C09
open Verif Verif.Mem Verif.Heap

/-! ## what a fault-free `Free` means -/

/-- `Free(buf)` with a non-empty capacity logs a fault unless `buf` is the FULL slice of an object that
    came from `Malloc` and has not been freed yet (owner `live`).  So "no fault" = every Free argument came
    from Malloc (free_only_own), is freed at most once (free_once), is never caller memory of any capacity,
    power of two or not (caller_untouched), and is no interior slice. -/
theorem free_needs_live (h : Heap) (s : Slice) (hpos : s.cap > 0) (hnf : (h.free s).faults = h.faults) :
    ∃ x, h.obj? s.obj = some x ∧ x.owner = .live ∧ s.off = 0 ∧ s.cap = x.data.length :=
  free_fault_unless_live h s hpos hnf

/-- after such a Free the object is `freed`: every later access by the library is a useAfterFree fault -/
theorem freed_access_faults (h : Heap) (o p n : Nat) (w : Bool) (x : Obj) (hx : h.obj? o = some x)
    (hf : x.owner = .freed) (hn : 0 < n) (hb : p + n ≤ x.data.length) :
    (h.chk o p n w).faults = .useAfterFree o :: h.faults := by
  unfold Heap.chk
  rw [if_neg (by omega), hx]; simp only []
  rw [if_neg (by omega), if_pos hf]; rfl

/-! ## reader -/

/-- slice_stable: the bytes of a slice returned by `Next` or `Peek` are the same at every later point
    of every history without `Release` — whatever is read (Next/Peek/Skip/ReadBinary of any size, any
    source behaviour), however often the buffer grows, whatever the environment does in between. -/
theorem slice_stable (r : MRd) (h : Heap) (n : Int) (s : Slice) (r1 : MRd) (h1 : Heap) (hi : RInv r h)
    (hn : r.next h n = (.ok s, r1, h1) ∨ r.peek h n = (.ok s, r1, h1))
    {b : RSt} (t : RSteps (r1, h1) b) : b.2.view s = h1.view s := by
  rcases hn with hn | hn
  · have := next_ok r h n hi
    rw [hn] at this
    exact view_stable s this.1.inv (this.2 s rfl).1 t
  · have := peek_ok r h n hi
    rw [hn] at this
    exact view_stable s this.1.inv (this.2 s rfl).1 t

/-- slice_stable for SkipDecoder.Next: the value slice it returns is a slice of the reader's buffer and
    stays unchanged along every later Release-free history (further SkipDecoder.Next calls included). -/
theorem slice_stable_skipdecoder (r : MRd) (h : Heap) (t : UInt8) (s : Slice) (r1 : MRd) (h1 : Heap)
    (hi : RInv r h) (hn : memSkipDecNext r h t = .ok (s, r1, h1))
    {b : RSt} (u : RSteps (r1, h1) b) : b.2.view s = h1.view s := by
  obtain ⟨ok, hp⟩ := memSkipDecNext_ok r h t s r1 h1 hn hi
  exact view_stable s ok.inv hp u

/-- reader_safe (no_use_after_free, free_once, free_only_own, no write to caller memory, no slice panic,
    for the reader): along EVERY history — Releases included — no fault is ever logged. -/
theorem reader_safe {a b : RSt} (hi : RInv a.1 a.2) (t : RStepsR a b) : b.2.faults = [] :=
  (t.inv hi).nofault

/-- caller_untouched (reader): every caller-owned object — the bytes-reader input with its whole
    capacity, power of two or not — is, after any history, still caller-owned and byte for byte what it
    was (never written, never passed to Free: a freed object would not be `caller` any more). -/
theorem caller_untouched_reader {a b : RSt} (hi : RInv a.1 a.2) (t : RStepsR a b) : CallerSame a.2 b.2 :=
  t.callerSame hi

/-- the initial states satisfy the invariant: a plain reader on any heap, a bytes reader on any slice of
    caller memory -/
theorem reader_init (src : Src) (buf : Slice) (h : Heap) (hf : h.faults = []) :
    RInv (MRd.newDefault src) h ∧
    (buf.len ≤ buf.cap → (∃ x, h.obj? buf.obj = some x ∧ buf.off + buf.cap ≤ x.data.length ∧ x.owner = .caller) →
      RInv (MRd.newBytes buf) h) :=
  ⟨RInv.newDefault src h hf, fun h1 h2 => RInv.newBytes buf h hf h1 h2⟩

/-- history_slice_stable (the statement to cite): start from `NewDefaultReader(src)` on any fault-free heap, or
    from `NewBytesReader(buf)` on any slice of caller memory; run ANY history (operations, Releases,
    environment steps, user allocations); let Next, Peek or SkipDecoder.Next return a slice; run ANY
    Release-free history.  Then the slice shows exactly the bytes it showed when it was returned, and no
    fault was logged anywhere on the way.  (Histories: `ReadBinary` only into Go-heap destinations
    (`GcDst`) — what the library itself and the harness pass; a destination aliasing the reader's own
    buffers is outside the model.) -/
theorem history_slice_stable (src : Src) (buf : Slice) (h0 : Heap) (hf : h0.faults = [])
    (r0 : MRd) (hr0 : r0 = MRd.newDefault src ∨
      (r0 = MRd.newBytes buf ∧ buf.len ≤ buf.cap ∧
        ∃ x, h0.obj? buf.obj = some x ∧ buf.off + buf.cap ≤ x.data.length ∧ x.owner = .caller))
    {a : RSt} (t1 : RStepsR (r0, h0) a) (n : Int) (ty : UInt8) (s : Slice) (r1 : MRd) (h1 : Heap)
    (hn : a.1.next a.2 n = (.ok s, r1, h1) ∨ a.1.peek a.2 n = (.ok s, r1, h1) ∨
      memSkipDecNext a.1 a.2 ty = .ok (s, r1, h1))
    {b : RSt} (t2 : RSteps (r1, h1) b) : b.2.view s = h1.view s ∧ b.2.faults = [] := by
  have hia : RInv a.1 a.2 := t1.inv <| by
    rcases hr0 with rfl | ⟨rfl, hl, hb⟩
    · exact RInv.newDefault src h0 hf
    · exact RInv.newBytes buf h0 hf hl hb
  suffices hs : RInv r1 h1 ∧ InProt r1 h1 s from ⟨view_stable s hs.1 hs.2 t2, (t2.ok hs.1).inv.nofault⟩
  rcases hn with hn | hn | hn
  · have := next_ok a.1 a.2 n hia
    rw [hn] at this
    exact ⟨this.1.inv, (this.2 s rfl).1⟩
  · have := peek_ok a.1 a.2 n hia
    rw [hn] at this
    exact ⟨this.1.inv, (this.2 s rfl).1⟩
  · obtain ⟨ok, hp⟩ := memSkipDecNext_ok a.1 a.2 ty s r1 h1 hn hia
    exact ⟨ok.inv, hp⟩

/-! ## ReaderSkipDecoder -/

/-- readerSkip_copy_then_free: one `growSlow` allocates a fresh pool buffer (a new object), copies the
    `n` bytes read so far into it, and only then frees the old buffer, which becomes `freed` and is not
    accessed again in this call (no fault is logged); the decoder then owns the new, live buffer. -/
theorem readerSkip_copy_then_free (p : MRsd) (k : Nat) (hi : RsdInv p) :
    RsdInv (p.growSlow k) ∧ (p.growSlow k).b.obj = p.h.size ∧
    (p.growSlow k).h.bytes (p.growSlow k).b.obj (p.growSlow k).b.off p.n = p.h.bytes p.b.obj p.b.off p.n ∧
    (0 < p.b.cap → ∃ x, (p.growSlow k).h.obj? p.b.obj = some x ∧ x.owner = .freed) := by
  obtain ⟨a, _, _, _, e, f, g⟩ := growSlow_ok p k hi
  exact ⟨a, e, f, g⟩

/-- ... and along a whole `ReaderSkipDecoder.Next` — any type, any source behaviour, any number of
    reallocations — no fault is logged (a freed buffer is never accessed again, each buffer is freed once,
    only own buffers are freed); the returned window `p.b[:p.n]` lies in the decoder's live buffer and is
    unchanged by environment steps until the next call. -/
theorem readerSkip_next_safe (p : MRsd) (t : UInt8) (s : Slice) (p' : MRsd) (hi : RsdInv p)
    (hn : memReaderDecNext p t = .ok (s, p')) :
    RsdInv p' ∧ p'.h.faults = [] ∧
    (0 < s.len → ∃ x, p'.h.obj? s.obj = some x ∧ x.owner = .live ∧ s.off + s.len ≤ x.data.length) ∧
    (∀ h', Env p'.h h' → RsdInv { p' with h := h' } ∧ h'.view s = p'.h.view s) := by
  obtain ⟨a, b, c⟩ := memReaderDecNext_ok p t s p' hn hi
  exact ⟨a, a.nofault, c, fun h' he => by rw [b]; exact a.env he⟩

/-- rsd_retained_not_freed: along every history of a ReaderSkipDecoder — Next calls of any type over any
    source, Release followed by re-use of the pooled decoder (which RETAINS its buffer), environment
    steps — the buffer the decoder holds is never in the free list: it is a live pool object (owner
    `live`, i.e. obtained from Malloc and not given back), it is the full slice of that object, and no
    fault (use after free, double free, foreign free) has been logged. -/
theorem rsd_retained_not_freed (src : Src) (h0 : Heap) (hf : h0.faults = []) {p : MRsd}
    (t : RsdSteps ⟨Slice.nil, 0, src, h0⟩ p) :
    p.h.faults = [] ∧
    (0 < p.b.cap → ∃ x, p.h.obj? p.b.obj = some x ∧ x.owner = .live ∧ p.b.off = 0 ∧ p.b.cap = x.data.length) := by
  have hi := t.inv (RsdInv.init src h0 hf)
  exact ⟨hi.nofault, hi.buf_ok⟩

/-! ## writer -/

/-- regions_live_disjoint: a region `A` handed out by `Malloc` is, at every later point of every
    Flush-free history (more Mallocs and WriteBinarys forcing any number of growths, the user filling its
    other regions, environment steps), still one of the writer's regions, pairwise disjoint from all the
    others, writable (a checked write through it passes: its object is not recycled, and if it is the
    caller's target the region lies in the spare capacity), and holds exactly the bytes its owner left. -/
theorem regions_live_disjoint (w : MWr) (h : Heap) (n : Int) (A : Slice) (w1 : MWr) (h1 : Heap) (hi : WInv w h)
    (hsz : n.toNat + w.buf.len < 2 ^ 64) (hm : w.malloc h n = (.ok A, w1, h1))
    {b : WSt} (t : WSteps A (w1, h1) b) :
    A ∈ b.1.regions ∧ b.1.regions.Pairwise Slice.Disjoint ∧
    b.2.chk A.obj A.off A.len true = b.2 ∧ b.2.view A = h1.view A := by
  have hmo := wMalloc_ok w h n hi hsz
  rw [hm] at hmo
  obtain ⟨hA, _⟩ := hmo.2 A rfl
  have ok := t.aok hmo.1.inv hA
  refine ⟨ok.regs A hA, ok.inv.reg_disj, ?_, ?_⟩
  · by_cases h0 : A.len = 0
    · rw [h0, chk_zero]
    · obtain ⟨x, hx, hb, hnf, hcl⟩ := ok.inv.reg_w A (ok.regs A hA) (by omega)
      exact chk_write_ok b.2 _ _ _ x hx hb hnf hcl
  · unfold Heap.view
    exact bytes_congr _ _ _ _ _ ok.same

/-- writer_safe + caller_untouched (writer) + cache_disabled_no_pool: along EVERY writer history
    (Flushes, failed or not, and user fills included):
    no fault is logged (no use after free, every Free argument is an own live full buffer, freed once);
    caller memory below its write limit — WriteBinary payloads entirely, the bytes-writer target's
    initial contents `[0:len)` — is unchanged and still the caller's (only spare capacity is written);
    a writer with the cache disabled (bytes writer) makes no call to the pool at all. -/
theorem writer_safe {a b : WSt} (hi : WInv a.1 a.2) (t : WStepsF a b) :
    b.2.faults = [] ∧ CallerLow a.2 b.2 ∧ (a.1.disableCache = true → b.2.events = a.2.events) := by
  obtain ⟨i, l, e, _⟩ := t.ok hi
  exact ⟨i.nofault, l, e⟩

theorem writer_init (okLeft : Option Nat) (target : Slice) (isNil : Bool) (h : Heap) (hf : h.faults = []) :
    WInv (MWr.newDefault okLeft) h ∧
    (target.len ≤ target.cap →
     (0 < target.cap → ∃ x, h.obj? target.obj = some x ∧ target.off + target.cap ≤ x.data.length ∧
        x.owner = .caller ∧ x.wfrom ≤ target.off + target.len) →
     WInv (MWr.newBytes target isNil) h ∧ (MWr.newBytes target isNil).disableCache = true) :=
  ⟨WInv.newDefault okLeft h hf, fun h1 h2 => ⟨WInv.newBytes target isNil h hf h1 h2, rfl⟩⟩

/-! ## the named obligations of DESIGN §4 "C09", as corollaries over reader AND writer histories -/

/-- no_use_after_free: no instance ever reads or writes an object it has given back to the pool -/
theorem no_use_after_free {a b : RSt} {c d : WSt} (hr : RInv a.1 a.2) (tr : RStepsR a b)
    (hw : WInv c.1 c.2) (tw : WStepsF c d) (o : Nat) :
    Fault.useAfterFree o ∉ b.2.faults ∧ Fault.useAfterFree o ∉ d.2.faults := by
  rw [reader_safe hr tr, (writer_safe hw tw).1]; simp

/-- free_once: no buffer is passed to Free twice -/
theorem free_once {a b : RSt} {c d : WSt} (hr : RInv a.1 a.2) (tr : RStepsR a b)
    (hw : WInv c.1 c.2) (tw : WStepsF c d) (o : Nat) :
    Fault.doubleFree o ∉ b.2.faults ∧ Fault.doubleFree o ∉ d.2.faults := by
  rw [reader_safe hr tr, (writer_safe hw tw).1]; simp

/-- free_only_own: every Free argument is the full slice of a buffer that came from Malloc — never
    caller memory (of any capacity), never a Go-heap object, never an interior slice -/
theorem free_only_own {a b : RSt} {c d : WSt} (hr : RInv a.1 a.2) (tr : RStepsR a b)
    (hw : WInv c.1 c.2) (tw : WStepsF c d) (o : Nat) :
    (Fault.freeCaller o ∉ b.2.faults ∧ Fault.freeForeign o ∉ b.2.faults ∧ Fault.freeInterior o ∉ b.2.faults) ∧
    (Fault.freeCaller o ∉ d.2.faults ∧ Fault.freeForeign o ∉ d.2.faults ∧ Fault.freeInterior o ∉ d.2.faults) := by
  rw [reader_safe hr tr, (writer_safe hw tw).1]; simp

/-- caller_untouched: reader histories leave every caller object exactly as it was; writer histories
    leave every caller object unchanged below its write limit (payloads entirely, the bytes-writer
    target's initial contents) — and none of them is ever freed (it is still `caller` afterwards) -/
theorem caller_untouched {a b : RSt} {c d : WSt} (hr : RInv a.1 a.2) (tr : RStepsR a b)
    (hw : WInv c.1 c.2) (tw : WStepsF c d) : CallerSame a.2 b.2 ∧ CallerLow c.2 d.2 :=
  ⟨caller_untouched_reader hr tr, (writer_safe hw tw).2.1⟩

/-- cache_disabled_no_pool: a bytes writer never calls Malloc or Free of the pool -/
theorem cache_disabled_no_pool {c d : WSt} (hw : WInv c.1 c.2) (tw : WStepsF c d)
    (hd : c.1.disableCache = true) : d.2.events = c.2.events :=
  (writer_safe hw tw).2.2 hd

/-! ## non-vacuity -/

/-- a bytes reader over a 3-byte caller buffer of capacity 3 (not a power of two): the hypotheses of
    `slice_stable` hold for `Next(2)` -/
example : let h0 := (Heap.empty (fun _ _ => 0)).callerAlloc [1, 2, 3] 3 3
    RInv (MRd.newBytes h0.1) h0.2 ∧
    ∃ s r1 h1, (MRd.newBytes h0.1).next h0.2 2 = (.ok s, r1, h1) ∧ h1.view s = [1, 2] := by
  refine ⟨RInv.newBytes _ _ rfl (by decide) ⟨⟨[1, 2, 3], .caller, 3⟩, rfl, by decide, rfl⟩, ?_⟩
  exact ⟨_, _, _, rfl, by decide⟩

/-- the environment really is adversarial: once a pool buffer has been freed, the co-tenant overwriting
    it is an `Env` step -/
example : let h0 := (Heap.empty (fun _ _ => 0)).malloc 2 0
    let h1 := h0.2.free h0.1
    Env h1 (h1.setData 0 0 [0xDE, 0xDE]) :=
  Heap.Env.overwrite _ 0 ⟨[0, 0], .freed, 0⟩ [0xDE, 0xDE] rfl rfl rfl

/-- a bytes writer over a caller target `[9, 9 | _, _, _]` (len 2, cap 5): Malloc(2) hands out the spare
    bytes 2..3 -/
example : let h0 := (Heap.empty (fun _ _ => 0)).callerAlloc [9, 9, 0, 0, 0] 2 2
    WInv (MWr.newBytes h0.1 false) h0.2 ∧
    ∃ A w1 h1, (MWr.newBytes h0.1 false).malloc h0.2 2 = (.ok A, w1, h1) ∧ A.off = 2 ∧ A.len = 2 := by
  refine ⟨WInv.newBytes _ _ _ rfl (by decide) (fun _ => ⟨⟨[9, 9, 0, 0, 0], .caller, 2⟩, rfl, by decide, rfl, by decide⟩), ?_⟩
  exact ⟨_, _, _, rfl, rfl, rfl⟩

end Verif.C09
