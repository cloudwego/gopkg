/-
  Props/Translated — the property theorems of C01, C02, C03, C06, C08, C10, C12, C15, C17, restated about the functions
  TRANSLATED from the Go source on every run (`Verif.Funcs.*`, `Gen/Funcs.lean`), i.e. about what the source says now.
  Property theorems, the dispatchers they are stated through, and non-vacuity examples only.

  Every theorem is a corollary: rewrite with the equivalence theorem of `Lemmas/Funcs/{Read,Write,Append,TTH,TTH2,Skip}`
  (`Verif.FuncsEq.<F>_eq`: the translated function, through an explicit result lift, IS the model function), then apply the
  property theorem about the model.  The hypotheses are those of the property theorem plus the size domain of the `_eq`
  theorem (buffers shorter than 2^62 / 2^63 bytes, enough loop fuel).  Helper lemmas: `Lemmas/Funcs/Transfer{Read,Skip,TTH}.lean`.

  Result lifts (`Lemmas/Funcs/*`): `liftSkip (n, err)`, `liftRd… (v, l, err)`, `liftW (whole', n)`, `liftMaps`, `liftSec[H]`,
  `liftEof[S]`, `liftChk`, `liftB` map the Go result tuple to the models' outcome type: `err == nil` ↦ `.ok`, a Go error
  value ↦ the canonical model error (`absErr`: `NewProtocolException(id, _)` ↦ `.pe id`), panics and out-of-bounds loads are
  carried over unchanged.  The `…_returns` theorems undo the lift: the translated function itself returns normally.

  Dispatchers (defined in Translated/Read and Translated/Write, one line per translated function, each equal to the models' dispatcher):
    `tRead g k b`   = `Binary.Read<k>(b)` with `spanCacheEnable = g`      (`tRead_eq`   : = `Wire.binRead k b`)
    `tWrite buf off v` = `Binary.Write<v>(buf[off:], …)`                   (`tWrite_eq`  : = `Wire.write buf off v`)
    `tAppend buf v` = `Binary.Append<v>(buf, …)`                           (`tAppend_eq` : = `.ok (Wire.append buf v)`)
    `tLength v`     = `Binary.<v>Length(…)`                                (`tLength_eq` : = `.ok (Wire.length v)`)
  Split per group of translated functions (so that a property's check depends only on the functions it is about):
    Translated/Skip (C02 C03 C08 C17)  Translated/Read (C01 C03 C12 C17)  Translated/Write (C01 C12 C15)  Translated/TTH (C03 C06 C10)
-/
import Verif.Props.Translated.Skip
import Verif.Props.Translated.Read
import Verif.Props.Translated.Write
import Verif.Props.Translated.TTH
