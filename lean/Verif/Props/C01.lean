/-
  Props/C01 — Thrift binary codec: every writer and reader agrees with the wire format.
  Property theorems only; helper lemmas are in Lemmas/Wire*.lean.
    spec   : Spec/Wire.lean   `enc : Val → Bytes`, domain `Val.wf`
    model  : Model/Wire.lean  `write` (Binary.Write*), `append` (Binary.Append*), `length` (*Length),
             `bwWrite` (BufferWriter.Write* over the writer log), `binRead` (Binary.Read*),
             `brRead` (BufferReader.Read* over the reader model `Rd`)
  The writer theorems need only the argument ranges of the Go signatures (`Val.args`: int8 … int64),
  i.e. they also cover lengths/sizes outside the round-trip domain; the reader theorems are for
  the domain `Val.wf` (strings < 2^31 bytes, sizes < 2^31, field type ≠ STOP, message type < 2^16).
-/
import Verif.Lemmas.WireRd
import Verif.Lemmas.WireTotal
namespace Verif.C01
open Verif.Wire

/-- the advertised length functions equal the length of the encoding, for every value -/
theorem length_eq (v : Val) : Wire.length v = (enc v).length := by
  cases v
  case binary s => exact (List.length_append (as := u32 s.length) (bs := s)).symm
  case str s => exact (List.length_append (as := u32 s.length) (bs := s)).symm
  case messageBegin name typ seq =>
    simp only [Wire.length, lenMessageBegin, enc, List.length_append]
    show 4 + (4 + name.length) + 4 = 4 + 4 + name.length + 4
    omega
  all_goals rfl

/-- an in-place writer given a buffer at least as long as the encoding overwrites exactly
    the prefix of the buffer with the encoding and returns its length -/
theorem inplace_eq (v : Val) (ha : v.args) (buf : Bytes) (h : (enc v).length ≤ buf.length) :
    write buf 0 v = .ok (enc v ++ buf.drop (enc v).length, (enc v).length) := by
  rw [enc_eq_encM v ha] at h ⊢
  rw [write_encM buf 0 v (by omega), putAt_zero]

/-- the same at any offset of a larger buffer (`Binary.Write*(buf[off:], …)`): nothing outside
    `[off, off + len)` changes -/
theorem inplace_at (v : Val) (ha : v.args) (buf : Bytes) (off : Nat) (h : off + (enc v).length ≤ buf.length) :
    write buf off v = .ok (buf.take off ++ enc v ++ buf.drop (off + (enc v).length), (enc v).length) := by
  rw [enc_eq_encM v ha] at h ⊢
  rw [write_encM buf off v h]; rfl

/-- an appending writer appends exactly the encoding -/
theorem append_eq (v : Val) (ha : v.args) (buf : Bytes) : Wire.append buf v = buf ++ enc v := by
  rw [enc_eq_encM v ha, append_encM]

/-- on a writer without a sticky error, a stream writer succeeds and appends to the
    writer log exactly one region holding the encoding — for strings/binaries a 4-byte region
    holding the length followed by the payload itself; the bytes a Flush emits grow by `enc v` -/
theorem stream_write_eq (v : Val) (ha : v.args) (w : WLog) (dirty : Nat → UInt8) (h : w.err = none) :
    ∃ w', bwWrite w dirty v = .ok w' ∧ w'.err = none ∧ w'.bytes = w.bytes ++ enc v ∧
      (w'.items = w.items ++ [.region (enc v)] ∨
       ∃ s, (v = .binary s ∨ v = .str s) ∧ w'.items = w.items ++ [.region (u32 s.length), .payload s]) := by
  refine ⟨_, bwWrite_encM w dirty v h, h, ?_, ?_⟩
  · simp only [WLog.bytes, List.map_append, List.flatten_append, itemsOf_bytes, enc_eq_encM v ha]
  · rw [enc_eq_encM v ha]
    cases v
    case binary s => exact Or.inr ⟨s, Or.inl rfl, by rw [u32_eq]; rfl⟩
    case str s => exact Or.inr ⟨s, Or.inr rfl, by rw [u32_eq]; rfl⟩
    all_goals exact Or.inl rfl

/-- a stream writer on a writer whose Flush failed returns that error and writes nothing -/
theorem stream_write_failed (v : Val) (w : WLog) (dirty : Nat → UInt8) (e : RErr) (h : w.err = some e) :
    bwWrite w dirty v = .err e := bwWrite_failed w dirty v e h

/-- every buffer reader, given the encoding of a value of the domain followed by anything,
    returns that value and exactly the encoding's length -/
theorem read_enc (v : Val) (hv : v.wf) (rest : Bytes) :
    binRead v.kind (enc v ++ rest) = .ok (v, (enc v).length) := by
  rw [enc_eq_encM v (wf_args v hv)]; exact binRead_encM v hv rest

/-- over the cursor contract of the reader (Spec/WireCursor: on a state that can
    still deliver n bytes, Next/ReadBinary hand out the next n bytes of the remaining stream) —
    for every reader state whose remaining stream starts with the encoding and that can still deliver
    it, whatever the source script, the stream reader returns the value, leaves exactly the rest and
    advances ReadLen by exactly the encoding's length -/
theorem stream_read_enc {rem : Rd → Bytes} {live : Rd → Nat → Prop} (C : Cursor rem live)
    (v : Val) (hv : v.wf) (r : Rd) (rest : Bytes)
    (hrem : rem r = enc v ++ rest) (hl : live r (enc v).length) :
    ∃ r', brRead v.kind r = .ok (v, r') ∧ rem r' = rest ∧ r'.readLen = r.readLen + (enc v).length := by
  rw [enc_eq_encM v (wf_args v hv)] at hrem hl ⊢
  exact brRead_encM C v hv r rest hrem hl

/-- the contract instance proved here: the encoding is already buffered (every BytesReader state, and
    every DefaultReader state after the bytes have arrived, whatever the script did before) -/
theorem stream_read_enc_buffered (v : Val) (hv : v.wf) (r : Rd) (rest : Bytes)
    (hrem : remaining r = enc v ++ rest) (hl : (enc v).length ≤ r.buf.length - r.ri) :
    ∃ r', brRead v.kind r = .ok (v, r') ∧ remaining r' = rest ∧ r'.readLen = r.readLen + (enc v).length :=
  stream_read_enc bufferedCursor v hv r rest hrem hl

/-- stream_read_enc on the reader model itself, with no contract assumed: for EVERY reader state `r`
    (any buffer contents, capacity, sticky error, statistics) and EVERY source script, if the state
    satisfies the representation invariant (`ri ≤ len(buf)`, an unallocated buffer is empty — true of
    every fresh reader, `rinv_newDefault`/`rinv_newBytes`, and preserved by every operation), its
    remaining stream starts with the encoding, and the reader can still deliver that many bytes
    (`Live`: however they are requested, piece by piece, each Next/ReadBinary is served — i.e. the
    script yields them before it fails, in whatever fragments, with whatever empty reads), then the
    stream reader returns the value, leaves exactly the rest and advances ReadLen by the encoding's
    length. "Any fragmentation" is the universally quantified script inside `r`. -/
theorem stream_read_enc_live (v : Val) (hv : v.wf) (r : Rd) (rest : Bytes) (hI : RInv r)
    (hrem : remaining r = enc v ++ rest) (hl : Live r (enc v).length) :
    ∃ r', brRead v.kind r = .ok (v, r') ∧ remaining r' = rest ∧ r'.readLen = r.readLen + (enc v).length := by
  obtain ⟨r', h1, h2, h3⟩ := stream_read_enc liveCursor v hv r rest hrem ⟨hI, hl⟩
  exact ⟨r', h1, h2, h3⟩

/-- the converse direction, with NO liveness assumed — on every reader state with
    the representation invariant and under every source script, whenever a stream reader returns a
    value, the buffer reader run on the remaining stream returns the same value with some length n,
    exactly those n bytes have been consumed and ReadLen grew by n. With `read_enc`: if the remaining
    stream starts with `enc v` (v in the domain) a stream read can only return `v` and consume
    `len(enc v)` bytes, or fail — it never returns another value, however the stream is fragmented. -/
theorem stream_read_refines (k : Kind) (r : Rd) (v : Val) (r' : Rd) (hI : RInv r)
    (h : brRead k r = .ok (v, r')) :
    ∃ n, binRead k (remaining r) = .ok (v, n) ∧ remaining r = (remaining r).take n ++ remaining r' ∧
         n ≤ (remaining r).length ∧ r'.readLen = r.readLen + n ∧ RInv r' :=
  brRead_refines k r v r' hI h

/-- corollary: on `enc v ++ rest` a stream read returns `v` and consumes `len(enc v)`, or it fails -/
theorem stream_read_only_enc (v : Val) (hv : v.wf) (r : Rd) (rest : Bytes) (hI : RInv r)
    (hrem : remaining r = enc v ++ rest) (w : Val) (r' : Rd) (h : brRead v.kind r = .ok (w, r')) :
    w = v ∧ r'.readLen = r.readLen + (enc v).length ∧ remaining r' = rest := by
  obtain ⟨n, h1, h2, _, h4, _⟩ := brRead_refines v.kind r w r' hI h
  rw [hrem, read_enc v hv rest] at h1
  simp at h1
  obtain ⟨e1, e2⟩ := h1
  refine ⟨e1.symm, by rw [h4, ← e2], ?_⟩
  rw [hrem, ← e2] at h2
  simp at h2
  exact h2.symm

/-- on every such state every stream reader returns normally — a value or an
    error, never a panic (no `(nil, nil)` from Next, no exhausted loop) -/
theorem stream_read_total (k : Kind) (r : Rd) (hI : RInv r) :
    (∃ v r', brRead k r = .ok (v, r')) ∨ (∃ e, brRead k r = .err e) :=
  brRead_total k r hI

/-! ## non-vacuity: concrete instances of the hypotheses -/

/-- a DefaultReader over a source that delivers a field header byte by byte, with an empty read in
    between and the last byte together with io.EOF, satisfies the hypotheses of `stream_read_enc_live` -/
example :
    let r := Rd.newDefault ⟨enc (.fieldBegin 11 (-1)) ++ [9], [⟨1, none⟩, ⟨0, none⟩, ⟨1, none⟩, ⟨1, none⟩, ⟨1, some .eof⟩]⟩
    RInv r ∧ remaining r = enc (.fieldBegin 11 (-1)) ++ [9] ∧ Live r (enc (.fieldBegin 11 (-1))).length :=
  ⟨rinv_newDefault _, by decide, liveB_sound 3 3 _ (by decide)⟩

example : (Val.str [0x68, 0xff]).wf ∧ (Val.messageBegin [0x66] 1 (-7)).wf ∧ (Val.fieldBegin 11 (-1)).wf ∧
    (Val.mapBegin 0xff 0x80 2147483647).wf ∧ (Val.double 0x7ff8000000000001).wf := by decide

example : write (List.replicate 6 0xA5) 0 (.i32 (-2)) = .ok ([0xff, 0xff, 0xff, 0xfe, 0xA5, 0xA5], 4) := by decide

example : binRead .str (enc (.str [0x68, 0xff]) ++ [1, 2]) = .ok (.str [0x68, 0xff], 6) := by decide

/-- a bytes reader over the encoding of a field header followed by one more byte satisfies the
    hypotheses of `stream_read_enc_buffered` -/
example : remaining (Rd.newBytes (enc (.fieldBegin 11 (-1)) ++ [9]) 4) = enc (.fieldBegin 11 (-1)) ++ [9] ∧
    (enc (.fieldBegin 11 (-1))).length ≤ (Rd.newBytes (enc (.fieldBegin 11 (-1)) ++ [9]) 4).buf.length -
      (Rd.newBytes (enc (.fieldBegin 11 (-1)) ++ [9]) 4).ri := by decide

example : (⟨[], none⟩ : WLog).err = none := rfl

end Verif.C01
