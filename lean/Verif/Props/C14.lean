/-
  Props/C14 — concurrent use: separate instances are isolated; maps are safe to read.  PARTIAL by nature.

  What is logic and is proved here (model: Model/Pools):
    * recycled_is_fresh_*  the state Release/Recycle leaves a pooled object in IS the state of a new one
                           (for ReaderSkipDecoder: up to its private buffer, whose old content is never
                           exposed — `readerSkip_old_buffer_never_exposed`); `release_establishes_fresh`
                           says so of every reachable state, `recycled_behaves_as_new` that `New…` on such
                           an object starts the same machine as on a zero object;
    * isolation            for EVERY interleaving of WHOLE operations of any number of instances, whatever
                           object `Get` returns and whatever (recycled) memory `Malloc` returns, every
                           instance observes exactly what it observes when run alone (`isolation_generic`
                           for any kind with a `Good` instance, `isolation` for the sum `All`);
    * no_cross_bytes       what an instance observes does not depend on anything the others do
                           (`no_cross_bytes_generic` likewise);
    * pool_always_fresh*   the invariant behind both: every object at rest in the pool is `Fresh`;
    * get_pure_partial     true by construction of the model (`getS` returns the map unchanged); the tie is
                           Tie A `Facts.impureGets = []` (`impureGets_nil`) + the -race stress run;
    * tth_stateless        the header codec's state is `Unit` and what a call returns does not depend on
                           the pool's memory, which is what makes it a kind of `All`; `tth_no_pkg_state`
                           is the regenerated fact that the package declares no variable.
  What the model CANNOT exhibit (named runtime behaviour, DESIGN §7): a data race inside an operation,
  sync.Pool internals, the span cache's CAS lock and its fallback under contention, a SetSpanCache
  racing with readers.  The many-goroutine stress run and the race-detector run of the `pool` family
  only VALIDATE the atomicity assumption ("one event = one whole operation"); they prove nothing.
-/
import Verif.Lemmas.PoolsKinds
import Verif.Gen.Facts
namespace Verif.C14
open Verif Verif.Pools

/-! ## recycled = fresh

  `Good.Fresh` is, per pooled type, the predicate "at rest in the pool": every field has the value it has
  in a newly constructed object, except the one field the code retains on purpose
  (`ReaderSkipDecoder.b`, its private mcache buffer — any length, any content).
    BufferReader      r = nil                BufferWriter       w = nil
    SkipDecoder       r = nil ∧ rn = 0       BytesSkipDecoder   n = 0 ∧ b = nil
    ReaderSkipDecoder r = nil ∧ n = 0        (b retained)
  DefaultReader, DefaultWriter and the header codec are no object-pool types (`Obj = Unit`).
  The theorems say: `Recycle`/`Release` applied to an object in ANY state establish `Fresh` (they are the
  only transitions that put an object into the pool — `Sys.step`, case `release`), and moreover the result
  IS the zero object (up to the retained buffer). -/

example (o : ReaderSkipDecoderObj) : goodRSD.Fresh o ↔ (o.r = none ∧ o.n = 0) := Iff.rfl
example (o : SkipDecoderObj) : goodSD.Fresh o ↔ (o.r = none ∧ o.rn = 0) := Iff.rfl
example (o : BytesSkipDecoderObj) : goodBSD.Fresh o ↔ (o.n = 0 ∧ o.b = []) := Iff.rfl
example (o : BufferReaderObj) : goodBR.Fresh o ↔ o.r = none := Iff.rfl
example (o : BufferWriterObj) : goodBW.Fresh o ↔ o.w = none := Iff.rfl

/-- BufferReader: after `Recycle` the object is at rest-fresh, indeed it is `BufferReader{r: nil}` -/
theorem recycled_is_fresh_bufferReader (o : BufferReaderObj) :
    goodBR.Fresh o.recycle ∧ o.recycle = BufferReaderObj.zero := ⟨rfl, rfl⟩

/-- BufferWriter: after `Recycle` the object is `BufferWriter{w: nil}` -/
theorem recycled_is_fresh_bufferWriter (o : BufferWriterObj) :
    goodBW.Fresh o.recycle ∧ o.recycle = BufferWriterObj.zero := ⟨rfl, rfl⟩

/-- SkipDecoder: after `Release` the object is `SkipDecoder{}` -/
theorem recycled_is_fresh_skipDecoder (o : SkipDecoderObj) :
    goodSD.Fresh o.release ∧ o.release = SkipDecoderObj.zero := ⟨⟨rfl, rfl⟩, rfl⟩

/-- BytesSkipDecoder: after `Release` the object is `BytesSkipDecoder{n: 0, b: nil}` -/
theorem recycled_is_fresh_bytesSkipDecoder (o : BytesSkipDecoderObj) :
    goodBSD.Fresh o.release ∧ o.release = BytesSkipDecoderObj.zero := ⟨⟨rfl, rfl⟩, rfl⟩

/-- ReaderSkipDecoder: after `Release` the object is `ReaderSkipDecoder{r: nil, n: 0, b: <old buffer>}` -/
theorem recycled_is_fresh_readerSkipDecoder (o : ReaderSkipDecoderObj) :
    goodRSD.Fresh o.release ∧ o.release = { ReaderSkipDecoderObj.zero with b := o.b } := ⟨⟨rfl, rfl⟩, rfl⟩

/-- the same at the level of the system: whatever state an instance of any kind is in (after any
    history, failed calls included), the object its `Release`/`Recycle` puts into the pool is `Fresh` -/
theorem release_establishes_fresh (s : All.St) (x : goodAll.Abs) (h : goodAll.Ref s x) :
    goodAll.Fresh (All.release s).1 := goodAll.release_fresh s x h

/-- … and that state is as good as new in the strong sense, for all FIVE pooled types: `New…(arg)` on a
    released object — whatever it retains: for ReaderSkipDecoder a buffer of any content; for SkipDecoder
    (fourth conjunct) an object in ANY state, stale `rn` included — starts an instance that refines the
    same pool-free, allocator-free machine as one started on a zero object (`Good.init_ref`): every field
    an operation reads is overwritten by `New…` or at the start of the operation. -/
theorem recycled_behaves_as_new (src : Src) (b : Bytes)
    (o1 : BufferReaderObj) (o2 : SkipDecoderObj) (o3 : BytesSkipDecoderObj) (o4 : ReaderSkipDecoderObj)
    (o5 : BufferWriterObj) :
    goodBR.Ref (kBR.init o1.recycle src) (goodBR.ainit src) ∧
    goodBR.Ref (kBR.init BufferReaderObj.zero src) (goodBR.ainit src) ∧
    goodSD.Ref (kSD.init o2.release src) (goodSD.ainit src) ∧
    goodSD.Ref (kSD.init o2 src) (goodSD.ainit src) ∧
    goodBSD.Ref (kBSD.init o3.release b) (goodBSD.ainit b) ∧
    goodRSD.Ref (kRSD.init o4.release src) (goodRSD.ainit src) ∧
    goodRSD.Ref (kRSD.init ReaderSkipDecoderObj.zero src) (goodRSD.ainit src) ∧
    goodBW.Ref (kBW.init o5.recycle ()) (goodBW.ainit ()) ∧
    goodBW.Ref (kBW.init BufferWriterObj.zero ()) (goodBW.ainit ()) :=
  ⟨goodBR.init_ref _ _ rfl, goodBR.init_ref _ _ rfl, goodSD.init_ref _ _ ⟨rfl, rfl⟩,
   (rfl : goodSD.Ref (kSD.init o2 src) (goodSD.ainit src)), goodBSD.init_ref _ _ ⟨rfl, rfl⟩, goodRSD.init_ref _ _ ⟨rfl, rfl⟩,
   goodRSD.init_ref _ _ ⟨rfl, rfl⟩, goodBW.init_ref _ _ rfl, goodBW.init_ref _ _ rfl⟩

/-- The retained buffer is never exposed.  `ReaderSkipDecoder.Next(t)` on an object `{r: src, n, b}` (a
    recycled object that `NewReaderSkipDecoder(src)` handed out again is of this form): whatever
    the buffer `b` holds from the previous tenant (any bytes, any length), whatever `n` is, and whatever
    memory `d` the shared pool hands out when the buffer has to grow — the call returns exactly what the
    buffer-free decoder `readerDecNext` returns on the same source (the same bytes `p.b[:n]`, every one of
    them written in this call; the same error), and leaves the source where that decoder leaves it. -/
theorem readerSkip_old_buffer_never_exposed (d : Dirty) (b : Bytes) (n : Nat) (src : Src) (t : UInt8) :
    OutRel (fun x y => x.1 = (y.1, y.2.stream.length) ∧ x.2.1.r = some y.2)
      (rsdNext d ⟨some src, n, b⟩ t) (readerDecNext src t) ∧
    ∀ (d' : Dirty) (b' : Bytes) (n' : Nat),
      (kRSD.step d (some ⟨some src, n, b⟩) t).2.1 = (kRSD.step d' (some ⟨some src, n', b'⟩) t).2.1 := by
  refine ⟨rsdNext_spec d _ src t rfl, fun d' b' n' => ?_⟩
  rw [(rsd_step_ref d (some ⟨some src, n, b⟩) (some src) t rfl).2,
      (rsd_step_ref d' (some ⟨some src, n', b'⟩) (some src) t rfl).2]

/-! ## isolation -/

/-- Isolation, generic form.  For a kind whose instances refine an allocator-free machine (`Good`):
    for EVERY history — any number of instances, any interleaving of their whole operations, any
    choice of pooled object at every `Get`, any choice of recycled buffer or fresh memory with any
    content at every `Malloc` — the results instance `i` observes are exactly the results it observes
    when it runs alone, on new objects and zeroed memory. -/
theorem isolation_generic {K : Kind} (G : Good K) (evs : List (Ev K)) (i : Nat) :
    ((Sys.empty : Sys K).run evs).outputs i = alone i evs :=
  isolation_of_good G evs i

/-- Isolation for systems that mix instances of every MODELLED kind — DefaultReader, BufferReader,
    SkipDecoder, BytesSkipDecoder, ReaderSkipDecoder, DefaultWriter, BufferWriter, the TTHeader codec
    (`All` = the sum of the eight kinds) — sharing one object pool per pooled type and ONE buffer pool: for every history,
    i.e. every interleaving of whole operations of any number of instances, every pooled object `Get`
    may return and every recycled or fresh memory (any content) `Malloc` may return, each instance
    observes exactly what it observes when it runs alone.
    (Writers: the user fills every region it is handed, as BufferWriter does; an unfilled `Malloc`
    region is dirty memory by contract and is outside the statement.)

    WHERE THE PROOF CONTENT IS (the property is partial; this theorem is about whole operations only):
    * definitional (`Good.ofEq … rfl`): kDR, kBR, kBSD — their `step` ignores the pool's memory and
      their `New…` overwrites every field, so in the MODEL there is no channel between instances; the
      theorem then only says the scheduler bookkeeping is right.  That a real DefaultReader never shows
      memory below its fill level is C04/C09 and Tie B (this family runs on the real mcache), not this
      theorem.  kSD is nearly so: the only content is that a stale `rn` left in the pool is never read
      (`sdNext_congr`).
    * real content: kRSD (retained buffer + dirty pool memory never reach a result: `rsdNext_spec` via
      `skipTplAt_sim`), kDW and kBW (flushed bytes do not depend on the dirty memory of any Malloc:
      `wr_step_ref` over C05's simulation), and the generic part (`Good.sum`, `isolation_of_good`,
      the pool invariant `pool_always_fresh`).
    * kTTH (header codec): stateless (`St = Unit`); content = `tthEnc_dirt` (see `tth_stateless`).
    * NOT in `All`: `Binary.ReadBinary` with the shared span cache.  It exists only in the driver
      (`bin` lines) as a stateless function; the shared span cache is exercised by Tie B and the stress
      run only. -/
theorem isolation (evs : List (Ev All)) (i : Nat) :
    ((Sys.empty : Sys All).run evs).outputs i = alone i evs :=
  isolation_of_good goodAll evs i

/-- two histories in which instance `i` does the same things — the
    other instances may do anything else, with any other bytes — give `i` the same results: nothing
    another instance reads, writes, frees or recycles ever shows up in what `i` observes. -/
theorem no_cross_bytes_generic {K : Kind} (G : Good K) (evs evs' : List (Ev K)) (i : Nat)
    (h : solo i evs = solo i evs') :
    ((Sys.empty : Sys K).run evs).outputs i = ((Sys.empty : Sys K).run evs').outputs i := by
  rw [isolation_of_good G evs i, isolation_of_good G evs' i]
  unfold alone; rw [h]

theorem no_cross_bytes (evs evs' : List (Ev All)) (i : Nat) (h : solo i evs = solo i evs') :
    ((Sys.empty : Sys All).run evs).outputs i = ((Sys.empty : Sys All).run evs').outputs i :=
  no_cross_bytes_generic goodAll evs evs' i h

/-- the pool invariant behind it (generic): at every point of every history, every object at rest in
    the object pool is `Fresh` — the per-type predicate of the first section — and every live instance is in a
    state of the allocator-free machine -/
theorem pool_always_fresh {K : Kind} (G : Good K) (evs : List (Ev K)) :
    (∀ o ∈ ((Sys.empty : Sys K).run evs).objs, G.Fresh o) ∧
    (∀ j x, ((Sys.empty : Sys K).run evs).live j = some x → ∃ a, G.Ref x a) :=
  let h := (WF.empty G).run G evs
  ⟨h.objs, h.live⟩

/-- … for mixed systems of all kinds -/
theorem pool_always_fresh_all (evs : List (Ev All)) :
    ∀ o ∈ ((Sys.empty : Sys All).run evs).objs, goodAll.Fresh o :=
  (pool_always_fresh goodAll evs).1

/-- … and spelled out for the type that retains something: in EVERY history of any number of
    ReaderSkipDecoder instances, every object in the pool has `r = nil` and `n = 0` — only its buffer
    `b` carries anything over (and by `readerSkip_old_buffer_never_exposed` never shows it) -/
theorem pool_always_fresh_readerSkipDecoder (evs : List (Ev kRSD)) :
    ∀ o ∈ ((Sys.empty : Sys kRSD).run evs).objs, o.r = none ∧ o.n = 0 :=
  (pool_always_fresh goodRSD evs).1

/-! ## the header codec -/

/-- `ttheader.Encode` (+ the caller's total-length field + Flush) and `ttheader.DecodeFromBytes` keep
    nothing between calls (the kind's state is `Unit`) and share nothing but the buffer pool behind
    the writer/reader they run on: (1) the encoded frame does not depend on what the pool's memory held
    (`d`, `d'` arbitrary: every byte of every Malloc'ed region is written; `tthEnc_closed` in
    Lemmas/PoolsTth is its closed form, from C06's `encode_raw`); (2) so neither does what an encode step
    of the kind returns; (3) nor what a decode step returns: the model's Decode has no allocator argument
    at all. With `goodTTH` this makes the codec a kind of `All`, so `isolation` covers histories in which
    header calls are interleaved with operations of instances of any kind.
    Tie to the code: protocol/ttheader declares NO package-level variable other than sentinel errors
    (regenerated fact `Facts.pkgVars_ttheader`, `tth_no_pkg_state` below) and the `tth rt` lines of Tie B. -/
theorem tth_stateless (d d' : Dirty) (p : TTH.EncParam) (b : Bytes) (cap : Nat) :
    tthEnc d p = tthEnc d' p ∧
    (kTTH.step d () (.enc p)).2.1 = (kTTH.step d' () (.enc p)).2.1 ∧
    (kTTH.step d () (.dec b cap)).2.1 = (kTTH.step d' () (.dec b cap)).2.1 :=
  ⟨tthEnc_dirt d d' p, by simp only [kTTH]; rw [tthEnc_dirt d d' p], rfl⟩

/-! ### non-vacuity: a recycled ReaderSkipDecoder that really carries the previous tenant's bytes -/

/-- instance 1 reads a 3-byte string through a ReaderSkipDecoder (its buffer grows to hold
    `00 00 00 03 aa bb cc`) and releases it; instance 2 is handed THAT object by the pool (`pick = some 0`)
    and reads one byte of its own into the retained buffer -/
def exampleHistory : List (Ev kRSD) :=
  [ .create 1 (⟨[0, 0, 0, 3, 0xaa, 0xbb, 0xcc], [⟨100, none⟩, ⟨100, none⟩]⟩ : Src) none,
    .op 1 (11 : UInt8) [] (fun _ _ => 0xEE),
    .release 1,
    .create 2 (⟨[7, 9], [⟨1, none⟩, ⟨1, none⟩]⟩ : Src) (some 0),
    .op 2 (3 : UInt8) [some 0] (fun _ _ => 0xEE) ]

/-- after the third event the object pool holds the released object WITH the first tenant's bytes -/
example : (((Sys.empty : Sys kRSD).run (exampleHistory.take 3)).objs : List ReaderSkipDecoderObj) =
    [⟨none, 0, [0, 0, 0, 3, 0xaa, 0xbb, 0xcc]⟩] := by rfl

/-- … and the second tenant, running on that object, sees its own byte only -/
example : (((Sys.empty : Sys kRSD).run exampleHistory).outputs 2 : List (TOut (Bytes × Nat))) =
    [.ok ([7], 1)] := by rfl

example : ((Sys.empty : Sys kRSD).run exampleHistory).outputs 2 = alone 2 exampleHistory :=
  isolation_generic goodRSD exampleHistory 2

/-- two DefaultWriters: the first flushes `01 02 03` and its buffer goes back to the pool; the second
    writer's first `Malloc` is handed THAT buffer (`picks = [some 0]`) -/
def exampleWriters : List (Ev kDW) :=
  [ .create 1 () none,
    .op 1 (.mf [1, 2, 3]) [] (fun _ _ => 0xEE),
    .op 1 .flush [] (fun _ _ => 0xEE),
    .create 2 () none,
    .op 2 (.mf [9]) [some 0] (fun _ _ => 0xEE),
    .op 2 .flush [] (fun _ _ => 0xEE) ]

-- the buffer pool really holds the first writer's bytes after its Flush …
set_option maxRecDepth 100000 in
example : (((Sys.empty : Sys kDW).run (exampleWriters.take 3)).bufs.map (fun b => b.take 4)) =
    [[1, 2, 3, 0xEE]] := by decide +kernel

/-- … and the second writer's Flush delivers its own byte only -/
example : ((((Sys.empty : Sys kDW).run exampleWriters).outputs 2).map
    (fun (o : WrOut) => match o with | .flushed _ c => c.map (·.1) | _ => [])) = [[], [[9]]] := by decide +kernel

/-! ## Get is pure -/

/-- Tie A: the regenerated fact — none of `StrMap.Get`, `Str2Str.Get`, `StrStore.Get` assigns to
    anything reachable from its receiver -/
theorem impureGets_nil : Facts.impureGets = [] := by decide

/-- TRUE BY CONSTRUCTION OF THE MODEL; the tie to the code is Tie A
    `Facts.impureGets = []` + the `-race` stress run.  In detail: in the model `getS` returns the
    map unchanged BY CONSTRUCTION and `runGets` is a sequential fold, so the two `runGets` equations below
    are true by definition (they only spell out "if Get is a function of the loaded state, any schedule
    of Gets returns the sequential answers").  The real content is (1) the regenerated Tie A fact
    `Facts.impureGets = []` — none of `StrMap.Get`, `Str2Str.Get`, `StrStore.Get` assigns through its
    receiver — which is what licenses modelling Get as `getS`, and (2) the many-goroutine stress run and
    the race-detector run of the `pool` family on the real maps (validation, not proof).
    Missing for the full statement ("no data race"): a theorem cannot exhibit a race; reads of shared
    memory by concurrent Gets are race-free in Go exactly because nothing writes, which is fact (1). -/
theorem get_pure_partial {V : Type} (h : Bytes → Nat) (m : SMap.StrMap V) (sm : SMap.Str2Str)
    (sched : List (Nat × Bytes)) :
    Facts.impureGets = [] ∧
    runGets (getS h) m sched = (m, sched.map (fun gk => (gk.1, SMap.get h m gk.2))) ∧
    runGets (s2sGetS h) sm sched = (sm, sched.map (fun gk => (gk.1, SMap.s2sGet h sm gk.2))) := by
  exact ⟨impureGets_nil, runGets_pure _ _ (fun _ _ => rfl) m sched, runGets_pure _ _ (fun _ _ => rfl) sm sched⟩

/-- the regenerated list of file-level variables of protocol/ttheader (sentinel errors excluded) is empty:
    the package has no state a call could leave behind for another goroutine. -/
theorem tth_no_pkg_state : Facts.pkgVars_ttheader = [] := by decide

end Verif.C14
