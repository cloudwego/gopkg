/-
  Props/C10 — TTHeader decode validates hostile frames and keeps the framing arithmetic.
  (property theorems, the relation `agrees` they are stated in, and non-vacuity examples; lemmas in
  Lemmas/Tth{Ref,Dec,Decode,Stream}.lean)

  `decodeBytes b cap` = ttheader.Decode(ctx, bufiox.NewBytesReader(bs)) with len(bs) = b, cap(bs) = cap
  (this is DecodeFromBytes plus the reader's ReadLen): (result, bytes consumed).
  `Frame.Valid b secs` = "the magic matches, the declared header size lies within 2..65536 and is present,
  the protocol id is supported, the transform ids fit, and the info area is exactly the complete
  sections `secs`" (Spec/Frame.lean); `Frame.meaning b secs` = what such a frame says.
-/
import Verif.Lemmas.TthDecode
import Verif.Lemmas.TthStream
namespace Verif.C10
open Verif.TTH Verif.Frame

/-- a model result agrees with the spec's reading of the frame (nil map ≃ empty map) -/
def agrees (p : DecParam) (d : Decoded) : Prop :=
  p.flags = d.flags ∧ p.seq = d.seq ∧ p.proto = d.proto ∧ mk p.intKV = d.intKV ∧ mk p.strKV = d.strKV ∧
  p.headerLen = d.headerLen ∧ p.payloadLen = d.payloadLen

/-- **decode_safe.** For every byte string (and every capacity of the slice): Decode returns a result or
    an error — no index/slice panic, no out-of-bounds load, the `for {}` loop terminates (its fuel never
    runs out) — and it consumes at most 14 bytes plus the declared header size and never more than the
    input holds. -/
theorem decode_safe (b : Bytes) (cap : Nat) (hcap : b.length ≤ cap) :
    (decodeBytes b cap).1.Safe ∧ (decodeBytes b cap).1 ≠ .err .nofuel ∧
    (decodeBytes b cap).2 ≤ b.length ∧ (decodeBytes b cap).2 ≤ 14 + declared b := by
  rw [decodeBytes_eq_cur b cap hcap]
  have hs := decodeCur_spec b
  refine ⟨?_, ?_, (decodeCur_consumed b).1, (decodeCur_consumed b).2⟩
  · cases hv : refValid b with
    | some secs => rw [hv] at hs; rw [hs]; exact ⟨fun s => by simp, by simp⟩
    | none =>
      rw [hv] at hs; obtain ⟨e, he, _⟩ := hs
      rw [he]; exact ⟨fun s => by simp, by simp⟩
  · cases hv : refValid b with
    | some secs => rw [hv] at hs; rw [hs]; simp
    | none =>
      rw [hv] at hs; obtain ⟨e, he, hne⟩ := hs
      rw [he]; intro h; exact hne (Out.err.inj h)

/-- **decode_ok_iff.** Decode succeeds if and only if the input starts with a valid frame: magic,
    `2 ≤ 4·sizeField ≤ 65536` (so size fields above 0x4000 are rejected, not wrapped), all declared bytes
    present, protocol id in the allow-list of the source (which is the documented list), transform count
    within the area, every info section complete and every info id known. -/
theorem decode_ok_iff (b : Bytes) (cap : Nat) (hcap : b.length ≤ cap) :
    (∃ p, (decodeBytes b cap).1 = .ok p) ↔ ∃ secs, Valid b secs := by
  rw [decodeBytes_eq_cur b cap hcap]
  have hs := decodeCur_spec b
  constructor
  · rintro ⟨p, hp⟩
    cases hv : refValid b with
    | some secs => exact ⟨secs, (refValid_iff b secs).mp hv⟩
    | none =>
      rw [hv] at hs; obtain ⟨e, he, _⟩ := hs
      rw [he] at hp; cases hp
  · rintro ⟨secs, hv⟩
    exact ⟨_, by rw [decodeCur_valid hv]⟩

/-- **decode_ok_values.** On success, for the (unique) sections of the frame: HeaderLen = 14 + declared
    size = bytes consumed, PayloadLen = total length + 4 − HeaderLen, flags / sequence id / protocol id
    are the frame's, and the two maps are exactly the left-to-right fold of the sections (later entries
    win; the ACL token is stored under GDPRToken). -/
theorem decode_ok_values (b : Bytes) (cap : Nat) (hcap : b.length ≤ cap) (p : DecParam) (secs : List Sec)
    (hp : (decodeBytes b cap).1 = .ok p) (hv : Valid b secs) :
    agrees p (meaning b secs) ∧ (decodeBytes b cap).2 = 14 + declared b ∧
    p.headerLen = ((decodeBytes b cap).2 : Int) := by
  rw [decodeBytes_eq_cur b cap hcap] at hp ⊢
  rw [decodeCur_valid hv] at hp ⊢
  have hp' := Out.ok.inj hp
  subst hp'
  have hm := pairOf_applyMs secs ⟨none, none⟩
  refine ⟨⟨rfl, rfl, rfl, ?_, ?_, ?_, ?_⟩, rfl, ?_⟩
  · exact congrArg Prod.fst hm
  · exact congrArg Prod.snd hm
  · simp only [toParam, meaning]; omega
  · simp only [toParam, meaning]; omega
  · simp only [toParam]; omega

/-- the sections of a valid frame are unique, so `decode_ok_values` determines the result completely -/
theorem valid_sections_unique (b : Bytes) (s1 s2 : List Sec) (h1 : Valid b s1) (h2 : Valid b s2) : s1 = s2 :=
  encSecs_inj h1.wf h2.wf (by rw [← h1.sections, ← h2.sections])

/-- **decode_stream.** The same over a stream: for every reader that keeps the bufiox.Reader contract
    (`ReaderOK`: Next(n) returns exactly the next n bytes of the remaining stream and advances by n, or fails
    with a non-nil error without moving — whatever the fragmentation of the source), Decode either behaves
    exactly as on the remaining stream given as one slice (same result, same bytes consumed), or returns
    the reader's own error having consumed no more. Hence: never a panic, success only on a valid frame,
    and the values of `decode_ok_values`. -/
theorem decode_stream {σ : Type} (next : σ → Int → RdRes × σ) (rem : σ → Bytes) (pos : σ → Nat)
    (hc : ReaderOK next rem pos) (s : σ) :
    (decodeG next s).1.Safe ∧ (decodeG next s).1 ≠ .err .nofuel ∧
    pos (decodeG next s).2 ≤ pos s + (rem s).length ∧ pos (decodeG next s).2 ≤ pos s + (14 + declared (rem s)) ∧
    (∀ p, (decodeG next s).1 = .ok p → ∃ secs, Valid (rem s) secs ∧ agrees p (meaning (rem s) secs) ∧
        pos (decodeG next s).2 = pos s + (14 + declared (rem s))) := by
  have hcur := decode_safe (rem s) (rem s).length (Nat.le_refl _)
  rw [decodeBytes_eq_cur _ _ (Nat.le_refl _)] at hcur
  obtain ⟨hsafe, hnf, hl1, hl2⟩ := hcur
  rcases decodeG_contract next rem pos hc s with ⟨e1, e2⟩ | ⟨e, e1, e2⟩
  · refine ⟨by rw [e1]; exact hsafe, by rw [e1]; exact hnf, by omega, by omega, ?_⟩
    intro p hp
    rw [e1] at hp
    have hp' : (decodeBytes (rem s) (rem s).length).1 = .ok p := by
      rw [decodeBytes_eq_cur _ _ (Nat.le_refl _)]; exact hp
    obtain ⟨secs, hv⟩ := (decode_ok_iff (rem s) _ (Nat.le_refl _)).mp ⟨p, hp'⟩
    obtain ⟨ha, hcons, _⟩ := decode_ok_values (rem s) _ (Nat.le_refl _) p secs hp' hv
    rw [decodeBytes_eq_cur _ _ (Nat.le_refl _)] at hcons
    exact ⟨secs, hv, ha, by rw [e2, hcons]⟩
  · refine ⟨by rw [e1]; exact ⟨fun s => by simp, by simp⟩, by rw [e1]; simp, by omega, by omega, ?_⟩
    intro p hp; rw [e1] at hp; cases hp

/-- the contract is satisfiable: the plain cursor keeps it -/
example : ReaderOK Cur.next (fun c => c.b.drop c.pos) (fun c => c.pos) := cur_readerOK

/-! ### non-vacuity -/

/-- the smallest valid frame: 4 declared bytes (protocol id, no transforms, two padding bytes) -/
example : (decodeBytes [0, 0, 0, 0x0e, 0x10, 0, 0, 5, 0, 0, 0, 1, 0, 1, 0, 0, 0, 0] 18) =
    (.ok { flags := 5, seq := 1, proto := 0, intKV := none, strKV := none, headerLen := 18, payloadLen := 0 }, 18) := by
  decide +kernel

example : Valid [0, 0, 0, 0x0e, 0x10, 0, 0, 5, 0, 0, 0, 1, 0, 1, 0, 0, 0, 0] [.pad, .pad] :=
  (refValid_iff _ _).mp (by decide +kernel)

/-- F7: size field 0x4001 declares 65540 bytes and is rejected, not wrapped to 4 -/
example : (decodeBytes [0, 0, 0, 0x20, 0x10, 0, 0, 0, 0, 0, 0, 1, 0x40, 0x01, 0, 0, 0, 0] 18) =
    (.err .badSize, 14) := by decide +kernel

/-- later entries win, the token goes under GDPRToken: str{a=b} acl(t) str{a=c} -/
example : (decodeBytes [0, 0, 0, 0x20, 0x10, 0, 0, 0, 0, 0, 0, 1, 0, 6,
      0, 0, 1, 0, 1, 0, 1, 97, 0, 1, 98, 0x11, 0, 1, 116, 1, 0, 1, 0, 1, 97, 0, 1, 99, 0, 0] 40).1 =
    .ok { flags := 0, seq := 1, proto := 0, intKV := none,
          strKV := some [([97], [99]), (gdprKey, [116]), ([97], [98])], headerLen := 38, payloadLen := -2 } := by
  decide +kernel

end Verif.C10
