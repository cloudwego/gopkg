/-
  Props/C15 — No-copy write path produces the same stream as the copying path.
  (property theorems only)

  `splice lin ds` (Spec/FastCodec.lean) is the direct writer's contract: piece i goes to offset
  `lin.length − remainCap_i` of the linear buffer. All theorems hold for EVERY threshold (the value
  the code uses, `Facts.nocopyWriteThreshold`, is one instance) and for every buffer that is at least
  as long as the encoding (callers allocate BLength bytes).
-/
import Verif.Lemmas.FcNocopy
namespace Verif.C15

/-! ## any sequence of fixed bytes and strings (any number of large fields in one buffer) -/

/-- what one no-copy write of a realised segment list into `b` guarantees: the spliced stream is the
    copying encoding; every piece fits its remainCap; linear + direct bytes = the copying length -/
theorem segs_nocopy_eq_copy (thr : Nat) (w : Bool) (f : WStep) (sg : List Seg) (h : Realises thr w f sg)
    (b : Bytes) (hb : (encSegs sg).length ≤ b.length) :
    ∃ ws n, f (⟨b, []⟩, 0) = .ok (ws, n) ∧
      (splice ws.buf ws.ds).take (encSegs sg).length = encSegs sg ∧
      (∀ d ∈ ws.ds, d.1.length ≤ d.2) ∧
      n + (ws.ds.map (·.1.length)).sum = (encSegs sg).length :=
  let ⟨ws, n, h1, h2, h3, h4, _⟩ := (write_facts thr w f sg h b hb).ok
  ⟨ws, n, h1, h2, h3, h4⟩

/-! ## Base / BaseResp: any strings, any map entries in any order, nil receiver -/

/-- the no-copy path of (*Base).FastWriteNocopy with a direct writer attached, spliced, is exactly the
    stream of the copying path (which is the encoding): for every threshold and iteration order -/
theorem nocopy_eq_copy_base (thr : Nat) (p : Option Base) (it : SMap) (b : Bytes)
    (hb : (encBase p it).length ≤ b.length) :
    ∃ ws n wc, fastWriteNocopyBase thr true p it b = .ok (ws, n) ∧
      fastWriteNocopyBase thr false p it b = .ok (wc, (encBase p it).length) ∧ wc.ds = [] ∧
      (splice ws.buf ws.ds).take (encBase p it).length = wc.buf.take (encBase p it).length ∧
      wc.buf.take (encBase p it).length = encBase p it := by
  obtain ⟨ws, n, h1, h2, _, _, _⟩ := (writeBase_run thr p it b hb).1.ok
  refine ⟨ws, n, _, h1, (writeBase_run thr p it b hb).2, rfl, ?_, List.take_left' rfl⟩
  rw [h2, List.take_left' rfl]

theorem nocopy_eq_copy_baseresp (thr : Nat) (p : Option BaseResp) (it : SMap) (b : Bytes)
    (hb : (encBaseResp p it).length ≤ b.length) :
    ∃ ws n wc, fastWriteNocopyBaseResp thr true p it b = .ok (ws, n) ∧
      fastWriteNocopyBaseResp thr false p it b = .ok (wc, (encBaseResp p it).length) ∧ wc.ds = [] ∧
      (splice ws.buf ws.ds).take (encBaseResp p it).length = wc.buf.take (encBaseResp p it).length ∧
      wc.buf.take (encBaseResp p it).length = encBaseResp p it := by
  obtain ⟨ws, n, h1, h2, _, _, _⟩ := (writeResp_run thr p it b hb).1.ok
  refine ⟨ws, n, _, h1, (writeResp_run thr p it b hb).2, rfl, ?_, List.take_left' rfl⟩
  rw [h2, List.take_left' rfl]

/-- buffer of exactly BLength bytes (what netpoll's Malloc(BLength) hands out): the spliced stream IS
    the copying path's buffer -/
theorem nocopy_eq_copy_base_exact (thr : Nat) (p : Option Base) (it : SMap) (b : Bytes)
    (hb : b.length = (encBase p it).length) :
    ∃ ws n wc, fastWriteNocopyBase thr true p it b = .ok (ws, n) ∧
      fastWriteNocopyBase thr false p it b = .ok (wc, b.length) ∧ splice ws.buf ws.ds = wc.buf := by
  obtain ⟨ws, n, h1, h2, _, _, h5⟩ := (writeBase_run thr p it b (Nat.le_of_eq hb.symm)).1.ok
  refine ⟨ws, n, _, h1, by rw [hb]; exact (writeBase_run thr p it b (Nat.le_of_eq hb.symm)).2, ?_⟩
  -- the spliced stream is as long as the buffer, which is as long as the encoding
  have hsl : (splice ws.buf ws.ds).length ≤ (encBase p it).length := by
    rw [splice, List.length_take, h5, hb]; exact Nat.min_le_left _ _
  rw [List.take_of_length_le hsl] at h2
  rw [h2, List.drop_of_length_le (Nat.le_of_eq hb), List.append_nil]

/-- the direct writer is never handed less room than the piece needs -/
theorem remainCap_ge_base (thr : Nat) (p : Option Base) (it : SMap) (b : Bytes) (ws : WS) (n : Nat)
    (hb : (encBase p it).length ≤ b.length) (h : fastWriteNocopyBase thr true p it b = .ok (ws, n)) :
    ∀ d ∈ ws.ds, d.1.length ≤ d.2 := by
  obtain ⟨ws', n', h1, _, h3, _, _⟩ := (writeBase_run thr p it b hb).1.ok
  cases h1.symm.trans h
  exact h3

theorem remainCap_ge_baseresp (thr : Nat) (p : Option BaseResp) (it : SMap) (b : Bytes) (ws : WS) (n : Nat)
    (hb : (encBaseResp p it).length ≤ b.length) (h : fastWriteNocopyBaseResp thr true p it b = .ok (ws, n)) :
    ∀ d ∈ ws.ds, d.1.length ≤ d.2 := by
  obtain ⟨ws', n', h1, _, h3, _, _⟩ := (writeResp_run thr p it b hb).1.ok
  cases h1.symm.trans h
  exact h3

/-- returned (linear) length + directly written bytes = the copying length = BLength -/
theorem length_nocopy_eq_base (thr : Nat) (p : Option Base) (it1 it : SMap) (b : Bytes) (ws : WS) (n : Nat)
    (h1 : ∀ q, p = some q → IterOf q.extra it1) (h2 : ∀ q, p = some q → IterOf q.extra it)
    (hb : (encBase p it).length ≤ b.length) (h : fastWriteNocopyBase thr true p it b = .ok (ws, n)) :
    n + (ws.ds.map (·.1.length)).sum = bLengthBase p it1 := by
  obtain ⟨ws', n', h1', _, _, h4, _⟩ := (writeBase_run thr p it b hb).1.ok
  cases h1'.symm.trans h
  rw [h4, bLengthBase_eq p it1 it h1 h2]

theorem length_nocopy_eq_baseresp (thr : Nat) (p : Option BaseResp) (it1 it : SMap) (b : Bytes) (ws : WS) (n : Nat)
    (h1 : ∀ q, p = some q → IterOf q.extra it1) (h2 : ∀ q, p = some q → IterOf q.extra it)
    (hb : (encBaseResp p it).length ≤ b.length) (h : fastWriteNocopyBaseResp thr true p it b = .ok (ws, n)) :
    n + (ws.ds.map (·.1.length)).sum = bLengthBaseResp p it1 := by
  obtain ⟨ws', n', h1', _, _, h4, _⟩ := (writeResp_run thr p it b hb).1.ok
  cases h1'.symm.trans h
  rw [h4, bLengthBaseResp_eq p it1 it h1 h2]

/-- the advertised no-copy lengths equal the copying lengths (StringLengthNocopy / BinaryLengthNocopy) -/
theorem length_nocopy_eq (v : Bytes) : stringLengthNocopy v = stringLength v ∧ stringLength v = (encStr v).length := by
  simp [stringLengthNocopy, stringLength]

/-! ## without a direct writer, and below the threshold, the two paths are the same code path -/

/-- `WriteStringNocopy(buf, nil, v)` = `WriteString(buf, v)` on every buffer (short ones included) -/
theorem nocopy_nil_eq (thr : Nat) (s : WS) (off : Nat) (v : Bytes) :
    writeStringNocopy thr false s off v = writeString s off v :=
  writeStringNocopy_inline thr false s off v rfl

/-- with a writer but below the threshold, too -/
theorem nocopy_small_eq (thr : Nat) (s : WS) (off : Nat) (v : Bytes) (h : v.length < thr) :
    writeStringNocopy thr true s off v = writeString s off v :=
  writeStringNocopy_inline thr true s off v (decide_eq_true h)

/-- at or above the threshold with a writer: 4 linear bytes, the whole value goes to the direct writer
    with remainCap = the room behind the length prefix -/
theorem nocopy_large (thr : Nat) (P T : Bytes) (ds : Directs) (v : Bytes) (h : thr ≤ v.length) (hT : 4 ≤ T.length) :
    writeStringNocopy thr true ⟨P ++ T, ds⟩ P.length v
      = .ok (⟨P ++ be32 v.length ++ T.drop 4, ds ++ [(v, T.length - 4)]⟩, 4) :=
  writeStringNocopy_direct thr true P T ds v (decide_eq_false (Nat.not_lt.mpr h)) hT

/-- struct level, nil writer: byte for byte the encoding, nothing handed to a direct writer, whatever
    the threshold -/
theorem nocopy_nil_eq_base (thr : Nat) (p : Option Base) (it : SMap) (b : Bytes)
    (hb : (encBase p it).length ≤ b.length) :
    fastWriteNocopyBase thr false p it b
      = .ok (⟨encBase p it ++ b.drop (encBase p it).length, []⟩, (encBase p it).length) :=
  (writeBase_run thr p it b hb).2

theorem nocopy_nil_eq_baseresp (thr : Nat) (p : Option BaseResp) (it : SMap) (b : Bytes)
    (hb : (encBaseResp p it).length ≤ b.length) :
    fastWriteNocopyBaseResp thr false p it b
      = .ok (⟨encBaseResp p it ++ b.drop (encBaseResp p it).length, []⟩, (encBaseResp p it).length) :=
  (writeResp_run thr p it b hb).2

/-! ## non-vacuity: two large strings and a large map value in one buffer, threshold 2 -/

example :
    (match fastWriteNocopyBase 2 true (some ⟨[1, 2, 3], [4], [5, 6], some [([7], [8, 9, 10])]⟩) [([7], [8, 9, 10])]
        (List.replicate 49 0xa5) with
     | .ok (ws, n) => ws.ds.length == 3 && n == 41 &&
         splice ws.buf ws.ds == encBase (some ⟨[1, 2, 3], [4], [5, 6], some [([7], [8, 9, 10])]⟩) [([7], [8, 9, 10])]
     | _ => false) = true := by decide +kernel

end Verif.C15
