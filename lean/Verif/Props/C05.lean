/-
  Props/C05 — Buffered writer flushes exactly what was written, once, in order
  (property theorems + non-vacuity examples only; helper lemmas in Lemmas/Writer*.lean).

  Model: Model/Writer (bufiox.DefaultWriter / BytesWriter, object level, delayed copy).
  Spec:  Spec/WriterLog (append-only log of items + store of latest region contents).

  RANGE.  The model computes on `Nat` with an allocator that always succeeds; the Go code does not:
  `mcache.Malloc` has 46 size classes (a request above 2^45 panics with an index out of range —
  confirmed on the real code with `Malloc(1<<46)`), and `int` is 64 bit (`maxSize *= 2` wraps to 0
  and spins for `Malloc(1<<62+1)` — confirmed).  Every property theorem below therefore carries the
  hypothesis `GoRange a s ops`: in the state where each operation runs,
      running length (WrittenLen) + requested size ≤ 2^44.
  `range_keeps_requests_small` proves what that buys: every capacity the writer ever holds or
  remembers is ≤ 2^45, so every pool request is ≤ 2^45 (class index ≤ 45) and every integer the
  code computes is < 2^46 (no wrap) — inside the range the model's branches are Go's branches.
  Outside the range the theorems say nothing (the model-level lemmas `refines` /
  `bytesWriter_target` in Lemmas/WriterModel hold for the Nat model only).

  Within that range every theorem is for EVERY history over {Malloc n, Fill, WriteBinary, Flush,
  WrittenLen} (n any integer: negative counts included), any number of growths, every sink failure
  script, every sound allocator (any capacity policy with cap ≥ requested, any dirty content of
  fresh memory), and the three ways to create a writer.
-/
import Verif.Lemmas.WriterModel
import Verif.Lemmas.WriterRange
namespace Verif.C05
open Verif Verif.WLog

/-! ## the range in which the model mirrors the Go code -/

/-- the largest capacity mcache can hand out: 46 size classes, `caches[45]` holds 2^45 -/
def poolLimit : Nat := 2 ^ 45

/-- hypothesis of every property theorem: in the state where each operation of the history runs,
    running length + requested size ≤ 2^44 (= poolLimit / 2; growth asks for less than twice that) -/
def GoRange (a : WAlloc) (s : Start) (ops : List WOp) : Prop := InRange a (2 ^ 44) s.model ops

instance (a : WAlloc) (s : Start) (ops : List WOp) : Decidable (GoRange a s ops) := decInRange _ _ _ _

/-- Inside the range the code never leaves the domain the model covers: after every prefix of the
    history, the current capacity and the ten remembered capacities are ≤ 2^45.  Every allocation
    request is ≤ the capacity it yields (`Sound`), hence ≤ 2^45: mcache's class index stays ≤ 45
    (no index panic), and all lengths/capacities/loop variables stay < 2^46 (no `int` wrap, the
    doubling loops terminate as modelled).  `a.Within`: the capacity policy itself stays within
    the limit (true for power-of-two rounding: `pow2_policy_within`); `CapsLe … s.model`: a bytes
    writer's initial slice is not larger than that either. -/
theorem range_keeps_requests_small (a : WAlloc) (ha : a.Sound) (hb : a.Within poolLimit) (s : Start)
    (h0 : CapsLe poolLimit s.model) (ops : List WOp) (hr : GoRange a s ops) :
    ∀ k, CapsLe poolLimit (after a s (ops.take k)) := by
  intro k
  exact capsLe_run a ha poolLimit (2 ^ 44) hb (by decide) (by decide) s.model s.spec (sim_start s) h0
    (ops.take k) (hr.take k)

/-! ## refinement: every observable result of every history is the log spec's -/

/-- Master theorem.  For every history in range, the results the caller observes from the model
    (region ids and lengths from Malloc, counts from WriteBinary, WrittenLen, errors) are exactly
    those of the log spec, and the states stay related. -/
theorem refines_in_range (a : WAlloc) (ha : a.Sound) (s : Start) (ops : List WOp)
    (hr : GoRange a s ops) :
    (s.model.run a ops).1 = (specRun s.spec ops).1 ∧ WSim (after a s ops) (specAfter s ops) := by
  have _ := hr
  exact refines a ha s ops

/-- In range, no history reaches a Go panic of the writer's own code (slice bounds in Malloc or in
    Flush's stitching loop) nor a non-terminating growth loop.  (Outside the range the real code does
    panic — mcache index — or spin — `int` wrap; see the header and `range_keeps_requests_small`.) -/
theorem no_panic (a : WAlloc) (ha : a.Sound) (s : Start) (ops : List WOp)
    (hr : GoRange a s ops) :
    ∀ o ∈ (s.model.run a ops).1, ∀ why, o ≠ .stuck why := by
  -- the range only scopes the claim to where the model is Go; the model fact itself needs no bound
  have _ := hr
  rw [(refines a ha s ops).1]
  exact specRun_not_stuck _ _

/-! ## the key invariant (DESIGN §4 C05 / Appendix A, WInv) -/

/-- After every history: with pending buffers (o₁,ℓ₁)…(o_k,ℓ_k) and current buffer (o, len, cap):
    ℓ₁ ≤ … ≤ ℓ_k ≤ len ≤ cap; the objects are distinct; every non-empty region handed out since the
    last Flush lies entirely inside the range [ℓ_{j-1}, ℓ_j) (resp. [ℓ_k, len)) that Flush copies out
    of the object it lives in; the regions are consecutive, hence pairwise disjoint. -/
theorem key_invariant (a : WAlloc) (ha : a.Sound) (s : Start) (ops : List WOp)
    (hr : GoRange a s ops) :
    let w := after a s ops
    WInv w ∧
    ∀ v, w.buf = some v →
      Chain 0 w.pending v.len ∧ v.len ≤ v.cap ∧ (w.heap v.obj).length = v.cap ∧
      (w.pending.map Prod.fst).Nodup ∧ (∀ p ∈ w.pending, p.1 ≠ v.obj) ∧
      (∀ r ∈ w.regions, r.n = 0 ∨ Owned v.obj v.len 0 w.pending r.obj r.off r.n) ∧
      w.regions.Pairwise (fun r r' => r.off + r.n ≤ r'.off) := by
  have _ := hr
  have hw := (sim_after a ha s ops).inv
  exact ⟨hw, fun v hv => have ok := hw.buf_ok v hv
    ⟨ok.chain, ok.len_le_cap, ok.heap_len, ok.pend_nodup, ok.pend_ne, ok.owned, ok.rchain.pairwise⟩⟩

/-! ## Flush -/

/-- Flush in any reachable state without a stuck error: either there is nothing unflushed and the
    sink is not called, or the sink is called exactly ONCE, with bytes that agree with the
    concatenation of the items' latest contents in order (everywhere the caller stored something);
    Flush returns nil iff the sink accepted, else the sink's error. -/
theorem flush_bytes (a : WAlloc) (ha : a.Sound) (s : Start) (ops : List WOp)
    (hr : GoRange a s ops) :
    let w := after a s ops
    let l := specAfter s ops
    w.err = none →
      (∃ d r, w.flush.2.sink.calls = w.sink.calls ++ [(d, r)] ∧ Match d l.unflushed ∧
          d.length = w.writtenLen ∧
          (r = none → w.flush.1 = .ok ()) ∧ (∀ e, r = some e → w.flush.1 = .err e)) ∨
      (w.flush.2.sink.calls = w.sink.calls ∧ l.unflushed = [] ∧ w.flush.1 = .ok ()) := by
  intro w l he
  have _ := hr
  have h : WSim w l := sim_after a ha s ops
  have hll : w.logical.length = w.writtenLen := h.writtenLen.2.2
  rcases flush_cases w h.inv with ⟨e, he', _⟩ | ⟨_, hb, hfl⟩ | ⟨_, _, _, _, _, _, _, hfl⟩ |
    ⟨_, _, e, _, _, _, _, _, _, hfl⟩
  · rw [he] at he'; cases he'
  · rw [hfl]; exact Or.inr ⟨rfl, h.unflushed_nil hb, rfl⟩
  · rw [hfl]
    exact Or.inl ⟨w.logical, none, rfl, h.content, hll, fun _ => rfl, fun e he => (by cases he)⟩
  · rw [hfl]
    exact Or.inl ⟨w.logical, some e, rfl, h.content, hll, fun h => (by cases h),
      fun e' he' => (by cases he'; rfl)⟩

/-- Over all flushes of any history: the bytes the sink accepted, concatenated, agree with what the
    log spec emitted — every item's latest content, each byte exactly once, in order. -/
theorem flushed_once_in_order (a : WAlloc) (ha : a.Sound) (s : Start) (ops : List WOp)
    (hr : GoRange a s ops) :
    Match (after a s ops).sunk (specAfter s ops).emitted := by
  have _ := hr
  exact (sim_after a ha s ops).sunk

/-! ## WrittenLen -/

/-- WrittenLen = the number of unflushed bytes of the log (initial contents of a bytes writer
    included), after every history -/
theorem writtenLen_eq (a : WAlloc) (ha : a.Sound) (s : Start) (ops : List WOp)
    (hr : GoRange a s ops) :
    (after a s ops).writtenLen = (specAfter s ops).writtenLen ∧
    (specAfter s ops).writtenLen = (specAfter s ops).unflushed.length := by
  have _ := hr
  exact ⟨(sim_after a ha s ops).writtenLen.1, (sim_after a ha s ops).writtenLen.2.1⟩

/-- a successful Flush resets WrittenLen to zero and leaves nothing pending -/
theorem flush_resets (a : WAlloc) (ha : a.Sound) (s : Start) (ops : List WOp)
    (hr : GoRange a s ops) :
    let w := after a s ops
    w.flush.1 = .ok () → w.flush.2.writtenLen = 0 ∧ w.flush.2.pending = [] ∧ w.flush.2.regions = [] := by
  intro w hok
  have _ := hr
  have hw : WInv w := (sim_after a ha s ops).inv
  rcases flush_cases w hw with ⟨_, _, hfl⟩ | ⟨_, hb, hfl⟩ | ⟨_, _, _, _, _, _, _, hfl⟩ |
    ⟨_, _, _, _, _, _, _, _, _, hfl⟩
  · rw [hfl] at hok; cases hok
  · rw [hfl]; exact ⟨by simp [Wr.writtenLen, Wr.bufLen, hb], (hw.nil_buf hb).1, rfl⟩
  · rw [hfl]; exact ⟨rfl, rfl, rfl⟩
  · rw [hfl] at hok; cases hok

/-! ## sink errors -/

/-- a stuck error is returned by Malloc, WriteBinary and Flush, and nothing changes -/
theorem sticky_returns (a : WAlloc) (w : Wr) (e : RErr) (h : w.err = some e) :
    (∀ n, w.malloc a n = (.err e, w)) ∧ (∀ bs, w.writeBinary a bs = (.err e, w)) ∧
    w.flush = (.err e, w) :=
  ⟨malloc_stuck a w e h, writeBinary_stuck a w e h, flush_stuck w e h⟩

/-- every Malloc / WriteBinary / Flush of the history answers `e` -/
def AllStuck (e : RErr) : List WOp → List WObs → Prop
  | [], [] => True
  | op :: ops, o :: os =>
    (match op with
     | .malloc _ | .wb _ | .flush => o = .err e
     | _ => True) ∧ AllStuck e ops os
  | _, _ => False

theorem sticky_forever (a : WAlloc) (w : Wr) (e : RErr) (h : w.err = some e) (ops : List WOp) :
    AllStuck e ops (w.run a ops).1 ∧ (w.run a ops).2.err = some e ∧
    (w.run a ops).2.sink = w.sink ∧ (w.run a ops).2.buf = w.buf ∧ (w.run a ops).2.pending = w.pending := by
  induction ops generalizing w with
  | nil => exact ⟨trivial, h, rfl, rfl, rfl⟩
  | cons op ops ih =>
    have hstep : (w.step a op).2.err = some e ∧ (w.step a op).2.sink = w.sink ∧
        (w.step a op).2.buf = w.buf ∧ (w.step a op).2.pending = w.pending ∧
        (match op with
         | .malloc _ | .wb _ | .flush => (w.step a op).1 = .err e
         | _ => True) := by
      cases op with
      | malloc n => rw [Wr.step, malloc_stuck a w e h n]; exact ⟨h, rfl, rfl, rfl, rfl⟩
      | wb bs => rw [Wr.step, writeBinary_stuck a w e h bs]; exact ⟨h, rfl, rfl, rfl, rfl⟩
      | flush => rw [Wr.step, flush_stuck w e h]; exact ⟨h, rfl, rfl, rfl, rfl⟩
      | len => exact ⟨h, rfl, rfl, rfl, trivial⟩
      | fill rid off bs =>
        -- a caller's store goes through even when the writer is stuck; it touches the heap only
        simp only [Wr.step, Wr.fill]
        split
        · exact ⟨h, rfl, rfl, rfl, trivial⟩
        · split <;> exact ⟨h, rfl, rfl, rfl, trivial⟩
    obtain ⟨i1, i2, i3, i4, i5⟩ := ih (w.step a op).2 hstep.1
    simp only [Wr.run]
    exact ⟨⟨hstep.2.2.2.2, i1⟩, i2, by rw [i3, hstep.2.1], by rw [i4, hstep.2.2.1], by rw [i5, hstep.2.2.2.1]⟩

/-- When Flush fails in any reachable state: the error is the sink's own answer to that one call;
    nothing is released or forgotten (current and parked buffers, WrittenLen unchanged); and from
    then on every Malloc / WriteBinary / Flush of every continuation returns this error, without
    ever calling the sink again. -/
theorem sink_error_sticky (a : WAlloc) (ha : a.Sound) (s : Start) (ops : List WOp)
    (hr : GoRange a s ops) (e : RErr) :
    let w := after a s ops
    w.err = none → w.flush.1 = .err e →
      w.sink.fail (w.sink.calls.length + 1) = some e ∧
      w.flush.2.buf = w.buf ∧ w.flush.2.pending = w.pending ∧ w.flush.2.writtenLen = w.writtenLen ∧
      ∀ ops', AllStuck e ops' (w.flush.2.run a ops').1 ∧
              (w.flush.2.run a ops').2.sink.calls.length = w.sink.calls.length + 1 := by
  intro w he hfl
  have _ := hr
  rcases flush_cases w (sim_after a ha s ops).inv with ⟨_, he', _⟩ | ⟨_, _, hfl'⟩ |
    ⟨_, _, _, _, _, _, _, hfl'⟩ | ⟨v, heap1, e', _, hb, _, hf, _, _, hfl'⟩
  · rw [he] at he'; cases he'
  · rw [hfl'] at hfl; cases hfl
  · rw [hfl'] at hfl; cases hfl
  · rw [hfl'] at hfl ⊢
    cases hfl
    refine ⟨hf, rfl, rfl, rfl, fun ops' => ?_⟩
    obtain ⟨j1, _, j3, _, _⟩ := sticky_forever a (w.flushedErr heap1 e) e rfl ops'
    refine ⟨j1, ?_⟩
    rw [j3]; simp [Wr.flushedErr]

/-! ## bytes writer: the target slice -/

/-- Bytes-backed writer, first flush epoch (any flush-free history in range, then Flush), for EVERY
    initial slice — nil (`bytesNil`), empty with or without capacity, partly filled, full (`bytes init
    spare` with init / spare empty or not), and any number of growths: Flush succeeds and the target
    slice `*buf` is the initial contents followed by the written bytes (the log's items in order). -/
theorem bytesWriter_target_in_range (a : WAlloc) (ha : a.Sound) (s : Start) (hs : ∀ f, s ≠ .default f)
    (ops : List WOp) (hnf : ∀ op ∈ ops, op ≠ .flush) (hr : GoRange a s ops) :
    let w := after a s ops
    let l := specAfter s ops
    w.flush.1 = .ok () ∧
    ∃ written, l.unflushed = s.init.map some ++ written ∧
      Match w.flush.2.targetBytes (s.init.map some ++ written) := by
  have _ := hr
  exact bytesWriter_target a ha s hs ops hnf

/-- Bytes-backed writer, EVERY flush epoch.  Split any history at one of its Flushes:
    `pre ++ [Flush] ++ ep` (`ep` may contain further Flushes).  That Flush starts the log over (`l0.items = []`:
    neither the initial contents nor the earlier epochs are in it any more), the log at the end is
    the run of `ep` from there, the next Flush succeeds, and
    * if anything was allocated in this epoch (`w.buf ≠ nil`) the target `*buf` afterwards is exactly
      the bytes written in THIS epoch — `[] ++ epoch k`, not `initial ++ everything`;
    * if the buffer is still nil (nothing written, only Malloc(0)/empty WriteBinary) Flush is a
      no-op and the target keeps what the previous epoch left there.
    Together with `bytesWriter_target` (k = 1: initial contents ++ epoch 1) this is what the code does
    for every k; the literal clause "initial contents followed by the written bytes" therefore FAILS
    for histories with more than one non-empty epoch: `bytesWriter_target_all_epochs_fails` (F15). -/
theorem bytesWriter_target_epochs (a : WAlloc) (ha : a.Sound) (s : Start) (hs : ∀ f, s ≠ .default f)
    (pre ep : List WOp) (hr : GoRange a s (pre ++ .flush :: ep)) :
    let w := after a s (pre ++ .flush :: ep)
    let l0 := specAfter s (pre ++ [.flush])
    let l := specAfter s (pre ++ .flush :: ep)
    l0.items = [] ∧ l = (specRun l0 ep).2 ∧
    w.flush.1 = .ok () ∧
    (w.buf ≠ none → Match w.flush.2.targetBytes l.unflushed) ∧
    (w.buf = none → l.unflushed = [] ∧ w.flush.2.target = w.target) := by
  intro w l0 l
  have _ := hr
  have hdc0 : s.model.disableCache = true ∧ s.model.err = none := by
    cases s with
    | default f => exact absurd rfl (hs f)
    | bytes i sp => exact ⟨rfl, rfl⟩
    | bytesNil => exact ⟨rfl, rfl⟩
  have hsplit : pre ++ .flush :: ep = (pre ++ [.flush]) ++ ep := by simp
  refine ⟨?_, ?_, ?_⟩
  · -- the Flush in the middle restarts the log
    have hp : WSim (after a s pre) (specAfter s pre) := sim_after a ha s pre
    obtain ⟨pdc, pe⟩ := bytes_run a ha s.model s.spec (sim_start s) hdc0.1 hdc0.2 pre
    show (specRun s.spec (pre ++ [.flush])).2.items = []
    rw [Compose.specRun_append]
    simp only [specRun, specStep]
    exact Log.flush_items_nil _ (hp.err.trans pe) (hp.sinkB pdc)
  · show (specRun s.spec (pre ++ .flush :: ep)).2 = _
    rw [hsplit, Compose.specRun_append]; rfl
  · have h : WSim w l := sim_after a ha s _
    obtain ⟨hdc, he⟩ := bytes_run a ha s.model s.spec (sim_start s) hdc0.1 hdc0.2 (pre ++ .flush :: ep)
    obtain ⟨hok, hnil, hsome⟩ := flush_bytesWriter w h.inv hdc he
    exact ⟨hok, fun hb => by rw [hsome hb]; exact h.content, fun hb => ⟨h.unflushed_nil hb, hnil hb⟩⟩

/-- FINDING F15 (negation witness, evaluated by the kernel): a bytes writer over `[1,2]`, one byte
    written and flushed, another byte written and flushed.  The literal clause of the property asks
    for `[1,2,3,4]` in the target; the code leaves `[4]` — the initial contents and the first epoch
    are gone (`fakeIOWriter.Write` publishes the buffer of the latest epoch only). -/
theorem bytesWriter_target_all_epochs_fails :
    ∃ (s : Start) (ops : List WOp) (written : Bytes),
      (∀ f, s ≠ .default f) ∧ GoRange ⟨fun c => c, fun _ _ => 0⟩ s ops ∧
      (specAfter s ops).emitted = (s.init ++ written).map some ∧     -- all of it was written and flushed
      (after ⟨fun c => c, fun _ _ => 0⟩ s ops).targetBytes ≠ s.init ++ written ∧
      (after ⟨fun c => c, fun _ _ => 0⟩ s ops).targetBytes = [4] :=
  ⟨.bytes [1, 2] [0], [.wb [3], .flush, .wb [4], .flush], [3, 4],
    ⟨fun f h => (by cases h), (by decide), (by decide), (by decide), (by decide)⟩⟩

/-! ## independence from dirty memory and from the capacity policy -/

/-- Two runs of the same history under ANY two sound allocators (different capacity rounding,
    different garbage in fresh buffers) give the same observable results; and whenever the caller
    has stored every byte it was handed (the spec's bytes are all specified: `= t.map some`), the
    sink receives exactly `t` under both. -/
theorem independent_of_dirty_memory (a₁ a₂ : WAlloc) (h₁ : a₁.Sound) (h₂ : a₂.Sound) (s : Start)
    (ops : List WOp) (hr₁ : GoRange a₁ s ops) (hr₂ : GoRange a₂ s ops) :
    (s.model.run a₁ ops).1 = (s.model.run a₂ ops).1 ∧
    ∀ t : Bytes, (specAfter s ops).emitted = t.map some →
      (after a₁ s ops).sunk = t ∧ (after a₂ s ops).sunk = t := by
  refine ⟨by rw [(refines a₁ h₁ s ops).1, (refines a₂ h₂ s ops).1], fun t ht => ?_⟩
  exact ⟨match_all_some (flushed_once_in_order a₁ h₁ s ops hr₁) t ht,
    match_all_some (flushed_once_in_order a₂ h₂ s ops hr₂) t ht⟩

/-- a store that covers a whole region makes the spec's content of that region fully specified -/
theorem fill_whole_specified (l : Log RErr) (id : Nat) (bs : Bytes) (h : bs.length = (l.store id).length) :
    (l.fill id 0 bs).store id = bs.map some := by
  simp only [Log.fill, Nat.zero_add, h, Nat.le_refl, if_true, overwrite]
  simp [← h]


/-! ## non-vacuity: concrete histories (evaluated by the kernel) -/

/-- exact capacities, fresh memory full of 0xEE -/
def exA : WAlloc := ⟨fun c => c, fun _ _ => 0xEE⟩
/-- another capacity policy, another kind of garbage -/
def exB : WAlloc := ⟨fun c => 2 * c + 1, fun id i => UInt8.ofNat (id + 3 * i)⟩
example : exA.Sound := fun c => Nat.le_refl c
example : exB.Sound := fun c => by show c ≤ 2 * c + 1; omega
/-- the allocator the Tie-B driver runs the model with (mcache's power-of-two capacities) is sound,
    and it IS `pow2ceil` for every request up to 2^64 -/
example (d : Nat → Nat → UInt8) : (⟨fun c => max c (pow2ceil c), d⟩ : WAlloc).Sound :=
  fun _ => Nat.le_max_left _ _
example (c : Nat) (h : c ≤ 2 ^ 64) : max c (pow2ceil c) = pow2ceil c :=
  Nat.max_eq_right (pow2ceil_ge c h)

example : exA.Within poolLimit := fun _ h => h
example (d : Nat → Nat → UInt8) : (⟨fun c => max c (pow2ceil c), d⟩ : WAlloc).Within poolLimit :=
  pow2_policy_within d 45

def failAt (k : Nat) : Nat → Option RErr := fun c => if c = k then some (.src k) else none

/-- bytes writer over a partly filled slice (len 2, cap 3): two growths, regions filled lazily in
    reverse order after the growths -/
def exOps : List WOp :=
  [.malloc 3, .malloc 2, .wb [9], .fill 1 0 [7, 8], .fill 0 0 [4, 5, 6], .len, .flush, .len]

set_option maxRecDepth 8000 in
example : ((Start.bytes [1, 2] [0]).model.run exA exOps).1
    = [.region 0 3, .region 1 2, .wrote 1, .done, .done, .len 8, .done, .len 0] := by decide +kernel
-- two buffers are parked when Flush runs: the caller's array up to 2, the first growth up to 5
set_option maxRecDepth 8000 in
example : (after exA (.bytes [1, 2] [0]) (exOps.take 6)).pending = [(0, 2), (1, 5)] := by decide +kernel
-- target = initial contents ++ written bytes, under both allocators (instances of `bytesWriter_target`
-- and `independent_of_dirty_memory`; the hypotheses of both hold for this history)
set_option maxRecDepth 8000 in
example : (after exA (.bytes [1, 2] [0]) exOps).targetBytes = [1, 2, 4, 5, 6, 7, 8, 9] := by decide +kernel
set_option maxRecDepth 8000 in
example : (after exB (.bytes [1, 2] [0]) exOps).targetBytes = [1, 2, 4, 5, 6, 7, 8, 9] := by decide +kernel
set_option maxRecDepth 8000 in
example : (specAfter (.bytes [1, 2] [0]) exOps).emitted = ([1, 2, 4, 5, 6, 7, 8, 9] : Bytes).map some := by
  decide +kernel
example : ∀ op ∈ exOps.take 6, op ≠ .flush := by decide +kernel
-- the range hypotheses hold for this history (and for every history the harness generates: sizes ≤ 70000)
set_option maxRecDepth 8000 in
example : GoRange exA (.bytes [1, 2] [0]) exOps ∧ GoRange exB (.bytes [1, 2] [0]) exOps ∧
    CapsLe poolLimit (Start.bytes [1, 2] [0]).model := by decide +kernel
example (f : Nat → Option RErr) : CapsLe poolLimit (Start.default f).model := by
  refine ⟨Nat.zero_le _, fun x hx => ?_⟩
  have : x = 0 := by
    have h := hx
    simp [Start.model, Wr.newDefault, emptyStats] at h
    exact h.2
  omega
-- and they exclude exactly the requests on which the real code leaves the model: Malloc(1<<46)
-- (mcache index panic) and Malloc(1<<62+1) (`maxSize *= 2` wraps, the loop spins)
example : ¬ GoRange exA (.default (fun _ => none)) [.malloc (2 ^ 46)] ∧
    ¬ GoRange exA (.default (fun _ => none)) [.malloc (2 ^ 62 + 1)] := by decide +kernel
-- a region the caller never stored into is flushed with whatever the fresh buffer held: that is
-- exactly where two allocators differ, and exactly where the spec says `none`
set_option maxRecDepth 8000 in
example : (after exA (.bytes [1] []) [.malloc 2, .flush]).targetBytes = [1, 0xEE, 0xEE] ∧
    (after exB (.bytes [1] []) [.malloc 2, .flush]).targetBytes = [1, 4, 7] ∧
    (specAfter (.bytes [1] []) [.malloc 2, .flush]).emitted = [some 1, none, none] := by decide +kernel
-- nil initial slice: Malloc(0) keeps the buffer nil and Flush is a no-op
set_option maxRecDepth 8000 in
example : (Start.bytesNil.model.run exA [.malloc 0, .flush, .wb [5], .flush]).1
      = [.region 0 0, .done, .wrote 1, .done] ∧
    (after exA .bytesNil [.malloc 0, .flush]).targetBytes = [] ∧
    (after exA .bytesNil [.malloc 0, .flush, .wb [5], .flush]).targetBytes = [5] := by decide +kernel

/-- default writer whose sink refuses its 2nd write: first epoch delivered, second refused, then sticky -/
def exOps2 : List WOp :=
  [.wb [1, 2, 3], .flush, .malloc 2, .fill 0 0 [4, 5], .flush, .malloc 1, .wb [6], .flush, .len,
   .malloc (-1)]

set_option maxRecDepth 20000 in
example : ((Start.default (failAt 2)).model.run exA exOps2).1
    = [.wrote 3, .done, .region 0 2, .done, .err (.src 2), .err (.src 2), .err (.src 2), .err (.src 2),
       .len 2, .err (.src 2)] := by decide +kernel
set_option maxRecDepth 20000 in
example : (after exA (.default (failAt 2)) exOps2).sink.calls
    = [([1, 2, 3], none), ([4, 5], some (.src 2))] := by decide +kernel
-- the hypotheses of `sink_error_sticky` hold after the first four operations
set_option maxRecDepth 20000 in
example : (after exA (.default (failAt 2)) (exOps2.take 4)).err = none ∧
    (after exA (.default (failAt 2)) (exOps2.take 4)).flush.1 = .err (.src 2) := by decide +kernel
-- negative count on a healthy writer
set_option maxRecDepth 20000 in
example : ((Start.default (failAt 0)).model.run exA [.malloc (-7), .len]).1 = [.err .negCount, .len 0] := by
  decide +kernel

/-- default writer: growth 4096 → 8192 between two regions, the first one still unfilled and parked -/
def exOps3 : List WOp := [.malloc 4000, .malloc 200, .fill 1 198 [7, 7], .len]
set_option maxRecDepth 40000 in
example : ((Start.default (failAt 0)).model.run exA exOps3).1
    = [.region 0 4000, .region 1 200, .done, .len 4200] := by decide +kernel
-- (stated for a default buffer size of 4096; a different policy constant is not a violation)
set_option maxRecDepth 40000 in
example : Facts.defaultBufSize ≠ 4096 ∨ (after exA (.default (failAt 0)) exOps3).pending = [(0, 4000)] := by decide +kernel

end Verif.C05
