/-
  Props/C03_tth — C03 for the TTHeader decoder: for every byte string, ttheader.Decode over a bytes
  reader (DecodeFromBytes) returns a result or an error — it never panics, never loads outside the
  slice, its loop terminates — and the length it consumed is at most the length of the input.
-/
import Verif.Props.C10
namespace Verif.C03
open Verif.TTH

theorem tth_decode_safe (b : Bytes) (cap : Nat) (hcap : b.length ≤ cap) :
    (decodeBytes b cap).1.Safe ∧ (decodeBytes b cap).1 ≠ .err .nofuel ∧ (decodeBytes b cap).2 ≤ b.length :=
  ⟨(C10.decode_safe b cap hcap).1, (C10.decode_safe b cap hcap).2.1, (C10.decode_safe b cap hcap).2.2.1⟩

/-- on success the header length the decoder reports is what it consumed, hence at most the input -/
theorem tth_decode_no_overreport (b : Bytes) (cap : Nat) (hcap : b.length ≤ cap) (p : DecParam)
    (hp : (decodeBytes b cap).1 = .ok p) : p.headerLen ≤ (b.length : Int) := by
  obtain ⟨secs, hv⟩ := (C10.decode_ok_iff b cap hcap).mp ⟨p, hp⟩
  have h := (C10.decode_ok_values b cap hcap p secs hp hv).2.2
  have h2 := (C10.decode_safe b cap hcap).2.2.1
  omega

/-- the exported entry point itself: DecodeFromBytes is Decode over a bytes reader of exactly `bs` -/
theorem tth_decodeFromBytes_eq (b : Bytes) (cap : Nat) : decodeFromBytes b cap = (decodeBytes b cap).1 := by
  unfold decodeFromBytes decodeBytes
  rfl

theorem tth_decodeFromBytes_safe (b : Bytes) (cap : Nat) (hcap : b.length ≤ cap) :
    (decodeFromBytes b cap).Safe ∧ decodeFromBytes b cap ≠ .err .nofuel := by
  rw [tth_decodeFromBytes_eq]
  exact ⟨(tth_decode_safe b cap hcap).1, (tth_decode_safe b cap hcap).2.1⟩

end Verif.C03
